/-
C31  Series expansion coefficients equal Taylor coefficients.

Model: `SymVerif/Model/Series.lean` (the functions the driver `Drv/C31.lean` runs).  Everything is stated in `ℚ⟦X⟧`
(Mathlib `PowerSeries ℚ`) modulo `X^prec`: `toPS p` is the power series denoted by a coefficient list of the model,
`EqMod n f g` says that the coefficients of degree < n agree.

The naming of the results (`_spec`, `_specC`, `_sound`, `_ok`, `toPS_op`) and the places of the audited names that do not
stand in this file are said in `docs/C31.md`.  `_partial` in `series_sound_partial`, `series_total_partial` refers to the
modelled fragment (rational coefficients, no poles).

Not proved: `C31_full` (completeness: the model answers whenever a denotation exists).
-/
import Mathlib.RingTheory.PowerSeries.WellKnown
import SymVerif.Lemmas.C31Implicit

namespace SymVerif.C31
open SymVerif SymVerif.Series PowerSeries

-- for the `decide +kernel` examples, which compare `Except Err Poly` values
deriving instance DecidableEq for Except

/-- `UnivariateSeries::mul(a, b, prec)` is the product modulo `X^prec` … -/
theorem mul_spec (a b : Poly) (prec : ℕ) : EqMod prec (toPS (mulTrunc a b prec)) (toPS a * toPS b) :=
  toPS_mulTrunc a b prec

/-- … and carries no term of degree ≥ prec -/
theorem mul_trunc_high (a b : Poly) (prec k : ℕ) (hk : prec ≤ k) :
    coeff k (toPS (mulTrunc a b prec)) = 0 := coeff_mulTrunc_ge a b prec k hk

example : mulTrunc [1, 2, 3] [1, 1, 1, 1] 3 = [1, 3, 6] := by decide +kernel

/-- `UnivariateSeries::pow(b, e, prec)` (square and multiply) is `b^e` modulo `X^prec` -/
theorem pow_spec (b : Poly) (e prec : ℕ) (he : 1 ≤ e) : EqMod prec (toPS (powPos b e prec)) (toPS b ^ e) :=
  toPS_powPos b e prec he

example : powPos [1, 1] 5 4 = [1, 5, 10, 10] := by decide +kernel

theorem diff_spec (p : Poly) : toPS (diff p) = d⁄dX ℚ (toPS p) := toPS_diff p
theorem integrate_spec (p : Poly) : toPS (integrate p) = integ (toPS p) := toPS_integrate p

/-- `step_list(prec)` starts at most at 2, never more than doubles, and ends at `prec` -/
theorem stepList_schedule (prec : ℕ) : Chain 1 (stepList prec) ∧ lastD 1 (stepList prec) = prec :=
  ⟨chain_stepList prec, lastD_stepList prec 1⟩

example : stepList 20 = [2, 4, 5, 6, 8, 12, 20] := by decide +kernel

theorem series_invert_spec (s p : Poly) (prec : ℕ) (h : invert s prec = .ok p) :
    EqMod prec (toPS p * toPS s) 1 := invert_spec s p prec h

example : invert [1, 1, 1] 7 = .ok [1, -1, 0, 1, -1, 0, 1] := by decide +kernel

/-- series_log returns a series without constant term -/
theorem log_ode (s g : Poly) (prec : ℕ) (h : seriesLog s prec = .ok g) :
    constantCoeff (toPS g) = 0 ∨ prec = 0 := by
  rcases Nat.eq_zero_or_pos prec with hp | hp
  · exact .inr hp
  · exact .inl ((constantCoeff_eq_of_eqMod hp (series_log_spec s g prec h).2).trans (constantCoeff_flog _))

example : seriesLog [1, 1, 1] 5 = .ok [0, 1, 1 / 2, -2 / 3, 1 / 4] := by decide +kernel

/-- **series_exp**: `g` agrees with every (= the unique) solution of `E' = E·S'`, `E(0) = 1` -/
theorem series_exp_spec (s g : Poly) (prec : ℕ) (h : seriesExp s prec = .ok g) {E : ℚ⟦X⟧}
    (hE : IsExpOf (toPS s) E) : EqMod prec (toPS g) E := (seriesExp_ok h).2 E hE

/-- **series_exp** against Mathlib's exponential series: `g ≡ exp ∘ S` -/
theorem exp_taylor (s g : Poly) (prec : ℕ) (h : seriesExp s prec = .ok g) :
    constantCoeff (toPS s) = 0 ∧ EqMod prec (toPS g) ((PowerSeries.exp ℚ).subst (toPS s)) := by
  by_cases hp : prec = 0
  · subst hp
    exact ⟨(seriesExp_ok h).1, eqMod_zero _ _⟩
  · exact exp_specC s g prec (by omega) h (EqMod.refl _ _)

example : seriesExp [0, 1, 1] 6 = .ok [1, 1, 3 / 2, 7 / 6, 25 / 24, 27 / 40] := by decide +kernel

theorem sinC_eq : PowerSeries.mk sinC = PowerSeries.sin ℚ := by
  ext n
  rw [coeff_mk, PowerSeries.sin, coeff_mk]
  unfold sinC
  by_cases h : n % 2 = 1
  · rw [if_pos h, if_neg (by rw [Nat.even_iff]; omega)]; simp
  · rw [if_neg h, if_pos (by rw [Nat.even_iff]; omega)]

theorem cosC_eq : PowerSeries.mk cosC = PowerSeries.cos ℚ := by
  ext n
  rw [coeff_mk, PowerSeries.cos, coeff_mk]
  unfold cosC
  by_cases h : n % 2 = 0
  · rw [if_pos h, if_pos (by rw [Nat.even_iff]; omega)]; simp
  · rw [if_neg h, if_neg (by rw [Nat.even_iff]; omega)]

/-- **series_sin** against Mathlib's sine series: `g ≡ sin ∘ S` -/
theorem sin_taylor (s g : Poly) (prec : ℕ) (h : seriesSin s prec = .ok g) :
    constantCoeff (toPS s) = 0 ∧ EqMod prec (toPS g) ((PowerSeries.sin ℚ).subst (toPS s)) := by
  obtain ⟨hS, hg⟩ := sin_spec s g prec h
  exact ⟨hS, by rw [← sinC_eq, ← comp_eq_subst sinC hS]; exact hg⟩

/-- **series_cos** against Mathlib's cosine series: `g ≡ cos ∘ S` -/
theorem cos_taylor (s g : Poly) (prec : ℕ) (h : seriesCos s prec = .ok g) :
    constantCoeff (toPS s) = 0 ∧ EqMod prec (toPS g) ((PowerSeries.cos ℚ).subst (toPS s)) := by
  obtain ⟨hS, hg⟩ := cos_spec s g prec h
  exact ⟨hS, by rw [← cosC_eq, ← comp_eq_subst cosC hS]; exact hg⟩

example : seriesSin [0, 1, 1] 6 = .ok [0, 1, 1, -1 / 6, -1 / 2, -59 / 120] := by decide +kernel
example : seriesCos [0, 2] 6 = .ok [1, 0, -2, 0, 2 / 3, 0] := by decide +kernel

example : seriesAtan [0, 1, 1] 5 = .ok [0, 1, 1, -1 / 3, -1] := by decide +kernel
example : seriesAtanh [0, 1, 1] 5 = .ok [0, 1, 1, 1 / 3, 1] := by decide +kernel

/-- **series_sinh / series_cosh**: `(E ∓ E⁻¹)/2` with `E = exp ∘ S` -/
theorem series_sinh_spec (s g : Poly) (prec : ℕ) (hp : 1 ≤ prec) (h : seriesSinh s prec = .ok g) :
    EqMod prec (toPS g) (C (1 / 2 : ℚ) * (fexp (toPS s) - (fexp (toPS s))⁻¹)) :=
  (sinh_specC s g prec hp h (EqMod.refl _ _)).2

theorem series_cosh_spec (s g : Poly) (prec : ℕ) (hp : 1 ≤ prec) (h : seriesCosh s prec = .ok g) :
    EqMod prec (toPS g) (C (1 / 2 : ℚ) * (fexp (toPS s) + (fexp (toPS s))⁻¹)) :=
  (cosh_specC s g prec hp h (EqMod.refl _ _)).2

example : seriesSinh [0, 1, 1] 5 = .ok [0, 1, 1, 1 / 6, 1 / 2] := by decide +kernel

/-- the exponent is an integer or rational literal: the arms of `powDispatch` that do not go through `exp` -/
def isNumExp : Expr → Bool
  | .int _ => true
  | .rat _ _ => true
  | _ => false

mutual
  /-- `Den e D`: `D ∈ ℚ⟦X⟧` is the Taylor series at 0 of the expression `e` in the variable `x`, built by
  composition of formal power series (sum, product, integer powers, inverse of a unit, `exp ∘`, `log ∘`,
  `sin ∘`, …).  No rule applies where the function is not analytic at 0 with rational coefficients. -/
  inductive Den : Expr → ℚ⟦X⟧ → Prop
    | int (n : Int) : Den (.int n) (C (n : ℚ))
    | rat (n : Int) (d : Nat) : Den (.rat n d) (C (mkRat n d))
    | var : Den (.sym "x") X
    | add {c : Expr} {ts : List (Expr × Expr)} {A T : ℚ⟦X⟧} :
        Den c A → DenSum ts T → Den (.add c ts) (A + T)
    | mul {c : Expr} {fs : List (Expr × Expr)} {A P : ℚ⟦X⟧} :
        Den c A → DenProd fs P → Den (.mul c fs) (A * P)
    | pow {b e : Expr} {D : ℚ⟦X⟧} : DenPow b e D → Den (.pow b e) D
    | sin {a : Expr} {A : ℚ⟦X⟧} : Den a A → constantCoeff A = 0 → Den (.app "Sin" [a]) (comp sinC A)
    | cos {a : Expr} {A : ℚ⟦X⟧} : Den a A → constantCoeff A = 0 → Den (.app "Cos" [a]) (comp cosC A)
    -- series_sec is invert(series_cos)
    | sec {a : Expr} {A : ℚ⟦X⟧} : Den a A → constantCoeff A = 0 → Den (.app "Sec" [a]) (comp cosC A)⁻¹
    | log {a : Expr} {A : ℚ⟦X⟧} : Den a A → constantCoeff A = 1 → Den (.app "Log" [a]) (flog A)
    | atan {a : Expr} {A : ℚ⟦X⟧} : Den a A → constantCoeff A = 0 → Den (.app "ATan" [a]) (fatan A)
    | atanh {a : Expr} {A : ℚ⟦X⟧} : Den a A → constantCoeff A = 0 → Den (.app "ATanh" [a]) (fatanh A)
    | sinh {a : Expr} {A : ℚ⟦X⟧} : Den a A → constantCoeff A = 0 →
        Den (.app "Sinh" [a]) (C (1 / 2 : ℚ) * (fexp A - (fexp A)⁻¹))
    | cosh {a : Expr} {A : ℚ⟦X⟧} : Den a A → constantCoeff A = 0 →
        Den (.app "Cosh" [a]) (C (1 / 2 : ℚ) * (fexp A + (fexp A)⁻¹))
    -- functions characterised by their defining equation (the solution is unique)
    | tan {a : Expr} {A T : ℚ⟦X⟧} : Den a A → constantCoeff A = 0 → constantCoeff T = 0 → fatan T = A →
        Den (.app "Tan" [a]) T
    | tanh {a : Expr} {A T : ℚ⟦X⟧} : Den a A → constantCoeff A = 0 → constantCoeff T = 0 → fatanh T = A →
        Den (.app "Tanh" [a]) T
    | lambertw {a : Expr} {A W : ℚ⟦X⟧} : Den a A → constantCoeff A = 0 → constantCoeff W = 0 →
        W * fexp W = A → Den (.app "LambertW" [a]) W
    | asin {a : Expr} {A R : ℚ⟦X⟧} : Den a A → constantCoeff A = 0 → R * R * (1 - A * A) = 1 →
        constantCoeff R = 1 → Den (.app "ASin" [a]) (integ (d⁄dX ℚ A * R))
    | asinh {a : Expr} {A R : ℚ⟦X⟧} : Den a A → constantCoeff A = 0 → R * R * (1 + A * A) = 1 →
        constantCoeff R = 1 → Den (.app "ASinh" [a]) (integ (d⁄dX ℚ A * R))
  /-- the dictionary of an `Add`: Σ key·coef -/
  inductive DenSum : List (Expr × Expr) → ℚ⟦X⟧ → Prop
    | nil : DenSum [] 0
    | cons {k v : Expr} {t : List (Expr × Expr)} {K V T : ℚ⟦X⟧} :
        Den k K → Den v V → DenSum t T → DenSum ((k, v) :: t) (K * V + T)
  /-- the dictionary of a `Mul`: Π base^exp -/
  inductive DenProd : List (Expr × Expr) → ℚ⟦X⟧ → Prop
    | nil : DenProd [] 1
    | cons {b e : Expr} {t : List (Expr × Expr)} {F T : ℚ⟦X⟧} :
        DenPow b e F → DenProd t T → DenProd ((b, e) :: t) (F * T)
  /-- `base^exp`: `negInt` is `B⁻¹ ^ n`, not `(B ^ n)⁻¹`, because `powInt` inverts first and raises then; `ratPos` / `ratNeg` read an
  exponent `±n/den` with `den ≥ 2` (a canonical Rational), the sign choosing the rule -/
  inductive DenPow : Expr → Expr → ℚ⟦X⟧ → Prop
    | posInt {b : Expr} {B : ℚ⟦X⟧} (n : ℕ) : 1 ≤ n → Den b B → DenPow b (.int (n : Int)) (B ^ n)
    | negInt {b : Expr} {B : ℚ⟦X⟧} (n : ℕ) : 1 ≤ n → Den b B → constantCoeff B ≠ 0 →
        DenPow b (.int (-(n : Int))) (B⁻¹ ^ n)
    | exp {b e : Expr} {A : ℚ⟦X⟧} : isE b = true → isNumExp e = false → Den e A → constantCoeff A = 0 →
        DenPow b e (fexp A)
    | gen {b e : Expr} {B A : ℚ⟦X⟧} : isE b = false → isNumExp e = false → Den b B → Den e A →
        constantCoeff B = 1 → DenPow b e (fexp (A * flog B))
    -- rational powers: the root with positive constant term of a series with positive constant term
    | ratPos {b : Expr} {B D : ℚ⟦X⟧} (n den : ℕ) : 1 ≤ n → 2 ≤ den → Den b B → 0 < constantCoeff B →
        D ^ den = B ^ n → 0 < constantCoeff D → DenPow b (.rat (n : Int) den) D
    | ratNeg {b : Expr} {B D : ℚ⟦X⟧} (n den : ℕ) : 1 ≤ n → 2 ≤ den → Den b B → 0 < constantCoeff B →
        D ^ den * B ^ n = 1 → 0 < constantCoeff D → DenPow b (.rat (-(n : Int)) den) D
end

theorem toPS_constPoly (c : ℚ) : toPS (constPoly c) = C c := by
  unfold constPoly
  split
  · next h => rw [toPS_nil, beq_iff_eq.mp h, map_zero]
  · exact toPS_singleton c

theorem toPS_var : toPS [0, 1] = X := toPS_of_isVar (by decide)

theorem isNumExp_cases (e : Expr) :
    (∃ sh, e = .int sh) ∨ (∃ n d, e = .rat n d) ∨ isNumExp e = false := by
  unfold isNumExp
  split
  · exact .inl ⟨_, rfl⟩
  · exact .inr (.inl ⟨_, _, rfl⟩)
  · exact .inr (.inr rfl)

/-- on a non-numeric exponent the Pow visitor goes through `exp`, or `exp(e·log b)` -/
theorem powDispatch_of_not_num {e : Expr} (he : isNumExp e = false) (b : Expr)
    (pb pe : Except Err Poly) (prec : ℕ) :
    powDispatch b e pb pe prec =
      if isE b then pe >>= fun q => seriesExp q prec
      else pe >>= fun q => pb >>= fun p => seriesLog p prec >>= fun l => seriesExp (mulFull q l) prec := by
  unfold powDispatch
  split
  · cases he
  · cases he
  · rfl

theorem coveredPowB_of_not_num {e : Expr} (he : isNumExp e = false) (b : Expr) (cb ce : Bool) :
    coveredPowB b e cb ce = (ce && (isE b || cb)) := by
  unfold coveredPowB
  split
  · cases he
  · cases he
  · rfl

/-- integer-exponent branch of the Pow visitor: `B^n` for the exponent `n ≥ 1`, `(B⁻¹)^n` for `-n` -/
theorem powInt_spec {prec : ℕ} (hp : 1 ≤ prec) {B : ℚ⟦X⟧} {p r : Poly} (hpB : EqMod prec (toPS p) B)
    {n : ℕ} (hn : 1 ≤ n) :
    (powInt p (n : Int) prec = .ok r → EqMod prec (toPS r) (B ^ n)) ∧
    (powInt p (-(n : Int)) prec = .ok r → constantCoeff B ≠ 0 ∧ EqMod prec (toPS r) (B⁻¹ ^ n)) := by
  constructor
  · exact fun h => (powPosBranch_spec hn h).trans (hpB.pow n)
  · intro h
    rw [powInt, powNegBranch hn, Int.neg_neg, Int.toNat_natCast] at h
    split at h
    · next h1 =>
      subst h1
      rw [pow_one]
      exact invert_specC hp h hpB
    · obtain ⟨q, hq, h⟩ := bind_ok.mp h
      obtain ⟨hc, hq'⟩ := invert_specC hp hq hpB
      exact ⟨hc, (powTrunc_pos_spec hn h).trans (hq'.pow n)⟩

/-- the branch `b^e = exp(e·log b)` of the Pow visitor -/
theorem genPow_specC {prec : ℕ} (hp : 1 ≤ prec) {p q l r : Poly} (hl : seriesLog p prec = .ok l)
    (h : seriesExp (mulFull q l) prec = .ok r) {A B : ℚ⟦X⟧} (hqA : EqMod prec (toPS q) A)
    (hpB : EqMod prec (toPS p) B) : constantCoeff B = 1 ∧ EqMod prec (toPS r) (fexp (A * flog B)) := by
  obtain ⟨hB1, hlB⟩ := log_specC p l prec hp hl hpB
  refine ⟨hB1, (exp_specC (mulFull q l) r prec hp h ?_).2⟩
  rw [toPS_mulFull]
  exact hqA.mul hlB

theorem powDispatch_sound (prec : ℕ) (hp : 1 ≤ prec) (b e : Expr) (rb re : Except Err Poly)
    (ihb : ∀ p, covered b = true → rb = .ok p → ∃ D, Den b D ∧ EqMod prec (toPS p) D)
    (ihe : ∀ p, covered e = true → re = .ok p → ∃ D, Den e D ∧ EqMod prec (toPS p) D)
    (hc : coveredPowB b e (covered b) (covered e) = true) (r : Poly)
    (h : powDispatch b e rb re prec = .ok r) : ∃ D, DenPow b e D ∧ EqMod prec (toPS r) D := by
  rcases isNumExp_cases e with ⟨sh, rfl⟩ | ⟨n, d, rfl⟩ | hnum
  · obtain ⟨p, hrb, h⟩ := bind_ok.mp h
    obtain ⟨hsh, hcb⟩ : sh ≠ 0 ∧ covered b = true := by
      simpa only [coveredPowB, Bool.and_eq_true, bne_iff_ne, ne_eq] using hc
    obtain ⟨B, hB, hpB⟩ := ihb p hcb hrb
    obtain ⟨n, rfl | rfl⟩ := sh.eq_nat_or_neg
    · have hn : 1 ≤ n := by omega
      exact ⟨_, DenPow.posInt n hn hB, (powInt_spec hp hpB hn).1 h⟩
    · have hn : 1 ≤ n := by omega
      obtain ⟨hB0, hr⟩ := (powInt_spec hp hpB hn).2 h
      exact ⟨_, DenPow.negInt n hn hB hB0, hr⟩
  · cases hc  -- `coveredPowB` refuses a rational exponent: rational powers are not in the constructed fragment
  · rw [powDispatch_of_not_num hnum] at h
    rw [coveredPowB_of_not_num hnum, Bool.and_eq_true, Bool.or_eq_true] at hc
    split at h
    · next hE =>
      obtain ⟨q, hre, h⟩ := bind_ok.mp h
      obtain ⟨A, hA, hqA⟩ := ihe q hc.1 hre
      obtain ⟨hA0, hr⟩ := exp_specC q r prec hp h hqA
      exact ⟨_, DenPow.exp hE hnum hA hA0, hr⟩
    · next hE =>
      obtain ⟨q, hre, h⟩ := bind_ok.mp h
      obtain ⟨p, hrb, h⟩ := bind_ok.mp h
      obtain ⟨l, hl, h⟩ := bind_ok.mp h
      obtain ⟨A, hA, hqA⟩ := ihe q hc.1 hre
      obtain ⟨B, hB, hpB⟩ := ihb p (hc.2.resolve_left hE) hrb
      obtain ⟨hB1, hr⟩ := genPow_specC hp hl h hqA hpB
      exact ⟨_, DenPow.gen (Bool.eq_false_iff.mpr hE) hnum hB hA hB1, hr⟩

theorem applyFun_sound (prec : ℕ) (hp : 1 ≤ prec) (hd : String) (a : Expr) (A : ℚ⟦X⟧) (p r : Poly)
    (hh : coveredHeads.contains hd = true) (hA : Den a A) (hpA : EqMod prec (toPS p) A)
    (h : applyFun hd p prec = .ok r) : ∃ D, Den (.app hd [a]) D ∧ EqMod prec (toPS r) D := by
  simp only [coveredHeads, List.contains_cons, List.contains_nil, Bool.or_false, Bool.or_eq_true,
    beq_iff_eq] at hh
  rcases hh with rfl | rfl | rfl | rfl | rfl | rfl | rfl | rfl
  -- `applyFun "Sin" p prec` unfolds definitionally to `seriesSin p prec`, so `h` fits `sin_specC` as it is; likewise below
  · obtain ⟨h0, hr⟩ := sin_specC p r prec hp h hpA
    exact ⟨_, Den.sin hA h0, hr⟩
  · obtain ⟨h0, hr⟩ := cos_specC p r prec hp h hpA
    exact ⟨_, Den.cos hA h0, hr⟩
  · obtain ⟨h0, hr⟩ := sec_specC p r prec hp h hpA
    exact ⟨_, Den.sec hA h0, hr⟩
  · obtain ⟨h0, hr⟩ := log_specC p r prec hp h hpA
    exact ⟨_, Den.log hA h0, hr⟩
  · obtain ⟨h0, hr⟩ := atan_specC p r prec hp h hpA
    exact ⟨_, Den.atan hA h0, hr⟩
  · obtain ⟨h0, hr⟩ := sinh_specC p r prec hp h hpA
    exact ⟨_, Den.sinh hA h0, hr⟩
  · obtain ⟨h0, hr⟩ := cosh_specC p r prec hp h hpA
    exact ⟨_, Den.cosh hA h0, hr⟩
  · obtain ⟨h0, hr⟩ := atanh_specC p r prec hp h hpA
    exact ⟨_, Den.atanh hA h0, hr⟩

mutual
  theorem apply_sound (prec : ℕ) (hp : 1 ≤ prec) :
      ∀ (e : Expr) (p : Poly), covered e = true → apply prec e = .ok p →
        ∃ D, Den e D ∧ EqMod prec (toPS p) D
    | .int n, p, _, h => by
      cases h
      exact ⟨_, Den.int n, EqMod.of_eq (toPS_constPoly _)⟩
    | .rat n d, p, _, h => by
      cases h
      exact ⟨_, Den.rat n d, EqMod.of_eq (toPS_constPoly _)⟩
    | .sym name, p, hc, h => by
      rw [covered, beq_iff_eq] at hc
      subst hc
      cases h
      exact ⟨_, Den.var, EqMod.of_eq toPS_var⟩
    | .add c ts, p, hc, h => by
      rw [covered, Bool.and_eq_true] at hc
      rw [apply] at h
      obtain ⟨t, ht, h⟩ := bind_ok.mp h
      obtain ⟨A, hA, htA⟩ := apply_sound prec hp c t hc.1 ht
      obtain ⟨T, hT, hpT⟩ := applyAdd_sound prec hp ts t p A hc.2 htA h
      exact ⟨_, Den.add hA hT, hpT⟩
    | .mul c fs, p, hc, h => by
      rw [covered, Bool.and_eq_true] at hc
      rw [apply] at h
      obtain ⟨t, ht, h⟩ := bind_ok.mp h
      obtain ⟨A, hA, htA⟩ := apply_sound prec hp c t hc.1 ht
      obtain ⟨P, hP, hpP⟩ := applyMul_sound prec hp fs t p A hc.2 htA h
      exact ⟨_, Den.mul hA hP, hpP⟩
    | .pow b e, p, hc, h => by
      rw [covered] at hc
      rw [apply] at h
      obtain ⟨D, hD, hpD⟩ := powDispatch_sound prec hp b e _ _
        (apply_sound prec hp b) (apply_sound prec hp e) hc p h
      exact ⟨D, Den.pow hD, hpD⟩
    | .app hd args, p, hc, h => by
      rw [covered, Bool.and_eq_true] at hc
      rw [apply] at h
      obtain ⟨q, hq, hf⟩ := bind_ok.mp h
      obtain ⟨a, A, rfl, hA, hqA⟩ := applyArg_sound prec hp args q hc.2 hq
      exact applyFun_sound prec hp hd a A q p hc.1 hA hqA hf
    | .cplx _ _, _, hc, _ => by cases hc
    | .dbl _, _, hc, _ => by cases hc
    | .cdbl _ _, _, hc, _ => by cases hc
    | .infty _, _, hc, _ => by cases hc
    | .nan, _, hc, _ => by cases hc
    | .dummy _ _, _, hc, _ => by cases hc
    | .const _, _, hc, _ => by cases hc
    | .fsym _ _, _, hc, _ => by cases hc
    | .bool _, _, hc, _ => by cases hc
  theorem applyAdd_sound (prec : ℕ) (hp : 1 ≤ prec) :
      ∀ (ts : List (Expr × Expr)) (temp p : Poly) (T0 : ℚ⟦X⟧), coveredPairs ts = true →
        EqMod prec (toPS temp) T0 → applyAdd prec temp ts = .ok p →
        ∃ T, DenSum ts T ∧ EqMod prec (toPS p) (T0 + T)
    | [], temp, p, T0, _, ht, h => by
      cases h
      exact ⟨0, DenSum.nil, by rwa [add_zero]⟩
    | (k, v) :: t, temp, p, T0, hc, ht, h => by
      rw [coveredPairs, Bool.and_eq_true, Bool.and_eq_true] at hc
      rw [applyAdd] at h
      obtain ⟨pk, hk, h⟩ := bind_ok.mp h
      obtain ⟨pv, hv, h⟩ := bind_ok.mp h
      obtain ⟨K, hK, hpK⟩ := apply_sound prec hp k pk hc.1.1 hk
      obtain ⟨V, hV, hpV⟩ := apply_sound prec hp v pv hc.1.2 hv
      have h1 : EqMod prec (toPS (padd temp (mulFull pk pv))) (T0 + K * V) := by
        rw [toPS_padd, toPS_mulFull]; exact ht.add (hpK.mul hpV)
      obtain ⟨T, hT, hpT⟩ := applyAdd_sound prec hp t _ p _ hc.2 h1 h
      exact ⟨K * V + T, DenSum.cons hK hV hT, by rwa [← add_assoc]⟩
  theorem applyMul_sound (prec : ℕ) (hp : 1 ≤ prec) :
      ∀ (fs : List (Expr × Expr)) (temp p : Poly) (T0 : ℚ⟦X⟧), coveredPows fs = true →
        EqMod prec (toPS temp) T0 → applyMul prec temp fs = .ok p →
        ∃ P, DenProd fs P ∧ EqMod prec (toPS p) (T0 * P)
    | [], temp, p, T0, _, ht, h => by
      cases h
      exact ⟨1, DenProd.nil, by rwa [mul_one]⟩
    | (b, e) :: t, temp, p, T0, hc, ht, h => by
      rw [coveredPows, Bool.and_eq_true] at hc
      rw [applyMul] at h
      obtain ⟨pf, hf, h⟩ := bind_ok.mp h
      obtain ⟨F, hF, hpF⟩ := powDispatch_sound prec hp b e _ _
        (apply_sound prec hp b) (apply_sound prec hp e) hc.1 pf hf
      have h1 : EqMod prec (toPS (mulTrunc temp pf prec)) (T0 * F) :=
        (toPS_mulTrunc _ _ _).trans (ht.mul hpF)
      obtain ⟨P, hP, hpP⟩ := applyMul_sound prec hp t _ p _ hc.2 h1 h
      exact ⟨F * P, DenProd.cons hF hP, by rwa [← mul_assoc]⟩
  theorem applyArg_sound (prec : ℕ) (hp : 1 ≤ prec) :
      ∀ (args : List Expr) (p : Poly), coveredArg args = true → applyArg prec args = .ok p →
        ∃ a A, args = [a] ∧ Den a A ∧ EqMod prec (toPS p) A
    | [], _, hc, _ => by cases hc
    | [a], p, hc, h => by
      obtain ⟨A, hA, hpA⟩ := apply_sound prec hp a p hc h
      exact ⟨a, A, rfl, hA, hpA⟩
    | _ :: _ :: _, _, hc, _ => by cases hc
end

theorem powDispatch_sound_all (prec : ℕ) (hp : 1 ≤ prec) (b e : Expr) (rb re : Except Err Poly)
    (ihb : ∀ p B, rb = .ok p → Den b B → EqMod prec (toPS p) B)
    (ihe : ∀ p A, re = .ok p → Den e A → EqMod prec (toPS p) A)
    (r : Poly) (D : ℚ⟦X⟧) (h : powDispatch b e rb re prec = .ok r) (hD : DenPow b e D) :
    EqMod prec (toPS r) D := by
  cases hD with
  | posInt n hn hB =>
    obtain ⟨p, hrb, h⟩ := bind_ok.mp h
    exact (powInt_spec hp (ihb p _ hrb hB) hn).1 h
  | negInt n hn hB hc =>
    obtain ⟨p, hrb, h⟩ := bind_ok.mp h
    exact ((powInt_spec hp (ihb p _ hrb hB) hn).2 h).2
  | ratPos n den hn hden hB _ hDd hD0 =>
    obtain ⟨p, hrb, h⟩ := bind_ok.mp h
    exact powRat_sound_pos p r n den prec hn hden hp h (ihb p _ hrb hB) hDd hD0
  | ratNeg n den hn hden hB _ hDd hD0 =>
    obtain ⟨p, hrb, h⟩ := bind_ok.mp h
    exact powRat_sound_neg p r n den prec hn hden hp h (ihb p _ hrb hB) hDd hD0
  | exp hE hnum hA hA0 =>
    rw [powDispatch_of_not_num hnum, if_pos hE] at h
    obtain ⟨q, hre, h⟩ := bind_ok.mp h
    exact (exp_specC q r prec hp h (ihe q _ hre hA)).2
  | gen hE hnum hB hA hB1 =>
    rw [powDispatch_of_not_num hnum, if_neg (Bool.eq_false_iff.mp hE)] at h
    obtain ⟨q, hre, h⟩ := bind_ok.mp h
    obtain ⟨p, hrb, h⟩ := bind_ok.mp h
    obtain ⟨l, hl, h⟩ := bind_ok.mp h
    exact (genPow_specC hp hl h (ihe q _ hre hA) (ihb p _ hrb hB)).2

mutual
  theorem apply_sound_all (prec : ℕ) (hp : 1 ≤ prec) :
      ∀ (e : Expr) (p : Poly) (D : ℚ⟦X⟧), apply prec e = .ok p → Den e D → EqMod prec (toPS p) D
    | .int n, p, D, h, hD => by
      cases hD
      cases h
      exact EqMod.of_eq (toPS_constPoly _)
    | .rat n d, p, D, h, hD => by
      cases hD
      cases h
      exact EqMod.of_eq (toPS_constPoly _)
    | .sym name, p, D, h, hD => by
      cases hD
      cases h
      exact EqMod.of_eq toPS_var
    | .add c ts, p, D, h, hD => by
      rw [apply] at h
      obtain ⟨t, ht, h⟩ := bind_ok.mp h
      cases hD with
      | add hA hT => exact applyAdd_sound_all prec hp ts t p _ _ (apply_sound_all prec hp c t _ ht hA) h hT
    | .mul c fs, p, D, h, hD => by
      rw [apply] at h
      obtain ⟨t, ht, h⟩ := bind_ok.mp h
      cases hD with
      | mul hA hP => exact applyMul_sound_all prec hp fs t p _ _ (apply_sound_all prec hp c t _ ht hA) h hP
    | .pow b e, p, D, h, hD => by
      rw [apply] at h
      cases hD with
      | pow hDP =>
        exact powDispatch_sound_all prec hp b e _ _
          (apply_sound_all prec hp b) (apply_sound_all prec hp e) p D h hDP
    | .app hd [a], p, D, h, hD => by
      rw [apply, applyArg] at h
      obtain ⟨q, hq, h⟩ := bind_ok.mp h
      have ih := fun A hA => apply_sound_all prec hp a q A hq hA
      cases hD with
      | sin hA _ => exact (sin_specC q p prec hp h (ih _ hA)).2
      | cos hA _ => exact (cos_specC q p prec hp h (ih _ hA)).2
      | sec hA _ => exact (sec_specC q p prec hp h (ih _ hA)).2
      | log hA _ => exact (log_specC q p prec hp h (ih _ hA)).2
      | atan hA _ => exact (atan_specC q p prec hp h (ih _ hA)).2
      | atanh hA _ => exact (atanh_specC q p prec hp h (ih _ hA)).2
      | sinh hA _ => exact (sinh_specC q p prec hp h (ih _ hA)).2
      | cosh hA _ => exact (cosh_specC q p prec hp h (ih _ hA)).2
      | tan hA _ hT0 hT => exact tan_sound q p prec hp h (ih _ hA) hT0 hT
      | tanh hA _ hT0 hT => exact tanh_sound q p prec hp h (ih _ hA) hT0 hT
      | lambertw hA _ hW0 hW => exact lambertw_sound q p prec hp h (ih _ hA) hW0 hW
      | asin hA _ hR hR0 => exact asin_sound q p prec hp h (ih _ hA) hR hR0
      | asinh hA _ hR hR0 => exact asinh_sound q p prec hp h (ih _ hA) hR hR0
    | .app _ [], _, _, _, hD => by cases hD
    | .app _ (_ :: _ :: _), _, _, _, hD => by cases hD
    | .cplx _ _, _, _, _, hD => by cases hD
    | .dbl _, _, _, _, hD => by cases hD
    | .cdbl _ _, _, _, _, hD => by cases hD
    | .infty _, _, _, _, hD => by cases hD
    | .nan, _, _, _, hD => by cases hD
    | .dummy _ _, _, _, _, hD => by cases hD
    | .const _, _, _, _, hD => by cases hD
    | .fsym _ _, _, _, _, hD => by cases hD
    | .bool _, _, _, _, hD => by cases hD
  theorem applyAdd_sound_all (prec : ℕ) (hp : 1 ≤ prec) :
      ∀ (ts : List (Expr × Expr)) (temp p : Poly) (T0 T : ℚ⟦X⟧), EqMod prec (toPS temp) T0 →
        applyAdd prec temp ts = .ok p → DenSum ts T → EqMod prec (toPS p) (T0 + T)
    | [], temp, p, T0, T, ht, h, hT => by
      cases hT
      cases h
      rwa [add_zero]
    | (k, v) :: t, temp, p, T0, T, ht, h, hT => by
      rw [applyAdd] at h
      obtain ⟨pk, hk, h⟩ := bind_ok.mp h
      obtain ⟨pv, hv, h⟩ := bind_ok.mp h
      cases hT with
      | cons hK hV hT' =>
        rw [← add_assoc]
        refine applyAdd_sound_all prec hp t _ p _ _ ?_ h hT'
        rw [toPS_padd, toPS_mulFull]
        exact ht.add ((apply_sound_all prec hp k pk _ hk hK).mul (apply_sound_all prec hp v pv _ hv hV))
  theorem applyMul_sound_all (prec : ℕ) (hp : 1 ≤ prec) :
      ∀ (fs : List (Expr × Expr)) (temp p : Poly) (T0 P : ℚ⟦X⟧), EqMod prec (toPS temp) T0 →
        applyMul prec temp fs = .ok p → DenProd fs P → EqMod prec (toPS p) (T0 * P)
    | [], temp, p, T0, P, ht, h, hP => by
      cases hP
      cases h
      rwa [mul_one]
    | (b, e) :: t, temp, p, T0, P, ht, h, hP => by
      rw [applyMul] at h
      obtain ⟨pf, hf, h⟩ := bind_ok.mp h
      cases hP with
      | cons hF hP' =>
        have hpF := powDispatch_sound_all prec hp b e _ _
          (apply_sound_all prec hp b) (apply_sound_all prec hp e) pf _ hf hF
        rw [← mul_assoc]
        exact applyMul_sound_all prec hp t _ p _ _ ((toPS_mulTrunc temp pf prec).trans (ht.mul hpF)) h hP'
end

theorem series_ok {e : Expr} {prec : ℕ} {p : Poly} (h : series e prec = .ok p) :
    1 ≤ prec ∧ apply prec e = .ok p := by
  unfold series at h
  split at h
  · cases h
  · next hp => exact ⟨Nat.pos_of_ne_zero (by simpa using hp), h⟩

/-- **C31 for the whole modelled language.**  For every expression, every order and every formal Taylor
series `D` of the expression (`Den e D`; tan, tanh, lambertw, asin, asinh and rational powers enter through
their defining equations): if the model of `series(e, x, prec)` answers `p`, the coefficients of `p`
below `prec` are exactly those of `D`.  "Partial" refers to the modelled fragment: rational coefficients,
no poles (see `docs/C31.md`). -/
theorem series_sound_partial (e : Expr) (prec : ℕ) (p : Poly) (D : ℚ⟦X⟧) (h : series e prec = .ok p)
    (hD : Den e D) : ∀ k, k < prec → Series.coeff p k = coeff k D := by
  obtain ⟨hp, h⟩ := series_ok h
  exact fun k hk => (coeff_toPS p k).symm.trans (apply_sound_all prec hp e p D h hD k hk)

/-- **C31 where the Taylor series is constructed.**  For every expression `e` of the fragment `covered` (arithmetic, integer
powers, `exp`, `f^g`, log, sin, cos, sec, atan, sinh, cosh, atanh, arbitrarily nested) and every order:
whenever the model of `series(e, x, prec)` answers with a polynomial `p`, the expression has a formal
Taylor series `D` (`Den e D`) and the coefficients of `p` below `prec` are exactly those of `D`. -/
theorem series_total_partial (e : Expr) (prec : ℕ) (p : Poly) (hc : covered e = true)
    (h : series e prec = .ok p) : ∃ D, Den e D ∧ ∀ k, k < prec → Series.coeff p k = coeff k D := by
  obtain ⟨hp, h⟩ := series_ok h
  obtain ⟨D, hD, hpD⟩ := apply_sound prec hp e p hc h
  exact ⟨D, hD, fun k hk => (coeff_toPS p k).symm.trans (hpD k hk)⟩

/-- non-vacuity: `cos(x) * exp(sin(x + x^2)) / (1 + x)` lies in the fragment and the model answers -/
def sample : Expr :=
  .mul (.int 1)
    [(.app "Cos" [.sym "x"], .int 1),
     (.const "E", .app "Sin" [.add (.int 0) [(.sym "x", .int 1), (.pow (.sym "x") (.int 2), .int 1)]]),
     (.add (.int 1) [(.sym "x", .int 1)], .int (-1))]

example : covered sample = true := by decide +kernel
example : series sample 5 = .ok [1, 0, 1, -1 / 2, 1 / 6] := by decide +kernel

/-- **series_nthroot**: `g^n ≡ s` (n ≥ 2), `g^|n|·s ≡ 1` (n ≤ -2), positive constant terms -/
theorem series_nthroot_spec (s g : Poly) (n : Int) (prec : ℕ) (hn : 2 ≤ n.natAbs)
    (h : nthroot s n prec = .ok g) :
    (0 < n → EqMod prec (toPS g ^ n.natAbs) (toPS s)) ∧
    (n < 0 → EqMod prec (toPS g ^ n.natAbs * toPS s) 1) ∧
    0 < constantCoeff (toPS s) ∧ (1 ≤ prec → 0 < constantCoeff (toPS g)) := nthroot_spec s g n prec hn h

example : seriesTan [0, 1, 1] 6 = .ok [0, 1, 1, 1 / 3, 1, 17 / 15] := by decide +kernel
example : seriesTanh [0, 1] 8 = .ok [0, 1, 0, -1 / 3, 0, 2 / 15, 0, -17 / 315] := by decide +kernel
example : seriesLambertw [0, 1] 5 = .ok [0, 1, -1, 3 / 2, -8 / 3] := by decide +kernel
example : nthroot [4, 1] 2 4 = .ok [2, 1 / 4, -1 / 64, 1 / 512] := by decide +kernel
example : seriesAsin [0, 1, 1] 4 = .ok [0, 1, 1, 1 / 6, 1 / 4] := by decide +kernel

/-- non-vacuity of `series_sound_partial` on an implicitly defined function: the series `1 + x` is a denotation
of `(1 + 2x + x^2)^(1/2)`, and the model's answer must agree with it -/
def sampleRoot : Expr :=
  .pow (.add (.int 1) [(.sym "x", .int 2), (.pow (.sym "x") (.int 2), .int 1)]) (.rat 1 2)

theorem sampleRoot_den : Den sampleRoot (1 + X) := by
  have hB : Den (.add (.int 1) [(.sym "x", .int 2), (.pow (.sym "x") (.int 2), .int 1)])
      (C ((1 : Int) : ℚ) + (X * C ((2 : Int) : ℚ) + (X ^ 2 * C ((1 : Int) : ℚ) + 0))) :=
    Den.add (Den.int 1) (DenSum.cons Den.var (Den.int 2)
      (DenSum.cons (Den.pow (DenPow.posInt 2 (by omega) Den.var)) (Den.int 1) DenSum.nil))
  refine Den.pow (DenPow.ratPos 1 2 le_rfl le_rfl hB ?_ ?_ ?_)
  · simp
  · simp only [Int.cast_one, map_one, Int.cast_ofNat, pow_one]
    have : (C (2 : ℚ) : ℚ⟦X⟧) = 2 := map_ofNat _ 2
    rw [this]; ring
  · simp

example : series sampleRoot 6 = .ok [1, 1, 0, 0, 0, 0] := by decide +kernel

/-! ## what is not proved

`C31_full` (not asserted) adds *completeness* on the modelled fragment: the model answers on every
expression that has a formal Taylor series.  Outside the model altogether (no Lean statement): symbolic
constants (`sin(1 + x)`, `exp(c + …)`, irrational roots), Laurent intermediates (`sin(x)/x`: the real code
loses precision there — known finding), the generic `Function` visitor, FLINT/Piranha back-ends. -/
def C31_full : Prop :=
  ∀ (e : Expr) (prec : ℕ) (D : ℚ⟦X⟧), 1 ≤ prec → Den e D →
    ∃ p, series e prec = .ok p ∧ ∀ k, k < prec → Series.coeff p k = coeff k D

end SymVerif.C31
