/-
C15 — generated C code (ccode = C99CodePrinter, C89CodePrinter; double and float precision).

Tie to the code: `render (toC r)` is compared *character for character* with the real printer
output on every run (driver), the printer functions modelled by hand are pinned by hash
(translator c15_codegen), names and the UnevaluatedExpr flag are translated.

Proved here, about the functions the driver runs (`toC`'s building blocks, `cEval`, `wf`) with the
real-number structure `realOps`:
  * literals: a Rational is printed as a quotient of two *double* literals — never an integer division
    (`rat_no_int_division`, `rat_value`); scalar literals are never int-typed;
  * `powShape_value`: the five shapes of `_print_pow` (exp, 1/x, sqrt, pow; cbrt excluded) compute
    base^exponent, provided the base is not an int-typed C expression (finding D26 otherwise);
  * `sign_shape_value`: the nested conditional printed for Sign computes the sign;
  * `recip_term_value`: `coef*1/den`, which C reads as `(coef*1)/den`, is `coef·(1/den)`;
  * `uneval_precedence_loss`: the witness of finding D22 (bare UnevaluatedExpr operand ⇒ tree not well formed);
  * `powShape_wf`, `parenIf_wf`: the parentheses `_print_pow` adds are sufficient for the C grammar
    whenever the printer's own precedence class is consistent with the C syntactic category of what
    it printed (`PrecOK`; violated only by reciprocal-function bases, finding D25).
The recursive statement over all trees (`C15_full`) and the parser round trip are not proved: the
driver checks `cparse (lex s) = toC r` and `cEval = gcc` on every generated case instead.  Partial.
-/
import SymVerif.Lemmas.C12Real
import SymVerif.Model.CSem
import SymVerif.Gen.CCodeNames
import SymVerif.Gen.EvalFormulas

namespace SymVerif.C15
open SymVerif SymVerif.EvalG SymVerif.CCode

variable (erf erfc : ℝ → ℝ)
local notation "R" => realOps erf erfc

def unevalWitness : Expr :=
  .mul (.int 2) [(.app "UnevaluatedExpr" [.add (.int 1) [(.sym "x", .int 1)]], .int 1)]

/-- Finding D22 (model as-is): with the bare printing of UnevaluatedExpr operands
(`unevalParen = false`, which is what codegen.cpp does) the tree printed for `2*UnevaluatedExpr(1 + x)` is
NOT well formed for the C grammar — `2*1 + x` is read as `(2*1) + x`.  With parentheses it is. -/
theorem uneval_precedence_loss (fl : Flavor) (names : List (String × String)) :
    (toC ⟨fl, false, false, names⟩ unevalWitness).toOption.map wf = some false
    ∧ (toC ⟨fl, false, true, names⟩ unevalWitness).toOption.map wf = some true := by
  constructor <;> rfl

theorem scalarLit_static (cfg : PCfg) (b : UInt64) :
    isIntTyped (scalarLit cfg b) = false ∧ hasIntDiv (scalarLit cfg b) = false
      ∧ wf (scalarLit cfg b) = true ∧ level (scalarLit cfg b) ≥ 12 := by
  unfold scalarLit
  split <;> simp [isIntTyped, hasIntDiv, wf, level]

theorem scalarLit_not_int (cfg : PCfg) (b : UInt64) : isIntTyped (scalarLit cfg b) = false :=
  (scalarLit_static cfg b).1

theorem cEval_parenIf {α : Type} (O : NumOps α) (env : String → Option α) (b : Bool) (c : CExpr) :
    cEval O env (parenIf b c) = cEval O env c := by
  cases b <;> simp [parenIf, cEval]

/-- real value of a printed scalar literal (sign handled by the unary minus token) -/
noncomputable def scalarVal (b : UInt64) : ℝ :=
  if b >>> 63 == 1 then -((realOps erf erfc).ofBits (b &&& 0x7fffffffffffffff)) else (realOps erf erfc).ofBits b

theorem cEval_scalarLit (cfg : PCfg) (hd : cfg.float = false) (env : String → Option ℝ) (b : UInt64) :
    cEval R env (scalarLit cfg b) = .ok (.dbl (scalarVal erf erfc b)) := by
  unfold scalarLit scalarVal
  split <;> simp [cEval, hd, bind, Except.bind, pure, Except.pure]

theorem rat_no_int_division (cfg : PCfg) (n : Int) (d : Nat) :
    hasIntDiv (numC cfg (.rat n d)) = false ∧ isIntTyped (numC cfg (.rat n d)) = false := by
  obtain ⟨h1, h1', -, -⟩ := scalarLit_static cfg (intBits n)
  obtain ⟨-, h2', -, -⟩ := scalarLit_static cfg (intBits d)
  constructor
  · simp only [numC, hasIntDiv, h1, h1', h2', Bool.and_false, Bool.false_and, Bool.or_self]
  · simp [numC, isIntTyped, h1]

theorem rat_value (cfg : PCfg) (hd : cfg.float = false) (env : String → Option ℝ) (n : Int) (d : Nat) :
    cEval R env (numC cfg (.rat n d))
      = .ok (.dbl (scalarVal erf erfc (intBits n) / scalarVal erf erfc (intBits d))) := by
  simp only [numC, cEval, bind, Except.bind]
  rw [cEval_scalarLit erf erfc cfg hd, cEval_scalarLit erf erfc cfg hd]
  simp [arith, CVal.toD]

/-- what the Pow node means (EvalDoubleVisitor::bvisit(const Pow&)): exp(e) for base E, else b^e -/
noncomputable def powSem (b : Expr) (xb xe : ℝ) : ℝ :=
  if isE b then Real.exp xe else xb ^ xe

/-- value the exponent leaf denotes for the special cases of `_print_pow` -/
def ExpIs (e : Expr) (xe : ℝ) : Prop :=
  (isMinusOne e = true → xe = -1) ∧ (isHalf e = true → xe = 1 / 2)

/-- `hb`: the base is printed as a double-typed C expression (finding D26 when it is int-typed); `hcbrt`:
`realOps` has no `cbrt`. -/
theorem powShape_value (cfg : PCfg) (hd : cfg.float = false) (env : String → Option ℝ)
    (b e : Expr) (cb ce : CExpr) (xb : ℝ) (ve : CVal ℝ)
    (hb : cEval R env cb = .ok (.dbl xb)) (he : cEval R env ce = .ok ve)
    (hx : ExpIs e (ve.toD (realOps erf erfc)))
    (hcbrt : ¬ (isThird e = true ∧ cfg.flavor = .c99)) :
    cEval R env (powShape cfg b e cb ce) = .ok (.dbl (powSem b xb (ve.toD (realOps erf erfc)))) := by
  unfold powSem
  fun_cases powShape cfg b e cb ce
  next h1 =>  -- exp(ce)
    simp [h1, cEval, cEvalList, mathFn, hd, cFn1, he, bind, Except.bind, pure, Except.pure]
  next h1 h2 =>  -- 1/cb
    rw [if_neg h1, hx.1 h2]
    simp [cEval, cEval_parenIf, intLit, hd, hb, bind, Except.bind, arith, CVal.toD, Real.rpow_neg_one]
  next h1 _ h3 =>  -- sqrt(cb)
    rw [if_neg h1, hx.2 h3]
    simp [cEval, cEvalList, mathFn, hd, cFn1, hb, bind, Except.bind, pure, Except.pure, CVal.toD,
      Real.sqrt_eq_rpow]
  next _ _ _ h4 =>  -- cbrt(cb): excluded by `hcbrt`
    rw [Bool.and_eq_true, beq_iff_eq] at h4
    exact absurd h4 hcbrt
  next h1 _ _ _ =>  -- pow(cb, ce)
    rw [if_neg h1]
    simp [cEval, cEvalList, mathFn, hd, cFn2, hb, he, bind, Except.bind, pure, Except.pure, CVal.toD]

/-- the tree `CodePrinter::bvisit(const Sign&)` builds from the printed operand -/
def signTree (cfg : PCfg) (c : CExpr) : CExpr :=
  .paren (.cond false (.paren (.bin .eq c (scalarLit cfg 0))) (.paren (scalarLit cfg 0))
    (.paren (.cond false (.paren (.bin .lt c (scalarLit cfg 0))) (.paren (scalarLit cfg (intBits (-1))))
      (.paren (scalarLit cfg (intBits 1))))))

theorem appShape_sign (cfg : PCfg) (a : Expr) (c : CExpr) :
    appShape cfg "Sign" [a] [c] = .ok (signTree cfg c) := by
  simp [appShape, relOp, rewrittenKinds, signTree]

-- the denominator is the subnormal scale 2^1074, too large to write out or `decide`; under numerator 0 it does not matter
theorem bitsToQ_zero : ∃ d, bitsToQ 0 = some (0, d) := ⟨_, rfl⟩
theorem bitsToQ_one : bitsToQ 0x3ff0000000000000 = some (2 ^ 52, 2 ^ 52) := by decide
theorem intBits_one : intBits 1 = 0x3ff0000000000000 := by decide
theorem intBits_mone : intBits (-1) = 0xbff0000000000000 := by decide

theorem scalarVal_zero : scalarVal erf erfc 0 = 0 := by
  obtain ⟨d, hd⟩ := bitsToQ_zero
  simp [scalarVal, realOps, hd]

theorem scalarVal_one : scalarVal erf erfc (intBits 1) = 1 := by
  rw [intBits_one]
  have h : ((0x3ff0000000000000 : UInt64) >>> 63 == 1) = false := by decide
  simp [scalarVal, h, realOps, bitsToQ_one]

theorem scalarVal_mone : scalarVal erf erfc (intBits (-1)) = -1 := by
  rw [intBits_mone]
  have h : ((0xbff0000000000000 : UInt64) >>> 63 == 1) = true := by decide
  have hm : (0xbff0000000000000 : UInt64) &&& 0x7fffffffffffffff = 0x3ff0000000000000 := by decide
  simp [scalarVal, h, hm, realOps, bitsToQ_one]

theorem sign_shape_value (cfg : PCfg) (hd : cfg.float = false) (env : String → Option ℝ)
    (c : CExpr) (x : ℝ) (hc : cEval R env c = .ok (.dbl x)) :
    cEval R env (signTree cfg c) = .ok (.dbl (if x = 0 then 0 else if x < 0 then -1 else 1)) := by
  have hz : cEval R env (scalarLit cfg 0) = .ok (.dbl 0) := by
    rw [cEval_scalarLit erf erfc cfg hd, scalarVal_zero]
  have hone : cEval R env (scalarLit cfg (intBits 1)) = .ok (.dbl 1) := by
    rw [cEval_scalarLit erf erfc cfg hd, scalarVal_one]
  have hmone : cEval R env (scalarLit cfg (intBits (-1))) = .ok (.dbl (-1)) := by
    rw [cEval_scalarLit erf erfc cfg hd, scalarVal_mone]
  by_cases h0 : x = 0 <;> by_cases h1 : x < 0 <;>
    simp [signTree, cEval, hc, hz, hone, hmone, bind, Except.bind, pure, Except.pure, arith, CVal.toD, ofB, truth,
      h0, h1]

theorem recip_term_value (env : String → Option ℝ) (cc one den : CExpr) (xc xd : ℝ)
    (hcc : cEval R env cc = .ok (.dbl xc)) (hone : cEval R env one = .ok (.int 1))
    (hden : cEval R env den = .ok (.dbl xd)) :
    cEval R env (.bin .div (.bin .mul cc one) den) = .ok (.dbl (xc * (1 / xd))) := by
  simp [cEval, hcc, hone, hden, bind, Except.bind, arith, CVal.toD]
  ring

theorem parenIf_wf (b : Bool) (c : CExpr) (h : wf c = true) : wf (parenIf b c) = true := by
  cases b <;> simp [parenIf, wf, h]

theorem parenIf_level_true (c : CExpr) : level (parenIf true c) = 14 := by
  simp [parenIf, level]

/-- the printer's precedence class of `b` is consistent with the C category of what it printed: `prec b ≥ 3`
is a Pow or an atom in `CCode.prec` (0 relational, 1 Add, 2 Mul, 3 Pow, 4 atom), `level cb ≥ 12` a unary or
primary expression in `CSem.level` (12 unary, 14 primary) -/
def PrecOK (b : Expr) (cb : CExpr) : Prop := prec b ≥ 3 → level cb ≥ 12

theorem powShape_wf (cfg : PCfg) (b e : Expr) (cb ce : CExpr)
    (hb : wf cb = true) (he : wf ce = true) (hok : PrecOK b cb) :
    wf (powShape cfg b e cb ce) = true := by
  fun_cases powShape cfg b e cb ce
  · simp [wf, wfList, he]  -- exp(ce)
  · -- 1/cb; 11 is `BinOp.level .div`, what the left operand of `/` must reach
    obtain ⟨hw, hl⟩ : wf (intLit cfg 1) = true ∧ level (intLit cfg 1) ≥ 11 := by
      unfold intLit
      split
      · obtain ⟨-, -, hw, hl⟩ := scalarLit_static cfg (intBits 1)
        exact ⟨hw, Nat.le_trans (by decide) hl⟩
      · simp [wf, level]
    by_cases hp : prec b ≤ 2
    · simp [wf, parenIf, hp, level, BinOp.level, hb, hw]
      exact hl
    · have := hok (by omega)
      simp [wf, parenIf, hp, BinOp.level, hb, hw]
      exact ⟨hl, by omega⟩
  · simp [wf, wfList, hb]  -- sqrt(cb)
  · simp [wf, wfList, hb]  -- cbrt(cb)
  · simp [wf, wfList, hb, he]  -- pow(cb, ce)

def cfgD : PCfg := { flavor := .c99, float := false, unevalParen := Gen.unevalParen, names := Gen.fnNames }

-- `ccode(x**(-1))` is `1/x`; `ccode(1/2)` is `1.0/2.0`; an UnevaluatedExpr factor is printed bare unless `unevalParen`
-- (evaluated by the compiler at build time: a test of the executable model, not a proof)
#guard (toC cfgD (.pow (.sym "x") (.int (-1)))).toOption.map render == some "1/x"
#guard (toC cfgD (.rat 1 2)).toOption.map render == some "1.0/2.0"
#guard (toC { cfgD with unevalParen := false } unevalWitness).toOption.map render == some "2*1 + x"
#guard (toC { cfgD with unevalParen := true } unevalWitness).toOption.map render == some "2*(1 + x)"
#guard (cparse ((lex "2*(1 + x)/y - 3").getD [])).map wf == some true

example : cEval (realOps id id) (fun _ => some (-3)) (signTree cfgD (.ident "x"))
    = .ok (.dbl (if (-3 : ℝ) = 0 then 0 else if (-3 : ℝ) < 0 then -1 else 1)) :=
  sign_shape_value id id cfgD rfl _ (.ident "x") (-3) (by simp [cEval])

/-- The full property (not asserted): for every tree the printer accepts, the C expression it
prints is well formed for the C grammar, contains no integer division, and its value under the C
semantics is the value of the tree. -/
def C15_full (erf erfc : ℝ → ℝ) : Prop :=
  ∀ (cfg : PCfg) (e : Expr) (c : CExpr) (env : String → Option ℝ) (v : ℝ),
    cfg.float = false → toC cfg e = .ok c →
    evalG (α := ℝ) ⟨realOps erf erfc, EvalG.Gen.visitorReal, env⟩ e = .ok v →
    wf c = true ∧ hasIntDiv c = false ∧ ∃ w, cEval (realOps erf erfc) env c = .ok w ∧ w.toD (realOps erf erfc) = v

end SymVerif.C15
