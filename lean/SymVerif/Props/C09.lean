/-
C09 — expand is value-preserving, complete, idempotent and decides identity.

Certificate level: the driver (`Drv/C09.lean`) prints `ok` for `expand e ↦ R` iff `C09.judge e R = .ok`, which
implies `C09.accepts e R = true`.  The theorems say what an accepted certificate guarantees.
The identity clause is proved relative to the reduced monomial dictionary of the inputs (`c09_identity_partial`); its
semantic form `C09_full` is stated, not proved.
The theorems about the model of `multinomial_coefficients_mpz` (`Multinomial.multinomial_sound`, `multinomial_keys_nodup`,
`multinomial_coeff`, `multinomial_eq_nat_multinomial`, `multinomial_small_complete`) stand in `Lemmas/C09Multinomial.lean` and
`Lemmas/C09MultinomialSmall.lean`; nothing below uses them, the two modules are imported because the check of the
property loads this module and audits them through it.
-/
import Mathlib.Data.Complex.Basic
import SymVerif.Lemmas.C09Check
import SymVerif.Lemmas.C09Multinomial
import SymVerif.Lemmas.C09MultinomialSmall

namespace SymVerif
namespace C09

open NF

theorem accepts_value {e r : Expr} (h : accepts e r = true) : NF.equiv r e = true := by
  simp only [accepts, valueOk, Bool.and_eq_true] at h
  exact h.1.1

theorem accepts_expanded {e r : Expr} (h : accepts e r = true) : expandedB r = true := by
  simp only [accepts, Bool.and_eq_true] at h
  exact h.1.2

/-- what an accepted expansion of a polynomial `e` has to be: the rendering of the reduced monomial dictionary of
`e`, in wire order -/
def canonForm (e : Expr) : Option Expr := ((canonPoly e).bind render).map Expr.canonOrder

/-- clause 3 unfolded -/
theorem accepts_canon {e r : Expr} (h : accepts e r = true) (hp : polyB e = true) :
    canonForm e = some r ∧ polyB r = true ∧ canonPoly r = canonPoly e := by
  simp only [accepts, Bool.and_eq_true] at h
  have hc := h.2
  simp only [canonOk, hp, if_true] at hc
  split at hc
  · rename_i p q hpe hqr
    simp only [Bool.and_eq_true, decide_eq_true_eq] at hc
    obtain ⟨⟨hq, hpr⟩, hx⟩ := hc
    split at hx
    · rename_i x hren
      have hr : r = Expr.canonOrder x := Expr.eqb_eq _ _ hx
      exact ⟨by simp [canonForm, hpe, hren, hr], hpr, by rw [hqr, hq, hpe]⟩
    · cases hx
  · cases hc

theorem accepts_canonPoly {e r : Expr} (h : accepts e r = true) (hp : polyB e = true) : canonPoly r = canonPoly e :=
  (accepts_canon h hp).2.2

theorem judge_ok {e r : Expr} (h : judge e r = .ok) : accepts e r = true := by
  unfold judge at h
  split at h
  · cases h
  · split at h
    · split at h <;> cases h
    · by_cases h1 : valueOk e r = true
      · by_cases h2 : expandedB r = true
        · by_cases h3 : canonOk e r = true
          · simp [accepts, h1, h2, h3]
          · simp [h1, h2, h3] at h
        · simp [h1, h2] at h
      · simp [h1] at h

/-- the driver's `ok` for a `pair` line: both certificates hold and the library's `eq` flag is the structural
equality of the two results.  The fourth check of `judgePair` (identity decided on polynomial inputs) is implied by
`c09_identity_partial`, hence not in the conclusion. -/
theorem judgePair_ok {e₁ e₂ r₁ r₂ : Expr} {flag : Bool} (h : judgePair e₁ e₂ r₁ r₂ flag = .ok) :
    accepts e₁ r₁ = true ∧ accepts e₂ r₂ = true ∧ (flag = true ↔ r₁ = r₂) := by
  unfold judgePair at h
  cases h1 : judge e₁ r₁ with
  | skip w => simp [h1] at h
  | fail w => simp [h1] at h
  | ok =>
    cases h2 : judge e₂ r₂ with
    | skip w => simp [h1, h2] at h
    | fail w => simp [h1, h2] at h
    | ok =>
      refine ⟨judge_ok h1, judge_ok h2, ?_⟩
      simp only [h1, h2] at h
      by_cases hf : (flag != Expr.eqb r₁ r₂) = true
      · simp [hf] at h
      · have : flag = Expr.eqb r₁ r₂ := by simpa using hf
        rw [this, eqb_iff]

section
variable {K : Type*} [Field K] [CharZero K] {I : K} {ρ : String → K}

/-- **C09, value preservation and completeness**: if the checker accepts `R` as `expand(e)` then, for every
field `K` of characteristic 0, every square root `I` of `-1` and every assignment `ρ` of the atoms, `R` and `e`
have the same value wherever both are defined; and `R` contains, outside function arguments and
exponents, no sum as a key of a sum, no factor `(sum)^(positive integer)` in a product and no such power. -/
theorem expand_certificate_sound (hI : I * I = -1) {e r : Expr} (h : accepts e r = true) :
    (∀ v w : K, evalK I ρ e = some v → evalK I ρ r = some w → w = v) ∧ Expanded r :=
  ⟨fun _ _ hv hw => equiv_sound hI (accepts_value h) hw hv, expandedB_sound r (accepts_expanded h)⟩

theorem expand_driver_ok_sound (hI : I * I = -1) {e r : Expr} (h : judge e r = .ok) :
    (∀ v w : K, evalK I ρ e = some v → evalK I ρ r = some w → w = v) ∧ Expanded r :=
  expand_certificate_sound hI (judge_ok h)

/-- **identity decision, soundness**: if two polynomial inputs have the same accepted expansion, they have the
same value under every assignment in every field of characteristic 0 (both values exist). -/
theorem poly_identity_sound (hI : I * I = -1) {e₁ e₂ r : Expr}
    (h₁ : accepts e₁ r = true) (h₂ : accepts e₂ r = true) (p₁ : polyB e₁ = true) (p₂ : polyB e₂ = true) :
    ∃ v : K, evalK I ρ e₁ = some v ∧ evalK I ρ e₂ = some v := by
  obtain ⟨v₁, hv₁⟩ := polyB_evalK_some I ρ e₁ p₁
  obtain ⟨v₂, hv₂⟩ := polyB_evalK_some I ρ e₂ p₂
  obtain ⟨_, hpr, _⟩ := accepts_canon h₁ p₁
  obtain ⟨w, hw⟩ := polyB_evalK_some I ρ r hpr
  have e1 : w = v₁ := equiv_sound hI (accepts_value h₁) hw hv₁
  have e2 : w = v₂ := equiv_sound hI (accepts_value h₂) hw hv₂
  exact ⟨v₁, hv₁, by rw [hv₂, ← e2, e1]⟩

end

/-- **identity decision, completeness relative to the dictionary**: polynomial inputs with the same reduced
monomial dictionary have the same accepted expansion. -/
theorem poly_identity_complete {e₁ e₂ r₁ r₂ : Expr}
    (h₁ : accepts e₁ r₁ = true) (h₂ : accepts e₂ r₂ = true) (p₁ : polyB e₁ = true) (p₂ : polyB e₂ = true)
    (hc : canonPoly e₁ = canonPoly e₂) : r₁ = r₂ := by
  have a := (accepts_canon h₁ p₁).1
  rw [canonForm, hc] at a
  exact Option.some.inj (a.symm.trans (accepts_canon h₂ p₂).1)

/-- **identity decision**: for polynomial inputs, the accepted expansions are equal exactly when the reduced
monomial dictionaries of the inputs are equal (the identity clause as far as it is proved: see `C09_full`). -/
theorem c09_identity_partial {e₁ e₂ r₁ r₂ : Expr}
    (h₁ : accepts e₁ r₁ = true) (h₂ : accepts e₂ r₂ = true) (p₁ : polyB e₁ = true) (p₂ : polyB e₂ = true) :
    r₁ = r₂ ↔ canonPoly e₁ = canonPoly e₂ :=
  ⟨fun hr => (accepts_canonPoly h₁ p₁).symm.trans (hr ▸ accepts_canonPoly h₂ p₂), poly_identity_complete h₁ h₂ p₁ p₂⟩

/-- **idempotence on the polynomial fragment**: if `r` is an accepted expansion of the polynomial `e` and `r'`
an accepted expansion of `r`, then `r' = r`. -/
theorem poly_idempotent {e r r' : Expr} (h : accepts e r = true) (h' : accepts r r' = true)
    (p : polyB e = true) : r' = r := by
  exact poly_identity_complete h' h (accepts_canon h p).2.1 p (accepts_canonPoly h p)

private def x : Expr := .sym "x"
private def y : Expr := .sym "y"
/-- `(x + y)^2` -/
private def exIn : Expr := .pow (.add (.int 0) [(x, .int 1), (y, .int 1)]) (.int 2)
/-- `2*x*y + x^2 + y^2` as dumped by the library -/
private def exOut : Expr :=
  .add (.int 0) [(.mul (.int 1) [(x, .int 1), (y, .int 1)], .int 2), (.pow x (.int 2), .int 1),
    (.pow y (.int 2), .int 1)]
/-- `x^2 + y^2 + 2*x*y` written as a sum of products: another input with the same dictionary -/
private def exIn2 : Expr :=
  .add (.int 0) [(.mul (.int 1) [(x, .int 1), (y, .int 1)], .int 2), (.mul (.int 1) [(x, .int 2)], .int 1),
    (.pow y (.int 2), .int 1)]

/-- non-vacuity: `(x + y)^2 ↦ 2*x*y + x^2 + y^2` is accepted, and `exIn` is a polynomial -/
theorem ex_accepts : accepts exIn exOut = true ∧ polyB exIn = true := by decide +kernel

/-- the unexpanded input returned as its own expansion is rejected (clause 2) … -/
theorem ex_rejects_unexpanded : accepts exIn exIn = false ∧ expandedB exIn = false := by decide +kernel

/-- … and so is a value-preserving, expanded, but uncombined result `x*y + x*y + x^2 + y^2`
(written with the key `x*y` and the key `y*x`-as-`Mul 1 {y:1, x:1}`): clause 3 -/
theorem ex_rejects_uncombined :
    accepts exIn (.add (.int 0) [(.mul (.int 1) [(x, .int 1), (y, .int 1)], .int 1),
      (.mul (.int 1) [(y, .int 1), (x, .int 1)], .int 1), (.pow x (.int 2), .int 1), (.pow y (.int 2), .int 1)])
      = false := by decide +kernel

/-- the value theorem instantiated over ℂ: `2xy + x² + y² = (x + y)²` at every assignment -/
example (ρ : String → ℂ) (v w : ℂ) (hv : evalK Complex.I ρ exIn = some v) (hw : evalK Complex.I ρ exOut = some w) :
    w = v :=
  (expand_certificate_sound (ρ := ρ) Complex.I_mul_I ex_accepts.1).1 v w hv hw

/-- the identity theorem instantiated: a second polynomial input with the same dictionary is accepted with the
same result, and the theorem's right-hand side holds -/
example : accepts exIn2 exOut = true ∧ polyB exIn2 = true ∧ canonPoly exIn = canonPoly exIn2 := by
  decide +kernel

example : accepts exOut exOut = true := by decide +kernel

/-- The full identity clause of the property — two polynomial expressions with the same value in ℂ under every
assignment of the atoms have equal accepted expansions — needs the completeness of the normal form
(`canonPoly` is injective on polynomial functions); it is **not** proved.  `c09_identity_partial` proves it with
"equal as polynomials" read as "equal reduced monomial dictionaries". -/
def C09_full : Prop :=
  ∀ (e₁ e₂ r₁ r₂ : Expr), accepts e₁ r₁ = true → accepts e₂ r₂ = true → polyB e₁ = true → polyB e₂ = true →
    (∀ (ρ : String → ℂ), evalK Complex.I ρ e₁ = evalK Complex.I ρ e₂) → r₁ = r₂

end C09
end SymVerif
