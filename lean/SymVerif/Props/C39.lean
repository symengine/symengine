import SymVerif.Lemmas.SortStrs
import SymVerif.Model.Struct
import SymVerif.Lemmas.ExprEqb
/-!
# C39 — structural queries are accurate

The model (`Model/Struct.lean`) walks trees through `argsOf` (= `Basic::get_args()` on the stored fields) with fuel; the
driver uses the fuel `size e + 1`.  Every theorem here is relative to that walk: `subtermsF fuel e` is what the walk
reaches at the given fuel, and "nothing missed" (`freeSymsF_eq_filter`) means: nothing of `subtermsF` at the same fuel.
No lemma says that the fuel `size e + 1` reaches every node of the tree.  The walk lemmas hold for every fuel;
`hasSymbol_agrees_free`, `atoms_*`, `freeSyms_*` are about the printed results, at the driver's fuel.  None depends on
the tree being canonical.  The facts about the sort (`sortStrs`) are in `Lemmas/SortStrs.lean`.
-/
namespace SymVerif.C39
open SymVerif SymVerif.Struct

def isSym : Expr → Bool
  | .sym _ => true
  | .dummy _ _ => true
  | _ => false

/-- no binder node is met by the walk -/
def binderFreeF : Nat → Expr → Bool
  | 0, _ => true
  | fuel + 1, e =>
    match e with
    | .app "Subs" (_ :: _) => false
    | .app "ConditionSet" [_, _] => false
    | .app "ImageSet" [_, _, _] => false
    | e => (argsOf e).all (binderFreeF fuel)

theorem argsOf_sym (n : String) : argsOf (.sym n) = [] := rfl
theorem argsOf_dummy (n : String) (i : Nat) : argsOf (.dummy n i) = [] := rfl

/-- Without binders, `free_symbols` = the Symbol nodes of the walk (as lists, in walk order). -/
theorem freeSymsF_eq_filter : ∀ (fuel : Nat) (e : Expr), binderFreeF fuel e = true →
    freeSymsF fuel e = (subtermsF fuel e).filter isSym := by
  intro fuel
  induction fuel with
  | zero => intro e _; rfl
  | succ n ih =>
    intro e h
    have key : ∀ (args : List Expr), args.all (binderFreeF n) = true →
        (args.map (freeSymsF n)).flatten = ((args.map (subtermsF n)).flatten).filter isSym := by
      intro args hargs
      rw [List.filter_flatten, List.map_map]
      congr 1
      apply List.map_congr_left
      intro a ha
      exact ih a (by simpa using (List.all_eq_true.mp hargs) a ha)
    unfold freeSymsF subtermsF
    split
    · -- sym
      simp [isSym, argsOf, List.filter]
    · -- dummy
      simp [isSym, argsOf, List.filter]
    · -- Subs
      simp [binderFreeF] at h
    · -- ConditionSet
      simp [binderFreeF] at h
    · -- ImageSet
      simp [binderFreeF] at h
    · -- every other node
      rename_i hsym hdummy hSubs hCond hImage
      have hb : (argsOf e).all (binderFreeF n) = true := by
        unfold binderFreeF at h
        split at h
        · exact absurd rfl (hSubs _ _)
        · exact absurd rfl (hCond _ _)
        · exact absurd rfl (hImage _ _ _)
        · exact h
      have hns : isSym e = false := by
        cases e with
        | sym s => exact absurd rfl (hsym s)
        | dummy s i => exact absurd rfl (hdummy s i)
        | _ => rfl
      rw [List.filter_cons]
      simp only [hns]
      exact key _ hb

/-- Every reported free symbol is a Symbol node met by the walk (no invented symbols), binders or not. -/
theorem freeSymsF_subset : ∀ (fuel : Nat) (e s : Expr), s ∈ freeSymsF fuel e →
    s ∈ subtermsF fuel e ∧ isSym s = true := by
  intro fuel
  induction fuel with
  | zero => intro e s h; simp [freeSymsF] at h
  | succ n ih =>
    intro e s h
    have one : ∀ a ∈ argsOf e, s ∈ freeSymsF n a → s ∈ subtermsF (n + 1) e ∧ isSym s = true := by
      intro a ha hs
      obtain ⟨h1, h2⟩ := ih a s hs
      refine ⟨?_, h2⟩
      unfold subtermsF
      simp only [List.mem_cons, List.mem_flatten, List.mem_map]
      exact Or.inr ⟨_, ⟨a, ha, rfl⟩, h1⟩
    have key : ∀ (args : List Expr), (∀ a ∈ args, a ∈ argsOf e) → s ∈ (args.map (freeSymsF n)).flatten →
        s ∈ subtermsF (n + 1) e ∧ isSym s = true := by
      intro args hsub hs
      simp only [List.mem_flatten, List.mem_map] at hs
      obtain ⟨l, ⟨a, ha, rfl⟩, hsl⟩ := hs
      exact one a (hsub a ha) hsl
    unfold freeSymsF at h
    split at h
    · -- sym
      simp at h; subst h; exact ⟨by unfold subtermsF; simp, rfl⟩
    · -- dummy
      simp at h; subst h; exact ⟨by unfold subtermsF; simp, rfl⟩
    · -- Subs
      rename_i a rest
      simp only [List.mem_append, List.mem_filter] at h
      rcases h with ⟨h, _⟩ | h
      · exact one a (by simp [argsOf]) h
      · apply key (splitSubs rest).2 _ h
        intro p hp
        simp only [argsOf, splitSubs] at hp ⊢
        exact List.mem_cons_of_mem _ (List.mem_of_mem_drop hp)
    · -- ConditionSet
      rename_i v cond
      simp only [List.mem_filter] at h
      exact one cond (by simp [argsOf]) h.1
    · -- ImageSet
      rename_i v ex base
      simp only [List.mem_append, List.mem_filter] at h
      rcases h with ⟨h, _⟩ | h
      · exact one ex (by simp [argsOf]) h
      · exact one base (by simp [argsOf]) h
    · -- every other node
      exact key (argsOf e) (fun _ h => h) h


theorem fsym_beq_sym (n : String) (a : List Expr) (x : Expr) (hx : isSym x = true) :
    Expr.eqb (Expr.fsym n a) x = false := by
  cases x <;> simp [isSym] at hx <;> simp [Expr.eqb]

/-- the predicate `HasSymbolVisitor` applies at each node of the preorder walk -/
def hasPred (x : Expr) (t : Expr) : Bool :=
  match t with
  | .sym _ | .dummy _ _ | .fsym _ _ => Expr.eqb t x
  | _ => false

theorem hasPred_eq (x : Expr) (hx : isSym x = true) (t : Expr) :
    hasPred x t = (isSym t && Expr.eqb t x) := by
  cases t <;> simp [hasPred, isSym, fsym_beq_sym _ _ _ hx]

/-- For a Symbol `x`, `has_symbol(e, x)` is membership of `x` in `free_symbols(e)` whenever the walk
    meets no binder.  (With a binder the two differ on the bound variable: see the known finding.) -/
theorem hasSymbol_agrees_free (e x : Expr) (hx : isSym x = true)
    (hb : binderFreeF (size e + 1) e = true) :
    hasSymbol e x = (freeSymsF (size e + 1) e).any (fun t => Expr.eqb t x) := by
  unfold hasSymbol subterms
  rw [freeSymsF_eq_filter _ _ hb, List.any_filter]
  congr 1
  funext t
  -- the goal shows the `match` of `hasSymbol`, which is `hasPred x t` unfolded
  exact hasPred_eq x hx t

/-- A variable bound by `Subs` is free in the whole node only through the points. -/
theorem subs_bound_not_free (fuel : Nat) (a : Expr) (rest : List Expr) (v : Expr)
    (hv : Expr.memb v (splitSubs rest).1 = true)
    (hp : ∀ p ∈ (splitSubs rest).2, v ∉ freeSymsF fuel p) :
    v ∉ freeSymsF (fuel + 1) (.app "Subs" (a :: rest)) := by
  unfold freeSymsF
  simp only [List.mem_append, List.mem_filter, List.mem_flatten, List.mem_map, not_or]
  refine ⟨fun h => by simp [hv] at h, ?_⟩
  rintro ⟨l, ⟨p, hpm, rfl⟩, hl⟩
  exact hp p hpm hl

theorem mem_foldl_addNew {α : Type} (c : α → List α → Bool) (hc : ∀ s acc, c s acc = true → s ∈ acc) (x : α)
    (l acc : List α) :
    x ∈ l.foldl (fun acc s => if c s acc then acc else acc ++ [s]) acc ↔ x ∈ acc ∨ x ∈ l := by
  induction l generalizing acc with
  | nil => simp only [List.foldl_nil, List.not_mem_nil, or_false]
  | cons t ts ih =>
    rw [List.foldl_cons, ih, List.mem_cons]
    split
    · rename_i h
      constructor
      · rintro (h | h)
        · exact .inl h
        · exact .inr (.inr h)
      · rintro (h | rfl | h)
        · exact .inl h
        · exact .inl (hc _ acc h)
        · exact .inr h
    · rw [List.mem_append, List.mem_singleton, or_assoc]

theorem mem_dedup (x : String) (l : List String) : x ∈ dedup l ↔ x ∈ l :=
  (mem_foldl_addNew (fun s acc => acc.contains s) (fun _ _ h => List.contains_iff_mem.mp h) x l []).trans (by simp)

/-- `atoms<K…>(e)` returns exactly the dumps of the nodes of a requested kind met by the walk:
    nothing else (soundness) and all of them (completeness). -/
theorem atoms_spec (ks : List Kind) (e : Expr) (d : String) :
    d ∈ atoms ks e ↔ ∃ t ∈ subterms e, ks.any (fun k => isKind k t) = true ∧ Expr.dumpCanon t = d := by
  unfold atoms
  rw [mem_sortStrs, mem_dedup]
  simp only [List.mem_map, List.mem_filter]
  constructor
  · rintro ⟨t, ⟨h1, h2⟩, h3⟩; exact ⟨t, h1, h2, h3⟩
  · rintro ⟨t, h1, h2, h3⟩; exact ⟨t, ⟨h1, h2⟩, h3⟩

theorem dedup_aux_nodup (l acc : List String) (h : acc.Nodup) :
    (l.foldl (fun acc s => if acc.contains s then acc else acc ++ [s]) acc).Nodup := by
  induction l generalizing acc with
  | nil => simpa
  | cons t ts ih =>
    rw [List.foldl_cons]
    apply ih
    split
    · exact h
    · rename_i hc
      have ht : t ∉ acc := by simpa using hc
      rw [List.nodup_append]
      refine ⟨h, List.pairwise_singleton _ t, fun a ha b hb hab => ht ?_⟩
      rwa [← List.mem_singleton.mp hb, ← hab]

theorem dedup_nodup (l : List String) : (dedup l).Nodup := dedup_aux_nodup l [] (by simp)

/-- `atoms<K…>(e)` is a *set*: the returned list is duplicate-free and in the canonical (sorted) order,
    so two calls that return the same members return the same list. -/
theorem atoms_nodup_sorted (ks : List Kind) (e : Expr) :
    (atoms ks e).Nodup ∧ (atoms ks e).Pairwise (· ≤ ·) := by
  unfold atoms
  exact ⟨(sortStrs_perm _).nodup_iff.mpr (dedup_nodup _), sortStrs_sorted _⟩

/-- `free_symbols(e)` as printed is in canonical (sorted) order. -/
theorem freeSyms_sorted (e : Expr) : (freeSyms e).Pairwise (· ≤ ·) := by
  unfold freeSyms; exact sortStrs_sorted _

theorem memb_mem {x : Expr} {l : List Expr} (h : Expr.memb x l = true) : x ∈ l := by
  unfold Expr.memb at h
  obtain ⟨y, hy, he⟩ := List.any_eq_true.mp h
  exact (Expr.eqb_eq y x he) ▸ hy

theorem mem_dedupE (x : Expr) (l : List Expr) : x ∈ dedupE l ↔ x ∈ l :=
  (mem_foldl_addNew Expr.memb (fun _ _ => memb_mem) x l []).trans (by simp)

/-- The printed `free_symbols(e)` has exactly the dumps of the symbols reported by the binder-aware walk:
    de-duplication and sorting neither lose nor invent a member. -/
theorem freeSyms_spec (e : Expr) (d : String) :
    d ∈ freeSyms e ↔ ∃ s ∈ freeSymsF (size e + 1) e, Expr.dumpCanon s = d := by
  unfold freeSyms freeSymsE
  rw [mem_sortStrs]
  simp only [List.mem_map, mem_dedupE]

/-- … hence every printed free symbol is the dump of a Symbol node of the tree (no invented names). -/
theorem freeSyms_sound (e : Expr) (d : String) (h : d ∈ freeSyms e) :
    ∃ s ∈ subtermsF (size e + 1) e, isSym s = true ∧ Expr.dumpCanon s = d := by
  obtain ⟨s, hs, hd⟩ := (freeSyms_spec e d).mp h
  obtain ⟨h1, h2⟩ := freeSymsF_subset _ e s hs
  exact ⟨s, h1, h2, hd⟩

-- x + 2*y*z has no binder …
example : binderFreeF 100 (.add (.int 0) [(.sym "x", .int 1),
    (.mul (.int 1) [(.sym "y", .int 1), (.sym "z", .int 1)], .int 2)]) = true := by decide
-- … and of the arguments `x, 1 + y` that follow the expression in a `Subs` node, `x` is among the variables
-- (the hypothesis `hv` of `subs_bound_not_free`)
example : Expr.memb (.sym "x") (splitSubs [.sym "x", .add (.int 1) [(.sym "y", .int 1)]]).1 = true := by decide

end SymVerif.C39
