import Mathlib.FieldTheory.Perfect
import Mathlib.RingTheory.EuclideanDomain
import SymVerif.Lemmas.C23Factor

/-!
# C23 — finite-field polynomial arithmetic and factorisation

Model: `SymVerif.Model.GF` (mirror of `symengine/fields.{h,cpp}`, `GaloisFieldDict`); abstraction
`toPoly p : List ℕ → (ZMod p)[X]` (coefficient vector, lowest exponent first); class invariant `GF.WF p l`
(all coefficients `< p`, no trailing zero).  The theorems are about the functions the driver `Drv/C23.lean` runs,
for every prime `p` and all well-formed operands (what `from_vec` produces: `fromVec_wf`).

Not proved: that `gf_sqf_list` / `gf_factor` always produce outputs that pass the two executable certificate
checks whose soundness is proved here (`checkMulBack`: multiply-back and monic; `irreducibleBrute`: irreducibility
by exhaustive trial division); `C23_full` states the goal for `factor`.  The checks are re-run on every generated case.

Claimed theorems that stand in the lemma modules: in `Lemmas/C23Basic` `fromVec_wf`, `toPoly_injective`, the `_wf` of `add`,
`neg`, `mul`, `mulAssign`, `sqr`, `addConst`, `diff` and the `_spec` of `add`, `mul`, `mulAssign`, `addConst`, `scale`, `diff`;
in `Lemmas/C23Euclid` `quo_wf`, `rem_wf`.  `X_wf_spec` (C23Euclid, C23Pow) is the joint statement of `X_spec` and `X_wf`.
-/
namespace SymVerif.C23
open Polynomial SymVerif.GF

variable {p : ℕ}

theorem sub_wf (hp : 0 < p) {a b : Poly} (ha : WF p a) (hb : WF p b) : WF p (sub p a b) := by
  rw [sub_eq_add_of_red a hb.1]
  exact add_wf hp ha (neg_wf hb)
theorem scale_wf (hp : 0 < p) {a : Poly} (ha : WF p a) (c : ℕ) : WF p (scale p a c) := by
  fun_cases scale p a c with
  | case1 => exact ha
  | case2 => exact wf_nil
  | case3 => exact wf_strip (red_map_mod hp _ a)
theorem pow_wf [Fact p.Prime] {a : Poly} (ha : WF p a) (n : ℕ) : WF p (GF.pow p a n) := (pow_wf_spec ha n).2
theorem monic_wf [Fact p.Prime] {a : Poly} (ha : WF p a) : WF p (monic p a).2 := by
  by_cases ha0 : a = []
  · rw [ha0, monic_nil]; exact wf_nil
  · exact (monic_wf_spec ha ha0).2.2.1
theorem gcd_wf [Fact p.Prime] {a b : Poly} (ha : WF p a) (hb : WF p b) : WF p (GF.gcd p a b) := (gcd_wf_spec ha hb).1
theorem powMod_wf [Fact p.Prime] {m f : Poly} (hm : WF p m) (hm0 : m ≠ []) (hf : WF p f) (n : ℕ) :
    WF p (powMod p m f n) := by
  -- any `φ` will do: the invariant is stated jointly with the `φ`-equation the loop induction needs
  obtain ⟨_, _, φ, hφ, _⟩ := exists_hom_ker (toPoly p m)
  exact (powMod_wf_spec φ hφ hm hm0 hf n).2.1
theorem composeMod_wf [Fact p.Prime] {f g h : Poly} (hf : WF p f) (hf0 : f ≠ []) (hg : WF p g) (hh : WF p h) :
    WF p (composeMod p f g h) := by
  obtain ⟨_, _, φ, hφ, _⟩ := exists_hom_ker (toPoly p f)
  exact (composeMod_wf_spec φ hφ hf hf0 hh).2

theorem sub_spec (hp : 0 < p) (a : Poly) {b : Poly} (hb : WF p b) :
    toPoly p (sub p a b) = toPoly p a - toPoly p b := toPoly_sub a hb.1
theorem neg_spec {a : Poly} (ha : WF p a) : toPoly p (neg p a) = -toPoly p a := toPoly_neg ha.1
theorem sqr_spec (a : Poly) : toPoly p (sqr p a) = toPoly p a ^ 2 := by rw [toPoly_sqr, pow_two]
theorem pow_spec [Fact p.Prime] {a : Poly} (ha : WF p a) (n : ℕ) : toPoly p (GF.pow p a n) = toPoly p a ^ n :=
  (pow_wf_spec ha n).1
/-- `gf_eval` (for every integer point, also negative ones where the C++ returns a negative
    representative): the value is congruent to the evaluation in `ZMod p` -/
theorem eval_spec' (a : Poly) (x : ℤ) :
    ((GF.eval p a x : ℤ) : ZMod p) = Polynomial.eval (x : ZMod p) (toPoly p a) := eval_spec a x

example : toPoly 7 (mul 7 [1, 2, 3] [4, 5]) = toPoly 7 [1, 2, 3] * toPoly 7 [4, 5] := mul_spec _ _
example : WF 7 (sub 7 [1, 2, 3] [4, 5, 3]) := sub_wf (by decide) (by decide) (by decide)

/-- `gf_monic` : leading coefficient, and the monic associate -/
theorem monic_spec [Fact p.Prime] {a : Poly} (ha : WF p a) (ha0 : a ≠ []) :
    (monic p a).1 = a.getLastD 0 ∧
    toPoly p a = C ((monic p a).1 : ZMod p) * toPoly p (monic p a).2 ∧
    (toPoly p (monic p a).2).Monic := by
  obtain ⟨h1, h2, _, h4, _⟩ := monic_wf_spec ha ha0
  refine ⟨h1, ?_, h4⟩
  rw [h2, h1, ← mul_assoc, ← C_mul, mul_inv_cancel₀ (getLastD_ne_zero_of_wf ha ha0), C_1, one_mul]

/-- `gf_div` -/
theorem divmod_spec [Fact p.Prime] {a b : Poly} (ha : WF p a) (hb : WF p b) (hb0 : b ≠ []) :
    toPoly p a = toPoly p (divmod p a b).1 * toPoly p b + toPoly p (divmod p a b).2 ∧
    (toPoly p (divmod p a b).2 = 0 ∨ (toPoly p (divmod p a b).2).degree < (toPoly p b).degree) ∧
    WF p (divmod p a b).1 ∧ WF p (divmod p a b).2 := by
  obtain ⟨h1, h2, h3, h4⟩ := divmod_wf_spec ha hb hb0
  exact ⟨h1, Or.inr (degree_lt_of_length_lt h3 hb h4), h2, h3⟩

/-- `operator/=` and `operator%=` -/
theorem quo_rem_spec' [Fact p.Prime] {a b : Poly} (ha : WF p a) (hb : WF p b) (hb0 : b ≠ []) :
    toPoly p a = toPoly p (quo p a b) * toPoly p b + toPoly p (rem p a b) ∧
    (toPoly p (rem p a b)).degree < (toPoly p b).degree :=
  ⟨toPoly_quo_rem ha hb hb0, degree_rem_lt ha hb hb0⟩

/-- the entry point of `gf_div` returns `DivisionByZeroError` exactly for the zero divisor -/
theorem opDivmod_error (a b : Poly) : opDivmod p a b = .error .divByZero ↔ b = [] := by
  unfold opDivmod
  cases b <;> simp

/-- `gf_gcd` -/
theorem gcd_spec [Fact p.Prime] {f g : Poly} (hf : WF p f) (hg : WF p g) :
    toPoly p (GF.gcd p f g) ∣ toPoly p f ∧ toPoly p (GF.gcd p f g) ∣ toPoly p g ∧
    (∀ c, c ∣ toPoly p f → c ∣ toPoly p g → c ∣ toPoly p (GF.gcd p f g)) ∧
    ((f ≠ [] ∨ g ≠ []) → (toPoly p (GF.gcd p f g)).Monic) := by
  obtain ⟨_, h2, h3, h4, h5⟩ := gcd_wf_spec hf hg
  exact ⟨h2, h3, h4, fun h => (h5 h).1⟩

/-- `gf_lcm` -/
theorem lcm_spec [Fact p.Prime] {a o : Poly} (ha : WF p a) (ho : WF p o) (ha0 : a ≠ []) (ho0 : o ≠ []) :
    WF p (GF.lcm p a o) ∧ (toPoly p (GF.lcm p a o)).Monic ∧
    toPoly p a ∣ toPoly p (GF.lcm p a o) ∧ toPoly p o ∣ toPoly p (GF.lcm p a o) ∧
    ∃ k : ZMod p, k ≠ 0 ∧
      toPoly p (GF.gcd p a o) * toPoly p (GF.lcm p a o) = C k * (toPoly p a * toPoly p o) := by
  obtain ⟨gw, gda, gdo, _, gm⟩ := gcd_wf_spec ha ho
  obtain ⟨gmonic, g0⟩ := gm (Or.inl ha0)
  have hmw : WF p (mul p o a) := mul_wf prime_pos ho ha
  have hQ : toPoly p (quo p (mul p o a) (GF.gcd p a o)) * toPoly p (GF.gcd p a o)
      = toPoly p o * toPoly p a := by
    rw [← mul_spec o a]
    exact quo_mul_of_dvd hmw gw g0 (by rw [mul_spec]; exact dvd_mul_of_dvd_right gda _)
  have hqw := quo_wf hmw gw g0
  have hq0 : quo p (mul p o a) (GF.gcd p a o) ≠ [] := by
    intro e
    rw [e, toPoly_nil, zero_mul] at hQ
    exact mul_ne_zero (mt (toPoly_eq_zero_iff ho).mp ho0) (mt (toPoly_eq_zero_iff ha).mp ha0) hQ.symm
  obtain ⟨_, m2, m3, m4, _⟩ := monic_wf_spec hqw hq0
  have hlc := getLastD_ne_zero_of_wf hqw hq0
  have hu := inv_ne_zero hlc
  obtain ⟨hda, hdo⟩ := dvd_of_mul_eq_mul gmonic.ne_zero gda gdo hQ
  rw [lcm_of_ne_nil ha0 ho0]
  refine ⟨m3, m4, ?_, ?_, _, hu, ?_⟩
  · rw [m2]; exact (dvd_C_mul hu).mpr hda
  · rw [m2]; exact (dvd_C_mul hu).mpr hdo
  · rw [m2, mul_left_comm, mul_comm (toPoly p (GF.gcd p a o)), hQ, mul_comm (toPoly p o)]

instance fact7 : Fact (Nat.Prime 7) := ⟨by decide⟩

example : toPoly 7 [1, 2, 3, 4, 5] = toPoly 7 (divmod 7 [1, 2, 3, 4, 5] [2, 3]).1 * toPoly 7 [2, 3]
    + toPoly 7 (divmod 7 [1, 2, 3, 4, 5] [2, 3]).2 :=
  (divmod_spec (p := 7) (a := [1, 2, 3, 4, 5]) (b := [2, 3]) (by decide) (by decide) (by decide)).1
example : toPoly 7 (GF.gcd 7 [6, 0, 1] [1, 2, 1]) ∣ toPoly 7 [6, 0, 1] :=
  (gcd_spec (p := 7) (f := [6, 0, 1]) (g := [1, 2, 1]) (by decide) (by decide)).1

/-- `gf_is_sqf` decides square-freeness (non-zero input) -/
theorem isSqf_spec [Fact p.Prime] {a : Poly} (ha : WF p a) (ha0 : a ≠ []) :
    isSqf p a = true ↔ Squarefree (toPoly p a) := by
  obtain ⟨_, m2, m3, _, m5⟩ := monic_wf_spec ha ha0
  obtain ⟨gw, gd1, gd2, gmax, gmon⟩ := gcd_wf_spec m3 (diff_wf prime_pos (monic p a).2)
  rw [diff_spec] at gd2 gmax
  have h1 : toPoly p [1] = 1 := by
    rw [toPoly_cons, toPoly_nil, mul_zero, add_zero, Nat.cast_one, C_1]
  have hg : isSqf p a = true ↔ toPoly p (GF.gcd p (monic p a).2 (diff p (monic p a).2)) = 1 := by
    rw [isSqf, if_neg (mt List.isEmpty_iff.mp ha0), isOne, beq_iff_eq]
    exact ⟨fun h => h ▸ h1,
      fun h => toPoly_injective gw ⟨red_singleton prime_one_lt, nofun⟩ (h.trans h1.symm)⟩
  have hu : IsUnit (C (((a.getLastD 0 : ℕ) : ZMod p))⁻¹) :=
    isUnit_C.mpr (IsUnit.mk0 _ (inv_ne_zero (getLastD_ne_zero_of_wf ha ha0)))
  -- over the perfect field `ZMod p` square-free means coprime to the derivative
  rw [hg, ← (associated_unit_mul_left _ _ hu).squarefree_iff, ← m2,
    ← PerfectField.separable_iff_squarefree, separable_def]
  constructor
  · intro h
    rw [h] at gmax
    exact EuclideanDomain.gcd_isUnit_iff.mp (isUnit_of_dvd_one
      (gmax _ (EuclideanDomain.gcd_dvd_left _ _) (EuclideanDomain.gcd_dvd_right _ _)))
  · exact fun cop => (gmon (Or.inl m5)).1.eq_one_of_isUnit (cop.isUnit_of_dvd' gd1 gd2)

/-- `gf_pow_mod` (`1 ≤ n`: for `n = 0` the C++ returns `from_vec({1})` unreduced) -/
theorem pow_mod_spec [Fact p.Prime] {m f : Poly} (hm : WF p m) (hm0 : m ≠ []) (hf : WF p f) (n : ℕ) :
    toPoly p m ∣ toPoly p (powMod p m f n) - toPoly p f ^ n ∧
    (1 ≤ n → (powMod p m f n).length < m.length) := by
  obtain ⟨_, _, φ, hφ, hdvd⟩ := exists_hom_ker (toPoly p m)
  obtain ⟨e, _, l⟩ := powMod_wf_spec φ hφ hm hm0 hf n
  exact ⟨hdvd _ _ (e.trans (φ.map_pow _ n).symm), l⟩

/-- `gf_compose_mod` (with `operator+=(integer)` as patched) : `f ∣ result - g(h)` -/
theorem compose_mod_spec [Fact p.Prime] {f g h : Poly} (hf : WF p f) (hf0 : f ≠ []) (hg : WF p g) (hh : WF p h) :
    toPoly p f ∣ toPoly p (composeMod p f g h) - (toPoly p g).comp (toPoly p h) := by
  obtain ⟨_, _, φ, hφ, hdvd⟩ := exists_hom_ker (toPoly p f)
  exact hdvd _ _ (composeMod_wf_spec φ hφ hf hf0 hh).1

example : toPoly 7 [1, 0, 1] ∣ toPoly 7 (powMod 7 [1, 0, 1] [2, 3] 5) - toPoly 7 [2, 3] ^ 5 :=
  (pow_mod_spec (p := 7) (m := [1, 0, 1]) (f := [2, 3]) (by decide) (by decide) (by decide) 5).1

/-- The unpatched `operator+=(const integer_class&)` (defect D-C23-1) loses the constant on the zero
    polynomial: the witness on which `gf_compose_mod` goes wrong. -/
theorem addConstOrig_defect : addConstOrig 5 [] 1 = [] ∧ addConst 5 [] 1 = [1] := by decide

def IsIrreducibleGF (p : ℕ) (g : Poly) : Prop := Irreducible (toPoly p g)

/-- a correct full factorisation of `a` -/
def IsFactorisation (p : ℕ) (a : Poly) (lc : ℕ) (fs : List (Poly × ℕ)) : Prop :=
  toPoly p a = C (lc : ZMod p) * (fs.map (fun x => toPoly p x.1 ^ x.2)).prod ∧
  ∀ x ∈ fs, (toPoly p x.1).Monic ∧ IsIrreducibleGF p x.1

theorem checkMulBack_sound [Fact p.Prime] (a : Poly) (lc : ℕ) (fs : List (Poly × ℕ))
    (h : checkMulBack p a lc fs = true) :
    toPoly p a = C (lc : ZMod p) * (fs.map (fun x => toPoly p x.1 ^ x.2)).prod ∧
      ∀ x ∈ fs, (toPoly p x.1).Monic ∧ WF p x.1 := by
  unfold checkMulBack at h
  rw [Bool.and_eq_true, List.all_eq_true] at h
  obtain ⟨hall, heq⟩ := h
  have hall' : ∀ x ∈ fs, WF p x.1 ∧ x.1.getLast? = some 1 := by
    intro x hx
    have := hall x hx
    rw [Bool.and_eq_true, decide_eq_true_eq, beq_iff_eq] at this
    exact this
  have heq' := beq_iff_eq.mp heq
  refine ⟨?_, fun x hx => ⟨monic_of_last_one (hall' x hx).1 (hall' x hx).2, (hall' x hx).1⟩⟩
  rw [← heq', foldl_mul_pow fs _ (fun x hx => (hall' x hx).1), toPoly_fromVec_const prime_pos, Int.cast_natCast]

theorem irreducibleBrute_sound [Fact p.Prime] {g : Poly} (hw : WF p g) (h : irreducibleBrute p g = true) :
    IsIrreducibleGF p g := by
  unfold irreducibleBrute at h
  rw [Bool.and_eq_true, decide_eq_true_eq, List.all_eq_true] at h
  obtain ⟨hdeg, hall⟩ := h
  have hnd : (toPoly p g).natDegree = GF.degree g := natDegree_toPoly hw
  have hpos : 0 < (toPoly p g).natDegree := hnd.symm ▸ hdeg
  have hG0 : toPoly p g ≠ 0 := ne_zero_of_natDegree_gt hpos
  have hnu : ¬ IsUnit (toPoly p g) := not_isUnit_of_natDegree_pos _ hpos
  -- the criterion ranges over monic `q` with `0 < natDegree q ≤ natDegree g / 2`: what `irreducibleBrute` enumerates
  rw [IsIrreducibleGF, irreducible_iff_lt_natDegree_lt hG0 hnu]
  intro q hq hmem hdvd
  obtain ⟨l, hl, hred, rfl⟩ := exists_toPoly_eq_of_monic hq
  rw [Finset.mem_Ioc, hnd, ← hl] at hmem
  have hk' : l.length - 1 < GF.degree g / 2 := Nat.lt_of_lt_of_le (Nat.pred_lt hmem.1.ne') hmem.2
  have hk := hall _ (List.mem_range.mpr hk')
  rw [List.all_eq_true, Nat.sub_add_cancel hmem.1] at hk
  have hwl : WF p (l ++ [1]) := ⟨fun x hx => (List.mem_append.mp hx).elim (hred x) fun h =>
    List.mem_singleton.mp h ▸ prime_one_lt, by simp⟩
  have hc := hk l ((mem_allVecs _ _).mpr ⟨rfl, hred⟩)
  rw [rem_eq_nil_of_dvd hw hwl (List.concat_ne_nil _ _) hdvd] at hc
  exact Bool.false_ne_true hc

/-- what the driver's `#ok` / `#irr` flags on a `factor` line certify -/
theorem factor_certificate_partial [Fact p.Prime] (a : Poly) (lc : ℕ) (fs : List (Poly × ℕ))
    (h1 : checkMulBack p a lc fs = true) (h2 : fs.all (fun x => irreducibleBrute p x.1) = true) :
    IsFactorisation p a lc fs := by
  obtain ⟨e, hm⟩ := checkMulBack_sound a lc fs h1
  refine ⟨e, fun x hx => ⟨(hm x hx).1, irreducibleBrute_sound (hm x hx).2 ?_⟩⟩
  exact (List.all_eq_true.mp h2) x hx

example : checkMulBack 7 [2, 1, 3, 1, 1] 1 [([4, 1], 2), ([1, 0, 1], 1)] = true := by decide
example : irreducibleBrute 3 [2, 1, 1] = true := by decide

/-- The full statement (not proved): for every random stream the model's `gf_factor` either fails
    with an explicit error or returns a correct factorisation into monic irreducibles.  Proved: everything up to here; the
    certificates above are evaluated by the driver on every case the harness generates. -/
def C23_full : Prop :=
  ∀ (p : ℕ) [Fact p.Prime] (rnd : ℕ → ℕ) (a : Poly) (lc : ℕ) (fs : List (Poly × ℕ)),
    WF p a → factor p rnd a = .ok (lc, fs) → IsFactorisation p a lc fs

end SymVerif.C23
