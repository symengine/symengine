/-
C35  refine and simplify preserve value under their assumptions.

Model: SymVerif/Model/Refine.lean (RefineVisitor and SimplifyVisitor on top of the C34 query model).
Semantics: `evalR` of Lemmas/C34Sem.lean.  The rules of RefineVisitor are guarded by C34 queries; the value lemmas
(`ruleOne_value` Lemmas/C35Rules.lean, `rulePow_value` Lemmas/C35Pow.lean, `maxRule_value`, `minRule_value`
Lemmas/C35Ext.lean) discharge the guards with the C34 soundness lemmas.  Here: the whole-tree statement `refine_value_partial` for the repaired rule set
(rule nodes whose argument refine leaves unchanged), and defect D16 (`d16_as_coded`, `d16_witness`).  Not proved: simplify
over whole trees (`simplifyPow_value`, Lemmas/C35Pow.lean, is the rule alone), complex values (`C35_full` is a statement).
-/
import SymVerif.Lemmas.C35Tree
import SymVerif.Lemmas.C34Build

namespace SymVerif.C35
open SymVerif SymVerif.Queries SymVerif.Refine SymVerif.C34

/-- **C35 for `refine`** (repaired Pow rule; rule nodes whose argument refine leaves unchanged — otherwise the
    model answers `unmodelled`, not `ok`): for every statement list, every assignment satisfying it and every
    expression with a real value, the refined expression has the same value. -/
theorem refine_value_partial {ρ : String → ℝ} {stmts : List Expr} {A : Assumptions} {e r : Expr} {v : ℝ}
    (hb : build stmts = .ok A) (hs : Sat ρ stmts) (hw : wf e = true)
    (hr : refine false A e = .ok r) (hv : evalR ρ e = some v) : evalR ρ r = some v := by
  unfold refine at hr
  split at hr
  · rename_i ro hro
    cases hr
    cases ro with
    | none => exact hv
    | some r' => exact refineF_value (assumptions_sound hb hs) _ e r' v hw hro hv
  · cases hr

/-- the full statement (not asserted): all of `refine` and `simplify`, complex values included -/
def C35_full (evalC : (String → ℂ) → Expr → Option ℂ) (SatC : (String → ℂ) → List Expr → Prop) : Prop :=
  ∀ (ρ : String → ℂ) (stmts : List Expr) (A : Assumptions) (e r : Expr) (v : ℂ),
    build stmts = .ok A → SatC ρ stmts → evalC ρ e = some v →
    (refine true A e = .ok r ∨ simplify true A e = .ok r) → evalC ρ r = some v

/-- the statement list `x ∈ ℝ` -/
def xReal : List Expr := [.app "Contains" [.sym "x", .app "Reals" []]]

/-- the rule as it was coded before the fix (`asIs = true`) turns `(x**3)**(1/3)` into `abs(x)**1` for real `x`; the repaired
    rule does not fire -/
theorem d16_as_coded : ∃ A, build xReal = .ok A ∧
    ((rulePow true A (.pow (.sym "x") (.int 3)) (.rat 1 3)).any
        fun r => Expr.eqb r (.pow (.app "Abs" [.sym "x"]) (.int 1))) = true ∧
    (rulePow false A (.pow (.sym "x") (.int 3)) (.rat 1 3)).isNone = true :=
  ⟨_, rfl, by decide, by decide⟩

/-- … but in ℂ the principal value of `((-2)**3)**(1/3)` is not `|-2| = 2`: its cube is `-8`. -/
theorem d16_witness : (((-2 : ℂ) ^ (3 : ℕ)) ^ ((1 : ℂ) / 3)) ≠ ((|(-2 : ℝ)| : ℝ) : ℂ) := by
  intro h
  have h3 : (((-2 : ℂ) ^ (3 : ℕ)) ^ ((1 : ℂ) / 3)) ^ (3 : ℕ) = ((-2 : ℂ) ^ (3 : ℕ)) := by
    rw [← Complex.cpow_nat_mul]
    norm_num
  rw [h] at h3
  norm_num at h3

/-- `x ∈ ℝ`, `x = -3`: the repaired rule rewrites `(x**2)**(1/2)` to `abs(x)**1`, and the input has a value -/
example : ∃ A, build xReal = .ok A ∧ wf (.pow (.pow (.sym "x") (.int 2)) (.rat 1 2)) = true ∧
    powNonCanon (.pow (.sym "x") (.int 2)) (.rat 1 2) = false ∧
    ((rulePow false A (.pow (.sym "x") (.int 2)) (.rat 1 2)).any
        fun r => Expr.eqb r (.pow (.app "Abs" [.sym "x"]) (.int 1))) = true ∧
    evalR (fun _ => (-3 : ℝ)) (.pow (.pow (.sym "x") (.int 2)) (.rat 1 2)) = some (((-3 : ℝ) ^ 2) ^ ((1 : ℝ) / 2)) := by
  refine ⟨_, rfl, by decide, by decide, by decide, ?_⟩
  simp [evalR, powSem]

/-- the hypotheses of `refine_value_partial` on `x ∈ ℝ`, `e = 1 + (x**2)**(1/2)`: refine answers `ok`, the
    expression is well-formed (its value at `x = -3` is shown above) -/
example : ∃ A r, build xReal = .ok A ∧
    refine false A (.add (.int 1) [(.pow (.pow (.sym "x") (.int 2)) (.rat 1 2), .int 1)]) = .ok r ∧
    wf (.add (.int 1) [(.pow (.pow (.sym "x") (.int 2)) (.rat 1 2), .int 1)]) = true ∧
    Expr.eqb r (sumRaw [.int 1, .pow (.app "Abs" [.sym "x"]) (.int 1)]) = true :=
  ⟨_, _, rfl, rfl, by decide, by decide⟩

/-- `x < 0`: `abs(x)` is rewritten to `-x`, `sign(x)` to `-1` -/
example : ∃ A, build [.app "StrictLessThan" [.sym "x", .int 0]] = .ok A ∧
    ((ruleOne A "Abs" (.sym "x")).any fun r => Expr.eqb r (negRaw (.sym "x"))) = true ∧
    ((ruleOne A "Sign" (.sym "x")).any fun r => Expr.eqb r (.int (-1))) = true ∧
    evalR (fun _ => (-3 : ℝ)) (.app "Abs" [.sym "x"]) = some 3 := by
  refine ⟨_, rfl, by decide, by decide, ?_⟩
  simp [evalR, evalArgs, appSem]

example : (simplifyPow (.int (-1)) (.app "Csc" [.sym "x"])).1 = .int 1 := rfl

end SymVerif.C35
