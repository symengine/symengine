import SymVerif.Model.CApi
import SymVerif.Lemmas.C42Containers
/-!
# C42 — the C API and the `Expression` wrapper agree with the core API

Statements over the tables regenerated from `cwrapper.cpp`, `cwrapper.h`, `symengine_exception.h` and `expression.h`
on each run (`Gen/CApi.lean`), and about `handle`, the interpreter of the *translated* `CWRAPPER_END` catch clauses.
Partly proved: no exception escapes *except* from the functions of `knownEscapes` (`C42_no_escape_full` is false on the
present table); the C-function ↦ core-function table *except* `coreSpecKnownWrong`.  Allocation failure is outside the
model (see `noThrowWhy`).
-/
namespace SymVerif.C42
open SymVerif.CApi SymVerif.Gen.CApi

/-- Callees that may appear outside a catch-all region, with the reason why they cannot throw.  The identifiers are the
translator's (`callees_of` in tools/extract/c42_capi.py): the last `::` component of what is applied to an argument list;
`new`, `new[]`, `placement_new`, `delete`, `delete[]`, `op==`, `op!=`, `op[]` for the operators; `ctor:T` for a constructor call
(`new T`, or a declaration `T v(args)`); `T__m` for the method `m` called on the member of a C handle struct that holds a `T`.
**Allocation failure (`std::bad_alloc` from `new`, `std::string`, `push_back`, container inserts) is outside the
model**: it is a resource-exhaustion condition shared with every C++ entry point (`basic_new_heap` itself would
hit it), not a function of the arguments.  `SYMENGINE_ASSERT` is not a callee: in a release build it is empty, in an
assert build it aborts (the verification hook turns it into an exception only when a *precondition* is violated). -/
def noThrowWhy : List (String × String) := [
  -- the handle itself
  ("basic_rcp", "reinterpret_cast to the stored RCP"),
  ("reinterpret_cast", "cast"), ("static_cast", "cast"),
  ("rcp_static_cast", "static pointer cast (asserts only)"),
  ("down_cast", "static cast (asserts only)"),
  ("numeric_cast", "static_cast (asserts only)"),
  ("outArg", "wraps a pointer"),
  -- allocation / deallocation (bad_alloc excluded, see above)
  ("new", "allocation only"), ("new[]", "allocation only"), ("placement_new", "no allocation"),
  ("delete", "destructors are noexcept"), ("delete[]", "destructors are noexcept"),
  ("~RCP", "destructor"), ("~vector", "destructor"),
  ("ctor:CRCPBasic", "default RCP"), ("ctor:CVectorInt", "empty vector"), ("ctor:CVecBasic", "empty vector"),
  ("ctor:CSetBasic", "empty set"), ("ctor:CMapBasicBasic", "empty map"),
  ("ctor:CDenseMatrix", "DenseMatrix(), DenseMatrix(r,c), DenseMatrix(r,c,vec): allocation + asserts only"),
  ("ctor:CSparseMatrix", "empty CSRMatrix"), ("CSRMatrix", "CSRMatrix(), CSRMatrix(r,c): allocation only"),
  ("ctor:CLambdaRealDoubleVisitor", "default constructor"), ("ctor:CLLVMDoubleVisitor", "default constructor"),
  ("ctor:CLLVMFloatVisitor", "default constructor"), ("ctor:CLLVMLongDoubleVisitor", "default constructor"),
  ("ctor:BasicCodePrinterSettings", "POD"),
  -- libc / std::string
  ("string", "std::string(const char*): allocation only"), ("strcpy", "libc"), ("strcmp", "libc"),
  ("length", "std::string::length"), ("c_str", "std::string::c_str"), ("copy", "std::string::copy with pos = 0"),
  ("op==", "pointer / int / iterator comparison"), ("op!=", "iterator comparison"),
  ("op[]", "std::map::operator[] / std::vector::operator[]: no exception (index precondition)"),
  ("next", "std::next"), ("begin", "iterator"), ("end", "iterator"), ("map_basic_basic__end", "iterator"),
  ("real", "std::complex"), ("imag", "std::complex"),
  -- type tests and field accessors
  ("is_a", "type-code comparison"), ("is_a_Number", "type-code test"), ("is_a_Set", "type-code test"),
  ("is_a_Integer", "C API type test"), ("is_a_Symbol", "C API type test"), ("is_aligned", "pointer arithmetic"),
  ("get_type_code", "field read"), ("hash", "cached hash; __hash__ implementations do not throw"),
  ("as_double", "field read"), ("as_complex_double", "field read"), ("as_integer_class", "field read"),
  ("as_mpfr", "field read"), ("get_mpfr_t", "field read"), ("get_prec", "field read"), ("mpfr_get_d", "mpfr, no exception"),
  ("mp_get_si", "gmp, truncates"), ("mp_get_ui", "gmp, truncates"), ("get_name", "copies a std::string"),
  ("is_zero", "Number predicate: no throw statement in any override"),
  ("is_negative", "Number predicate: no throw statement in any override"),
  ("is_positive", "Number predicate: no throw statement in any override"),
  ("is_complex", "Number predicate: no throw statement in any override"),
  ("eq", "structural __eq__: no throw statement in any override"),
  ("neq", "negation of eq"),
  ("has_symbol", "stop-visitor over get_args()"),
  -- singletons / trivially constructed objects
  ("constant", "make_rcp<Constant>"), ("emptyset", "singleton"), ("universalset", "singleton"),
  ("complexes", "singleton"), ("reals", "singleton"), ("rationals", "singleton"), ("integers", "singleton"),
  ("from_two_ints", "zero denominator handled (Nan / ComplexInf), otherwise canonicalize"),
  ("ascii_art", "string literal"), ("print_stack_on_segfault", "installs a signal handler"),
  ("mod_inverse", "mp_invert: returns 0 when no inverse exists (also for modulus 0)"),
  -- container members
  ("vector__push_back", "allocation only"), ("vec_basic__size", "size"),
  ("set_basic__insert", "RCPBasicKeyLess = hash, eq, __cmp__ (type code first, then same-class compare): no throw reachable"),
  ("set_basic__find", "as insert"), ("set_basic__erase", "as insert"), ("set_basic__size", "size"),
  ("map_basic_basic__find", "as set insert"), ("map_basic_basic__size", "size"),
  -- matrices
  ("DenseMatrix__nrows", "field read"), ("DenseMatrix__ncols", "field read"),
  ("DenseMatrix__op_eq", "element-wise eq"), ("CSRMatrix__op_eq", "vector comparisons with eq"),
  ("DenseMatrix____str__", "StrPrinter: strprinter.cpp contains no throw statement"),
  ("CSRMatrix____str__", "StrPrinter: strprinter.cpp contains no throw statement"),
  -- compiled closures
  ("LambdaRealDoubleVisitor__call", "calls the stored std::function closures (arithmetic on doubles)"),
  ("LLVMDoubleVisitor__call", "calls the JIT-compiled function"), ("LLVMFloatVisitor__call", "as above"),
  ("LLVMLongDoubleVisitor__call", "as above")
]

def noThrow : List String := noThrowWhy.map (·.1)

/-- C functions that call throwing C++ outside every catch-all region.  Each has a concrete valid-handle input on
which the exception really reaches the C caller (harness tag `escape-repro`, `docs/C42.md`, proposed known
findings C42-E1…E3).  The LLVM variants are the same code as the lambda visitor (not built by default). -/
def knownEscapes : List String := [
  "basic_dumps",
  "basic_set_is_subset", "basic_set_is_proper_subset", "basic_set_is_superset", "basic_set_is_proper_superset",
  "lambda_real_double_visitor_init",
  "llvm_double_visitor_init", "llvm_float_visitor_init", "llvm_long_double_visitor_init"
]

def safeFun (f : CFun) : Bool := f.unguarded.all (fun c => noThrow.contains c)

/-- `no_escape_partial` without its exclusion list (FALSE on the current tree: see `knownEscapes`).  The disjunct
`f.wrapped = true` adds nothing: by `wrapped_prelude` a wrapped function's unguarded callees are two type tests of the allow-list. -/
def C42_no_escape_full : Prop := ∀ f ∈ cApi, f.wrapped = true ∨ ∀ c ∈ f.unguarded, c ∈ noThrow

/-! The check is organised so that the kernel compares each distinct identifier with the allow-list once
(string comparison is slow inside the kernel): `badIx` = positions in `unguardedIdents` of identifiers that are
not allowed; per function only the index lists are inspected.  `getD i ""` is total and `""` is not allowed, so
`ix_in_range` is needed: `badIx` speaks about the positions inside the table only. -/

def badIx : List Nat :=
  (unguardedIdents.zipIdx.filter (fun p => !noThrow.contains p.1)).map (·.2)

/-- the translator's index lists denote the string lists -/
def ixFaithful (f : CFun) : Bool := f.unguardedIx.map (fun i => unguardedIdents.getD i "") == f.unguarded

def escapers : List String :=
  (cApi.filter (fun f => f.unguardedIx.any (fun i => badIx.contains i))).map (·.name)

theorem ix_faithful : cApi.all ixFaithful = true := by decide +kernel

theorem escapers_known : escapers.all (fun n => knownEscapes.contains n) = true := by decide +kernel

theorem escapers_sub : ∀ n ∈ escapers, n ∈ knownEscapes := fun n hn => by
  simpa using List.all_eq_true.mp escapers_known n hn

theorem badIx_spec (i : Nat) (h : i ∉ badIx) (hi : i < unguardedIdents.length) :
    unguardedIdents.getD i "" ∈ noThrow := by
  by_contra hc
  apply h
  unfold badIx
  refine List.mem_map.mpr ⟨(unguardedIdents.getD i "", i), List.mem_filter.mpr ⟨?_, ?_⟩, rfl⟩
  · rw [List.mem_zipIdx_iff_getElem?]
    simp [List.getD_eq_getElem?_getD, List.getElem?_eq_getElem hi]
  · simpa using hc

theorem ix_in_range : ∀ f ∈ cApi, ∀ i ∈ f.unguardedIx, i < unguardedIdents.length := by decide +kernel

/-- **no_escape (partial)**: every C API function outside the explicit exclusion list calls, outside a catch-all
region (`CWRAPPER_BEGIN/END` or its own `try … catch (...)`), only callees of the no-throw allow-list.
Re-proved against the regenerated table: a new unwrapped function that calls anything not on the list, or a
`CWRAPPER_BEGIN/END` pair removed from an existing function, breaks this proof. -/
theorem no_escape_partial :
    ∀ f ∈ cApi, f.name ∉ knownEscapes → ∀ c ∈ f.unguarded, c ∈ noThrow := by
  intro f hf hn c hc
  -- `c` stands at an index `i` of `f.unguardedIx`; `i` is not bad, since `f` is no escaper; it is in range: `badIx_spec`
  have hfaith : f.unguardedIx.map (fun i => unguardedIdents.getD i "") = f.unguarded := by
    simpa [ixFaithful] using List.all_eq_true.mp ix_faithful f hf
  rw [← hfaith] at hc
  obtain ⟨i, hi, rfl⟩ := List.mem_map.mp hc
  have hnb : i ∉ badIx := fun hb =>
    hn (escapers_sub _ (List.mem_map.mpr ⟨f, List.mem_filter.mpr ⟨hf, List.any_eq_true.mpr ⟨i, hi, by simpa using hb⟩⟩, rfl⟩))
  exact badIx_spec i hnb (ix_in_range f hf i hi)

/-- non-vacuity: `basic_get_type` is unwrapped, not excluded, and its three unguarded callees are checked -/
example : (findFun "basic_get_type").map (fun f => (f.wrapped, f.catchAll, f.unguarded.length,
    knownEscapes.contains f.name)) = some (false, false, 3, false) := by decide +kernel

example : ∀ n ∈ escapers, n ∈ knownEscapes := escapers_sub

/-- `CWRAPPER_END` returns a `symengine_exceptions_t`: a wrapped function must have that return type. -/
theorem wrapped_returns_code : ∀ f ∈ cApi, f.wrapped = true → f.ret = RetClass.code := by decide +kernel

/-- functions that return an error code without `CWRAPPER_BEGIN/END` (hand-written codes) -/
def manualCode : List String := ["rational_set"]

theorem code_is_wrapped : ∀ f ∈ cApi, f.ret = RetClass.code → f.wrapped = true ∨ f.name ∈ manualCode := by
  decide +kernel

theorem all_declared : ∀ f ∈ cApi, f.declared = true := by decide +kernel

/-- a wrapped function runs nothing but C-API type tests before `CWRAPPER_BEGIN` -/
theorem wrapped_prelude : ∀ f ∈ cApi, f.wrapped = true → ∀ c ∈ f.unguarded, c ∈ ["is_a_Symbol", "is_a_Integer"] := by
  decide +kernel

example : (cApi.filter (·.wrapped)).length > 100 := by decide +kernel

theorem exc_enum_range : excEnum.map (·.2) = List.range 7 := by decide

theorem ok_code_zero : lookup excEnum okCode = some 0 := by decide +kernel

theorem runtime_code : lookup excEnum "SYMENGINE_RUNTIME_ERROR" = some 1 := by decide +kernel

/-- `cls` is `SymEngineException` or derives from it in the translated hierarchy: what the first clause catches -/
def isSymExc (cls : String) : Bool := derivesFrom excClasses excClasses.length cls "SymEngineException"

/-- `CWRAPPER_END`: the first clause, `catch (SymEngineException &)`, returns the code the exception carries; the
second, `catch (...)`, turns everything else into SYMENGINE_RUNTIME_ERROR -/
theorem handle_sym (cls : String) (code : Nat) :
    handle (.sym cls code) = if isSymExc cls then some code else some 1 := by
  have e : derivesFrom excClasses excClasses.length cls "SymEngineException" = isSymExc cls := rfl
  cases h : isSymExc cls <;> simp [handle, handleWith, catchClauses, evalRet, matchesClause, e, h, runtime_code]

theorem exc_other_runtime : ∀ w, handle (.other w) = some 1 := by
  intro w
  simp [handle, handleWith, catchClauses, evalRet, matchesClause, runtime_code]

/-- **exc_map_total**: whatever the enclosed C++ code throws, some clause of `CWRAPPER_END` catches it and returns
an error code. -/
theorem exc_map_total : ∀ e : Thrown, ∃ c, handle e = some c
  | .sym cls code => by rw [handle_sym]; split <;> exact ⟨_, rfl⟩
  | .other w => ⟨1, exc_other_runtime w⟩

/-- every class of `symengine_exception.h` is caught by the first clause and yields the code it carries -/
theorem exc_class_carried :
    ∀ c ∈ excClasses, ∀ n : Nat, handle (.sym c.1 n) = some n := by
  intro c hc n
  have h : isSymExc c.1 = true := by
    revert c
    decide +kernel
  rw [handle_sym, if_pos h]

/-- every fixed code used by an exception class is a declared, non-zero enum value.  The base class `SymEngineException`
also takes a code from whoever throws it (`"*"`, skipped here): nothing excludes 0 there, and
`handle (.sym "SymEngineException" 0) = some 0`. -/
theorem exc_class_codes :
    ∀ c ∈ excClasses, ∀ k ∈ c.2.2, k ≠ "*" → ∃ n, lookup excEnum k = some n ∧ n ≠ 0 := by decide +kernel

/-- the class ↦ code map is a function: no class has two different fixed codes -/
theorem exc_class_code_unique :
    ∀ c ∈ excClasses, ∀ k ∈ c.2.2, ∀ k' ∈ c.2.2, k ≠ "*" → k' ≠ "*" → k = k' := by decide +kernel

example : handle (.sym "DivisionByZeroError" 2) = some 2 ∧ handle (.sym "ParseError" 5) = some 5
    ∧ handle (.other "std::bad_cast") = some 1 ∧ handle (.sym "NotAClass" 9) = some 1 := by decide +kernel

/-! That the wrapper returns 0 *only* on normal completion is not proved: it needs the thrown code to be non-zero, which
`exc_class_codes` gives for the fixed codes only. -/

theorem callWrapped_ok {α : Type} (old v : α) : callWrapped old (.ok v) = some (0, v) := by
  simp [callWrapped, ok_code_zero]

theorem callWrapped_threw {α : Type} (old : α) (e : Thrown) :
    ∃ c, handle e = some c ∧ callWrapped old (.threw e) = some (c, old) := by
  obtain ⟨c, hc⟩ := exc_map_total e
  exact ⟨c, hc, by simp [callWrapped, hc]⟩

theorem callWrapped_total {α : Type} (old : α) (r : Outcome α) : (callWrapped old r).isSome = true := by
  cases r with
  | ok v => simp [callWrapped_ok]
  | threw e =>
    obtain ⟨c, _, h⟩ := callWrapped_threw old e
    simp [h]

example : callWrapped "(s __old)" (.threw (.sym "DomainError" 4)) = some (4, "(s __old)") := by decide +kernel

/-- **expr_ops**: every operator / method / free function of `expression.h` that the translator found forwards to
the intended core function with its operands in order (`exprIntended`, `exprOpOk` in the model file). -/
theorem expr_ops : ∀ o ∈ exprOps, exprOpOk o = true := by decide +kernel

/-- the overloads the specification expects: operator and operand kinds (`E B S M` as in `ExprOp.kinds`; `b` is a `bool`
parameter: `diff(x, cache)`) -/
def exprRequired : List (String × String) := [
  ("operator+", "EE"), ("operator+", "BE"), ("operator+", "EB"), ("operator+=", "E"), ("operator+=", "B"),
  ("operator-", "EE"), ("operator-", "BE"), ("operator-", "EB"), ("operator-=", "E"), ("operator-=", "B"),
  ("operator*", "EE"), ("operator*", "BE"), ("operator*", "EB"), ("operator*=", "E"), ("operator*=", "B"),
  ("operator/", "EE"), ("operator/", "BE"), ("operator/", "EB"), ("operator/=", "E"), ("operator/=", "B"),
  ("operator==", "E"), ("operator==", "B"), ("operator!=", "E"), ("operator!=", "B"), ("operator-", ""),
  ("pow", "EE"), ("expand", "E"), ("diff", "Sb"), ("diff", "Bb"), ("subs", "M")]

theorem expr_ops_complete : ∀ p ∈ exprRequired, (findExprOp p.1 p.2).isSome = true := by decide +kernel

example : (findExprOp "operator/" "BE").map (·.core) = some "div" := by decide +kernel

/-- Hand-written specification: the core C++ function each C function must call (checked against the translated
callee lists).  `basic_<f>` generated by the two macros are included through their expansion. -/
def coreSpec : List (String × String) := [
  ("basic_add", "add"), ("basic_sub", "sub"), ("basic_mul", "mul"), ("basic_div", "div"), ("basic_pow", "pow"),
  ("basic_diff", "diff"), ("basic_expand", "expand"), ("basic_neg", "neg"), ("basic_abs", "abs"),
  ("basic_sin", "sin"), ("basic_cos", "cos"), ("basic_tan", "tan"), ("basic_csc", "csc"), ("basic_sec", "sec"),
  ("basic_cot", "cot"), ("basic_asin", "asin"), ("basic_acos", "acos"), ("basic_asec", "asec"),
  ("basic_acsc", "acsc"), ("basic_atan", "atan"), ("basic_acot", "acot"), ("basic_sinh", "sinh"),
  ("basic_cosh", "cosh"), ("basic_tanh", "tanh"), ("basic_csch", "csch"), ("basic_sech", "sech"),
  ("basic_coth", "coth"), ("basic_asinh", "asinh"), ("basic_acosh", "acosh"), ("basic_asech", "asech"),
  ("basic_acsch", "acsch"), ("basic_atanh", "atanh"), ("basic_acoth", "acoth"), ("basic_lambertw", "lambertw"),
  ("basic_zeta", "zeta"), ("basic_dirichlet_eta", "dirichlet_eta"), ("basic_gamma", "gamma"),
  ("basic_loggamma", "loggamma"), ("basic_sqrt", "sqrt"), ("basic_cbrt", "cbrt"), ("basic_exp", "exp"),
  ("basic_log", "log"), ("basic_floor", "floor"), ("basic_ceiling", "ceiling"), ("basic_sign", "sign"),
  ("basic_erf", "erf"), ("basic_erfc", "erfc"),
  ("basic_atan2", "atan2"), ("basic_kronecker_delta", "kronecker_delta"), ("basic_lowergamma", "lowergamma"),
  ("basic_uppergamma", "uppergamma"), ("basic_beta", "beta"), ("basic_polygamma", "polygamma"),
  ("basic_eq", "eq"), ("basic_neq", "neq"), ("basic_parse", "parse"), ("basic_parse2", "parse"),
  ("basic_subs", "subs"), ("basic_subs2", "subs"), ("basic_coeff", "coeff"), ("basic_evalf", "evalf"),
  ("basic_as_numer_denom", "as_numer_denom"), ("basic_get_args", "get_args"),
  ("basic_free_symbols", "free_symbols"), ("basic_function_symbols", "atoms"), ("basic_hash", "hash"),
  ("basic_max", "max"), ("basic_min", "min"), ("basic_add_vec", "add"), ("basic_mul_vec", "mul"),
  ("basic_dumps", "dumps"), ("basic_loads", "loads"), ("basic_has_symbol", "has_symbol"),
  ("basic_solve_poly", "solve_poly"), ("vecbasic_linsolve", "linsolve"), ("basic_cse", "cse"),
  ("symbol_set", "symbol"), ("function_symbol_set", "function_symbol"), ("basic_const_set", "constant"),
  ("number_is_zero", "is_zero"), ("number_is_negative", "is_negative"), ("number_is_positive", "is_positive"),
  ("number_is_complex", "is_complex"),
  ("basic_set_interval", "interval"), ("basic_set_finiteset", "finiteset"), ("basic_set_emptyset", "emptyset"),
  ("basic_set_universalset", "universalset"), ("basic_set_complexes", "complexes"), ("basic_set_reals", "reals"),
  ("basic_set_rationals", "rationals"), ("basic_set_integers", "integers"), ("basic_set_union", "set_union"),
  ("basic_set_intersection", "set_intersection"), ("basic_set_complement", "set_complement"),
  ("basic_set_contains", "contains"), ("basic_set_is_subset", "is_subset"),
  ("basic_set_is_proper_subset", "is_proper_subset"), ("basic_set_is_superset", "is_superset"),
  ("basic_set_is_proper_superset", "is_proper_superset"), ("basic_set_inf", "inf"), ("basic_set_sup", "sup"),
  ("basic_set_boundary", "boundary"), ("basic_set_interior", "interior"), ("basic_set_closure", "closure"),
  ("ntheory_gcd", "gcd"), ("ntheory_lcm", "lcm"), ("ntheory_gcd_ext", "gcd_ext"), ("ntheory_nextprime", "nextprime"),
  ("ntheory_mod", "mod"), ("ntheory_quotient", "quotient"), ("ntheory_quotient_mod", "quotient_mod"),
  ("ntheory_mod_f", "mod_f"), ("ntheory_quotient_f", "quotient_f"), ("ntheory_quotient_mod_f", "quotient_mod_f"),
  ("ntheory_mod_inverse", "mod_inverse"), ("ntheory_fibonacci", "fibonacci"), ("ntheory_fibonacci2", "fibonacci2"),
  ("ntheory_lucas", "lucas"), ("ntheory_lucas2", "lucas2"), ("ntheory_binomial", "binomial"),
  ("ntheory_factorial", "factorial"),
  ("dense_matrix_det", "DenseMatrix__det"), ("dense_matrix_inv", "DenseMatrix__inv"),
  ("dense_matrix_transpose", "DenseMatrix__transpose"), ("dense_matrix_add_matrix", "DenseMatrix__add_matrix"),
  ("dense_matrix_mul_matrix", "DenseMatrix__mul_matrix"), ("dense_matrix_add_scalar", "DenseMatrix__add_scalar"),
  ("dense_matrix_mul_scalar", "DenseMatrix__mul_scalar"), ("dense_matrix_LU", "DenseMatrix__LU"),
  ("dense_matrix_LDL", "DenseMatrix__LDL"), ("dense_matrix_FFLU", "DenseMatrix__FFLU"),
  ("dense_matrix_FFLDU", "DenseMatrix__FFLDU"), ("dense_matrix_LU_solve", "DenseMatrix__LU_solve"),
  ("dense_matrix_ones", "ones"), ("dense_matrix_zeros", "zeros"), ("dense_matrix_diag", "diag"),
  ("dense_matrix_eye", "eye"), ("dense_matrix_diff", "diff"), ("dense_matrix_jacobian", "jacobian"),
  ("dense_matrix_row_join", "DenseMatrix__row_join"), ("dense_matrix_col_join", "DenseMatrix__col_join"),
  ("dense_matrix_row_del", "DenseMatrix__row_del"), ("dense_matrix_col_del", "DenseMatrix__col_del"),
  ("dense_matrix_submatrix", "DenseMatrix__submatrix")]

/-- finding C42-R1 (`basic_set_universalset` assigned `emptyset()`), fixed in /repo: on the present table the entry
is correct (`#eval universalsetStatus` is `true`) and the exclusion excludes nothing wrong -/
def coreSpecKnownWrong : List String := ["basic_set_universalset"]

def coreEntryOk (p : String × String) : Bool :=
  match findFun p.1 with
  | some f => f.callees.contains p.2
  | none => false

def C42_core_table_full : Prop := ∀ p ∈ coreSpec, coreEntryOk p = true

/-- every C function of the specification table exists and calls its intended core function
(a swapped callee — `basic_sin` calling `cos`, `ntheory_lcm` calling `gcd` — breaks this proof). -/
theorem core_table_partial : ∀ p ∈ coreSpec, p.1 ∉ coreSpecKnownWrong → coreEntryOk p = true := by decide +kernel

example : coreEntryOk ("ntheory_lcm", "lcm") = true ∧ coreEntryOk ("ntheory_lcm", "gcd") = false := by decide +kernel

/-- whether the entry excluded by `coreSpecKnownWrong` holds on the present table; not a theorem, so that neither state
breaks the build -/
def universalsetStatus : Bool := coreEntryOk ("basic_set_universalset", "universalset")

export SymVerif.C42Containers (vec_push_size vec_push_get_last vec_push_get_old vec_set_get vec_erase_get
  vec_oob_unchanged vec_run_length set_step_refines set_run_refines map_step_refines map_run_refines
  vint_push_get_last vint_push_get_old)

end SymVerif.C42
