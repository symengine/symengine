import SymVerif.Lemmas.C29Sub
/-!
C29 — number comparisons agree with numeric order.

`relLt / relLe / relGt / relGe / relEq / relNe` are the numeric branches of `Lt / Le / Gt / Ge / Eq / Ne`
(logic.cpp) as run by the driver `drv_c29`.  `rv S a : EReal` is the numeric value of a real number of
any kind (Integer, Rational, finite RealDouble, `+oo`, `-oo`).  Doubles are elements of an arbitrary
type `F`; the IEEE facts used are the fields of `FloatSpec` (stated as hypotheses: Lean's `Float` is
opaque to the kernel).  When an exact number is compared with a double the library first converts it
with `mpz_get_d / mpq_get_d`; the theorems require that conversion to be exact (`ConvOK`).
-/
namespace SymVerif.C29
open SymVerif.Num SymVerif.Num.FloatOps


variable {F : Type} [FloatOps F]

theorem relGuard_false {S : FloatSpec F} {a b : Num F} (ha : RealNum S a) (hb : RealNum S b) :
    relGuard a b = false := by
  cases ha <;> cases hb <;> rfl

theorem eqNum_rv (S : FloatSpec F) {a b : Num F} (ha : RealNum S a) (hb : RealNum S b)
    (h : eqNum a b = true) : rv S a = rv S b := by
  cases ha with
  | int n => cases hb with
    | int m => rw [eq_of_beq (show (n == m) = true from h)]
    | _ => cases h
  | rat q _ => cases hb with
    | rat p _ => rw [eq_of_beq (show (q == p) = true from h)]
    | _ => cases h
  | dbl d hd => cases hb with
    | dbl e he => exact qe_eq.mpr ((S.beq_iff d e hd he).mp h)
    | _ => cases h
  | pinf => cases hb with
    | pinf => rfl
    | _ => cases h
  | ninf => cases hb with
    | ninf => rfl
    | _ => cases h

/-- the hypotheses on a pair of operands: both real, and an exact operand facing a double converts exactly -/
structure RealPair (S : FloatSpec F) (a b : Num F) : Prop where
  ra : RealNum S a
  rb : RealNum S b
  ca : isDbl b → ConvOK S a
  cb : isDbl a → ConvOK S b

theorem RealPair.symm {S : FloatSpec F} {a b : Num F} (h : RealPair S a b) : RealPair S b a :=
  ⟨h.rb, h.ra, h.cb, h.ca⟩

theorem ok_true_iff {X : Except Err Bool} {P : Prop} (h : ∃ r, X = .ok r ∧ (r = true ↔ P)) : X = .ok true ↔ P := by
  obtain ⟨r, rfl, hr⟩ := h
  rw [← hr]
  cases r <;> simp

theorem ok_false_iff {X : Except Err Bool} {P : Prop} (h : ∃ r, X = .ok r ∧ (r = true ↔ P)) : X = .ok false ↔ ¬P := by
  obtain ⟨r, rfl, hr⟩ := h
  rw [← hr]
  cases r <;> simp

/-- the common shape of `Lt` and `Le`: answer `e` on structurally equal operands, otherwise the test `t` on the
    difference; `P` is the relation both answers decide.  The term in the conclusion is the body of `relLt` / `relLe`
    with `e`, `t` left open: `lt_spec`, `le_spec` apply this lemma through the unfolding of those definitions -/
theorem rel_spec (S : FloatSpec F) (a b : Num F) (h : RealPair S a b) (e : Bool) (t : Num F → Bool) (P : Prop)
    (he : rv S a = rv S b → (e = true ↔ P)) (ht : ∀ s, SubSign S a b s → (t s = true ↔ P)) :
    ∃ r, (if relGuard a b then .error .runtime
          else if eqNum a b then .ok e
          else match Num.sub a b with
            | .error x => .error x
            | .ok s => .ok (t s) : Except Err Bool) = .ok r ∧ (r = true ↔ P) := by
  rw [relGuard_false h.ra h.rb]
  by_cases hq : eqNum a b = true
  · exact ⟨e, by simp [hq], he (eqNum_rv S h.ra h.rb hq)⟩
  · have hq' : eqNum a b = false := by simpa using hq
    obtain ⟨s, hs, sg⟩ := sub_sign S a b h.ra h.rb h.ca h.cb hq'
    exact ⟨t s, by simp [hq', hs], ht s sg⟩

/-- `Lt(a, b)` is true exactly when `a < b` numerically. -/
theorem lt_spec (S : FloatSpec F) (a b : Num F) (h : RealPair S a b) :
    ∃ r, relLt a b = .ok r ∧ (r = true ↔ rv S a < rv S b) :=
  rel_spec S a b h false Num.isNegative _ (fun hv => by simp [hv]) fun _ sg => sg.neg

/-- `Le(a, b)` is true exactly when `a ≤ b` numerically (this is the statement that fails
for the unpatched `Le`, defect D5). -/
theorem le_spec (S : FloatSpec F) (a b : Num F) (h : RealPair S a b) :
    ∃ r, relLe a b = .ok r ∧ (r = true ↔ rv S a ≤ rv S b) :=
  rel_spec S a b h true (fun s => s.isNegative || s.isZero) _ (fun hv => by simp [hv])
    fun _ sg => by rw [Bool.or_eq_true, sg.neg, sg.zero, le_iff_lt_or_eq]

/-- `Gt` and `Ge` are `Lt` and `Le` with the operands exchanged -/
theorem gt_spec (S : FloatSpec F) (a b : Num F) (h : RealPair S a b) :
    ∃ r, relGt a b = .ok r ∧ (r = true ↔ rv S a > rv S b) :=
  lt_spec S b a h.symm

theorem ge_spec (S : FloatSpec F) (a b : Num F) (h : RealPair S a b) :
    ∃ r, relGe a b = .ok r ∧ (r = true ↔ rv S a ≥ rv S b) :=
  le_spec S b a h.symm

/-- `Le(a, b)` is the negation of `Lt(b, a)`. -/
theorem le_not_lt (S : FloatSpec F) (a b : Num F) (h : RealPair S a b) :
    ∃ r, relLe a b = .ok r ∧ relLt b a = .ok (!r) := by
  obtain ⟨r, hr, hr'⟩ := le_spec S a b h
  obtain ⟨t, ht, ht'⟩ := lt_spec S b a h.symm
  refine ⟨r, hr, ?_⟩
  rw [ht]; congr 1
  have key : (r = true) ↔ ¬ (t = true) := by rw [hr', ht', not_lt]
  cases r <;> cases t <;> simp at key ⊢

/-- `Ge(a, b)` is `Le(b, a)` and `Gt(a, b)` is `Lt(b, a)` (for all numbers, by construction). -/
theorem ge_eq_le (a b : Num F) : relGe a b = relLe b a := rfl
theorem gt_eq_lt (a b : Num F) : relGt a b = relLt b a := rfl

/-- `Eq` is symmetric for all numbers of all kinds.  `hs` (`==` on doubles is symmetric) is a hypothesis of its own, not a field of
`FloatSpec`: the claim covers nan and the infinities, where `beq_iff` (finite doubles) says nothing -/
theorem eq_symm (hs : ∀ x y : F, beq x y = beq y x) (a b : Num F) : relEq a b = relEq b a := by
  have he : eqNum a b = eqNum b a := by
    cases a <;> cases b <;> simp only [eqNum]
    · exact BEq.comm
    · exact BEq.comm
    · rename_i r i r' i'; rw [BEq.comm (a := r), BEq.comm (a := i)]
    · exact hs _ _
    · rename_i x y x' y'; rw [hs x x', hs y y']
    · exact BEq.comm
  simp only [relEq, he, Bool.or_comm]

/-- `Ne` is the negation of `Eq`, for all numbers of all kinds; hence symmetric too. -/
theorem ne_not_eq (a b : Num F) : ∃ r, relEq a b = .ok r ∧ relNe a b = .ok (!r) := by
  unfold relNe relEq
  split <;> exact ⟨_, rfl, rfl⟩

theorem ne_symm (hs : ∀ x y : F, beq x y = beq y x) (a b : Num F) : relNe a b = relNe b a := by
  unfold relNe; rw [eq_symm hs a b]

theorem lt_asymm_rel (S : FloatSpec F) (a b : Num F) (h : RealPair S a b)
    (hab : relLt a b = .ok true) : relLt b a = .ok false :=
  (ok_false_iff (lt_spec S b a h.symm)).2 (lt_asymm ((ok_true_iff (lt_spec S a b h)).1 hab))

/-- `Lt` is transitive across number kinds (Integer < Rational < RealDouble < Infinity chains included).  `hac` does not follow
from the other two pairs: for `a`, `b` exact and `c` a double, `ConvOK S a` is in neither -/
theorem lt_trans_rel (S : FloatSpec F) (a b c : Num F) (hab : RealPair S a b) (hbc : RealPair S b c)
    (hac : RealPair S a c) (h1 : relLt a b = .ok true) (h2 : relLt b c = .ok true) :
    relLt a c = .ok true :=
  (ok_true_iff (lt_spec S a c hac)).2
    (lt_trans ((ok_true_iff (lt_spec S a b hab)).1 h1) ((ok_true_iff (lt_spec S b c hbc)).1 h2))

/-- `Le` is total on such pairs: at least one of `Le(a, b)`, `Le(b, a)` is true -/
theorem le_total_rel (S : FloatSpec F) (a b : Num F) (h : RealPair S a b) :
    ∃ r t, relLe a b = .ok r ∧ relLe b a = .ok t ∧ (r || t) = true := by
  obtain ⟨r, hr, hr'⟩ := le_spec S a b h
  obtain ⟨t, ht, ht'⟩ := le_spec S b a h.symm
  refine ⟨r, t, hr, ht, ?_⟩
  rcases le_total (rv S a) (rv S b) with hle | hle
  · rw [hr'.mpr hle]; rfl
  · rw [ht'.mpr hle]; simp

/-- `Le` both ways means numerically equal values (antisymmetry, up to value) -/
theorem le_antisymm_rel (S : FloatSpec F) (a b : Num F) (h : RealPair S a b)
    (h1 : relLe a b = .ok true) (h2 : relLe b a = .ok true) : rv S a = rv S b :=
  le_antisymm ((ok_true_iff (le_spec S a b h)).1 h1) ((ok_true_iff (le_spec S b a h.symm)).1 h2)

/-- complex, nan and zoo operands: the order relations throw (SymEngineException) -/
theorem order_guard (a b : Num F) (h : relGuard a b = true) :
    relLt a b = .error .runtime ∧ relLe a b = .error .runtime := by
  simp [relLt, relLe, h]

/-- **defect D5** in the unpatched `Le`: for an integer and a double of the same value
`Le(1, 1.0)` is false although `Lt(1.0, 1)` is false as well. -/
theorem D5_orig (S : FloatSpec F) (n : Int) (d : F) (hd : S.fin d) (hc : ConvOK S (.int n))
    (hv : S.fv d = n) :
    relLeOrig (.int n) (.dbl d) = .ok false ∧ relLt (.dbl d) (.int n) = .ok false := by
  refine ⟨?_, (ok_false_iff (lt_spec S _ _ ⟨.dbl d hd, .int n, fun h => h.elim, fun _ => hc⟩)).2
    (by show ¬ qe (S.fv d) < qe n; rw [hv]; exact lt_irrefl _)⟩
  obtain ⟨c1, c2⟩ := hc
  have h1 : isNeg (fsub (ofInt n) d) = false :=
    Bool.eq_false_iff.mpr fun h => lt_irrefl _ ((c2.trans hv.symm) ▸ (S.isNeg_sub _ _ c1 hd).mp h)
  simp [relLeOrig, relGuard, isComplexKind, isNan, isZoo, eqNum, Num.sub, intSub, dblRsub, Num.isNegative, h1]

/-- toy float operations: exact integer arithmetic.  A `def`, made an instance only locally below: a global `FloatOps Int`
would be found wherever `Num Int` is elaborated -/
@[reducible] def toyOps : FloatOps Int where
  fadd := (· + ·)
  fsub := (· - ·)
  fmul := (· * ·)
  fdiv := (· / ·)
  fneg := fun x => -x
  fpow := fun x y => x ^ y.toNat
  ofInt := id
  ofQ := fun q => q.num / q.den
  isPos := fun x => decide (0 < x)
  isNeg := fun x => decide (x < 0)
  isZero := fun x => x == 0
  isNaN := fun _ => false
  beq := fun x y => x == y

/-- the IEEE hypotheses are satisfiable -/
def toySpec : @FloatSpec Int toyOps :=
  @FloatSpec.mk Int toyOps (fun _ => True) (fun x => (x : ℚ))
    (by intro x y _ _
        show (x == y) = true ↔ (x : ℚ) = y
        simp)
    (by intro x y _ _
        show decide (x - y < 0) = true ↔ (x : ℚ) < y
        rw [decide_eq_true_eq]
        constructor
        · intro h; exact_mod_cast (by omega : x < y)
        · intro h; have : x < y := by exact_mod_cast h
          omega)
    (by intro x y _ _
        show (x - y == 0) = true ↔ (x : ℚ) = y
        rw [beq_iff_eq]
        constructor
        · intro h; exact_mod_cast (by omega : x = y)
        · intro h; have : x = y := by exact_mod_cast h
          omega)

attribute [local instance] toyOps in
/-- `Le(1, 1.0)` in the toy structure: the hypotheses of `le_spec` are met by an integer facing a double -/
example : ∃ r, @relLe Int toyOps (.int 1) (.dbl 1) = .ok r ∧
    (r = true ↔ @rv Int toyOps toySpec (.int 1) ≤ @rv Int toyOps toySpec (.dbl 1)) :=
  @le_spec Int toyOps toySpec (.int 1) (.dbl 1)
    ⟨.int 1, .dbl 1 trivial, fun _ => ⟨trivial, rfl⟩, fun h => h.elim⟩

/-- exact operands need no float hypothesis at all -/
example (S : FloatSpec F) : ∃ r, relLt (F := F) (.rat ⟨1, 3⟩) (.infty 1) = .ok r ∧
    (r = true ↔ rv S (.rat ⟨1, 3⟩) < rv S (.infty 1)) :=
  lt_spec S (.rat ⟨1, 3⟩) (.infty 1)
    ⟨.rat _ ⟨by decide, by decide⟩, .pinf, fun h => h.elim, fun h => h.elim⟩

example (S : FloatSpec F) : ∃ r, relLe (F := F) (.int (-2)) (.rat ⟨-7, 3⟩) = .ok r ∧
    relLt (F := F) (.rat ⟨-7, 3⟩) (.int (-2)) = .ok (!r) :=
  le_not_lt S (.int (-2)) (.rat ⟨-7, 3⟩)
    ⟨.int _, .rat _ ⟨by decide, by decide⟩, fun h => h.elim, fun h => h.elim⟩

end SymVerif.C29
