import SymVerif.Model.LDE
import SymVerif.Lemmas.C46Sim
/-!
C46 — `homogeneous_lde` returns exactly the minimal non-zero non-negative solutions of `A x = 0`.

Proved for the model of `order` / `is_minimum` / `homogeneous_lde` (Model/LDE.lean), for every
well-formed integer matrix and every fuel, **whenever the main loop finishes within the fuel**:

* `frozen_inbounds` (an entry with `k` entries below it has at least `k` frozen components; a child is pushed
  through a component just read as free, so fewer than `q` are frozen and the depth stays below `q`; the row
  read at a pop was written at the push: `Rel`);
* `lde_exact` and its corollaries `lde_sound`, `lde_antichain`, `lde_complete`, `lde_covers`.

Termination of the `while` loop (the other half of the Contejean–Devie theorem) is *not* proved:
`C46_full` states total correctness and is left as a `def`.
-/
namespace SymVerif.C46
open SymVerif.LDE

/-- `A` is a `p × q` matrix given by its rows -/
def WF (A : List Vec) (p q : ℕ) : Prop := A.length = p ∧ ∀ r ∈ A, r.length = q

instance (A : List Vec) (p q : ℕ) : Decidable (WF A p q) := by unfold WF; infer_instance

/-- every run ends in the assertion, out of fuel, or with a list for which the invariant holds on the
empty stack -/
theorem lde_run (A : List Vec) (p q fuel : ℕ) (hA : WF A p q) :
    homogeneousLde A p q fuel = .error .assert ∨ homogeneousLde A p q fuel = .error .fuel ∨
      ∃ basis, homogeneousLde A p q fuel = .ok basis ∧ AInv A q [] basis.reverse := by
  unfold homogeneousLde
  by_cases h : p = 0 ∨ q ≤ 1
  · left; simp [h]
  · right
    rw [if_neg h]
    have hq : 0 < q := by omega
    exact sim_main A q hA.2 fuel (initSt q) _ (by simp [initSt]) (Rel.init q hq) (AInv.init A q hq)

/-- **bounds**: `Frozen[n][i]`, `Frozen[n-1][j] = F[j]`, `F[i]` never leave the `q × q` table -/
theorem frozen_inbounds (A : List Vec) (p q fuel : ℕ) (hA : WF A p q) :
    homogeneousLde A p q fuel ≠ .error .oob := by
  rcases lde_run A p q fuel hA with h | h | ⟨b, h, _⟩ <;> rw [h] <;> simp

/-- **exactness** (partial correctness): the result is duplicate-free and consists of exactly the
minimal solutions -/
theorem lde_exact (A : List Vec) (p q fuel : ℕ) (hA : WF A p q) (basis : List Vec)
    (h : homogeneousLde A p q fuel = .ok basis) :
    basis.Nodup ∧ ∀ m, m ∈ basis ↔ Minimal A q m := by
  rcases lde_run A p q fuel hA with h' | h' | ⟨b, h', hinv⟩
  · cases h.symm.trans h'
  · cases h.symm.trans h'
  · cases h.symm.trans h'
    refine ⟨List.nodup_reverse.mp hinv.nodup, fun m =>
      ⟨fun hm => hinv.minimal m (List.mem_reverse.mpr hm), fun hm => ?_⟩⟩
    rcases hinv.complete m hm with hmem | ⟨e, he, _⟩
    · exact List.mem_reverse.mp hmem
    · cases he

/-- **soundness**: every returned vector has length `q`, is non-negative, solves `A b = 0` and is
not the zero vector -/
theorem lde_sound (A : List Vec) (p q fuel : ℕ) (hA : WF A p q) (basis : List Vec)
    (h : homogeneousLde A p q fuel = .ok basis) (b : Vec) (hb : b ∈ basis) :
    b.length = q ∧ (∀ i, 0 ≤ cmp b i) ∧ isZero (mulVec A b) = true ∧ isZero b = false :=
  (((lde_exact A p q fuel hA basis h).2 b).mp hb).1

/-- **antichain**: no returned vector dominates another one, none is returned twice -/
theorem lde_antichain (A : List Vec) (p q fuel : ℕ) (hA : WF A p q) (basis : List Vec)
    (h : homogeneousLde A p q fuel = .ok basis) :
    basis.Nodup ∧ ∀ b₁ ∈ basis, ∀ b₂ ∈ basis, (∀ i, cmp b₁ i ≤ cmp b₂ i) → b₁ = b₂ := by
  obtain ⟨hnd, hex⟩ := lde_exact A p q fuel hA basis h
  refine ⟨hnd, fun b₁ h₁ b₂ h₂ hle => ?_⟩
  exact ((hex b₂).mp h₂).2 b₁ ((hex b₁).mp h₁).1 hle

/-- **completeness** (Contejean–Devie): every minimal solution is returned -/
theorem lde_complete (A : List Vec) (p q fuel : ℕ) (hA : WF A p q) (basis : List Vec)
    (h : homogeneousLde A p q fuel = .ok basis) (m : Vec) (hm : Minimal A q m) : m ∈ basis :=
  ((lde_exact A p q fuel hA basis h).2 m).mpr hm

/-- **covering** (the "basis" half of *Hilbert basis*): every non-zero non-negative solution of `A x = 0`
dominates, componentwise, one of the returned vectors.  With `lde_exact` this says the result is exactly the
set of minimal elements *and* that this set is coinitial in the solution set — dropping any returned vector,
or returning a non-minimal one instead, breaks one of the two. -/
theorem lde_covers (A : List Vec) (p q fuel : ℕ) (hA : WF A p q) (basis : List Vec)
    (h : homogeneousLde A p q fuel = .ok basis) (v : Vec) (hv : IsSol A q v) :
    ∃ b ∈ basis, ∀ i, cmp b i ≤ cmp v i := by
  obtain ⟨m, hm, hle⟩ := exists_minimal_le hv
  exact ⟨m, lde_complete A p q fuel hA basis h m hm, hle⟩

/-- outside `p > 0 ∧ q > 1` the model stops at the assertion, never with a result — the C++
`SYMENGINE_ASSERT(p > 0 and q > 1)` -/
theorem lde_guard (A : List Vec) (p q fuel : ℕ) (hpq : p = 0 ∨ q ≤ 1) :
    homogeneousLde A p q fuel = .error .assert := by
  unfold homogeneousLde; simp [hpq]

/-- the full property including termination — stated, not proved (the termination argument of
Contejean–Devie is a compactness argument over the reals) -/
def C46_full : Prop :=
  ∀ (A : List Vec) (p q : ℕ), WF A p q → 0 < p → 1 < q →
    ∃ fuel basis, homogeneousLde A p q fuel = .ok basis ∧ basis.Nodup ∧ ∀ m, m ∈ basis ↔ Minimal A q m

example : WF [[1, 1, -2]] 1 3 := by decide
example : homogeneousLde [[1, 1, -2]] 1 3 100 = .ok [[0, 2, 1], [1, 1, 1], [2, 0, 1]] := by
  decide +kernel
example : homogeneousLde [[1, -1, 0, 0], [0, 0, 2, -3]] 2 4 100 = .ok [[0, 0, 3, 2], [1, 1, 0, 0]] := by
  decide +kernel
example : Minimal [[1, -1]] 2 [1, 1] := by
  refine ⟨⟨rfl, fun i => ?_, by decide, by decide⟩, ?_⟩
  · rcases i with _ | _ | i
    · decide
    · decide
    · exact le_of_eq (cmp_of_le_length (Nat.le_add_left 2 i)).symm
  · rintro v ⟨hl, hnn, hz, hnz⟩ hle
    match v, hl with
    | [a, b], _ =>
      have hz' : 1 * a + (-1 * b + 0) = 0 := (isZero_iff _).mp hz 0
      obtain rfl : a = b := by omega
      have h0 : a ≤ 1 := hle 0
      have n0 : 0 ≤ a := hnn 0
      have : a ≠ 0 := by rintro rfl; exact absurd hnz (by decide)
      obtain rfl : a = 1 := by omega
      rfl

end SymVerif.C46
