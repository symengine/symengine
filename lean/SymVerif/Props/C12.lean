/-
C12 — double-precision evaluation (eval_double / eval_double_single_dispatch /
eval_complex_double / evalf ≤ 53 bits).

Claimed theorems about the definition tables translated from eval_double.cpp and lambda_double.h on this
run (Gen/EvalFormulas.lean) and about the generic evaluator `evalG` that the driver executes at
`Float`: agreement of the tables, the defining properties over ℝ of the derived formulas, unfolding
equations of `evalG`.  `nodeVal` (Lemmas/C12Real.lean), `constVal` and `foldFirstVal` are copies of single
branches of `evalG` (function node, Constant, Max/Min fold), so that a statement can speak of one node
kind; `evalG_app_nodeVal`, `evalG_const`, `evalG_app_foldFirst` tie them to `evalG`, each under its table
lookup (on another entry the copies return `notImpl` where `evalG` returns `noncanon`).

The full statement of the property (`C12_full`) involves IEEE-754 rounding and the accuracy of
libm; that part is outside the kernel (Lean's `Float` is opaque) and is checked at run time by the
correspondence harness and its long-double accuracy oracle.  The claim is therefore *partial*.
-/
import SymVerif.Lemmas.C12Real
import SymVerif.Gen.EvalFormulas
import Mathlib.NumberTheory.Real.GoldenRatio
import Mathlib.Tactic.NormNum
import Mathlib.Tactic.Linarith

namespace SymVerif.C12
open SymVerif SymVerif.EvalG

def maxStep : Formula := .call2 .max (.arg 0) (.arg 1)
def minStep : Formula := .call2 .min (.arg 0) (.arg 1)

/-- `a` (table entry) agrees with `b` (visitor entry): identical, or both are the Max/Min fold and
the table merely starts its loop at operand 0 instead of 1. -/
def agreeDef (a b : NodeDef) : Bool :=
  match a, b with
  | .foldFirst 0 s, .foldFirst 1 s' => decide (s = s') && (decide (s = maxStep) || decide (s = minStep))
  | a, b => decide (a = b)

/-- "the single-dispatch and visitor evaluators agree", definition level: re-checked by `decide`
against the tables regenerated from eval_double.cpp on every run. -/
theorem visitor_table_agree :
    ∀ p ∈ Gen.tableSD, ∃ d, Gen.visitorReal.find p.1 = some d ∧ agreeDef p.2 d = true := by
  decide +kernel

/-- a number structure in which `max a a = a` and `min a a = a` (true for `Float`'s std::max/min and for ℝ) -/
def IdemMaxMin {α : Type} (O : NumOps α) : Prop :=
  ∀ a, O.call2 .max a a = some a ∧ O.call2 .min a a = some a

/-- the value a `foldFirst` definition assigns to evaluated operands (as in `evalG`) -/
def foldFirstVal {α : Type} (O : NumOps α) (start : Nat) (step : Formula) (vs : List α) : Except Err α :=
  match vs with
  | [] => .error .badArg
  | v0 :: _ => foldVals O step v0 (vs.drop start)

theorem foldVals_skip {α : Type} (O : NumOps α) {step : Formula} {u v : α}
    (h : evalF O [u, v] step = .ok v) (vs : List α) :
    foldVals O step u (v :: vs) = foldVals O step v vs := by
  simp only [foldVals, h, bind, Except.bind]

/-- semantic content of the Max/Min exception in `agreeDef`: starting the loop at the first operand
again does not change the result. -/
theorem table_agree_sound {α : Type} (O : NumOps α) (h : IdemMaxMin O) (s : Formula)
    (hs : s = maxStep ∨ s = minStep) (vs : List α) :
    foldFirstVal O 0 s vs = foldFirstVal O 1 s vs := by
  cases vs with
  | nil => rfl
  | cons v0 rest =>
    refine foldVals_skip O ?_ rest
    rcases hs with rfl | rfl
    · simp [maxStep, evalF, optErr, (h v0).1, bind, Except.bind]
    · simp [minStep, evalF, optErr, (h v0).2, bind, Except.bind]

theorem floatOps_idem (sp : SpecTable) : IdemMaxMin (floatOps sp) := by
  intro a
  simp only [floatOps, stdMax, stdMin, ite_self, and_self]

theorem realOps_idem (erf erfc : ℝ → ℝ) : IdemMaxMin (realOps erf erfc) := by
  intro a
  simp only [realOps, ite_self, and_self]

def isFnDef : NodeDef → Bool
  | .fn _ => true
  | _ => false

theorem fn_of_isFnDef : ∀ {d : NodeDef}, isFnDef d = true → ∃ body, d = .fn body
  | .fn body, _ => ⟨body, rfl⟩

/-- every function-call node kind of the visitor has the same definition in the lambda visitor -/
theorem lambda_visitor_fn_agree :
    ∀ p ∈ Gen.visitorReal, isFnDef p.2 = true → Gen.lambdaReal.find p.1 = some p.2 := by
  decide +kernel

/-- the real visitor's table contains every definition of the generic template `EvalDoubleVisitor<T, C>`
(the part the complex visitor shares) -/
theorem complex_shares_generic :
    ∀ p ∈ Gen.visitorGeneric, Gen.visitorReal.find p.1 = some p.2 := by
  decide +kernel

section Specs
variable (erf erfc : ℝ → ℝ)

local notation "R" => realOps erf erfc

/-- The derived node kinds come in two shapes, `1 / f(x)` (`recipKinds`) and `f(1 / x)` (`invKinds`); the
relational ones are `cmp(a, b)` (`cmpKinds`).  One kernel run per list looks all its kinds up in the table. -/
def recipKinds : List (Fn × String) :=
  [(.tan, "Cot"), (.cos, "Sec"), (.sin, "Csc"), (.tanh, "Coth"), (.cosh, "Sech"), (.sinh, "Csch")]
def invKinds : List (Fn × String) :=
  [(.acos, "ASec"), (.asin, "ACsc"), (.atan, "ACot"), (.asinh, "ACsch"), (.atanh, "ACoth"), (.acosh, "ASech")]
def cmpKinds : List (Cmp × String) :=
  [(.eq, "Equality"), (.ne, "Unequality"), (.le, "LessThan"), (.lt, "StrictLessThan")]

theorem visitorReal_recip : ∀ p ∈ recipKinds,
    Gen.visitorReal.find p.2 = some (.fn (.div (.lit 1 1) (.call1 p.1 (.arg 0)))) := by
  decide +kernel

theorem visitorReal_inv : ∀ p ∈ invKinds,
    Gen.visitorReal.find p.2 = some (.fn (.call1 p.1 (.div (.lit 1 1) (.arg 0)))) := by
  decide +kernel

theorem visitorReal_cmp : ∀ p ∈ cmpKinds,
    Gen.visitorReal.find p.2 = some (.fn (.cmp p.1 (.arg 0) (.arg 1))) := by
  decide +kernel

theorem realOps_lit (n : ℤ) : (R).ofQNear n 1 = n := by
  rw [C15.R_ofQNear, Nat.cast_one, div_one]

theorem recip_val (f : Fn) {k : String} (h : (f, k) ∈ recipKinds) {x y : ℝ} (hf : (R).call1 f x = some y) :
    nodeVal R Gen.visitorReal k [x] = .ok (1 / y) := by
  rw [nodeVal_fn (visitorReal_recip _ h)]
  simp only [evalF, List.getElem?_cons_zero, optErr, bind, Except.bind, hf, realOps_lit, Int.cast_one]
  rfl

theorem inv_val (f : Fn) {k : String} (h : (f, k) ∈ invKinds) {x y : ℝ} (hf : (R).call1 f (1 / x) = some y) :
    nodeVal R Gen.visitorReal k [x] = .ok y := by
  rw [nodeVal_fn (visitorReal_inv _ h)]
  simp only [evalF, List.getElem?_cons_zero, optErr, bind, Except.bind, pure, Except.pure, realOps_lit, Int.cast_one]
  rw [C15.R_div, hf]

theorem cmp_val (c : Cmp) {k : String} (h : (c, k) ∈ cmpKinds) (a b : ℝ) :
    nodeVal R Gen.visitorReal k [a, b] = .ok (if (R).cmp c a b then 1 else 0) := by
  rw [nodeVal_fn (visitorReal_cmp _ h)]
  simp only [evalF, List.getElem?_cons_zero, List.getElem?_cons_succ, optErr, bind, Except.bind, pure, Except.pure,
    NumOps.ofBool, realOps_lit, Int.cast_one, Int.cast_zero]

theorem cot_spec (x : ℝ) (hx : Real.sin x ≠ 0) :
    ∃ y, nodeVal R Gen.visitorReal "Cot" [x] = .ok y ∧ y * Real.sin x = Real.cos x := by
  refine ⟨_, recip_val erf erfc .tan (by decide) rfl, ?_⟩
  rw [Real.tan_eq_sin_div_cos, one_div_div, div_mul_cancel₀ _ hx]

theorem sec_spec (x : ℝ) (hx : Real.cos x ≠ 0) :
    ∃ y, nodeVal R Gen.visitorReal "Sec" [x] = .ok y ∧ y * Real.cos x = 1 :=
  ⟨_, recip_val erf erfc .cos (by decide) rfl, one_div_mul_cancel hx⟩

theorem csc_spec (x : ℝ) (hx : Real.sin x ≠ 0) :
    ∃ y, nodeVal R Gen.visitorReal "Csc" [x] = .ok y ∧ y * Real.sin x = 1 :=
  ⟨_, recip_val erf erfc .sin (by decide) rfl, one_div_mul_cancel hx⟩

private theorem inv_bounds {x : ℝ} (hx : 1 ≤ |x|) : -1 ≤ 1 / x ∧ 1 / x ≤ 1 := by
  have h : |1 / x| ≤ 1 := by
    rw [abs_div, abs_one, div_le_one (by linarith)]
    exact hx
  exact abs_le.mp h

private theorem inv_bounds_lt {x : ℝ} (hx : 1 < |x|) : -1 < 1 / x ∧ 1 / x < 1 := by
  have h : |1 / x| < 1 := by
    rw [abs_div, abs_one, div_lt_one (by linarith)]
    exact hx
  exact abs_lt.mp h

theorem asec_spec (x : ℝ) (hx : 1 ≤ |x|) :
    ∃ y, nodeVal R Gen.visitorReal "ASec" [x] = .ok y ∧ Real.cos y = 1 / x ∧ 0 ≤ y ∧ y ≤ Real.pi := by
  obtain ⟨h1, h2⟩ := inv_bounds hx
  exact ⟨_, inv_val erf erfc .acos (by decide) rfl, Real.cos_arccos h1 h2, Real.arccos_nonneg _,
    Real.arccos_le_pi _⟩

theorem acsc_spec (x : ℝ) (hx : 1 ≤ |x|) :
    ∃ y, nodeVal R Gen.visitorReal "ACsc" [x] = .ok y ∧ Real.sin y = 1 / x
      ∧ -(Real.pi / 2) ≤ y ∧ y ≤ Real.pi / 2 := by
  obtain ⟨h1, h2⟩ := inv_bounds hx
  exact ⟨_, inv_val erf erfc .asin (by decide) rfl, Real.sin_arcsin h1 h2, Real.neg_pi_div_two_le_arcsin _,
    Real.arcsin_le_pi_div_two _⟩

theorem acot_spec (x : ℝ) (hx : x ≠ 0) :
    ∃ y, nodeVal R Gen.visitorReal "ACot" [x] = .ok y ∧ Real.tan y * x = 1
      ∧ -(Real.pi / 2) < y ∧ y < Real.pi / 2 := by
  refine ⟨_, inv_val erf erfc .atan (by decide) rfl, ?_, Real.neg_pi_div_two_lt_arctan _,
    Real.arctan_lt_pi_div_two _⟩
  rw [Real.tan_arctan, one_div_mul_cancel hx]

theorem coth_spec (x : ℝ) (hx : Real.sinh x ≠ 0) :
    ∃ y, nodeVal R Gen.visitorReal "Coth" [x] = .ok y ∧ y * Real.sinh x = Real.cosh x := by
  refine ⟨_, recip_val erf erfc .tanh (by decide) rfl, ?_⟩
  rw [Real.tanh_eq_sinh_div_cosh, one_div_div, div_mul_cancel₀ _ hx]

theorem sech_spec (x : ℝ) :
    ∃ y, nodeVal R Gen.visitorReal "Sech" [x] = .ok y ∧ y * Real.cosh x = 1 :=
  ⟨_, recip_val erf erfc .cosh (by decide) rfl, one_div_mul_cancel (Real.cosh_pos x).ne'⟩

theorem csch_spec (x : ℝ) (hx : Real.sinh x ≠ 0) :
    ∃ y, nodeVal R Gen.visitorReal "Csch" [x] = .ok y ∧ y * Real.sinh x = 1 :=
  ⟨_, recip_val erf erfc .sinh (by decide) rfl, one_div_mul_cancel hx⟩

theorem acsch_spec (x : ℝ) :
    ∃ y, nodeVal R Gen.visitorReal "ACsch" [x] = .ok y ∧ Real.sinh y = 1 / x :=
  ⟨_, inv_val erf erfc .asinh (by decide) rfl, Real.sinh_arsinh _⟩

theorem acoth_spec (x : ℝ) (hx : 1 < |x|) :
    ∃ y, nodeVal R Gen.visitorReal "ACoth" [x] = .ok y ∧ Real.tanh y = 1 / x :=
  ⟨_, inv_val erf erfc .atanh (by decide) rfl, Real.tanh_artanh (inv_bounds_lt hx)⟩

theorem asech_spec (x : ℝ) (h0 : 0 < x) (h1 : x ≤ 1) :
    ∃ y, nodeVal R Gen.visitorReal "ASech" [x] = .ok y ∧ Real.cosh y = 1 / x ∧ 0 ≤ y := by
  have h : 1 ≤ 1 / x := by
    rw [le_div_iff₀ h0]
    linarith
  exact ⟨_, inv_val erf erfc .acosh (by decide) rfl, Real.cosh_arcosh h, Real.arcosh_nonneg h⟩

theorem realOps_truthy_ofBool (b : Bool) : (R).truthy ((R).ofBool b) = b := by
  cases b
  · simp only [NumOps.truthy, NumOps.ofBool, realOps_lit, C15.R_eq, Bool.false_eq_true, if_false, decide_true, Bool.not_true]
  · simp only [NumOps.truthy, NumOps.ofBool, realOps_lit, C15.R_eq, if_true, Int.cast_one, Int.cast_zero, one_ne_zero,
      decide_false, Bool.not_false]

theorem sign_val (x : ℝ) :
    nodeVal R Gen.lambdaReal "Sign" [x] = .ok (if x = 0 then 0 else if x < 0 then -1 else 1) := by
  -- `EvalRealDoubleVisitor` has no Sign entry: the node is the lambda visitor's
  have hs : Gen.lambdaReal.find "Sign" = some (.fn (.ite (.cmp .eq (.arg 0) (.lit 0 1)) (.lit 0 1)
      (.ite (.cmp .lt (.arg 0) (.lit 0 1)) (.lit (-1) 1) (.lit 1 1)))) := by decide +kernel
  rw [nodeVal_fn hs]
  simp only [evalF, List.getElem?_cons_zero, optErr, bind, Except.bind, pure, Except.pure, realOps_truthy_ofBool,
    NumOps.cmp, realOps_lit, Int.cast_zero, Int.cast_one, Int.cast_neg, apply_ite Except.ok]
  simp only [C15.R_eq, C15.R_lt, decide_eq_true_eq]

/-- sign (LambdaRealDoubleVisitor): the nested conditional is the sign function -/
theorem sign_spec (x : ℝ) :
    ∃ y, nodeVal R Gen.lambdaReal "Sign" [x] = .ok y
      ∧ (x = 0 → y = 0) ∧ (x < 0 → y = -1) ∧ (0 < x → y = 1) := by
  refine ⟨_, sign_val erf erfc x, fun h => if_pos h, fun h => ?_, fun h => ?_⟩
  · rw [if_neg h.ne, if_pos h]
  · rw [if_neg h.ne', if_neg (not_lt.mpr h.le)]

theorem lt_spec (a b : ℝ) :
    nodeVal R Gen.visitorReal "StrictLessThan" [a, b] = .ok (if a < b then 1 else 0) := by
  rw [cmp_val erf erfc .lt (by decide)]
  simp only [NumOps.cmp, C15.R_lt, decide_eq_true_eq]

theorem le_spec (a b : ℝ) :
    nodeVal R Gen.visitorReal "LessThan" [a, b] = .ok (if a ≤ b then 1 else 0) := by
  rw [cmp_val erf erfc .le (by decide)]
  simp only [NumOps.cmp, C15.R_le, decide_eq_true_eq]

theorem eq_spec (a b : ℝ) :
    nodeVal R Gen.visitorReal "Equality" [a, b] = .ok (if a = b then 1 else 0) := by
  rw [cmp_val erf erfc .eq (by decide)]
  simp only [NumOps.cmp, C15.R_eq, decide_eq_true_eq]

theorem ne_spec (a b : ℝ) :
    nodeVal R Gen.visitorReal "Unequality" [a, b] = .ok (if a ≠ b then 1 else 0) := by
  rw [cmp_val erf erfc .ne (by decide)]
  simp only [NumOps.cmp, C15.R_eq, Bool.not_eq_true', decide_eq_false_iff_not]

/-- the `Constant` branch of `evalG` -/
def constVal {α : Type} (O : NumOps α) (defs : Defs) (name : String) : Except Err α :=
  match defs.find "Constant" with
  | some (.const tbl) =>
    match tbl.lookup name with
    | some f => evalF O [] f
    | none => .error .notImpl
  | _ => .error .notImpl

def constFormula (defs : Defs) (name : String) : Option Formula :=
  match defs.find "Constant" with
  | some (.const tbl) => tbl.lookup name
  | _ => none

theorem constVal_eq {α : Type} {O : NumOps α} {defs : Defs} {name : String} {f : Formula}
    (h : constFormula defs name = some f) : constVal O defs name = evalF O [] f := by
  unfold constFormula at h
  unfold constVal
  split at h
  · simp only [h]
  · cases h

theorem pi_formula : evalF R [] (.call2 .atan2 (.lit 0 1) (.lit (-1) 1)) = .ok Real.pi := by
  have h : Complex.arg ⟨-1, 0⟩ = Real.pi := by
    have : (⟨-1, 0⟩ : ℂ) = -1 := by apply Complex.ext <;> simp
    rw [this, Complex.arg_neg_one]
  simp only [evalF, optErr, bind, Except.bind, realOps_lit, Int.cast_zero, Int.cast_neg, Int.cast_one]
  exact congrArg _ h

theorem pi_spec : constVal R Gen.visitorReal "pi" = .ok Real.pi :=
  (constVal_eq (by decide +kernel)).trans (pi_formula erf erfc)

theorem e_formula : evalF R [] (.call1 .exp (.lit 1 1)) = .ok (Real.exp 1) := by
  simp only [evalF, optErr, bind, Except.bind, realOps_lit, Int.cast_one]
  rfl

theorem e_spec : constVal R Gen.visitorReal "E" = .ok (Real.exp 1) :=
  (constVal_eq (by decide +kernel)).trans (e_formula erf erfc)

theorem goldenRatio_spec :
    ∃ y, constVal R Gen.visitorReal "GoldenRatio" = .ok y ∧ |y - Real.goldenRatio| < 1 / 10 ^ 21 := by
  refine ⟨(3236067977499789696409 : ℝ) / 2000000000000000000000, ?_, ?_⟩
  · rw [constVal_eq (f := .lit 3236067977499789696409 2000000000000000000000) (by decide +kernel)]
    simp only [evalF, C15.R_ofQNear, Int.cast_ofNat, Nat.cast_ofNat]
  -- 2y - 1 = 2.236067977499789696409 and √5 are both strictly between the neighbouring 21-digit decimals
  · have hlo : (2236067977499789696408 : ℝ) / 10 ^ 21 < √5 := by
      rw [Real.lt_sqrt (by positivity)]; norm_num
    have hhi : √5 < (2236067977499789696410 : ℝ) / 10 ^ 21 := by
      rw [Real.sqrt_lt' (by positivity)]; norm_num
    rw [Real.goldenRatio, abs_lt]
    constructor <;> linarith

/-- The `base == E` special case is value preserving: it returns what the general branch returns
on the value of the constant E. -/
theorem powE_consistent (e : ℝ) :
    ∃ b y, constVal R Gen.visitorReal "E" = .ok b
      ∧ powVal R (Gen.visitorReal.find "Pow") true (.ok b) e = .ok y
      ∧ powVal R (Gen.visitorReal.find "Pow") false (.ok b) e = .ok y := by
  have hp : Gen.visitorReal.find "Pow" = some (.powE (.call1 .exp (.arg 0)) (.call2 .pow (.arg 0) (.arg 1))) := by
    decide +kernel
  rw [hp]
  refine ⟨Real.exp 1, Real.exp e, e_spec erf erfc, rfl, ?_⟩
  simp only [powVal, Bool.false_eq_true, if_false, evalF, List.getElem?_cons_zero, List.getElem?_cons_succ, optErr,
    bind, Except.bind]
  exact congrArg Except.ok (Real.exp_one_rpow e)

theorem foldVals_call2 {α : Type} (O : NumOps α) (f : Fn) (g : α → α → α)
    (hg : ∀ a b, O.call2 f a b = some (g a b)) (v0 : α) (vs : List α) :
    foldVals O (.call2 f (.arg 0) (.arg 1)) v0 vs = .ok (vs.foldl g v0) := by
  induction vs generalizing v0 with
  | nil => rfl
  | cons v rest ih =>
    simp only [foldVals, evalF, List.getElem?_cons_zero, List.getElem?_cons_succ, optErr, bind, Except.bind, hg,
      List.foldl_cons]
    exact ih _

theorem foldVals_max (v0 : ℝ) (vs : List ℝ) :
    foldVals R maxStep v0 vs = .ok (vs.foldl max v0) :=
  foldVals_call2 R .max max (fun a b => congrArg some (max_def_lt a b).symm) v0 vs

theorem foldVals_min (v0 : ℝ) (vs : List ℝ) :
    foldVals R minStep v0 vs = .ok (vs.foldl min v0) :=
  foldVals_call2 R .min min (fun a b => congrArg some ((min_def_lt b a).symm.trans (min_comm b a))) v0 vs

/-- with `evalG_app_foldFirst`, what ties `max_spec` and `foldVals_min` to the visitor's table -/
theorem max_def_is_fold : Gen.visitorReal.find "Max" = some (.foldFirst 1 maxStep)
    ∧ Gen.visitorReal.find "Min" = some (.foldFirst 1 minStep) := by
  decide +kernel

theorem foldl_max_spec (l : List ℝ) (a : ℝ) : l.foldl max a ∈ a :: l ∧ ∀ v ∈ a :: l, v ≤ l.foldl max a :=
  List.max?_eq_some_iff.mp (rfl : (a :: l).max? = some (l.foldl max a))

theorem max_spec (v0 : ℝ) (vs : List ℝ) :
    ∃ y, foldFirstVal R 1 maxStep (v0 :: vs) = .ok y ∧ y ∈ v0 :: vs ∧ ∀ v ∈ v0 :: vs, v ≤ y :=
  ⟨_, foldVals_max erf erfc v0 vs, foldl_max_spec vs v0⟩

end Specs

section Comp
variable {α : Type} (C : Ctx α)

theorem evalG_add (coef : Expr) (terms : List (Expr × Expr)) (init step : Formula)
    (h : C.defs.find "Add" = some (.foldArgs init step)) :
    evalG C (.add coef terms) = (do
      let i ← evalF C.O [] init
      let cv ← if isZero coef then pure [] else do
        let c ← evalG C coef
        pure [c]
      let tv ← evalTerms C terms
      foldVals C.O step i (cv ++ tv)) := by
  rw [evalG, h]

theorem evalG_add_dict (coef : Expr) (terms : List (Expr × Expr)) (step : Formula)
    (h : C.defs.find "Add" = some (.foldDict step)) :
    evalG C (.add coef terms) = (do
      let c ← evalG C coef
      let pv ← evalPairs C terms
      foldPairVals C.O step c pv) := by
  rw [evalG, h]

theorem evalG_mul (coef : Expr) (facs : List (Expr × Expr)) (init step : Formula)
    (h : C.defs.find "Mul" = some (.foldArgs init step)) :
    evalG C (.mul coef facs) = (do
      let cv ← if isOne coef then pure [] else do
        let c ← evalG C coef
        pure [c]
      let fv ← evalFacs C facs
      mulVal C.O (C.defs.find "Mul") (cv ++ fv)) := by
  rw [evalG, h]

theorem evalG_pow (b e : Expr) (d : NodeDef) (h : C.defs.find "Pow" = some d) :
    evalG C (.pow b e) = (do
      let ve ← evalG C e
      powVal C.O (some d) (isE b) (evalG C b) ve) := by
  rw [evalG, h]

theorem evalG_app_fn (head : String) (args : List Expr) (body : Formula)
    (h : C.defs.find head = some (.fn body)) :
    evalG C (.app head args) = (do
      let vs ← evalList C args
      evalF C.O vs body) := by
  rw [evalG, h]

theorem evalG_app_nodeVal (head : String) (args : List Expr) (body : Formula) (vs : List α)
    (h : C.defs.find head = some (.fn body)) (hv : evalList C args = .ok vs) :
    evalG C (.app head args) = nodeVal C.O C.defs head vs := by
  rw [evalG_app_fn C head args body h, hv]
  simp [nodeVal, h, bind, Except.bind]

theorem evalG_app_foldFirst (head : String) (args : List Expr) (start : Nat) (step : Formula) (vs : List α)
    (h : C.defs.find head = some (.foldFirst start step)) (hv : evalList C args = .ok vs) :
    evalG C (.app head args) = foldFirstVal C.O start step vs := by
  rw [evalG, h]
  simp only [hv, bind, Except.bind]
  rfl

theorem evalG_const (name : String) (tbl : List (String × Formula))
    (h : C.defs.find "Constant" = some (.const tbl)) :
    evalG C (.const name) = constVal C.O C.defs name := by
  rw [evalG, constVal, h]
  rfl

theorem evalPw_first (test : Formula) (e c : Expr) (rest : List Expr) (cv t : α)
    (hc : evalG C c = .ok cv) (ht : evalF C.O [cv] test = .ok t) (htrue : C.O.truthy t = true) :
    evalPw C test (e :: c :: rest) = evalG C e := by
  rw [evalPw, hc]
  simp [bind, Except.bind, ht, htrue]

theorem evalPw_skip (test : Formula) (e c : Expr) (rest : List Expr) (cv t : α)
    (hc : evalG C c = .ok cv) (ht : evalF C.O [cv] test = .ok t) (hfalse : C.O.truthy t = false) :
    evalPw C test (e :: c :: rest) = evalPw C test rest := by
  rw [evalPw, hc]
  simp [bind, Except.bind, ht, hfalse]

end Comp

example : ∃ y, nodeVal (realOps id id) Gen.visitorReal "ASec" [2] = .ok y ∧ Real.cos y = 1 / 2 ∧ 0 ≤ y ∧ y ≤ Real.pi :=
  asec_spec id id 2 (by norm_num)

example : ∃ y, nodeVal (realOps id id) Gen.visitorReal "ACoth" [-3] = .ok y ∧ Real.tanh y = 1 / (-3) :=
  acoth_spec id id (-3) (by norm_num)

example : ∃ d, Gen.visitorReal.find "ASech" = some d ∧ agreeDef (.fn (.call1 .acosh (.div (.lit 1 1) (.arg 0)))) d = true :=
  visitor_table_agree ("ASech", _) (by decide +kernel)

example : foldFirstVal (realOps id id) 0 maxStep [1, 3, 2] = foldFirstVal (realOps id id) 1 maxStep [1, 3, 2] :=
  table_agree_sound _ (realOps_idem id id) maxStep (Or.inl rfl) _

/-- The full property, not asserted: for every closed tree the evaluators accept, the IEEE double
result of `eval_double` (= `evalG` at `Float` with the visitor table, by correspondence) is within
ulp-scaled, condition-scaled distance of the real-number value of the tree, and the
single-dispatch evaluator returns the same double.  `approx` abstracts "within floating-point
rounding for well-conditioned inputs"; it is not definable without a formal model of IEEE-754 and libm. -/
def C12_full (approx : Float → ℝ → Prop) (erf erfc : ℝ → ℝ) (sp : SpecTable) : Prop :=
  ∀ e : Expr, ∀ v : Float, ∀ r : ℝ,
    evalG (α := Float) ⟨floatOps sp, Gen.visitorReal, fun _ => none⟩ e = .ok v →
    evalG (α := ℝ) ⟨realOps erf erfc, Gen.visitorReal, fun _ => none⟩ e = .ok r →
    approx v r ∧
    (∀ w, evalG (α := Float) ⟨floatOps sp, Gen.tableSD, fun _ => none⟩ e = .ok w → w.toBits = v.toBits)

end SymVerif.C12
