import SymVerif.Lemmas.C11Value
import SymVerif.Lemmas.C11Cache
import SymVerif.Lemmas.NFSound
import SymVerif.Lemmas.C10Bridge
/-!
# C11 — substitution preserves value and is cache-independent

Model: `Model/Subs.lean` (`subsE`: `XReplaceVisitor`/`SubsVisitor` on trees, unsimplified, with the Add whole-term /
coefficient lookups, the Mul whole-factor lookup and the `subs` exponent path; `subsC`: the same traversal with the
`visited` table; `judge`: the certificate check run by the driver on the library's result).

Value preservation is proved over ℝ for symbol keys with arbitrary images (`subs_value` in `Lemmas/C11Value.lean`; here
for `subs` and for the `xreplace/msubs/ssubs` variant, `pp = false`), on the trees on which `evalR` is compositional;
`C11_full` (with Derivative/Subs nodes) is stated, not proved.  `subs_cache` stands in `Lemmas/C11Cache.lean`.
`library_result_has_value` assumes `DumpFaithful ρ`; see the trap in `Lemmas/C10Bridge.lean`.
-/
namespace SymVerif
namespace C11
open SymVerif Expr Diff Subs C10

/-- **Value preservation** for `subs` (symbol keys, images arbitrary expressions). -/
theorem subs_value_partial (ρ : String → ℝ) (σ : Sigma) (hs : symKeyed σ = true) (e : Expr) :
    evalR ρ (subsE true σ e) = evalR (comp ρ σ) e := subs_value true ρ σ hs e

/-- the same for the traversal of `xreplace`, `msubs`, `ssubs` -/
theorem xreplace_value_partial (ρ : String → ℝ) (σ : Sigma) (hs : symKeyed σ = true) (e : Expr) :
    evalR ρ (subsE false σ e) = evalR (comp ρ σ) e := subs_value false ρ σ hs e

/-- non-vacuity: `(x² + sin x / y)[x ↦ y + 1, y ↦ 3]` -/
example (ρ : String → ℝ) :
    evalR ρ (subsE true [(.sym "x", .add (.int 1) [(.sym "y", .int 1)]), (.sym "y", .int 3)]
      (.add (.int 0) [(.pow (.sym "x") (.int 2), .int 1),
                      (.mul (.int 1) [(.app "Sin" [.sym "x"], .int 1), (.sym "y", .int (-1))], .int 1)]))
    = (1 + ρ "y") ^ (2 : ℤ) + Real.sin (1 + ρ "y") * (3 : ℝ) ^ (-1 : ℤ) := by
  rw [subs_value_partial ρ _ (by decide)]
  simp [evalR, evalTermsR, evalFacsR, fnR, comp, lookup, Memo.find, Expr.eqb]

/-- **Absent symbols**: if no key occurs in `e`, substitution returns `e` itself. -/
theorem subs_absent (pp : Bool) (σ : Sigma) (hs : symKeyed σ = true) (e : Expr)
    (h : ∀ n v, (Expr.sym n, v) ∈ σ → occurs n e = false) : subsE pp σ e = e :=
  subsE_inert pp σ hs e (Or.inl h)

/-- **Identity map**: if every key is mapped to itself, substitution returns `e` itself. -/
theorem subs_id (pp : Bool) (σ : Sigma) (hs : symKeyed σ = true) (e : Expr)
    (h : ∀ k v, (k, v) ∈ σ → v = k) : subsE pp σ e = e :=
  subsE_inert pp σ hs e (Or.inr h)

example : subsE true [(.sym "w", .int 5)] (.mul (.int 2) [(.sym "x", .rat 1 2), (.app "Sin" [.sym "y"], .int 1)])
    = .mul (.int 2) [(.sym "x", .rat 1 2), (.app "Sin" [.sym "y"], .int 1)] :=
  subs_absent true _ (by decide) _ (by
    intro n v h
    simp only [List.mem_cons, List.mem_nil_iff, or_false, Prod.mk.injEq, Expr.sym.injEq] at h
    obtain ⟨rfl, _⟩ := h
    decide)

example : KeysDistinct [(.sym "x", .sym "y"), (.add (.int 0) [(.sym "x", .int 1), (.sym "y", .int 1)], .sym "z")] := by
  simp [KeysDistinct, Expr.eqb]

-- the text of `C10.judgeNF_ok`: `Diff.judgeNF` and `Subs.judgeNF` are different functions (other `fail` conditions); what
-- the proofs share is that `ok` comes from the `equivF` branch only
theorem judgeNF_ok {p p' : Bool} {r d : Expr} (h : Subs.judgeNF p p' r d = .ok) : NF.equiv r d = true := by
  unfold Subs.judgeNF at h
  split at h
  · cases h
  split at h
  · cases h
  · cases h
  · rename_i h1 h2
    by_cases heq : NF.equivF (NF.normT r) (NF.normT d) = true
    · exact NF.equiv_of_equivF h1 h2 heq
    · rw [if_neg heq] at h
      split at h
      · cases h
      · split at h <;> cases h

/-- what `ok` from the driver means (`pp`: the entry point is `subs`; `cache`: the table was used; the keys of a
`map_basic_basic` are pairwise different) -/
theorem judge_ok {pp cache : Bool} {σ : Sigma} {e r : Expr} (hd : KeysDistinct σ)
    (h : Subs.judge pp cache σ e r = .ok) : NF.equiv r (subsE pp σ e) = true := by
  unfold Subs.judge at h
  split at h
  · cases h
  · by_cases hc : hasCplxKey σ = true
    · rw [if_pos hc] at h; cases h
    · rw [if_neg hc] at h
      have hd' : (if cache = true then subsCached pp σ e else subsE pp σ e) = subsE pp σ e := by
        simp [subs_cache pp σ hd]
      rw [hd'] at h
      exact judgeNF_ok h

/-- **Certificate soundness.**  If the driver prints `ok` for the library's result `r`, then in every field of
characteristic 0 with a square root `I` of -1 and under every assignment `ρ` of the atoms, `r` and the model's
`subsE σ e` have the same value wherever both are defined. -/
theorem certificate_sound {K : Type*} [Field K] [CharZero K] {I : K} (hI : I * I = -1) (ρ : String → K)
    {pp cache : Bool} {σ : Sigma} {e r : Expr} (hd : KeysDistinct σ) (h : Subs.judge pp cache σ e r = .ok)
    {vr vd : K} (hr : NF.evalK I ρ r = some vr) (hdv : NF.evalK I ρ (subsE pp σ e) = some vd) : vr = vd :=
  NF.equiv_sound hI (judge_ok hd h) hr hdv

/-- non-vacuity: for `(x + 1)**2` with `x ↦ y - 1` the library's `y**2` is accepted -/
theorem ex_judge_ok : Subs.judge true false [(.sym "x", .add (.int (-1)) [(.sym "y", .int 1)])]
    (.pow (.add (.int 1) [(.sym "x", .int 1)]) (.int 2)) (.pow (.sym "y") (.int 2)) = .ok := by
  decide +kernel

/-- **The library's result has the substituted value.**  If the driver printed `ok` for the library's result `r`
of `subs(e, σ)` with symbol keys, then over ℝ `r` at `ρ` evaluates to `e` at `ρ ∘ σ` (`RealDef`: see `Lemmas/C10Bridge.lean`;
`DumpFaithful ρ`: no `ρ` satisfies it, see the Trap there). -/
theorem library_result_has_value {ρ : String → ℝ} (hf : DumpFaithful ρ) {pp cache : Bool} {σ : Sigma} {e r : Expr}
    (hs : symKeyed σ = true) (hd : KeysDistinct σ) (h : Subs.judge pp cache σ e r = .ok)
    (hr : RealDef ρ r) (hm : RealDef ρ (subsE pp σ e)) :
    evalR ρ r = evalR (comp ρ σ) e := by
  rw [equiv_real hf (judge_ok hd h) hr hm]
  exact subs_value pp ρ σ hs e

/-- The full property: value preservation for *all* expressions, i.e. including unevaluated `Derivative` / `Subs`
nodes, under an interpretation `sem` of trees that treats them as derivatives / evaluations (free-variable
semantics).  **Not proved**; `subs_value_partial` covers the trees on which `evalR` is compositional.  For the code
as it is the statement is *false*: `subs(Derivative(f(x, z), x), {x: y, z: y})` returns the total derivative of
`f(y, y)` (docs/C11.md); the harness oracle reports it. -/
def C11_full (sem : (String → ℝ) → Expr → ℝ) (subsLib : Sigma → Expr → Expr) : Prop :=
  ∀ (ρ : String → ℝ) (σ : Sigma) (e : Expr), symKeyed σ = true → KeysDistinct σ →
    sem ρ (subsLib σ e) = sem (fun s => match lookup σ (.sym s) with | some v => sem ρ v | none => ρ s) e

end C11
end SymVerif
