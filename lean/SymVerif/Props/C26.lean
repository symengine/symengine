import SymVerif.Model.MatExprWF
import SymVerif.Lemmas.C26PredNode
import SymVerif.Lemmas.C26Size
import SymVerif.Lemmas.C26Unary
import SymVerif.Lemmas.C26Add
import SymVerif.Lemmas.C26Had
import SymVerif.Lemmas.C26Mul2
import SymVerif.Lemmas.C26Trace
import SymVerif.Lemmas.C26Leaf
/-!
# C26  Matrix expressions preserve value; their predicates are sound

Model: `SymVerif.Model.MatExpr` (the functions the driver `Drv/C26.lean` runs).
Semantics: `valOf env e : Val` (rows, columns, entries) under an environment `env` interpreting
matrix symbols (any matrix) and dimension symbols (any natural number); `okOf env e` says that all
shapes inside `e` fit, i.e. that the value is defined.  `≃` is equality of matrices (same shape, same
entries inside the shape).

Every theorem quantifies over all inputs and all environments; the value theorems are about results `.ok r` of the
model (`E:Domain` / `E:Assert` outcomes are compared with the library by the correspondence run; `trace_domain_sound`
is the one statement about an error).
`diagonal_matrix_value`, `immutable_dense_matrix_value`, `matrix_add_value`, `matrix_mul_value`,
`hadamard_value` and `trace_domain_sound` stand where they are proved, in `Lemmas/C26{Leaf,Add,Mul2,Had,Trace}`.
-/
namespace SymVerif.C26
open SymVerif.MatExpr SymVerif.MatExpr.MExpr

example : diagonalMatrix [⟨1, 0⟩, ⟨1, 0⟩, ⟨1, 0⟩] = .ok (ident (.nat 3)) := by with_unfolding_all rfl

example : immutableDenseMatrix 2 2 [⟨2, 0⟩, ⟨0, 0⟩, ⟨0, 0⟩, ⟨3, 0⟩] = .ok (diag [⟨2, 0⟩, ⟨3, 0⟩]) := by
  with_unfolding_all rfl

example (env : Env) :
    valOf env (dense 2 2 [⟨2, 0⟩, ⟨2, 0⟩, ⟨3, 0⟩, ⟨6, 0⟩])
      ≃ valOf env (add [diag [⟨1, 0⟩, ⟨2, 0⟩], zero (.nat 2) (.nat 2),
          dense 2 2 [⟨1, 0⟩, ⟨2, 0⟩, ⟨3, 0⟩, ⟨4, 0⟩]]) :=
  (matrix_add_value env _ _ (by with_unfolding_all rfl)
    ⟨by simp, by simp [okAll, okOf],
      sameDims_of_allDims (R := 2) (C := 2) (by simp [AllDims, valsOf, valOf, Dim.eval])⟩).2

example (env : Env) :=
  (matrix_mul_value env
    [.scalar ⟨2, 0⟩, .mat (ident (.nat 2)), .mat (diag [⟨2, 0⟩, ⟨-3, 0⟩]),
      .mat (dense 2 2 [⟨1, 0⟩, ⟨2, 0⟩, ⟨3, 0⟩, ⟨4, 0⟩])]
    (mul ⟨2, 0⟩ [dense 2 2 [⟨2, 0⟩, ⟨4, 0⟩, ⟨-9, 0⟩, ⟨-12, 0⟩]]) (by with_unfolding_all rfl)
    ⟨by simp [matsOf], by simp [matsOf, okAll, okOf],
      by simp [matsOf, valsOf, valOf, ChainOk, Dim.eval]⟩).2

example : matrixMul [.scalar ⟨2, 0⟩, .mat (sym "X"), .mat (ident (.nat 2)),
      .mat (diag [⟨2, 0⟩, ⟨-3, 0⟩]), .mat (dense 2 2 [⟨1, 0⟩, ⟨2, 0⟩, ⟨3, 0⟩, ⟨4, 0⟩])]
    = .ok (mul ⟨2, 0⟩ [sym "X", dense 2 2 [⟨2, 0⟩, ⟨4, 0⟩, ⟨-9, 0⟩, ⟨-12, 0⟩]]) := by with_unfolding_all rfl

/-- zero absorption gives the shape of the product, not of the zero factor -/
example : matrixMul [.mat (dense 2 3 [⟨1, 0⟩, ⟨2, 0⟩, ⟨3, 0⟩, ⟨4, 0⟩, ⟨5, 0⟩, ⟨6, 0⟩]),
      .mat (zero (.nat 3) (.nat 4))] = .ok (zero (.nat 2) (.nat 4)) := by with_unfolding_all rfl

/-- the scalar survives a product of identities -/
example : matrixMul [.scalar ⟨2, 0⟩, .mat (ident (.nat 3))] = .ok (mul ⟨2, 0⟩ [ident (.nat 3)]) := by
  with_unfolding_all rfl

example : hadamardProduct [dense 2 2 [⟨1, 0⟩, ⟨2, 0⟩, ⟨3, 0⟩, ⟨4, 0⟩], ident (.nat 2),
      diag [⟨2, 0⟩, ⟨3, 0⟩]] = .ok (had [ident (.nat 2), diag [⟨2, 0⟩, ⟨12, 0⟩]]) := by with_unfolding_all rfl

theorem transpose_value (env : Env) (e r : MExpr) (h : transposeM e = .ok r) (hok : okOf env e) :
    okOf env r ∧ valOf env r ≃ (valOf env e).transpose :=
  transpose_value_aux env e r h hok

example : transposeM (add [sym "X", transpose (sym "Y"),
      dense 2 3 [⟨1, 0⟩, ⟨2, 0⟩, ⟨3, 0⟩, ⟨4, 0⟩, ⟨5, 0⟩, ⟨6, 0⟩]])
    = .ok (add [transpose (sym "X"), sym "Y",
      dense 3 2 [⟨1, 0⟩, ⟨4, 0⟩, ⟨2, 0⟩, ⟨5, 0⟩, ⟨3, 0⟩, ⟨6, 0⟩]]) := by with_unfolding_all rfl

theorem conj_value (env : Env) (e r : MExpr) (h : conjugateM e = .ok r) (hok : okOf env e) :
    okOf env r ∧ valOf env r ≃ (valOf env e).conj :=
  conj_value_aux env e r h hok

example : conjugateM (transpose (conj (sym "X"))) = .ok (transpose (sym "X")) := by with_unfolding_all rfl
example : conjugateM (diag [⟨1, 1⟩, ⟨2, 0⟩]) = .ok (diag [⟨1, -1⟩, ⟨2, 0⟩]) := by with_unfolding_all rfl

/-- `trace` on a defined square value: a numeric result is the trace, a symbolic dimension is the
    trace under every interpretation, an unevaluated `Trace(e)` is left on an expression with the
    same value (results printed `other`, i.e. sums of such atoms, carry no statement: partial). -/
theorem trace_value_partial (env : Env) (e : MExpr) (t : TraceRes) (h : traceM e = .ok t)
    (hok : okOf env e) (hsq : (valOf env e).IsSquare) (q : GQ) (hq : t.eval env = some q) :
    q = trV (valOf env e) :=
  trace_value_aux env e t h hok hsq q hq

example : traceM (add [diag [⟨1, 0⟩, ⟨2, 0⟩], ident (.nat 2)]) = .ok (.num ⟨5, 0⟩) := by with_unfolding_all rfl

theorem size_sound (env : Env) (e : MExpr) (hok : okOf env e) :
    (∀ a, (size e).1 = some a → a.eval env = (valOf env e).r) ∧
    (∀ b, (size e).2 = some b → b.eval env = (valOf env e).c) :=
  size_sound_aux env e hok

example : size (mul 1 [sym "X", dense 3 2 [⟨1, 0⟩, ⟨2, 0⟩, ⟨3, 0⟩, ⟨4, 0⟩, ⟨5, 0⟩, ⟨6, 0⟩]])
    = (none, some (.nat 2)) := by with_unfolding_all rfl

mutual
  /-- every IdentityMatrix inside the expression has a positive size under `env`; `noIdent0` (Model/MatExprWF, the
      driver's test) covers concrete sizes only and does not imply it -/
  def IdentPos (env : Env) : MExpr → Prop
    | ident n => 0 < n.eval env
    | add ts => IdentPosAll env ts
    | had fs => IdentPosAll env fs
    | mul _ fs => IdentPosAll env fs
    | transpose e => IdentPos env e
    | conj e => IdentPos env e
    | zero _ _ => True
    | diag _ => True
    | dense _ _ _ => True
    | sym _ => True
  def IdentPosAll (env : Env) : List MExpr → Prop
    | [] => True
    | e :: t => IdentPos env e ∧ IdentPosAll env t
end

mutual
  theorem predWF_of (env : Env) : ∀ e, okOf env e → addCanonAll e = true → IdentPos env e →
      PredWF env e
    | ident _, _, _, hp => hp
    | zero _ _, _, _, _ => trivial
    | diag _, _, _, _ => trivial
    | dense _ _ _, hok, _, _ => hok
    | sym _, _, _, _ => trivial
    | mul _ _, _, _, _ => trivial
    | transpose _, _, _, _ => trivial
    | conj _, _, _, _ => trivial
    | add ts, hok, hc, hp => by
      simp only [addCanonAll, Bool.and_eq_true] at hc
      exact ⟨hok.1, predWFAll_of env ts hok.2.1 hc.2 hp, hok.2.2, hc.1⟩
    | had fs, hok, hc, hp => by
      simp only [addCanonAll] at hc
      exact ⟨hok.1, predWFAll_of env fs hok.2.1 hc hp, hok.2.2⟩
  theorem predWFAll_of (env : Env) : ∀ l, okAll env l → addCanonAllList l = true →
      IdentPosAll env l → PredWFAll env l
    | [], _, _, _ => trivial
    | e :: t, hok, hc, hp => by
      simp only [addCanonAllList, Bool.and_eq_true] at hc
      exact ⟨predWF_of env e hok.1 hc.1 hp.1, predWFAll_of env t hok.2 hc.2 hp.2⟩
end

/-- Soundness of the eight predicate visitors: on an expression whose value is defined, whose
    MatrixAdd nodes are canonical and whose identity matrices are not 0×0, a definite answer `true`
    means that the concrete matrix has the property and a definite answer `false` that it does not
    (the answer `indeterminate` is unconstrained) — for every environment. -/
theorem pred_sound (env : Env) (p : Pred) (e : MExpr) (hok : okOf env e)
    (hc : addCanonAll e = true) (hpos : IdentPos env e) :
    (evalPred p e = .t → (valOf env e).Holds p) ∧ (evalPred p e = .f → ¬ (valOf env e).Holds p) :=
  pred_sound_aux env p e (predWF_of env e hok hc hpos)

theorem is_zero_sound (env : Env) (e : MExpr) (hok : okOf env e) (hc : addCanonAll e = true)
    (hpos : IdentPos env e) :
    (evalPred .zero e = .t → (valOf env e).IsZero) ∧ (evalPred .zero e = .f → ¬ (valOf env e).IsZero) :=
  pred_sound env .zero e hok hc hpos
theorem is_diagonal_sound (env : Env) (e : MExpr) (hok : okOf env e) (hc : addCanonAll e = true)
    (hpos : IdentPos env e) :
    (evalPred .diagonal e = .t → (valOf env e).IsDiagonal) ∧
      (evalPred .diagonal e = .f → ¬ (valOf env e).IsDiagonal) :=
  pred_sound env .diagonal e hok hc hpos
theorem is_symmetric_sound (env : Env) (e : MExpr) (hok : okOf env e) (hc : addCanonAll e = true)
    (hpos : IdentPos env e) :
    (evalPred .symmetric e = .t → (valOf env e).IsSymmetric) ∧
      (evalPred .symmetric e = .f → ¬ (valOf env e).IsSymmetric) :=
  pred_sound env .symmetric e hok hc hpos
theorem is_lower_sound (env : Env) (e : MExpr) (hok : okOf env e) (hc : addCanonAll e = true)
    (hpos : IdentPos env e) :
    (evalPred .lower e = .t → (valOf env e).IsLower) ∧ (evalPred .lower e = .f → ¬ (valOf env e).IsLower) :=
  pred_sound env .lower e hok hc hpos
theorem is_upper_sound (env : Env) (e : MExpr) (hok : okOf env e) (hc : addCanonAll e = true)
    (hpos : IdentPos env e) :
    (evalPred .upper e = .t → (valOf env e).IsUpper) ∧ (evalPred .upper e = .f → ¬ (valOf env e).IsUpper) :=
  pred_sound env .upper e hok hc hpos
theorem is_real_sound (env : Env) (e : MExpr) (hok : okOf env e) (hc : addCanonAll e = true)
    (hpos : IdentPos env e) :
    (evalPred .real e = .t → (valOf env e).IsReal) ∧ (evalPred .real e = .f → ¬ (valOf env e).IsReal) :=
  pred_sound env .real e hok hc hpos
theorem is_square_sound (env : Env) (e : MExpr) (hok : okOf env e) (hc : addCanonAll e = true)
    (hpos : IdentPos env e) :
    (evalPred .square e = .t → (valOf env e).IsSquare) ∧
      (evalPred .square e = .f → ¬ (valOf env e).IsSquare) :=
  pred_sound env .square e hok hc hpos
theorem is_toeplitz_sound (env : Env) (e : MExpr) (hok : okOf env e) (hc : addCanonAll e = true)
    (hpos : IdentPos env e) :
    (evalPred .toeplitz e = .t → (valOf env e).IsToeplitz) ∧
      (evalPred .toeplitz e = .f → ¬ (valOf env e).IsToeplitz) :=
  pred_sound env .toeplitz e hok hc hpos

-- non-vacuity of the predicates: is_diagonal `true` and is_symmetric (patched) `indeterminate` on identity ∘ dense;
-- is_symmetric `indeterminate` / `false` on sums; is_toeplitz `true` / `false`
example : evalPred .diagonal (had [ident (.nat 2), dense 2 2 [⟨1, 0⟩, ⟨2, 0⟩, ⟨3, 0⟩, ⟨4, 0⟩]]) = .t := by with_unfolding_all rfl
example : evalPred .symmetric (had [ident (.nat 2), dense 2 2 [⟨1, 0⟩, ⟨2, 0⟩, ⟨3, 0⟩, ⟨4, 0⟩]]) = .u := by with_unfolding_all rfl
example : evalPred .symmetric (add [sym "X", dense 2 2 [⟨1, 0⟩, ⟨2, 0⟩, ⟨3, 0⟩, ⟨4, 0⟩]]) = .u := by with_unfolding_all rfl
example : evalPred .symmetric (add [ident (.nat 2), dense 2 2 [⟨1, 0⟩, ⟨2, 0⟩, ⟨3, 0⟩, ⟨4, 0⟩]]) = .f := by with_unfolding_all rfl
example : evalPred .toeplitz (dense 1 3 [⟨1, 0⟩, ⟨2, 0⟩, ⟨3, 0⟩]) = .t := by with_unfolding_all rfl
example : evalPred .toeplitz (dense 2 3 [⟨1, 0⟩, ⟨2, 0⟩, ⟨3, 0⟩, ⟨4, 0⟩, ⟨1, 0⟩, ⟨5, 0⟩]) = .f := by with_unfolding_all rfl

example (env : Env) :
    ¬ (valOf env (add [ident (.nat 2), dense 2 2 [⟨1, 0⟩, ⟨2, 0⟩, ⟨3, 0⟩, ⟨4, 0⟩]])).IsSymmetric :=
  (is_symmetric_sound env (add [ident (.nat 2), dense 2 2 [⟨1, 0⟩, ⟨2, 0⟩, ⟨3, 0⟩, ⟨4, 0⟩]])
    ⟨by simp, by simp [okAll, okOf],
      sameDims_of_allDims (R := 2) (C := 2) (by simp [AllDims, valsOf, valOf, Dim.eval])⟩
    (by with_unfolding_all rfl) (by simp [IdentPos, IdentPosAll, Dim.eval])).2 (by with_unfolding_all rfl)

end SymVerif.C26
