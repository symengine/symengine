/-
C36 — Algebraic rewriting transformations preserve value (symengine: numer_denom.cpp,
rewrite.cpp, functions.cpp trig_to_sqrt / conjugate, as_real_imag.cpp).

Certificate checking (Model/Rewrite.lean): the harness runs the real transformation; the Lean
driver accepts the result only if
  as_numer_denom        `n / d` is `treeEquiv` to `e` and neither `n` nor `d` has a negative exponent
                        on the top level;
  rewrite_as_exp/sin/cos, trig_to_sqrt, conjugate
                        the result is `treeEquiv` to the result of the *model* of the transformation
                        (the rules of the C++ visitors applied to raw trees);
  as_real_imag          `re`, `im` pass a conservative syntactic realness test and `re + I*im` is
                        `treeEquiv` to `e`.
The theorems say what acceptance means for every lawful interpretation (`CSE.Lawful`), and that the
rule models preserve the value under the exponential / trigonometric laws, which are proved for
ℂ with Mathlib's `Complex.sin`, `Complex.exp`, … (`MCx`, `MCx_expLaws`, `MCx_trigLaws`).
-/
import SymVerif.Lemmas.Basic
import SymVerif.Lemmas.C37Complex
import SymVerif.Lemmas.C36Rules
import SymVerif.Lemmas.C37Tree

namespace SymVerif
namespace C36

open NF CSE Rewrite

section
variable {K : Type} [Field K] [CharZero K] {M : Interp K}

/-- **as_numer_denom certificate.**  If the checker accepts `(n, d)` for `e`, then for every lawful
interpretation at which `e`, `n`, `d` are defined and `d ≠ 0`: `n / d = e`; and neither `n` nor `d`
has a negative exponent on the top level (`NoNegTopExp`). -/
theorem numer_denom_certificate_sound (hM : Lawful M) (e n d : Expr)
    (hc : checkNumerDenom e n d = true) :
    (∀ v a b, evalS M e = some v → evalS M n = some a → evalS M d = some b → b ≠ 0 → a / b = v) ∧
    NoNegTopExp n = true ∧ NoNegTopExp d = true := by
  simp only [checkNumerDenom, Bool.and_eq_true] at hc
  obtain ⟨⟨ht, hn⟩, hd⟩ := hc
  refine ⟨?_, hn, hd⟩
  intro v a b hv ha hb hne
  exact treeEquiv_sound hM ht (a / b) v (evalS_mkDiv_some ha hb hne) hv

theorem judgeNumerDenom_ok {e n d : Expr} (h : judgeNumerDenom e n d = "ok") :
    checkNumerDenom e n d = true := by
  unfold judgeNumerDenom at h
  have h := else_of_ite_eq (by decide) (else_of_ite_eq (by decide) h)
  by_contra hc
  rw [if_neg hc] at h
  exact absurd h (by split <;> decide)

/-- the model of `rewrite_as_exp` preserves the value wherever input and output are defined -/
theorem rewrite_as_exp_value (hM : Lawful M) (hL : ExpLaws M) (e : Expr) (v w : K)
    (hv : evalS M e = some v) (hw : evalS M (asExp e) = some w) : w = v :=
  rewriteWith_value hM (expRule_sound hM hL) e v w hv hw

theorem rewrite_as_sin_value (hM : Lawful M) (hL : TrigLaws M) (e : Expr) (v w : K)
    (hv : evalS M e = some v) (hw : evalS M (asSin e) = some w) : w = v :=
  rewriteWith_value hM (sinRule_sound hL) e v w hv hw

theorem rewrite_as_cos_value (hM : Lawful M) (hL : TrigLaws M) (e : Expr) (v w : K)
    (hv : evalS M e = some v) (hw : evalS M (asCos e) = some w) : w = v :=
  rewriteWith_value hM (cosRule_sound hL) e v w hv hw

/-- **model certificate** (used as it is for `trig_to_sqrt` and `conjugate`): an accepted result has the
value of the model's result wherever both are defined -/
theorem model_certificate_sound (hM : Lawful M) (model : Expr → Expr) (e r : Expr)
    (hc : checkRewrite model e r = true) :
    ∀ u w, evalS M (model e) = some u → evalS M r = some w → w = u := by
  intro u w hu hw
  -- `.symm`: `Sound` concludes first = second, the value statements here second = first
  exact (treeEquiv_sound hM hc u w hu hw).symm

/-- **rewrite certificate.**  If the checker accepts the library's result `r` for the model
`model`, then `r` has the value of the model's result; with the value theorem of the model the
value of the input. -/
theorem rewrite_certificate_sound (hM : Lawful M) (model : Expr → Expr) (e r : Expr)
    (hc : checkRewrite model e r = true)
    (hmodel : ∀ v u, evalS M e = some v → evalS M (model e) = some u → u = v) :
    ∀ v u w, evalS M e = some v → evalS M (model e) = some u → evalS M r = some w → w = v :=
  fun v u w hv hu hw => (model_certificate_sound hM model e r hc u w hu hw).trans (hmodel v u hv hu)

theorem rewrite_as_exp_certificate_sound (hM : Lawful M) (hL : ExpLaws M) (e r : Expr)
    (hc : checkRewrite asExp e r = true) :
    ∀ v u w, evalS M e = some v → evalS M (asExp e) = some u → evalS M r = some w → w = v :=
  rewrite_certificate_sound hM asExp e r hc (fun v u hv hu => rewrite_as_exp_value hM hL e v u hv hu)

theorem rewrite_as_sin_certificate_sound (hM : Lawful M) (hL : TrigLaws M) (e r : Expr)
    (hc : checkRewrite asSin e r = true) :
    ∀ v u w, evalS M e = some v → evalS M (asSin e) = some u → evalS M r = some w → w = v :=
  rewrite_certificate_sound hM asSin e r hc (fun v u hv hu => rewrite_as_sin_value hM hL e v u hv hu)

theorem rewrite_as_cos_certificate_sound (hM : Lawful M) (hL : TrigLaws M) (e r : Expr)
    (hc : checkRewrite asCos e r = true) :
    ∀ v u w, evalS M e = some v → evalS M (asCos e) = some u → evalS M r = some w → w = v :=
  rewrite_certificate_sound hM asCos e r hc (fun v u hv hu => rewrite_as_cos_value hM hL e v u hv hu)

theorem judgeRewrite_ok {model : Expr → Expr} {e r : Expr} (h : judgeRewrite model e r = "ok") :
    checkRewrite model e r = true := by
  unfold judgeRewrite at h
  by_contra hc
  rw [if_neg hc] at h
  exact absurd h (by decide)

/-- the 24 identities `trig(inverse(x)) = algebraic expression` of `trig_to_sqrt`, as a property of
the interpretation.  **Not proved** for ℂ here (Mathlib has no complex inverse trigonometric
functions); the numeric oracle tests them at generic complex points. -/
def TrigSqrtLaws (M : Interp K) : Prop :=
  ∀ outer inner x r vx w, trigSqrtRule outer inner x = some r → evalS M x = some vx →
    evalS M r = some w → w = M.app outer [M.app inner [vx]]

/-- the model of `trig_to_sqrt` preserves the value under `TrigSqrtLaws` (partial: the laws are an
hypothesis) -/
theorem trig_to_sqrt_value_partial (hL : TrigSqrtLaws M) (e : Expr) (v w : K)
    (hv : evalS M e = some v) (hw : evalS M (trigToSqrt e) = some w) : w = v := by
  unfold trigToSqrt at hw
  split at hw
  · rename_i outer inner x
    split at hw
    · rename_i r hr
      obtain ⟨vi, hi, rfl⟩ := evalS_app1_some hv
      obtain ⟨vx, hx, rfl⟩ := evalS_app1_some hi
      exact hL outer inner x r vx w hr hx hw
    · exact some_unique hv hw
  · exact some_unique hv hw

/-- `conjugate`: the value statement for the model `conjE` with respect to an involution `star` of
the field.  **Not proved** (needs `star` to be a ring homomorphism fixing the real constants and
commuting with the listed function classes, which is true for ℂ away from branch cuts); tested by
the numeric oracle. -/
def conjugate_value_full (star : K → K) (M : Interp K) : Prop :=
  ∀ e v w, evalS M e = some v → evalS M (conjE e) = some w → w = star v

/-- **as_real_imag certificate (value part).**  An accepted `(re, im)` satisfies `re + I*im = e`. -/
theorem real_imag_certificate_value (hM : Lawful M) (e re im : Expr)
    (hc : checkRealImag e re im = true) :
    (∀ v a b, evalS M e = some v → evalS M re = some a → evalS M im = some b → a + M.I * b = v) ∧
    realTree re = true ∧ realTree im = true := by
  simp only [checkRealImag, Bool.and_eq_true] at hc
  obtain ⟨⟨hr, hi⟩, ht⟩ := hc
  refine ⟨?_, hr, hi⟩
  intro v a b hv ha hb
  have h1 : evalS M (recombine re im) = some (a + M.I * b) := by
    rw [recombine, ← mkAdd2, evalS_mkAdd2, evalS_mkMulC, evalS_iE, ha, hb]; rfl
  exact treeEquiv_sound hM ht _ v h1 hv

end

/-- `as_real_imag`, realness: a tree accepted by the syntactic test `realTree` evaluates to a real
number.  **Not proved**; the numeric oracle checks that `re` and `im` evaluate to reals. -/
def real_imag_real_full (M : Interp ℂ) : Prop :=
  ∀ e v, realTree e = true → evalS M e = some v → v.im = 0

/-- ℂ: principal power, `E ↦ exp 1`, `pi ↦ π`, the twelve trigonometric / hyperbolic classes -/
noncomputable def MCx (σ : String → ℂ) : Interp ℂ where
  I := Complex.I
  sym := σ
  dummy := fun _ _ => 0
  const := fun n => if n = "E" then Complex.exp 1 else if n = "pi" then (Real.pi : ℂ) else 0
  fsym := fun _ _ => 0
  app := fun h args =>
    match args with
    | [v] =>
      if h = "Sin" then Complex.sin v else if h = "Cos" then Complex.cos v
      else if h = "Tan" then Complex.tan v else if h = "Cot" then Complex.cos v / Complex.sin v
      else if h = "Csc" then 1 / Complex.sin v else if h = "Sec" then 1 / Complex.cos v
      else if h = "Sinh" then Complex.sinh v else if h = "Cosh" then Complex.cosh v
      else if h = "Tanh" then Complex.tanh v else if h = "Coth" then Complex.cosh v / Complex.sinh v
      else if h = "Csch" then 1 / Complex.sinh v else if h = "Sech" then 1 / Complex.cosh v
      else if h = "UnevaluatedExpr" then v
      else 0
    | _ => 0
  pw := fun b e => b ^ e

section
variable (σ : String → ℂ) (v : ℂ)

theorem MCx_sin : (MCx σ).app "Sin" [v] = Complex.sin v := by
  simp only [MCx, ↓reduceIte]

theorem MCx_cos : (MCx σ).app "Cos" [v] = Complex.cos v := by
  simp only [MCx, String.reduceEq, ↓reduceIte]

theorem MCx_tan : (MCx σ).app "Tan" [v] = Complex.tan v := by
  simp only [MCx, String.reduceEq, ↓reduceIte]

theorem MCx_cot : (MCx σ).app "Cot" [v] = Complex.cos v / Complex.sin v := by
  simp only [MCx, String.reduceEq, ↓reduceIte]

theorem MCx_csc : (MCx σ).app "Csc" [v] = 1 / Complex.sin v := by
  simp only [MCx, String.reduceEq, ↓reduceIte]

theorem MCx_sec : (MCx σ).app "Sec" [v] = 1 / Complex.cos v := by
  simp only [MCx, String.reduceEq, ↓reduceIte]

theorem MCx_sinh : (MCx σ).app "Sinh" [v] = Complex.sinh v := by
  simp only [MCx, String.reduceEq, ↓reduceIte]

theorem MCx_cosh : (MCx σ).app "Cosh" [v] = Complex.cosh v := by
  simp only [MCx, String.reduceEq, ↓reduceIte]

theorem MCx_tanh : (MCx σ).app "Tanh" [v] = Complex.tanh v := by
  simp only [MCx, String.reduceEq, ↓reduceIte]

theorem MCx_coth : (MCx σ).app "Coth" [v] = Complex.cosh v / Complex.sinh v := by
  simp only [MCx, String.reduceEq, ↓reduceIte]

theorem MCx_csch : (MCx σ).app "Csch" [v] = 1 / Complex.sinh v := by
  simp only [MCx, String.reduceEq, ↓reduceIte]

theorem MCx_sech : (MCx σ).app "Sech" [v] = 1 / Complex.cosh v := by
  simp only [MCx, String.reduceEq, ↓reduceIte]

theorem MCx_uneval : (MCx σ).app "UnevaluatedExpr" [v] = v := by
  simp only [MCx, String.reduceEq, ↓reduceIte]

end

theorem exp1_cpow (z : ℂ) : (Complex.exp 1) ^ z = Complex.exp z := by
  rw [Complex.cpow_def_of_ne_zero (Complex.exp_ne_zero 1)]
  rw [Complex.log_exp (by simp [Real.pi_pos]) (by simp [Real.pi_pos.le])]
  simp

theorem expV_MCx (σ : String → ℂ) (z : ℂ) : expV (MCx σ) z = Complex.exp z := by
  simp only [expV, MCx, ↓reduceIte]
  exact exp1_cpow z

theorem sin_exp (v : ℂ) :
    Complex.sin v = (Complex.exp (Complex.I * v) - Complex.exp (-(Complex.I * v))) / (2 * Complex.I) := by
  -- Mathlib has `(exp (-v I) - exp (v I)) * I / 2`: `1 / I = -I` swaps the two exponentials, `ring_nf` commutes `v * I`
  rw [Complex.sin]
  have hI : (Complex.I : ℂ) ≠ 0 := Complex.I_ne_zero
  field_simp
  ring_nf
  simp [Complex.I_sq]

theorem cos_exp (v : ℂ) :
    Complex.cos v = (Complex.exp (Complex.I * v) + Complex.exp (-(Complex.I * v))) / 2 := by
  rw [Complex.cos]
  ring_nf

theorem MCx_lawful (σ : String → ℂ) : Lawful (MCx σ) where
  I_sq := Complex.I_mul_I
  __ := lawful_of_cpow (M := MCx σ) rfl rfl
    (by
      intro h hh v
      simp only [oddHeads, List.mem_cons, List.not_mem_nil, or_false] at hh
      -- Sin, Tan, Sinh, Tanh by `_neg`; Cot, Csc, Coth, Csch by `div_neg` and the parity of the two parts; ASinh, ATanh,
      -- Erf, Sign (and Abs below) are `0 = -0`, since `MCx` sends these heads to 0
      rcases hh with rfl | rfl | rfl | rfl | rfl | rfl | rfl | rfl | rfl | rfl | rfl | rfl <;>
        simp only [MCx, String.reduceEq, ↓reduceIte, Complex.sin_neg, Complex.cos_neg, Complex.tan_neg,
          Complex.sinh_neg, Complex.cosh_neg, Complex.tanh_neg, div_neg, neg_zero])
    (by
      intro h hh v
      simp only [evenHeads, List.mem_cons, List.not_mem_nil, or_false] at hh
      rcases hh with rfl | rfl | rfl | rfl | rfl <;>
        simp only [MCx, String.reduceEq, ↓reduceIte, Complex.cos_neg, Complex.cosh_neg])

/-- the exponential forms of tan and cot from those of sin and cos -/
theorem div_forms {A B c : ℂ} :
    (A / (2 * c)) / (B / 2) = A / (c * B) ∧ (B / 2) / (A / (2 * c)) = c * B / A := by
  have h2 : (2 : ℂ) ≠ 0 := two_ne_zero
  constructor
  · rw [div_div_div_eq, mul_comm 2 c, mul_assoc, mul_comm 2 B, ← mul_assoc, mul_div_mul_right _ _ h2]
  · rw [div_div_div_eq, mul_comm 2 c, ← mul_assoc, mul_comm B c, mul_comm 2 A, mul_div_mul_right _ _ h2]

theorem MCx_I (σ : String → ℂ) : (MCx σ).I = Complex.I := rfl

theorem MCx_sym (σ : String → ℂ) : (MCx σ).sym = σ := rfl

theorem MCx_expLaws (σ : String → ℂ) : ExpLaws (MCx σ) where
  E_ne := by
    simp only [MCx, ↓reduceIte]
    exact Complex.exp_ne_zero 1
  sin v := by rw [expV_MCx, expV_MCx, MCx_I, MCx_sin]; exact sin_exp v
  cos v := by rw [expV_MCx, expV_MCx, MCx_I, MCx_cos]; exact cos_exp v
  tan v := by
    rw [expV_MCx, expV_MCx, MCx_I, MCx_tan, Complex.tan_eq_sin_div_cos, sin_exp, cos_exp]
    exact div_forms.1
  cot v _ := by
    rw [expV_MCx, expV_MCx, MCx_I, MCx_cot, sin_exp, cos_exp]
    exact div_forms.2
  csc v := by
    rw [expV_MCx, expV_MCx, MCx_I, MCx_csc, sin_exp]
    exact one_div_div _ _
  sec v := by
    rw [expV_MCx, expV_MCx, MCx_I, MCx_sec, cos_exp]
    exact one_div_div _ _
  sinh v := by rw [expV_MCx, expV_MCx, MCx_sinh]; rfl
  cosh v := by rw [expV_MCx, expV_MCx, MCx_cosh]; rfl
  tanh v := by
    rw [expV_MCx, expV_MCx, MCx_tanh, Complex.tanh_eq_sinh_div_cosh, Complex.sinh,
      Complex.cosh]
    exact div_div_div_cancel_right₀ two_ne_zero _ _
  csch v := by
    rw [expV_MCx, expV_MCx, MCx_csch, Complex.sinh]
    exact one_div_div _ _
  sech v := by
    rw [expV_MCx, expV_MCx, MCx_sech, Complex.cosh]
    exact one_div_div _ _
  coth v _ := by
    rw [expV_MCx, expV_MCx, MCx_coth, Complex.sinh, Complex.cosh]
    exact div_div_div_cancel_right₀ two_ne_zero _ _

theorem MCx_pi (σ : String → ℂ) : (MCx σ).const "pi" = (Real.pi : ℂ) := by
  simp only [MCx, String.reduceEq, ↓reduceIte]

theorem MCx_trigLaws (σ : String → ℂ) : TrigLaws (MCx σ) where
  uneval := MCx_uneval σ
  cos_as_sin v := by
    rw [MCx_cos, MCx_sin, MCx_pi, mul_one_div, Complex.sin_add_pi_div_two]
  sin_as_cos v := by
    rw [MCx_sin, MCx_cos, MCx_pi, neg_div, mul_neg, mul_one_div, ← sub_eq_add_neg,
      Complex.cos_sub_pi_div_two]
  tan_sin v hne := by
    rw [MCx_sin, Complex.sin_two_mul] at hne
    rw [MCx_tan, MCx_sin, MCx_sin, Complex.tan_eq_sin_div_cos, Complex.sin_two_mul, sq,
      ← mul_assoc, mul_div_mul_left _ _ (left_ne_zero_of_mul hne)]
  cot_sin v hne := by
    rw [MCx_sin] at hne
    rw [MCx_cot, MCx_sin, MCx_sin, Complex.sin_two_mul, sq, ← mul_assoc,
      mul_div_mul_left _ _ (mul_ne_zero two_ne_zero hne)]
  csc_sin v := by rw [MCx_sin, MCx_csc]
  sec_cos v := by rw [MCx_cos, MCx_sec]
  tan_cos v := by rw [MCx_tan, MCx_sin, MCx_cos, Complex.tan_eq_sin_div_cos]
  cot_cos v := by rw [MCx_cot, MCx_sin, MCx_cos]

def exX : Expr := .sym "x"
def exY : Expr := .sym "y"

set_option maxRecDepth 100000 in
/-- `as_numer_denom(1/x + 1/y) = (x + y, x*y)` is accepted … -/
theorem ex_numer_denom :
    checkNumerDenom (.add (.int 0) [(.pow exX (.int (-1)), .int 1), (.pow exY (.int (-1)), .int 1)])
      (.add (.int 0) [(exX, .int 1), (exY, .int 1)]) (.mul (.int 1) [(exX, .int 1), (exY, .int 1)]) = true := by
  decide +kernel

set_option maxRecDepth 100000 in
/-- … and the wrong numerator `x - y` is rejected -/
theorem ex_numer_denom_rejects :
    checkNumerDenom (.add (.int 0) [(.pow exX (.int (-1)), .int 1), (.pow exY (.int (-1)), .int 1)])
      (.add (.int 0) [(exX, .int 1), (exY, .int (-1))]) (.mul (.int 1) [(exX, .int 1), (exY, .int 1)]) = false := by
  decide +kernel

set_option maxRecDepth 100000 in
/-- `rewrite_as_exp(cosh(x)) = exp(x)/2 + exp(-x)/2` (the library's canonical form) is accepted -/
theorem ex_rewrite_exp :
    checkRewrite asExp (.app "Cosh" [exX])
      (.add (.int 0) [(.pow (.const "E") exX, .rat 1 2),
                      (.pow (.const "E") (.mul (.int (-1)) [(exX, .int 1)]), .rat 1 2)]) = true := by
  decide +kernel

/-- the conclusion of the certificate theorem on the example, over ℂ: `(x + y)/(x*y) = 1/x + 1/y` for
`x, y ≠ 0` -/
example (σ : String → ℂ) (hx : σ "x" ≠ 0) (hy : σ "y" ≠ 0) :
    (σ "x" + σ "y") / (σ "x" * σ "y") = (σ "x")⁻¹ + (σ "y")⁻¹ := by
  have h := (numer_denom_certificate_sound (MCx_lawful σ) _ _ _ ex_numer_denom).1
  have := h ((σ "x")⁻¹ + (σ "y")⁻¹) (σ "x" + σ "y") (σ "x" * σ "y")
    (by simp [evalS, evalSTerms, intLit?, exX, exY, MCx_sym, powVal, hx, hy, add2, mul2])
    (by simp [evalS, evalSTerms, exX, exY, MCx_sym, add2, mul2])
    (by simp [evalS, evalSFacs, intLit?, exX, exY, MCx_sym, powVal, mul2])
    (mul_ne_zero hx hy)
  exact this

/-- `rewrite_as_exp_value` instantiated over ℂ: `cosh x = (exp x + exp (-x)) / 2` comes out of the
model of the rule and the exponential laws -/
example (σ : String → ℂ) :
    (Complex.exp (σ "x") + Complex.exp (-σ "x")) / 2 = Complex.cosh (σ "x") := by
  have hE : (MCx σ).const "E" ≠ 0 := (MCx_expLaws σ).E_ne
  have hx : evalS (MCx σ) exX = some (σ "x") := by simp only [evalS, exX, MCx_sym]
  obtain ⟨_, _, tP, tN⟩ := exp_tracks (MCx_lawful σ) hE
  have hw : evalS (MCx σ) (asExp (.app "Cosh" [exX])) =
      some ((expV (MCx σ) (σ "x") + expV (MCx σ) (-σ "x")) / 2) := by
    have : asExp (.app "Cosh" [exX]) = rCosh exX := by
      simp [asExp, rewriteWith, rewriteList, expRule, expForm, lookupForm, expTable, exX]
    rw [this, rCosh]
    exact evalS_mkDiv_some ((tP.add tN) _ _ hx) evalS_two (by norm_num)
  have hv : evalS (MCx σ) (.app "Cosh" [exX]) = some (Complex.cosh (σ "x")) := by
    rw [evalS_app1, hx, Option.map_some, MCx_cosh]
  have := rewrite_as_exp_value (MCx_lawful σ) (MCx_expLaws σ) _ _ _ hv hw
  rw [← expV_MCx σ, ← expV_MCx σ]
  exact this

end C36
end SymVerif
