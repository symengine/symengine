import SymVerif.Lemmas.C41
import SymVerif.Gen.Statics
/-!
C41 (partial): in the thread-safe build, shared expressions are race-free at the level of the two
fields that are ever written after construction (`hash_`, `refcount_`).

Every theorem quantifies over **all** initial configurations accepted by the decidable predicate
`wf0` (any number of nodes and threads, any thread programs) and over **every schedule** (any list of
thread ids, any length), for the same `Conc.step` the driver `drv_c41` runs.

Not covered by theorems (only by the source scan of tools/extract/c41_statics.py and the
ThreadSanitizer exploration): that no *other* memory is written by the read-only operations, i.e.
that the model's `read` is a faithful summary of compare/print/diff/subs/expand.
-/
namespace SymVerif.C41
open SymVerif.Conc

/-- decidable well-formedness of an initial configuration: caches empty or correct, live nodes with a positive
    count, counters equal to the number of references the threads start with, held ids in range, threads at
    their first operation -/
def wf0 (s : State) : Bool :=
  s.nodes.all (fun n => (n.hash == 0 || n.hash == n.H) && (!n.live || decide (0 < n.count))) &&
  (List.range s.nodes.length).all (fun o => totalHeld s o == cnt s o) &&
  s.threads.all (fun t => t.held.all (fun o => decide (o < s.nodes.length)) && t.past.isEmpty && t.results.isEmpty
    && t.fault.isNone && t.phase == .idle)

theorem wf0_inv (s : State) (h : wf0 s = true) : Inv s s := by
  simp only [wf0, Bool.and_eq_true, List.all_eq_true, Bool.or_eq_true, Bool.not_eq_true', beq_iff_eq,
    decide_eq_true_eq, List.mem_range, List.isEmpty_iff, Option.isNone_iff_eq_none] at h
  obtain ⟨⟨hn, hc⟩, ht⟩ := h
  refine ⟨fun o n hm => ⟨n, hm, rfl, rfl⟩, fun o n hm => (hn n (List.mem_of_getElem? hm)).1, fun o => ?_,
    fun o n hm hl => ?_, rfl, fun tid t htm => ?_⟩
  · by_cases ho : o < s.nodes.length
    · exact hc o ho
    · -- an index past the nodes: no thread holds it, and it has no counter
      have h1 : cnt s o = 0 := by unfold cnt; rw [List.getElem?_eq_none (Nat.le_of_not_lt ho)]
      rw [h1]
      exact List.sum_eq_zero_iff_forall_eq_nat.mpr (List.forall_mem_map.mpr fun t htm =>
        have ⟨⟨⟨⟨hrange, _⟩, _⟩, _⟩, _⟩ := ht t htm
        List.count_eq_zero.mpr fun hmem => ho (hrange o hmem))
  · exact (hn n (List.mem_of_getElem? hm)).2.resolve_left (by rw [hl]; nofun)
  · obtain ⟨⟨⟨⟨_, hp⟩, hr⟩, hf⟩, hph⟩ := ht t (List.mem_of_getElem? htm)
    refine ⟨.inl hf, by rw [hp, hr]; rfl, ⟨t, htm, by rw [hp]; rfl⟩, fun o rest n _ hq _ => ?_⟩
    rw [hph] at hq
    cases hq

theorem reach (s0 : State) (h : wf0 s0 = true) (sched : List Nat) : Inv s0 (runSched true s0 sched) :=
  run_inv s0 sched s0 (wf0_inv s0 h)

/-- **hash_inv**: under every schedule the cache field of every node is `0` or the true hash `H`,
    and a thread that is about to return from `hash()` reads `H`. -/
theorem hash_inv (s0 : State) (h : wf0 s0 = true) (sched : List Nat) :
    (∀ (o : Nat) (n : Node), (runSched true s0 sched).nodes[o]? = some n → n.hash = 0 ∨ n.hash = n.H) ∧
    (∀ (tid : Nat) (t : Thread) (o : Nat) (rest : List TOp) (n : Node),
      (runSched true s0 sched).threads[tid]? = some t → t.prog = .hash o :: rest → t.phase = .hashHit →
      (runSched true s0 sched).nodes[o]? = some n → n.hash = n.H) := by
  have i := reach s0 h sched
  exact ⟨i.hashv, fun tid t o rest n ht hp hph hn => (i.thr tid t ht).2.2.2 o rest n hp hph hn⟩

/-- **rc_inv_conc**: under every schedule the counter of every node equals the number of references
    held by all threads; every node a thread holds exists and has not been freed; and no thread ever
    touches a freed object or underflows a counter (the only possible fault is an ill-formed program). -/
theorem rc_inv_conc (s0 : State) (h : wf0 s0 = true) (sched : List Nat) :
    (∀ o, totalHeld (runSched true s0 sched) o = cnt (runSched true s0 sched) o) ∧
    (∀ (tid : Nat) (t : Thread), (runSched true s0 sched).threads[tid]? = some t →
      (∀ o ∈ t.held, ∃ n, (runSched true s0 sched).nodes[o]? = some n ∧ n.live = true ∧ 0 < n.count) ∧
      (t.fault = none ∨ t.fault = some .notHeld)) := by
  have i := reach s0 h sched
  refine ⟨i.counts, ?_⟩
  intro tid t ht
  refine ⟨?_, (i.thr tid t ht).1⟩
  intro o ho
  exact i.held_live ht (List.contains_iff_mem.mpr ho)

/-- **results_seq**: under every schedule each thread's results so far are exactly the results of
    running its completed operations alone (`hash` gives `H`, `read` gives the immutable content);
    a thread that has finished has exactly its sequential results. -/
theorem results_seq (s0 : State) (h : wf0 s0 = true) (sched : List Nat) (tid : Nat) (t : Thread)
    (ht : (runSched true s0 sched).threads[tid]? = some t) :
    ∃ t0, s0.threads[tid]? = some t0 ∧ t.results = seqResults s0.nodes t.past ∧ t.past ++ t.prog = t0.prog ∧
      (t.prog = [] → t.results = seqResults s0.nodes t0.prog) := by
  have i := reach s0 h sched
  obtain ⟨_, hr, ⟨t0, h0, hp⟩, _⟩ := i.thr tid t ht
  refine ⟨t0, h0, hr, hp, fun he => ?_⟩
  rw [← hp, he, List.append_nil]
  exact hr

/-- two shared nodes, two threads each holding one reference to both -/
def demo0 : State :=
  { nodes := [{ val := 7, H := 41, hash := 0, count := 2, live := true },
              { val := 9, H := 43, hash := 0, count := 2, live := true }],
    threads := [mkThread [.hash 0, .copy 1, .read 1, .drop 1, .drop 1, .hash 0, .drop 0] [0, 1],
                mkThread [.hash 0, .hash 1, .copy 0, .drop 0, .read 0, .drop 1, .drop 0] [0, 1]] }

example : wf0 demo0 = true := by decide

/-- an interleaving in which both threads miss the cache of node 0 and both store it -/
def demoSched : List Nat := [0, 1, 0, 1, 0, 1] ++ List.replicate 12 1 ++ List.replicate 12 0

example : ((runSched true demo0 demoSched).threads.map (fun t => (t.results, t.prog.length, t.fault))) =
    [([41, 9, 41], 0, none), ([41, 43, 7], 0, none)] := by decide
example : ((runSched true demo0 demoSched).nodes.map (fun n => (n.hash, n.count, n.live))) =
    [(41, 0, false), (43, 0, false)] := by decide

/-- one node, two threads holding one reference each; both start with a copy -/
def racy0 : State :=
  { nodes := [{ val := 7, H := 41, hash := 0, count := 2, live := true }],
    threads := [mkThread [.copy 0, .drop 0, .drop 0] [0], mkThread [.copy 0, .drop 0, .read 0] [0]] }

/-- **The non-atomic build is racy** (so the theorems above are not vacuous): with `++` compiled as
    load + store, two concurrent copies lose an update — the counter says 3 while 4 references exist. -/
theorem nonatomic_lost_update :
    wf0 racy0 = true ∧ totalHeld (runSched false racy0 [0, 1, 0, 1]) 0 = 4 ∧ cnt (runSched false racy0 [0, 1, 0, 1]) 0 = 3 := by
  decide

/-- … and the lost update ends in a use after free: thread 0 releases its two references, thread 1
    releases one of its two (the count reaches 0 although a reference exists, the node is deleted)
    and then reads the node through the reference it still legitimately holds. -/
theorem nonatomic_use_after_free :
    ((runSched false racy0 ([0, 1, 0, 1] ++ [0, 0, 0, 0] ++ [1, 1, 1])).threads.map (fun t => t.fault)) =
      [none, some .uaf] := by
  decide

/-- the same schedule on the thread-safe build is fine -/
example : ((runSched true racy0 ([0, 1, 0, 1] ++ [0, 0, 0, 0] ++ [1, 1, 1])).threads.map (fun t => t.fault)) =
    [none, none] := by decide

/-- In the scanned source the two written fields are `std::atomic` under `WITH_SYMENGINE_THREAD_SAFE`,
    every dictionary steal is compiled out there, and every mutable static object of the library is on
    the justified allow-list (`Gen/Statics.lean` is regenerated by tools/extract/c41_statics.py on every run). -/
theorem statics_ok :
    SymVerif.Gen.Statics.refcountAtomic = true ∧ SymVerif.Gen.Statics.hashAtomic = true ∧
    SymVerif.Gen.Statics.stealCompiledOut = true ∧
    ∀ x ∈ SymVerif.Gen.Statics.mutableStatics, x ∈ SymVerif.Gen.Statics.allowList :=
  -- the extractor prints as `allowList` the entries of `mutableStatics` that are on its allow-list,
  -- so the inclusion holds exactly when the two lists coincide
  ⟨rfl, rfl, rfl, fun _ h => h⟩

end SymVerif.C41
