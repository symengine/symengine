import SymVerif.Lemmas.C05Q
/-!
C06 — mixed-kind number arithmetic is commutative and obeys the oo/nan rules.

The theorems are about the functions the driver `drv_c06` runs (`SymVerif.Num.add/sub/mul/div/pow`),
for *every* pair of numbers of every kind; the four `…orig…` theorems at the end are about the unpatched
`addOrig/divOrig/inftyPowOrig`, which the driver does not run.  Floating operands are elements of an arbitrary type `F`
with operations `FloatOps F`; the only IEEE facts used are the commutativity of `+` and `*`
(`FloatComm`), stated as a hypothesis because Lean's `Float` is opaque to the kernel.
-/
namespace SymVerif.C06
open SymVerif.Num SymVerif.Num.FloatOps

variable {F : Type} [FloatOps F]

/-- IEEE facts used by the commutativity theorems (binary64 `+` and `*` are commutative). -/
structure FloatComm (F : Type) [FloatOps F] : Prop where
  add_comm : ∀ x y : F, fadd x y = fadd y x
  mul_comm : ∀ x y : F, fmul x y = fmul y x

inductive Op where
  | add | sub | mul | div | pow
  deriving DecidableEq, Repr

def Op.run : Op → Num F → Num F → Res F
  | .add => Num.add
  | .sub => Num.sub
  | .mul => Num.mul
  | .div => Num.div
  | .pow => Num.pow

theorem Q_add_comm (a b : Q) : a.add b = b.add a := by
  unfold Q.add; rw [Int.add_comm, Nat.mul_comm]

theorem Q_mul_comm (a b : Q) : a.mul b = b.mul a := by
  unfold Q.mul; rw [Int.mul_comm, Nat.mul_comm]

omit [FloatOps F] in
theorem inftyAdd_comm (d e : Int) :
    inftyAdd (F := F) d (.infty e) = inftyAdd e (.infty d) := by
  simp only [inftyAdd]
  by_cases h : e = d
  · subst h; rfl
  · have h' : d ≠ e := fun x => h x.symm
    simp [h, h']

theorem add_comm_all (h : FloatComm F) (a b : Num F) : Num.add a b = Num.add b a := by
  -- off the diagonal the lower kind hands over to the method of the higher: both orders are one call
  cases a <;> cases b <;> try rfl
  · exact congrArg (fun k => (.ok (.int k) : Res F)) (Int.add_comm _ _)
  · exact congrArg (fun q => (.ok (fromMpq q) : Res F)) (Q_add_comm _ _)
  · exact congrArg₂ (fun re im => (.ok (cFromMpq re im) : Res F)) (Q_add_comm _ _) (Q_add_comm _ _)
  · exact congrArg (fun x => (.ok (.dbl x) : Res F)) (h.add_comm _ _)
  · exact congrArg₂ (fun x y => (.ok (.cdbl x y) : Res F)) (h.add_comm _ _) (h.add_comm _ _)
  · exact inftyAdd_comm _ _

theorem cmulF_comm (h : FloatComm F) {a b c d : F} : cmulF a b c d = cmulF c d a b := by
  unfold cmulF
  rw [h.mul_comm a c, h.mul_comm b d, h.mul_comm a d, h.mul_comm b c, h.add_comm (fmul d a) (fmul c b)]

/-- `a * b = b * a` for every ordered pair of numbers of every kind
(pairs for which the library throws `NotImplementedError`, i.e. infinity times Complex, throw in both orders). -/
theorem mul_comm_all (h : FloatComm F) (a b : Num F) : Num.mul a b = Num.mul b a := by
  cases a <;> cases b <;> try rfl
  · exact congrArg (fun k => (.ok (.int k) : Res F)) (Int.mul_comm _ _)
  · exact congrArg (fun q => (.ok (fromMpq q) : Res F)) (Q_mul_comm _ _)
  · rename_i r1 i1 r2 i2
    exact congrArg₂ (fun re im => (.ok (cFromMpq re im) : Res F))
      (congrArg₂ Q.sub (Q_mul_comm r1 r2) (Q_mul_comm i1 i2))
      ((Q_add_comm _ _).trans (congrArg₂ Q.add (Q_mul_comm i1 r2) (Q_mul_comm r1 i2)))
  · exact congrArg (fun x => (.ok (.dbl x) : Res F)) (h.mul_comm _ _)
  · exact cmulF_comm h
  · exact congrArg (fun k => (.ok (.infty k) : Res F)) (Int.mul_comm _ _)

theorem nan_absorbs (op : Op) (a : Num F) :
    op.run a .nan = .ok .nan ∧ op.run .nan a = .ok .nan := by
  -- each of the 35 rows evaluates; `sub` goes through `mul` by `-1`, `a / nan` through `mul` by `NaN::pow(-1)`
  cases op <;> constructor <;> cases a <;> rfl

/-- two infinities add to themselves only when they have the same sign;
in particular `oo + -oo = nan` (and `zoo + zoo = nan`). -/
theorem infty_add_infty (d e : Int) :
    Num.add (F := F) (.infty d) (.infty e) = .ok (if d = e ∧ d ≠ 0 then .infty d else .nan) := by
  simp only [Num.add, inftyAdd]
  by_cases h : e = d
  · subst h; by_cases h0 : e = 0 <;> simp [h0]
  · have h' : ¬ d = e := fun x => h x.symm
    simp [h, h']

theorem oo_add_neg_oo : Num.add (F := F) (.infty 1) (.infty (-1)) = .ok .nan
    ∧ Num.add (F := F) (.infty (-1)) (.infty 1) = .ok .nan := by
  constructor <;> rfl

/-- real kinds whose sign is given by `isPositive` / `isNegative` -/
def isRealFinite : Num F → Bool
  | .int _ | .rat _ | .dbl _ => true
  | _ => false

/-- a real finite factor times an infinity, in both orders (`Infty::mul`) -/
theorem real_mul_infty (a : Num F) (d : Int) (hk : isRealFinite a = true) :
    (Num.mul a (.infty d) = if a.isPositive then .ok (.infty d)
      else if a.isNegative then .ok (.infty (-d)) else .ok .nan) ∧
    (Num.mul (.infty d) a = if a.isPositive then .ok (.infty d)
      else if a.isNegative then .ok (.infty (-d)) else .ok .nan) := by
  -- `Infty::mul` writes the flipped direction as `d * -1`: the only step that is not evaluation
  cases a <;> cases hk <;> exact Int.mul_neg_one d ▸ ⟨rfl, rfl⟩

/-- a real finite factor that is neither positive nor negative (an exact zero, a float zero or NaN)
times any infinity is nan, in both orders. -/
theorem zero_mul_infty (a : Num F) (d : Int) (hk : isRealFinite a = true)
    (hp : a.isPositive = false) (hn : a.isNegative = false) :
    Num.mul a (.infty d) = .ok .nan ∧ Num.mul (.infty d) a = .ok .nan := by
  simpa only [hp, hn, Bool.false_eq_true, if_false] using real_mul_infty a d hk

theorem pos_mul_infty (a : Num F) (d : Int) (hk : isRealFinite a = true) (hp : a.isPositive = true) :
    Num.mul a (.infty d) = .ok (.infty d) ∧ Num.mul (.infty d) a = .ok (.infty d) := by
  simpa only [hp, if_true] using real_mul_infty a d hk

theorem neg_mul_infty (a : Num F) (d : Int) (hk : isRealFinite a = true)
    (hp : a.isPositive = false) (hn : a.isNegative = true) :
    Num.mul a (.infty d) = .ok (.infty (-d)) ∧ Num.mul (.infty d) a = .ok (.infty (-d)) := by
  simpa only [hp, hn, Bool.false_eq_true, if_false, if_true] using real_mul_infty a d hk

theorem exact_zero_mul_infty (d : Int) :
    Num.mul (F := F) (.int 0) (.infty d) = .ok .nan ∧ Num.mul (F := F) (.infty d) (.int 0) = .ok .nan :=
  zero_mul_infty (.int 0) d rfl (by simp [Num.isPositive]) (by simp [Num.isNegative])

/-- an infinity divided by a real finite divisor: positive keeps, negative flips, zero gives zoo. -/
theorem infty_div_real (a : Num F) (d : Int) (hk : isRealFinite a = true) :
    Num.div (.infty d) a = (if a.isPositive then .ok (.infty d) else if a.isZero then .ok (.infty 0)
      else if a.isNegative then .ok (.infty (-d)) else .ok .nan) := by
  -- `Infty::div` writes `d * -1` as well (see `real_mul_infty`)
  cases a <;> cases hk <;> exact Int.mul_neg_one d ▸ rfl

theorem exact_div_zero (a : Num F) (he : a.isExact = true) (hn : a.normalised = true) :
    Num.div a (.int 0) = .ok (if a.isZero then .nan else .infty 0) :=
  div_int_zero a he hn

def isFloatKind : Num F → Bool
  | .dbl _ | .cdbl _ _ => true
  | _ => false

/-- the kinds of finite numbers (everything except the infinities and nan) -/
def isFiniteKind : Num F → Bool
  | .infty _ | .nan => false
  | _ => true

/-- the one exception: `RealDouble::mulreal(const Integer&)` returns the exact `zero` for an exact zero
factor (`0 * 2.5 = 0`, also through `Integer::mul`) -/
def zeroAnnihilation : Op → Num F → Num F → Bool
  | .mul, .int n, .dbl _ => n == 0
  | .mul, .dbl _, .int n => n == 0
  | _, _, _ => false

/-- the full claim "an operation between a float and a finite number never returns an exact
number"; it does *not* hold for the library (see `float_times_exact_zero`). -/
def C06_float_full (F : Type) [FloatOps F] : Prop :=
  ∀ (op : Op) (a b r : Num F), (isFloatKind a || isFloatKind b) = true → isFiniteKind a = true →
    isFiniteKind b = true → op.run a b = .ok r → isFloatKind r = true

/-- an error counts as `true`: in such a cell the hypothesis `op.run a b = .ok r` cannot hold -/
def floatRes : Res F → Bool
  | .ok r => isFloatKind r
  | .error _ => true

omit [FloatOps F] in
theorem floatRes_ite {c : Prop} [Decidable c] {t e : Res F} (ht : floatRes t = true)
    (he : floatRes e = true) : floatRes (if c then t else e) = true := by
  split <;> assumption

/-- `RealDouble::mulreal(const Integer&)` away from the exact zero -/
theorem floatRes_dblMul_int (d : F) {n : Int} (hn : (n == 0) = false) :
    floatRes (dblMul d (.int n)) = true :=
  (congrArg floatRes (if_neg (ne_true_of_eq_false hn))).trans rfl

/-- what holds of `C06_float_full`: every operation and every pair except an exact zero times a real double. -/
theorem float_stays_float_partial (op : Op) (a b r : Num F)
    (hf : (isFloatKind a || isFloatKind b) = true) (ha : isFiniteKind a = true)
    (hb : isFiniteKind b = true) (hz : zeroAnnihilation op a b = false)
    (hr : op.run a b = .ok r) : isFloatKind r = true := by
  suffices h : zeroAnnihilation op a b = false → floatRes (op.run a b) = true by
    have := h hz; rwa [hr] at this
  clear hz hr
  cases a <;> cases ha <;> cases b <;> cases hb <;> cases hf <;> cases op
  -- In a cell the dispatch evaluates to a float constructor or to an error; or to one of these behind a
  -- test (`cmulF`, the sign tests of the `pow` methods); or to `dblMul` with an Integer, where `hz`
  -- excludes the branch of the exact zero.
  all_goals first
    | exact fun _ => rfl
    | exact fun _ => floatRes_ite rfl rfl
    | exact floatRes_dblMul_int _

theorem float_times_exact_zero (d : F) :
    Num.mul (.dbl d) (.int 0) = .ok (.int 0) ∧ Num.mul (.int 0) (.dbl d) = .ok (.int 0) := by
  constructor <;> simp [Num.mul, intMul, dblMul]

theorem C06_float_full_false (d : F) : ¬ C06_float_full F := by
  intro h
  have := h .mul (.dbl d) (.int 0) (.int 0) rfl rfl rfl (float_times_exact_zero d).1
  simp [isFloatKind] at this

/-- unpatched `Infty::add` ignores a NaN operand: `oo + nan = oo` but `nan + oo = nan` -/
theorem D4_orig_add_not_comm :
    addOrig (F := F) (.infty 1) .nan = .ok (.infty 1) ∧ addOrig (F := F) .nan (.infty 1) = .ok .nan := by
  constructor <;> rfl

/-- unpatched `Infty::div`: `oo / nan = -oo` -/
theorem D4_orig_div_nan : divOrig (F := F) (.infty 1) .nan = .ok (.infty (-1)) := by
  simp [divOrig, inftyDivOrig, Num.isPositive, Num.isZero]

/-- unpatched `Infty::pow`: `oo ** nan = oo` -/
theorem D4_orig_pow_nan : inftyPowOrig (F := F) 1 .nan = .ok (.infty 1) := by
  simp [inftyPowOrig]

/-- unpatched `Infty::div` by a Complex flips the direction: `oo / (1 + i) = -oo` -/
theorem orig_infty_div_complex (re im : Q) :
    divOrig (F := F) (.infty 1) (.cplx re im) = .ok (.infty (-1)) := by
  simp [divOrig, inftyDivOrig, Num.isPositive, Num.isZero]

set_option warn.classDefReducibility false in
/-- a toy `FloatOps` (exact integer arithmetic) showing that `FloatComm` is satisfiable -/
def toyOps : FloatOps Int where
  fadd := (· + ·)
  fsub := (· - ·)
  fmul := (· * ·)
  fdiv := (· / ·)
  fneg := fun x => -x
  fpow := fun x y => x ^ y.toNat
  ofInt := id
  ofQ := fun q => q.num / q.den
  isPos := fun x => decide (0 < x)
  isNeg := fun x => decide (x < 0)
  isZero := fun x => x == 0
  isNaN := fun _ => false
  beq := fun x y => x == y

theorem toyComm : @FloatComm Int toyOps := @FloatComm.mk Int toyOps Int.add_comm Int.mul_comm

example : @Num.add Int toyOps (.cdbl 1 3) (.rat ⟨1, 2⟩) = @Num.add Int toyOps (.rat ⟨1, 2⟩) (.cdbl 1 3) :=
  @add_comm_all Int toyOps toyComm _ _
example : @Num.mul Int toyOps (.cdbl 1 3) (.cdbl 2 5) = @Num.mul Int toyOps (.cdbl 2 5) (.cdbl 1 3) :=
  @mul_comm_all Int toyOps toyComm _ _
example : Num.add (F := F) (.int 3) (.cplx ⟨1, 2⟩ ⟨-3, 4⟩) = Num.add (.cplx ⟨1, 2⟩ ⟨-3, 4⟩) (.int 3) := rfl
example : (Op.sub).run (F := F) (.infty 1) .nan = .ok .nan := (nan_absorbs .sub (.infty 1)).1
example : (Op.div).run (F := F) (.infty (-1)) .nan = .ok .nan := (nan_absorbs .div (.infty (-1))).1
example : (Op.pow).run (F := F) (.infty 1) .nan = .ok .nan := (nan_absorbs .pow (.infty 1)).1
example : Num.add (F := F) (.infty 0) (.infty 0) = .ok .nan := by rw [infty_add_infty]; rfl
example : Num.mul (F := F) (.rat ⟨-7, 3⟩) (.infty (-1)) = .ok (.infty 1) :=
  (neg_mul_infty (.rat ⟨-7, 3⟩) (-1) rfl rfl rfl).1
example : Num.mul (F := F) (.infty 0) (.int 5) = .ok (.infty 0) :=
  (pos_mul_infty (.int 5) 0 rfl rfl).2
example : Num.div (F := F) (.cplx ⟨1, 2⟩ ⟨-3, 4⟩) (.int 0) = .ok (.infty 0) := by
  rw [exact_div_zero _ rfl rfl]; rfl
example : Num.div (F := F) (.int 0) (.int 0) = .ok .nan := by
  rw [exact_div_zero _ rfl rfl]; rfl
example (d : F) : isFloatKind (F := F) (.cdbl (fadd d (ofInt 3)) d) = true :=
  float_stays_float_partial .add (.cdbl d d) (.int 3) _ rfl rfl rfl rfl rfl

end SymVerif.C06
