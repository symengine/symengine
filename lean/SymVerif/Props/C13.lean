/-
C13 — LambdaRealDoubleVisitor: `init` (plain and CSE path) followed by `call` returns the values
of the output expressions at the inputs, for ANY prior state of the visitor (so a re-initialised
visitor behaves like a fresh one), and enabling CSE does not change the results provided the
replacement list returned by `cse()` is a faithful factoring (explicit hypothesis; `cse` is C37).

The theorems are about `LambdaD.init` / `LambdaD.call` (the functions the driver replays at
`Float`) over the `lambdaReal` table translated from lambda_double.h, for every number structure.
Two facts about the source are re-checked on every run through translated flags:
  `init_clears_map`   init() clears cse_intermediate_fns_map on entry           (defect D21 if not)
  `symbol_cse_first`  bvisit(Symbol) consults the replacement map before inputs (defect D20 if not)
The first is what `lambda_correct_gen` uses.  The second is recorded only: the theorems hold for either
lookup order, the order being part of the hypothesis `Faithful` (`cfg.cseFirst`).
Floating-point rounding itself is outside the kernel: partial, as C12.
-/
import SymVerif.Lemmas.C13Lambda
import SymVerif.Gen.EvalFormulas

namespace SymVerif.C13
open SymVerif SymVerif.EvalG SymVerif.LambdaD

variable {α : Type}

theorem init_clears_map : Gen.lambdaInitClearsMap = true := by decide

theorem symbol_cse_first : Gen.lambdaSymbolCseFirst = true := by decide

/-- the configuration the driver runs (for any number structure) -/
def cfgOf (O : NumOps α) : Cfg α :=
  { O := O, defs := Gen.lambdaReal, cseFirst := Gen.lambdaSymbolCseFirst, clearsMap := Gen.lambdaInitClearsMap }

theorem lambda_plain_correct (cfg : Cfg α) (hclr : cfg.clearsMap = true)
    (S S' : State α) (ins : List String) (outs : List Expr)
    (hinit : init cfg S ins outs none = (S', none)) (xs : List α) :
    (call cfg S' xs).map Prod.snd = evalAll ⟨cfg.O, cfg.defs, bindEnv ins xs⟩ outs := by
  obtain ⟨cs, e, hcs, hP⟩ := pushResults_frame cfg ins [] outs
  simp only [init, hclr, if_true, hP] at hinit
  cases hinit
  rw [call_eq cfg (repl := []) (ins := ins) (es := outs) rfl (by simp [hcs rfl, mapAfter]) (Nat.zero_le _),
    ← extEnv_nil cfg.cseFirst]
  rfl

/-- After a successful CSE `init` from an arbitrary prior state `S` (arbitrary stale buffer,
results, closures, map, symbols), `call xs` evaluates the replacements in order — each one seeing
the inputs and the earlier replacements — and then the reduced expressions in that environment. -/
theorem lambda_cse_correct (cfg : Cfg α) (hclr : cfg.clearsMap = true)
    (S S' : State α) (ins : List String) (outs : List Expr)
    (repl : List (String × Expr)) (reduced : List Expr)
    (hinit : init cfg S ins outs (some (repl, reduced)) = (S', none)) (xs : List α) :
    (call cfg S' xs).map Prod.snd = (do
      let named ← slotSem cfg ins xs [] repl
      evalAll ⟨cfg.O, cfg.defs, extEnv cfg.cseFirst ins xs named⟩ (reduced.take outs.length)) := by
  obtain ⟨hf, hr, hlen⟩ := init_cse_ok hclr hinit
  exact call_eq cfg hf hr hlen xs

/-- "the replacement list is a faithful factoring of the outputs": evaluating the replacements in
order and then the reduced expressions gives the values of the outputs.  C37 proves a statement of this
kind of `cse` over a field semantics; `Faithful` is not derived from it. -/
def Faithful (cfg : Cfg α) (ins : List String) (outs : List Expr)
    (repl : List (String × Expr)) (reduced : List Expr) : Prop :=
  ∀ xs : List α, (do
      let named ← slotSem cfg ins xs [] repl
      evalAll ⟨cfg.O, cfg.defs, extEnv cfg.cseFirst ins xs named⟩ (reduced.take outs.length))
    = evalAll ⟨cfg.O, cfg.defs, bindEnv ins xs⟩ outs

/-- For any prior state `S`, either setting of `cse` (with the faithful-factoring
hypothesis in the CSE case): after `init`, `call xs` returns `evalAll` of the outputs under `bindEnv ins xs`
(the values of all outputs in order, or the first error). -/
theorem lambda_correct (cfg : Cfg α) (hclr : cfg.clearsMap = true)
    (S S' : State α) (ins : List String) (outs : List Expr)
    (cse : Option (List (String × Expr) × List Expr))
    (hfaith : ∀ repl reduced, cse = some (repl, reduced) → Faithful cfg ins outs repl reduced)
    (hinit : init cfg S ins outs cse = (S', none)) (xs : List α) :
    (call cfg S' xs).map Prod.snd = evalAll ⟨cfg.O, cfg.defs, bindEnv ins xs⟩ outs := by
  cases cse with
  | none => exact lambda_plain_correct cfg hclr S S' ins outs hinit xs
  | some p =>
    obtain ⟨repl, reduced⟩ := p
    rw [lambda_cse_correct cfg hclr S S' ins outs repl reduced hinit xs]
    exact hfaith repl reduced rfl xs

theorem cse_on_off_agree (cfg : Cfg α) (hclr : cfg.clearsMap = true)
    (S T S' T' : State α) (ins : List String) (outs : List Expr)
    (repl : List (String × Expr)) (reduced : List Expr)
    (hfaith : Faithful cfg ins outs repl reduced)
    (h1 : init cfg S ins outs (some (repl, reduced)) = (S', none))
    (h2 : init cfg T ins outs none = (T', none)) (xs : List α) :
    (call cfg S' xs).map Prod.snd = (call cfg T' xs).map Prod.snd := by
  rw [lambda_cse_correct cfg hclr S S' ins outs repl reduced h1 xs,
      lambda_plain_correct cfg hclr T T' ins outs h2 xs]
  exact hfaith xs

/-- equality of everything but the buffer contents -/
def Sim (S T : State α) : Prop :=
  S.results = T.results ∧ S.cseFns = T.cseFns ∧ S.cseMap = T.cseMap ∧ S.symbols = T.symbols

/-- The exception thrown by `init` (or its absence) and everything it leaves in the state except
stale buffer cells do not depend on the prior state: re-initialising = initialising a fresh visitor. -/
theorem reinit_fresh_status (cfg : Cfg α) (hclr : cfg.clearsMap = true)
    (S : State α) (ins : List String) (outs : List Expr)
    (cse : Option (List (String × Expr) × List Expr)) :
    (init cfg S ins outs cse).2 = (init cfg State.fresh ins outs cse).2
    ∧ Sim (init cfg S ins outs cse).1 (init cfg State.fresh ins outs cse).1 := by
  -- both runs start with the symbols `ins` and the empty map, so both loops push the same closures
  cases cse with
  | none =>
    obtain ⟨rs, e, _, hP⟩ := pushResults_frame cfg ins [] outs
    simp [init, hclr, State.fresh, hP, Sim]
  | some p =>
    obtain ⟨repl, reduced⟩ := p
    obtain ⟨cs, m', e, _, hR⟩ := pushRepl_frame cfg ins repl [] 0
    obtain ⟨rs, e', _, hP⟩ := pushResults_frame cfg ins m' (reduced.take outs.length)
    simp only [init, hclr, if_true, State.fresh, hR _ [] _ rfl]
    cases e with
    | some err => simp [Sim]
    | none => cases e' <;> simp [hP, Sim]

theorem reinit_fresh_values (cfg : Cfg α) (hclr : cfg.clearsMap = true)
    (S S' F' : State α) (ins : List String) (outs : List Expr)
    (cse : Option (List (String × Expr) × List Expr))
    (h1 : init cfg S ins outs cse = (S', none))
    (h2 : init cfg State.fresh ins outs cse = (F', none)) (xs : List α) :
    (call cfg S' xs).map Prod.snd = (call cfg F' xs).map Prod.snd := by
  cases cse with
  | none =>
    rw [lambda_plain_correct cfg hclr S S' ins outs h1 xs,
        lambda_plain_correct cfg hclr State.fresh F' ins outs h2 xs]
  | some p =>
    obtain ⟨repl, reduced⟩ := p
    rw [lambda_cse_correct cfg hclr S S' ins outs repl reduced h1 xs,
        lambda_cse_correct cfg hclr State.fresh F' ins outs repl reduced h2 xs]

/-- After a successful CSE init, the k-th replacement closure only refers to
slots with index < k — `call` writes slot k after all the slots its closure reads. -/
theorem cse_slot_order (cfg : Cfg α) (hclr : cfg.clearsMap = true)
    (S S' : State α) (ins : List String) (outs : List Expr)
    (repl : List (String × Expr)) (reduced : List Expr)
    (hinit : init cfg S ins outs (some (repl, reduced)) = (S', none))
    (k : Nat) (c : Closure) (hc : S'.cseFns[k]? = some c) :
    ∀ p ∈ c.slots, p.2 < k := by
  rw [(init_cse_ok hclr hinit).1] at hc
  simpa using closuresFrom_slots_lt ins repl [] 0 (by simp) k c hc

theorem lambda_correct_gen (O : NumOps α) (S S' : State α) (ins : List String) (outs : List Expr)
    (cse : Option (List (String × Expr) × List Expr))
    (hfaith : ∀ repl reduced, cse = some (repl, reduced) → Faithful (cfgOf O) ins outs repl reduced)
    (hinit : init (cfgOf O) S ins outs cse = (S', none)) (xs : List α) :
    (call (cfgOf O) S' xs).map Prod.snd = evalAll ⟨O, Gen.lambdaReal, bindEnv ins xs⟩ outs :=
  lambda_correct (cfgOf O) init_clears_map S S' ins outs cse hfaith hinit xs

/-- a stale state: left-over closures, a stale map entry for `x0`, a stale buffer -/
def staleState : State Nat :=
  { results := [⟨.sym "q", ["q"], []⟩], cseFns := [⟨.sym "q", ["q"], []⟩], cseResults := [7, 7, 7],
    cseMap := [("x0", 0)], symbols := ["q"] }

/-- toy number structure on `Nat` (enough to run Add nodes) -/
def natOps : NumOps Nat where
  ofQTrunc := fun n _ => n.toNat
  ofQNear := fun n _ => n.toNat
  ofBits := fun b => b.toNat
  inf := fun _ => 0
  nan := 0
  add := (· + ·)
  sub := (· - ·)
  mul := (· * ·)
  div := (· / ·)
  neg := id
  call1 := fun _ _ => none
  call2 := fun _ _ _ => none
  eq := fun a b => a == b
  lt := fun a b => a < b
  le := fun a b => a ≤ b

/-- outputs x+y and 2(x+y) with the CSE factoring x0 := x+y, from a stale state, inputs (x0, x, y)
where the *input* `x0` is unused: the model returns the right values. -/
example :
    let cfg := cfgOf natOps
    let xy : Expr := .add (.int 0) [(.sym "x", .int 1), (.sym "y", .int 1)]
    let outs : List Expr := [xy, .add (.int 0) [(xy, .int 2)]]
    let repl : List (String × Expr) := [("x0", xy)]
    let reduced : List Expr := [.sym "x0", .add (.int 0) [(.sym "x0", .int 2)]]
    let S' := (init cfg staleState ["x0", "x", "y"] outs (some (repl, reduced))).1
    (init cfg staleState ["x0", "x", "y"] outs (some (repl, reduced))).2 = none
    ∧ (call cfg S' [100, 3, 4]).map Prod.snd = .ok [7, 14] := by
  constructor <;> rfl

end SymVerif.C13
