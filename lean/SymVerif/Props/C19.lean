/-
C19  Serialization round-trips exactly.

Model: SymVerif/Model/Codec.lean (byte-exact codec of serialize-cereal.h on cereal's portable binary archive).
  encode / encodeT   Basic::dumps         decode / decodeT   Basic::loads
  encodeMatrix       DenseMatrix::dumps   decodeMatrixT      DenseMatrix::loads

Equality is structural equality of `Expr`, i.e. doubles by bit pattern.

Interval, Derivative, Subs and Piecewise are modelled and tested but are outside the theorem: `Ser` (C19Ser) leaves
them out.
-/
import SymVerif.Lemmas.C19Ser
import SymVerif.Lemmas.C19Nodes
import SymVerif.Lemmas.C19Beq

namespace SymVerif.C19
open SymVerif SymVerif.Codec

/-- the graph-level statement: the decoded graph is the original one *including the address labels*, i.e. the
    sharing structure -/
theorem load_dumps_graph (cap : Nat) (t : T) (hw : WfT cap .basic t) (hc : Consistent (nodesT t)) :
    decodeT cap (encodeT t) = .ok t := by
  unfold decodeT encodeT
  rw [decHeader_header]
  simp only
  have hU : Cons (fun x => x ∈ nodesT t) := fun x y hx hy h => hc x hx y hy h
  have ha := allT_of_nodes (fun x => x ∈ nodesT t) t (fun x hx => hx)
  -- empty address set, object map and remainder; the fuel `length + 1` is the one `decodeT` passes
  obtain ⟨m', hd, _⟩ := decT_encT cap _ hU t .basic [] [] [] ((encT t []).1.length + 1) hw ha (Inv.nil _) (by omega)
  simp only [List.append_nil] at hd
  rw [hd]

/-- Basic::loads (Basic::dumps e) = e for every serialisable expression (`Ser`), whatever addresses its objects have,
    provided one address holds one object -/
theorem load_dumps (cap : Nat) (hcap : 2 ^ 20 ≤ cap) (lab : List Nat → UInt64) (e : Expr)
    (hser : Ser .basic e)
    (hcons : ∀ t, toT lab [] e = some t → Consistent (nodesT t)) :
    decode cap (encode lab e) = .ok e := by
  obtain ⟨t, ht, hs, hw⟩ := sem_toT cap hcap lab e .basic [] hser
  unfold decode encode
  rw [ht]
  simp only
  rw [load_dumps_graph cap t hw (hcons t ht)]
  exact hs

/-- distinct addresses are a special case of consistent addresses -/
theorem consistent_of_nodup (l : List T) (h : (l.map T.addr).Nodup) : Consistent l := by
  induction l with
  | nil => intro x hx; simp at hx
  | cons a t ih =>
    simp only [List.map_cons, List.nodup_cons] at h
    intro x hx y hy hxy
    simp only [List.mem_cons] at hx hy
    rcases hx with rfl | hx <;> rcases hy with rfl | hy
    · rfl
    · exact absurd (hxy ▸ List.mem_map_of_mem (f := T.addr) hy) h.1
    · exact absurd (hxy ▸ List.mem_map_of_mem (f := T.addr) hx) h.1
    · exact ih h.2 x hx y hy hxy

/-- decoding an encoding followed by arbitrary bytes returns exactly those bytes (what makes sequences and
    containers decodable) -/
theorem encode_consumes_exactly (cap : Nat) (U : T → Prop) (hU : Cons U) (t : T) (c : Cls) (seen : List UInt64)
    (m : Map) (rest : Bytes) (fuel : Nat) (hw : WfT cap c t) (ha : AllT U t) (hi : Inv U seen m)
    (hf : (encT t seen).1.length ≤ fuel) :
    ∃ m', decT ⟨false, cap⟩ fuel c m ((encT t seen).1 ++ rest) = .ok (t, m', rest) := by
  obtain ⟨m', hd, _⟩ := decT_encT cap U hU t c seen m rest fuel hw ha hi hf
  exact ⟨m', hd⟩

/-- shared subexpressions are restored as one object: a slot whose address was written before is written as a 9-byte
    back-reference and decoded to the very object registered under that address -/
theorem sharing_restored (cap : Nat) (U : T → Prop) (hU : Cons U) (t : T) (c : Cls) (seen : List UInt64)
    (m : Map) (rest : Bytes) (fuel : Nat) (hw : WfT cap c t) (ha : AllT U t) (hi : Inv U seen m) :
    -- (1) once decoded, the address is bound to this object
    ((encT t seen).1.length ≤ fuel →
      ∃ m', decT ⟨false, cap⟩ fuel c m ((encT t seen).1 ++ rest) = .ok (t, m', rest) ∧ m'.lookup t.addr = some t) ∧
    -- (2) an address seen before is a back-reference to the stored object
    (t.addr ∈ seen → 9 ≤ fuel →
      encT t seen = (le64 t.addr ++ [0], seen) ∧ m.lookup t.addr = some t ∧
      decT ⟨false, cap⟩ fuel c m (le64 t.addr ++ [0] ++ rest) = .ok (t, m, rest)) := by
  cases t with
  | mk a tc fs =>
    constructor
    · intro hf
      obtain ⟨m', hd, hi'⟩ := decT_encT cap U hU _ c seen m rest fuel hw ha hi hf
      exact ⟨m', hd, hi'.lookup hU ha.1 (encT_addr_mem _ seen)⟩
    · intro hs hfu
      have hl := hi.lookup hU ha.1 hs
      obtain ⟨f, rfl⟩ : ∃ f, fuel = f + 1 := ⟨fuel - 1, by omega⟩
      refine ⟨encT_seen hs tc fs, hl, ?_⟩
      rw [List.append_assoc]
      exact decT_backref hl (castRef_of_wf hw) f rest

/-- DenseMatrix::loads (DenseMatrix::dumps M) = M: one archive, so addresses are shared across the elements -/
theorem matrix_load_dumps (cap rows cols : Nat) (ts : List T)
    (hr : rows < 2 ^ 32) (hcn : cols < 2 ^ 32) (hn : ts.length * 8 < 2 ^ 63) (hcap : ts.length * 8 ≤ cap)
    (hw : WfSeq cap [.basic] 0 ts) (hc : Consistent (nodesTs ts)) :
    decodeMatrixT cap (encodeMatrix rows cols ts) = .ok (rows, cols, ts) := by
  have h1 : ¬ (ts.length * 8 ≥ 2 ^ 63) := Nat.not_le.2 hn
  have h2 : ¬ (ts.length * 8 > cap) := Nat.not_lt.2 hcap
  simp only [decodeMatrixT, encodeMatrix, List.append_assoc, decHeader_header, rdNat_leN 4 rows _ hr,
    rdNat_leN 4 cols _ hcn, rdNat_leN 8 ts.length _ (by omega), h1, h2, if_false]
  have hU : Cons (fun x => x ∈ nodesTs ts) := fun x y hx hy h => hc x hx y hy h
  have ha := allTs_of_nodes (fun x => x ∈ nodesTs ts) ts (fun x hx => hx)
  obtain ⟨m', hd, _⟩ := decSeq_encTs cap _ hU ts [.basic] 0 [] [] [] ((encTs ts []).1.length + 1) hw ha (Inv.nil _) (by omega)
  simp only [List.append_nil] at hd
  rw [hd]

/-- meant as the property for every expression the encoder accepts (including Interval, Derivative, Subs, Piecewise,
    which `Ser` leaves out); not asserted, and as stated it also drops the side conditions of `Ser` (reduced fractions,
    distinct keys, …): `.rat 2 4` meets the hypotheses and decodes to `.rat 1 2` -/
def C19_full : Prop :=
  ∀ (cap : Nat) (lab : List Nat → UInt64) (e : Expr) (t : T), 2 ^ 20 ≤ cap →
    toT lab [] e = some t → WfT cap .basic t → Consistent (nodesT t) → decode cap (encode lab e) = .ok e

/-- non-vacuity: -0.0 + 2*x + x**2 - sin(x)/2 with ONE object for x (three slots, one address) -/
def exE : Expr :=
  .add (.dbl 0x8000000000000000) [(.sym "x", .int 2), (.pow (.sym "x") (.int 2), .int 1), (.app "Sin" [.sym "x"], .rat (-1) 2)]

/-- the three occurrences of x (paths [1], [3,0], [5,0]) share the address 0x1000; every other slot is distinct -/
def exLab (p : List Nat) : UInt64 :=
  if p == [1] || p == [3, 0] || p == [5, 0] then 0x1000
  else UInt64.ofNat (p.foldl (fun acc d => acc * 16 + d + 1) 0x20000)

theorem exE_ser : Ser .basic exE := by
  have i2 : intOK 2 := by unfold intOK; decide
  have i1 : intOK 1 := by unfold intOK; decide
  have im1 : intOK (-1) := by unfold intOK; decide
  have sx : Ser .basic (.sym "x") := ⟨rfl, by decide +kernel, by decide +kernel⟩
  have hsin : Ser .basic (.app "Sin" [.sym "x"]) :=
    ⟨mem_names 35 rfl, rfl, by decide, .inl ⟨[.basic], by decide +kernel, sx, trivial⟩⟩
  have hpow : Ser .basic (.pow (.sym "x") (.int 2)) := ⟨rfl, sx, rfl, i2⟩
  have hhalf : Ser .number (.rat (-1) 2) := ⟨by decide +kernel, ⟨im1, i2, .inr ⟨by decide, by decide⟩⟩, by decide⟩
  -- the three (key, value) pairs: x ↦ 2, x**2 ↦ 1, sin x ↦ -1/2
  exact ⟨rfl, (by decide +kernel : isA .number "RealDouble" = true),
    ⟨sx, ⟨by decide +kernel, i2⟩, hpow, ⟨by decide +kernel, i1⟩, hsin, hhalf, trivial⟩,
    by decide +kernel, by decide⟩

/-- the graph `toT` produces for `exE` (13 pointer slots, three of them at address 0x1000) -/
def exT : T := (toT exLab [] exE).getD default

theorem exT_eq : toT exLab [] exE = some exT := by
  obtain ⟨t, ht, _⟩ := sem_toT (2 ^ 20) (Nat.le_refl _) exLab exE .basic [] exE_ser
  unfold exT
  rw [ht]
  rfl

/-- one statement, so that `nodesT exT` is evaluated a single time -/
theorem exT_nodes : consistentB (nodesT exT) = true ∧ (nodesT exT).length = 13
    ∧ ((nodesT exT).filter fun x => x.addr == 0x1000).length = 3 := by
  decide +kernel

theorem exT_consistent : Consistent (nodesT exT) := consistent_of_check _ exT_nodes.1

set_option maxRecDepth 100000 in
example : (nodesT exT).length = 13 ∧ ((nodesT exT).filter fun x => x.addr == 0x1000).length = 3 := exT_nodes.2

example : decode (2 ^ 26) (encode exLab exE) = .ok exE :=
  load_dumps (2 ^ 26) (by decide) exLab exE exE_ser
    (fun _ ht => Option.some.inj (exT_eq.symm.trans ht) ▸ exT_consistent)

/-- graph-level instance: x**x with ONE symbol object in both slots -/
def exX : T := .mk 0x1000 (codeOf "Symbol") [.str [120]]
def exG : T := .mk 0x2000 (codeOf "Pow") [.ptr exX, .ptr exX]

theorem exX_ok : semT exX = .ok (.sym "x") ∧ WfT (2 ^ 26) .basic exX :=
  node_ok (2 ^ 26) (mem_names 13 rfl) (kind_at 7 rfl) (hl := rfl)
    (fvs := [.str [120]]) (hf := rfl) (hb := by rfl) (hcn := rfl) ⟨by simp [WfFld], trivial⟩ rfl

theorem exX_wf : WfT (2 ^ 26) .basic exX := exX_ok.2

theorem exG_wf : WfT (2 ^ 26) .basic exG :=
  (node_ok (2 ^ 26) (mem_names 17 rfl) (kind_at 12 rfl) (hl := rfl)
    (semFlds_cons (semFld_ptr exX_ok.1) (semFlds_cons (semFld_ptr exX_ok.1) semFlds_nil)) (hb := rfl) (hcn := rfl)
    ⟨exX_wf, exX_wf, trivial⟩ rfl).2

theorem exG_consistent : Consistent (nodesT exG) := consistent_of_check _ (by decide +kernel)

example : decodeT (2 ^ 26) (encodeT exG) = .ok exG := load_dumps_graph _ exG exG_wf exG_consistent

/-- the stream of `exG` really contains a back-reference: 5 header bytes, 10 + 10 + 9 for the root and the first x,
    then 9 bytes for the second x -/
example : (encodeT exG).length = 5 + 10 + (10 + 9) + 9 := by decide +kernel

end SymVerif.C19
