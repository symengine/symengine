import SymVerif.Model.MpSpec
import SymVerif.Model.MpBoost
import SymVerif.Lemmas.C43Div
import SymVerif.Lemmas.C43Gcd
import SymVerif.Lemmas.C43GcdNorm
import SymVerif.Lemmas.C43Root
import SymVerif.Lemmas.C43PP
import SymVerif.Lemmas.C43Powm
import SymVerif.Lemmas.C43Seq
import SymVerif.Lemmas.C43Jacobi
import SymVerif.Lemmas.C43Legendre
import SymVerif.Lemmas.C43Bin
/-!
# C43 — results do not depend on the integer backend

`MpSpec`  : executable specification of the backend-neutral `mp_*` interface (GMP's documented meaning).
`MpBoost` : the hand-written Boost.Multiprecision implementations of `mp_boost.cpp` / `mp_class.h`, mirrored loop by
            loop, with the repairs D1–D8 of docs/C43.md; `MpBoost.Orig` keeps the variants without them.

The theorems `MpBoost.f = MpSpec.f` stand, each with its proof, in `Lemmas/C43*.lean` (module table: docs/C43.md; each
module's head comment names the claimed theorems it holds).  Here: `perfect_power` (it needs the bound `PerfectPowerArg`,
defined here), `iroot_floor`, `root_repair_same`, `scan1`, test vectors, and the refutations of the code without the
repairs on concrete witnesses.  Not proved: `mp_nextprime`, the remainder of `mp_cdiv_qr` (correspondence only).
The claimed theorems carry the bare names of the functions (`root`, `sqrt`, `fib`, `powm`, …): inside `namespace SymVerif.C43`
these names denote the theorems.
All statements are about the very functions the driver `Drv/C43.lean` evaluates.
-/
namespace SymVerif.C43
open SymVerif

example : MpBoost.fdivQr (-5) 3 = (-2, 1) ∧ MpBoost.fdivQr 5 (-3) = (-2, -1) ∧
    MpBoost.fdivQr (-5) (-3) = (1, -2) ∧ MpBoost.fdivQr 5 3 = (1, 2) := by decide
example : MpBoost.cdivQ (-5) 3 = -1 ∧ MpBoost.cdivQ 5 (-3) = -1 ∧ MpBoost.cdivQ (-5) (-3) = 2 ∧
    MpBoost.cdivQ 5 3 = 2 := by decide

example : MpBoost.gcdext 240 (-46) = (2, -9, -47) ∧ MpSpec.gcdext 240 (-46) = (2, -9, -47) := by
  constructor <;> decide +kernel

example : MpBoost.invert 5 (-7) = some 3 ∧ MpBoost.invert 4 6 = none := by
  constructor <;> decide +kernel

/-- the specification's bisection returns the floor root -/
theorem iroot_floor (x n : Nat) (hn : 1 ≤ n) : (MpSpec.iroot x n) ^ n ≤ x ∧ x < (MpSpec.iroot x n + 1) ^ n :=
  iroot_spec x n hn

/-- repairing the starting guess (D8) changes no result: the original loop started at `1` and the repaired
one started at `2^(⌊log2 i⌋/n + 1)` return the same root and flag -/
theorem root_repair_same (i n : Nat) (hn : 2 ≤ n) (hi : 1 ≤ i) :
    MpBoost.Orig.positiveRoot i n = MpBoost.positiveRoot i n := by
  rw [MpBoost.Orig.positiveRoot, positiveRootFrom_eq 1 i n hn hi (le_refl 1), positiveRoot_eq i n hn hi]

example : MpBoost.root (-28) 3 = some (-3, false) ∧ MpBoost.root 1024 5 = some (4, true) ∧
    MpBoost.root (-4) 2 = none := by
  refine ⟨?_, ?_, ?_⟩ <;> decide +kernel

/-- `PerfectPowerArg i` (decidable; every harness input satisfies it) bounds the bit length by 10^6: the prime
exponents tried are then below 10^6, where the model's primality test (Boost's Miller–Rabin, trusted) is replaced by
provable trial division. -/
def PerfectPowerArg (i : Int) : Prop := i.natAbs.log2 < 1000000
instance (i : Int) : Decidable (PerfectPowerArg i) := by unfold PerfectPowerArg; infer_instance

theorem perfect_power (i : Int) (h : PerfectPowerArg i) :
    MpBoost.perfectPower i = some (MpSpec.perfectPower i) := by
  by_cases hsmall : i.natAbs ≤ 1
  · have h3 : i = 0 ∨ i = 1 ∨ i = -1 := by omega
    unfold MpBoost.perfectPower MpSpec.perfectPower
    simp [h3, hsmall]
  · have hx : 2 ≤ i.natAbs := by omega
    have h3 : ¬ (i = 0 ∨ i = 1 ∨ i = -1) := by omega
    have hsq : MpBoost.perfectSquare i = true ↔ (0 < i ∧ IsPow i.natAbs 2) := by
      rw [perfect_square, MpSpec.perfectSquare, Bool.and_eq_true, decide_eq_true_eq, beq_iff_eq]
      by_cases h0 : 0 ≤ i
      · rw [show i.toNat = i.natAbs by omega, iroot_exact_iff _ 2 (by omega)]
        exact and_congr_left' (by omega)
      · exact iff_of_false (fun h => h0 h.1) (fun h => h0 h.1.le)
    have hspec := perfect_power_meaning i hx
    unfold MpBoost.perfectPower
    simp only [h3, if_false]
    by_cases hs : MpBoost.perfectSquare i = true
    · rw [if_pos hs]
      obtain ⟨h0, h⟩ := hsq.mp hs
      exact congrArg some (hspec.mpr ⟨2, le_refl 2, Or.inl h0, h⟩).symm
    · have hsf : MpBoost.perfectSquare i = false := by simpa using hs
      simp only [hsf, Bool.false_eq_true, if_false]
      have hl1 : 1 ≤ i.natAbs.log2 := (Nat.le_log2 (by omega)).mpr (by omega)
      rcases perfectPowerLoop_spec probabPrime_iff i i.natAbs.log2 h (i.natAbs.log2 + 2) 2
        (by omega) (by omega) (by omega) with ⟨e1, e, h2, hodd, hp⟩ | ⟨e1, e3⟩ <;> rw [e1] <;> congr 1 <;> symm
      · exact hspec.mpr ⟨e, h2, Or.inr hodd, hp⟩
      · rw [Bool.eq_false_iff]
        intro hc
        obtain ⟨k, hk2, hsgn, hp⟩ := hspec.mp hc
        -- a prime divisor of the exponent
        have hk1 : k ≠ 1 := by omega
        have hpr := Nat.minFac_prime hk1
        have hdv := Nat.minFac_dvd k
        have hpp := isPow_of_dvd hp hdv
        rcases hpr.eq_two_or_odd with h2 | hodd
        · -- even exponent: then i > 0 and i is a perfect square
          rw [h2] at hpp hdv
          exact hs (hsq.mpr ⟨hsgn.resolve_right (by omega), hpp⟩)
        · have := hpr.two_le
          exact e3 (Nat.minFac k) hpr (by omega) (isPow_exp_le_log2 hx hpp) hpp

example : PerfectPowerArg (-(7 ^ 9)) ∧ MpBoost.perfectPower (-(7 ^ 9)) = some true ∧
    MpBoost.perfectPower (-(2 ^ 10)) = some true ∧ MpBoost.perfectPower (-16) = some false := by
  refine ⟨by decide, ?_, ?_, ?_⟩ <;> decide +kernel

example : MpBoost.powm (-8) 5 (-9) = some 1 ∧ MpBoost.powm 3 (-2) 7 = some 4 ∧ MpBoost.powm 2 (-1) 4 = none := by
  refine ⟨?_, ?_, ?_⟩ <;> decide +kernel

example : MpBoost.fib 30 = 832040 ∧ MpBoost.lucnum2 10 = some (123, 76) ∧ MpBoost.fac 10 = 3628800 := by
  refine ⟨?_, ?_, ?_⟩ <;> decide +kernel

example : MpBoost.jacobi 1001 9907 = some (-1) ∧ MpBoost.kronecker (-7) (-20) = some 1 ∧
    MpBoost.kronecker 3 8 = some (-1) := by
  refine ⟨?_, ?_, ?_⟩ <;> decide +kernel

example : MpBoost.legendre (-3) 7 = some 1 ∧ MpBoost.legendre 3 7 = some (-1) ∧ Nat.Prime (7 : Int).toNat := by
  refine ⟨by decide +kernel, by decide +kernel, ?_⟩
  show Nat.Prime 7
  exact (trial_prime 7).mp (by decide)

/-- `mp_scan1`: both models run the same loop on the magnitude (`MpBoost.scan1` calls `MpSpec.scan1Loop`), so this
holds by definition; that `find_lsb` of the magnitude is the lowest set bit in two's complement is not stated -/
theorem scan1 (i : Int) : MpBoost.scan1 i = MpSpec.scan1 i := rfl

example : MpBoost.bin (-5) 3 = -35 ∧ MpBoost.bin 10 4 = 210 ∧ MpBoost.scan1 (-8) = some 3 := by
  refine ⟨?_, ?_, ?_⟩ <;> decide +kernel

/-! The code without the repairs differs from the specification (defects D1–D8 of docs/C43.md; the repairs are in
/repo, commit 377a471): each statement evaluates `MpBoost.Orig` next to the specification (not for D8) and the
repaired model on the minimal witness. -/

theorem orig_kronecker_zero_differs :     -- D1
    MpBoost.Orig.kronecker 1 0 = none ∧ MpSpec.kronecker 1 0 = 1 ∧ MpBoost.kronecker 1 0 = some 1 := by
  refine ⟨?_, ?_, ?_⟩ <;> decide +kernel
theorem orig_jacobi_negative_differs :    -- D2
    MpBoost.Orig.jacobi 2 (-3) = none ∧ MpSpec.jacobi 2 (-3) = some (-1) ∧ MpBoost.jacobi 2 (-3) = some (-1) := by
  refine ⟨?_, ?_, ?_⟩ <;> decide +kernel
theorem orig_probabPrime_negative_differs :   -- D3
    MpBoost.Orig.probabPrime (-7) = none ∧ MpBoost.Orig.probabPrime (-2) = some false ∧
    MpSpec.probabPrime (-2) = true ∧ MpSpec.probabPrime (-7) = true ∧ MpBoost.probabPrime (-7) = true := by
  refine ⟨?_, ?_, ?_, ?_, ?_⟩ <;> decide +kernel
theorem orig_gcdext_zero_differs :        -- D5
    MpBoost.Orig.gcdext 0 0 = (0, 1, 0) ∧ MpSpec.gcdext 0 0 = (0, 0, 0) ∧ MpBoost.gcdext 0 0 = (0, 0, 0) := by
  refine ⟨?_, ?_, ?_⟩ <;> decide +kernel
theorem orig_powm_negative_modulus_differs :  -- D6
    MpBoost.Orig.powm (-8) 1 (-5) = some (-8) ∧ MpSpec.powm (-8) 1 (-5) = some 2 ∧
    MpBoost.powm (-8) 1 (-5) = some 2 := by
  refine ⟨?_, ?_, ?_⟩ <;> decide +kernel
theorem orig_lucnum2_zero_differs :       -- D7
    MpBoost.Orig.lucnum2 0 = none ∧ MpSpec.lucnum2 0 = (2, -1) ∧ MpBoost.lucnum2 0 = some (2, -1) := by
  refine ⟨?_, ?_, ?_⟩ <;> decide +kernel
/-- D8: above 2^1024 the loop bound of the original `mp_perfect_power_p` is `INT_MAX` (model: `none`) -/
theorem orig_perfectPower_unbounded :
    MpBoost.Orig.perfectPower (2 ^ 1030 + 1) = none ∧ MpBoost.perfectPower (2 ^ 1030 + 1) = some false := by
  refine ⟨?_, ?_⟩ <;> decide +kernel

end SymVerif.C43
