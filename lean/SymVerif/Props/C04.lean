/-
C04 — canonical form is unique: results ignore operand order and grouping.

Model: `addE`, `addN` (Model/Arith.lean: `add`, `add(vec_basic)`), `mulEO`, `mulNO`, `maxMinE`
(Model/AC.lean), `andOr` (Model/Logic.lean, property C28).

The unrestricted statement (`C04_full`) is FALSE for the library and for the model, which mirrors the
library: see the `witness_*` theorems below (radicals of negative / perfect-power / Gaussian bases,
powers of products, powers of powers, numbers raised to symbolic exponents, a sum as a term of a sum).
The positive theorems are stated on the decidable operand classes `addOperandOK`, `mulOperandOK`,
`mulOperandOKS`, `mmOperandOK` (Model/AC.lean; `addOperandSafe`, `mulOperandSafe` there are the complements of the
counter-example classes) that the driver evaluates on every operand it is given.
-/
import SymVerif.Lemmas.C04Bridge
import SymVerif.Lemmas.C04Operand
import SymVerif.Lemmas.C04MulSN
import SymVerif.Lemmas.C04MaxMinT
import SymVerif.Lemmas.C04Logic

namespace SymVerif.C04
open SymVerif SymVerif.Arith SymVerif.AC

/-- the hypothesis of the Add theorems holds for every exact expression that satisfies the C03
invariant `inv` (what the library's constructors produce, Props/C03.lean `api_canon`) and is a safe
summand: the Add theorems cover the whole class `inv ∧ exact ∧ addOperandSafe` -/
theorem addOperandOK_of_inv {a : Expr} (hi : inv a = true) (hx : exact a = true)
    (hs : addOperandSafe a = true) : addOperandOK a = true :=
  addOperandOK_iff.mpr (AOK_of_inv hi hx hs)

theorem addE_closed {a b : Expr} (ha : addOperandOK a = true) (hb : addOperandOK b = true) :
    ∃ r, addE a b = .ok r ∧ addOperandOK r = true :=
  (addE_step (addOperandOK_iff.mp ha) (addOperandOK_iff.mp hb)).imp
    fun _ h => ⟨h.1, addOperandOK_iff.mpr h.2.1⟩

theorem addE_comm {a b : Expr} (ha : addOperandOK a = true) (hb : addOperandOK b = true) :
    addE a b = addE b a := by
  have ha := addOperandOK_iff.mp ha
  have hb := addOperandOK_iff.mp hb
  rw [addE_eq ha hb, addE_eq hb ha, radd_comm ha.1 hb.1]

theorem addN_perm {l₁ l₂ : List Expr} (hp : l₁.Perm l₂) (h : ∀ a ∈ l₁, addOperandOK a = true) :
    addN l₁ = addN l₂ :=
  addN_perm_aux hp (aok_all h)

theorem addN_eq_foldl_addE {l : List Expr} (h : ∀ a ∈ l, addOperandOK a = true) :
    addN l = l.foldlM addE zero := by
  have h' := aok_all h
  have hz : AOK zero := ⟨NR_unit, rfl⟩
  rw [addN_eq h', foldlM_addE_eq l hz h']
  rfl

/-- every binary bracketing of the operands evaluates to the n-ary constructor on its leaves … -/
theorem addTree_eq_addN (t : BTree) (h : ∀ a ∈ t.leaves, addOperandOK a = true) :
    evalT addE t = addN t.leaves :=
  evalT_add_eq_addN t (aok_all h)

/-- … hence all bracketings of all permutations of the same operands agree (the property itself,
for sums) -/
theorem addTree_perm (t₁ t₂ : BTree) (hp : t₁.leaves.Perm t₂.leaves)
    (h : ∀ a ∈ t₁.leaves, addOperandOK a = true) : evalT addE t₁ = evalT addE t₂ := by
  have h2 : ∀ a ∈ t₂.leaves, addOperandOK a = true := fun a ha => h a (hp.mem_iff.mpr ha)
  rw [addTree_eq_addN t₁ h, addTree_eq_addN t₂ h2, addN_perm hp h]

theorem addE_assoc {a b c : Expr} (ha : addOperandOK a = true) (hb : addOperandOK b = true)
    (hc : addOperandOK c = true) :
    (do let ab ← addE a b; addE ab c) = (do let bc ← addE b c; addE a bc) := by
  rw [← evalT_left3 addE, ← evalT_right3 addE]
  exact addTree_perm _ _ (by simp [BTree.leaves]) (by simp [BTree.leaves, ha, hb, hc])

/-- the property for sums with the natural hypotheses: all bracketings of all permutations of exact,
invariant, safe summands agree -/
theorem addTree_perm_inv (t₁ t₂ : BTree) (hp : t₁.leaves.Perm t₂.leaves)
    (h : ∀ a ∈ t₁.leaves, inv a = true ∧ exact a = true ∧ addOperandSafe a = true) :
    evalT addE t₁ = evalT addE t₂ :=
  addTree_perm t₁ t₂ hp (fun a ha => addOperandOK_of_inv (h a ha).1 (h a ha).2.1 (h a ha).2.2)

theorem addN_closed {l : List Expr} (h : ∀ a ∈ l, addOperandOK a = true) :
    ∃ r, addN l = .ok r ∧ addOperandOK r = true := by
  have h' := aok_all h
  obtain ⟨r, hr, hok, _⟩ := AOK_fromDict (raddAcc.foldl_N l NR_unit h')
  exact ⟨r, by rw [addN_eq h']; exact hr, addOperandOK_iff.mpr hok⟩

section Examples
private def x : Expr := .sym "x"
private def y : Expr := .sym "y"
private def twoX : Expr := .mul (.int 2) [(x, .int 1)]
private def mTwoX : Expr := .mul (.int (-2)) [(x, .int 1)]
private def sqrt2 : Expr := .pow (.int 2) (.rat 1 2)
private def xy : Expr := .mul (.int 1) [(x, .int 1), (y, .int 1)]
private def xPlusY : Expr := .add (.int 0) [(x, .int 1), (y, .int 1)]
private def halfSqrt2 : Expr := .mul (.rat 1 2) [(.int 2, .rat 1 2)]

-- the hypotheses hold on symbols, numbers (also Gaussian), Mul keys, radicals, nested sums
example : [x, twoX, mTwoX, sqrt2, xy, xPlusY, halfSqrt2, .int 3, .rat 1 2, imagUnit].all addOperandOK = true := by
  decide
-- cancellation a + (-a), coefficient merging, nested sums, Mul keys inside Add
example : (addE twoX mTwoX).toOption.map key = some (key (.int 0)) := by decide
example : (addN [xPlusY, twoX, xy, halfSqrt2, imagUnit, xy]).toOption.map key
    = (addN [xy, imagUnit, twoX, xy, xPlusY, halfSqrt2]).toOption.map key := by decide
example : (addN [xPlusY, twoX, xy, halfSqrt2, imagUnit, xy]).toOption.map key
    = some (key (normOrder (.add imagUnit [(xy, .int 2), (sqrt2, .rat 1 2), (x, .int 3), (y, .int 1)]))) := by decide
end Examples

/-! ### the unrestricted statement is false: `2*(x+y)` as a summand -/

private def wx : Expr := .sym "x"
private def wy : Expr := .sym "y"
private def wS : Expr := .add (.int 0) [(wx, .int 1), (wy, .int 1)]          -- x + y
private def w2S : Expr := .mul (.int 2) [(wS, .int 1)]                        -- 2*(x+y)
private def wmS : Expr := .mul (.int (-1)) [(wS, .int 1)]                     -- -(x+y)

/-- `(x + 2*(x+y)) - (x+y) = x + (x+y)` but `x + (2*(x+y) - (x+y)) = 2*x + y`: all three operands
are invariant (canonical), the two groupings differ.  `2*(x+y)` fails `addOperandSafe`. -/
theorem witness_add_sum_as_term :
    inv wx = true ∧ inv w2S = true ∧ inv wmS = true ∧ addOperandSafe w2S = false
    ∧ ((addE wx w2S).toOption.bind (fun r => (addE r wmS).toOption)).map key
        = some (key (normOrder (.add (.int 0) [(wS, .int 1), (wx, .int 1)])))
    ∧ ((addE w2S wmS).toOption.bind (fun r => (addE wx r).toOption)).map key
        = some (key (normOrder (.add (.int 0) [(wx, .int 2), (wy, .int 1)]))) := by decide

/-! ### Mul, symbolic-exponent fragment: opaque bases whose exponents are arbitrary summands of the safe
Add fragment (numbers, symbols, sums, products, powers …), coefficients in ℚ(i) \ {0}.  Contains the
numeric-exponent fragment; the exponent arithmetic is `add` of the model (`addE_*` above). -/

theorem mulTree_eq_mulNO_sym (rv rv' : Bool) (t : BTree) (h : ∀ a ∈ t.leaves, mulOperandOKS a = true)
    (hfu : tlen t.leaves + 6 ≤ defaultFuel) :
    evalT (mulEO rv) t = mulNO rv' t.leaves :=
  evalTS_mul rv rv' t (moks_all h) hfu

theorem mulNO_perm_sym (rv rv' : Bool) {l₁ l₂ : List Expr} (hp : l₁.Perm l₂)
    (h : ∀ a ∈ l₁, mulOperandOKS a = true) (hfu : tlen l₁ + 6 ≤ defaultFuel) :
    mulNO rv l₁ = mulNO rv' l₂ := by
  have h2 : ∀ a ∈ l₂, mulOperandOKS a = true := fun a ha => h a (hp.mem_iff.mpr ha)
  have hlen := tlen_perm hp
  rw [mulNOS_eq (moks_all h) hfu, mulNOS_eq (moks_all h2) (by omega), rprodS_perm hp (moks_all h)]

/-- all bracketings of all permutations of the same factors agree, whatever the iteration orders
(the property itself, for products with symbolic exponents on opaque bases) -/
theorem mulTree_perm_sym (rv rv' : Bool) (t₁ t₂ : BTree) (hp : t₁.leaves.Perm t₂.leaves)
    (h : ∀ a ∈ t₁.leaves, mulOperandOKS a = true) (hfu : tlen t₁.leaves + 6 ≤ defaultFuel) :
    evalT (mulEO rv) t₁ = evalT (mulEO rv') t₂ := by
  have h2 : ∀ a ∈ t₂.leaves, mulOperandOKS a = true := fun a ha => h a (hp.mem_iff.mpr ha)
  have hlen := tlen_perm hp
  -- `false`: any one order for the n-ary product in the middle
  rw [mulTree_eq_mulNO_sym rv false t₁ h hfu, mulTree_eq_mulNO_sym rv' false t₂ h2 (by omega),
    mulNO_perm_sym false false hp h hfu]

theorem mulEO_comm_sym (rv rv' : Bool) {a b : Expr} (ha : mulOperandOKS a = true)
    (hb : mulOperandOKS b = true) (hfu : dlen a + dlen b + 6 ≤ defaultFuel) :
    mulEO rv a b = mulEO rv' b a := by
  rw [← evalT_pair (mulEO rv), ← evalT_pair (mulEO rv')]
  exact mulTree_perm_sym rv rv' _ _ (List.perm_append_comm (l₁ := [a]) (l₂ := [b]))
    (by simp [BTree.leaves, ha, hb])
    (by simp [BTree.leaves, tlen]; omega)

theorem mulEO_assoc_sym (rv rv' : Bool) {a b c : Expr} (ha : mulOperandOKS a = true)
    (hb : mulOperandOKS b = true) (hc : mulOperandOKS c = true)
    (hfu : dlen a + dlen b + dlen c + 6 ≤ defaultFuel) :
    (do let ab ← mulEO rv a b; mulEO rv ab c) = (do let bc ← mulEO rv' b c; mulEO rv' a bc) := by
  rw [← evalT_left3 (mulEO rv), ← evalT_right3 (mulEO rv')]
  exact mulTree_perm_sym rv rv' _ _ (by simp [BTree.leaves]) (by simp [BTree.leaves, ha, hb, hc])
    (by simp [BTree.leaves, tlen]; omega)

theorem mulEO_closed_sym (rv : Bool) {a b : Expr} (ha : mulOperandOKS a = true)
    (hb : mulOperandOKS b = true) (hfu : dlen a + dlen b + 6 ≤ defaultFuel) :
    ∃ r, mulEO rv a b = .ok r ∧ mulOperandOKS r = true ∧ dlen r ≤ dlen a + dlen b :=
  (mulEO_step rv (mulOperandOKS_iff.mp ha) (mulOperandOKS_iff.mp hb) hfu).imp
    fun _ h => ⟨h.1, mulOperandOKS_iff.mpr h.2.1, h.2.2.2⟩

section MulSymExamples
private def ux : Expr := .sym "x"
private def uy : Expr := .sym "y"
private def uz : Expr := .sym "z"
private def xPowY : Expr := .pow ux uy                                        -- x**y
private def xPowHalfMinusY : Expr := .pow ux (.add (.rat 1 2) [(uy, .int (-1))])   -- x**(1/2 - y)
private def xPow2z : Expr := .pow ux (.mul (.int 2) [(uz, .int 1)])           -- x**(2*z)
private def threeXzY : Expr := .mul (.int 3) (sortDict [(ux, uz), (uy, .int (-2))])  -- 3*x**z*y**-2

example : [xPowY, xPowHalfMinusY, xPow2z, threeXzY, ux, imagUnit].all mulOperandOKS = true := by decide
-- x**y * x**(1/2 - y) = x**(1/2); the exponents are added with `add`
example : (mulE xPowY xPowHalfMinusY).toOption.map key = some (key (.pow ux (.rat 1 2))) := by decide
example : (mulNO false [xPowY, threeXzY, xPowHalfMinusY, imagUnit, xPow2z]).toOption.map key
    = (mulNO true [xPow2z, imagUnit, xPowHalfMinusY, threeXzY, xPowY]).toOption.map key := by decide
end MulSymExamples

/-! ### Mul, numeric-exponent fragment: opaque bases with exact numeric (Integer, Rational, Gaussian)
exponents, coefficients in ℚ(i) \ {0}: the part of the symbolic-exponent fragment whose exponents are
Numbers (`mulOperandOKS_of_mulOperandOK`), and closed under `mul` (`mulEO_closed`).  All statements hold
for both dictionary iteration orders (`rv`, `rv'`) independently on the two sides: the result does not
depend on the hash order. -/

theorem mulTree_eq_mulNO (rv rv' : Bool) (t : BTree) (h : ∀ a ∈ t.leaves, mulOperandOK a = true)
    (hfu : tlen t.leaves + 6 ≤ defaultFuel) :
    evalT (mulEO rv) t = mulNO rv' t.leaves :=
  mulTree_eq_mulNO_sym rv rv' t (moksb_all h) hfu

theorem mulNO_perm (rv rv' : Bool) {l₁ l₂ : List Expr} (hp : l₁.Perm l₂)
    (h : ∀ a ∈ l₁, mulOperandOK a = true) (hfu : tlen l₁ + 6 ≤ defaultFuel) :
    mulNO rv l₁ = mulNO rv' l₂ :=
  mulNO_perm_sym rv rv' hp (moksb_all h) hfu

/-- all bracketings of all permutations of the same factors agree, whatever the iteration orders
(the property itself, for products of the fragment) -/
theorem mulTree_perm (rv rv' : Bool) (t₁ t₂ : BTree) (hp : t₁.leaves.Perm t₂.leaves)
    (h : ∀ a ∈ t₁.leaves, mulOperandOK a = true) (hfu : tlen t₁.leaves + 6 ≤ defaultFuel) :
    evalT (mulEO rv) t₁ = evalT (mulEO rv') t₂ :=
  mulTree_perm_sym rv rv' t₁ t₂ hp (moksb_all h) hfu

theorem mulEO_comm (rv rv' : Bool) {a b : Expr} (ha : mulOperandOK a = true) (hb : mulOperandOK b = true)
    (hfu : dlen a + dlen b + 6 ≤ defaultFuel) : mulEO rv a b = mulEO rv' b a :=
  mulEO_comm_sym rv rv' (mulOperandOKS_of_mulOperandOK ha) (mulOperandOKS_of_mulOperandOK hb) hfu

theorem mulEO_assoc (rv rv' : Bool) {a b c : Expr} (ha : mulOperandOK a = true) (hb : mulOperandOK b = true)
    (hc : mulOperandOK c = true) (hfu : dlen a + dlen b + dlen c + 6 ≤ defaultFuel) :
    (do let ab ← mulEO rv a b; mulEO rv ab c) = (do let bc ← mulEO rv' b c; mulEO rv' a bc) :=
  mulEO_assoc_sym rv rv' (mulOperandOKS_of_mulOperandOK ha) (mulOperandOKS_of_mulOperandOK hb)
    (mulOperandOKS_of_mulOperandOK hc) hfu

theorem mulEO_closed (rv : Bool) {a b : Expr} (ha : mulOperandOK a = true) (hb : mulOperandOK b = true)
    (hfu : dlen a + dlen b + 6 ≤ defaultFuel) :
    ∃ r, mulEO rv a b = .ok r ∧ mulOperandOK r = true ∧ dlen r ≤ dlen a + dlen b := by
  obtain ⟨hsa, hna⟩ := mulOperandOK_iff_sym.mp ha
  obtain ⟨hsb, hnb⟩ := mulOperandOK_iff_sym.mp hb
  obtain ⟨r, hr, hrs, hrep, hlen⟩ := mulEO_step rv (mulOperandOKS_iff.mp hsa) (mulOperandOKS_iff.mp hsb) hfu
  refine ⟨r, hr, mulOperandOK_iff_sym.mpr ⟨mulOperandOKS_iff.mpr hrs, ?_⟩, hlen⟩
  rw [hrep]
  -- the exponents of the product are sums of exponents of the factors, and `add` of two Numbers is a Number
  exact mergeG_all expVS (fun _ v => v.isNum = true)
    (fun _ v c hv hc => by
      show (expAdd v c).isNum = true
      rw [expAdd_num hv hc]
      exact exOK_isNum (exOK_ofG _))
    hna hnb

section MulExamples
private def mx : Expr := .sym "x"
private def my : Expr := .sym "y"
private def fx : Expr := .fsym "f" [mx]
private def x2 : Expr := .pow mx (.int 2)
private def xm1 : Expr := .pow mx (.int (-1))
private def sqx : Expr := .pow mx (.rat 1 2)
private def xPy : Expr := .add (.int 0) [(mx, .int 1), (my, .int 1)]
private def threeXY : Expr := .mul (.int 3) [(mx, .int 1), (my, .int (-2))]
private def iHalfF : Expr := .mul (.cplx ⟨0, 1⟩ ⟨1, 2⟩) [(fx, .rat 3 2)]

example : [mx, fx, x2, xm1, sqx, xPy, threeXY, iHalfF, .int (-3), .rat 2 3, imagUnit].all mulOperandOK = true := by
  decide
-- cancellation x * x**-1, exponent merging x**(1/2) * x**(1/2), Gaussian coefficients, a sum as a base
example : (mulE mx xm1).toOption.map key = some (key (.int 1)) := by decide
example : (mulE sqx sqx).toOption.map key = some (key mx) := by decide
example : (mulNO false [threeXY, iHalfF, sqx, xPy, imagUnit, sqx, xm1]).toOption.map key
    = (mulNO true [xm1, sqx, imagUnit, xPy, threeXY, sqx, iHalfF]).toOption.map key := by decide
example : (mulNO false [threeXY, iHalfF, sqx, xPy, imagUnit, sqx, xm1]).toOption.map key
    = some (key (normOrder (.mul (.rat (-3) 2) [(mx, .int 1), (my, .int (-2)), (fx, .rat 3 2), (xPy, .int 1)]))) := by
  decide
end MulExamples

/-- `max(vec)` / `min(vec)` only depend on the multiset of the operands (exact real numbers,
non-Max expressions, canonical Max nodes, which are flattened) -/
theorem maxMinE_perm (isMax : Bool) {l₁ l₂ : List Expr} (hp : l₁.Perm l₂)
    (h : ∀ a ∈ l₁, mmOperandOK isMax a = true) : maxMinE isMax l₁ = maxMinE isMax l₂ :=
  maxMinE_perm_aux hp h

/-- every binary bracketing (with the binary `max({a, b})`) evaluates to the n-ary `max(vec)` on its
leaves: nested results are flattened -/
theorem maxMinTree_eq (isMax : Bool) (t : BTree) (h : ∀ a ∈ t.leaves, mmCanonOperand isMax a = true) :
    evalT (mm2 isMax) t = maxMinE isMax t.leaves :=
  evalT_mm_eq isMax t (fun a ha => mmCanonOperand_iff.mp (h a ha))

/-- all bracketings of all permutations of the same operands of max / min agree -/
theorem maxMinTree_perm (isMax : Bool) (t₁ t₂ : BTree) (hp : t₁.leaves.Perm t₂.leaves)
    (h : ∀ a ∈ t₁.leaves, mmCanonOperand isMax a = true) :
    evalT (mm2 isMax) t₁ = evalT (mm2 isMax) t₂ := by
  have h2 : ∀ a ∈ t₂.leaves, mmCanonOperand isMax a = true := fun a ha => h a (hp.mem_iff.mpr ha)
  rw [maxMinTree_eq isMax t₁ h, maxMinTree_eq isMax t₂ h2,
    maxMinE_perm isMax hp (fun a ha => (mmCanonOperand_iff.mp (h a ha)).1)]

/-- `logical_and` / `logical_or` (the `and_or` template of logic.cpp as modelled for C28) only depend
on the multiset of the arguments -/
theorem andOr_perm (isOr : Bool) {s₁ s₂ : List Logic.B} (hp : s₁.Perm s₂) :
    Logic.andOr isOr s₁ = Logic.andOr isOr s₂ :=
  C04L.andOr_perm_aux isOr hp

/-- grouping for and / or: a nested call of the same connective is flattened,
`and(and(s₁), s₂…) = and(s₁ ++ s₂)` (arguments well-formed in the sense of C28) -/
theorem andOr_flatten (isOr : Bool) (s₁ s₂ : List Logic.B) (h : ∀ a ∈ s₁, C28.wf a = true) :
    Logic.andOr isOr (Logic.andOr isOr s₁ :: s₂) = Logic.andOr isOr (s₁ ++ s₂) :=
  C04L.andOr_flatten_aux isOr s₁ s₂ h

theorem andOr_flatten2 (isOr : Bool) (a b c : Logic.B) (ha : C28.wf a = true) (hb : C28.wf b = true) :
    Logic.andOr isOr [Logic.andOr isOr [a, b], c] = Logic.andOr isOr [a, b, c] :=
  C04L.andOr_flatten2_aux isOr a b c ha hb

section MaxMinAndOrExamples
private def ax : Expr := .sym "x"
private def ay : Expr := .sym "y"
private def maxN : Expr := .app "Max" [.int 5, ay]
example : [ax, .int 3, maxN, .rat 1 2].all (mmCanonOperand true) = true := by decide
-- max(max(x, 3), max(Max(5, y), 1/2)) = max(x, 3, Max(5, y), 1/2)
example : (evalT (mm2 true) (.node (.node (.leaf ax) (.leaf (.int 3))) (.node (.leaf maxN) (.leaf (.rat 1 2))))).toOption.map key
    = (maxMinE true [ax, .int 3, maxN, .rat 1 2]).toOption.map key := by decide
-- max(x, 3, Max(5, y), 1/2) = Max(5, x, y) in any order
example : (maxMinE true [ax, .int 3, maxN, .rat 1 2]).toOption.map key
    = (maxMinE true [.rat 1 2, maxN, ax, .int 3]).toOption.map key := by decide
example : (maxMinE true [ax, .int 3, maxN, .rat 1 2]).toOption.map key
    = some (key (.app "Max" (sortByKey [.int 5, ax, ay]))) := by decide
example : Logic.andOr false [Logic.andOr false [.rel 0 false, .rel 1 true], .rel 2 false]
    = Logic.andOr false [.rel 0 false, .rel 1 true, .rel 2 false] := by decide
example : Logic.andOr false [.rel 0 false, .rel 1 true, .and [.rel 2 false, .rel 3 false]]
    = Logic.andOr false [.and [.rel 2 false, .rel 3 false], .rel 0 false, .rel 1 true] := by decide
end MaxMinAndOrExamples

/-! ### the unrestricted statement is false for products: six classes of order-dependent normal forms
(each confirmed on the real library with the same operands, see docs/C04.md) -/

/-- `(a*b)*c` -/
def grpL (a b c : Expr) : Option (List Nat) :=
  ((mulE a b).toOption.bind (fun r => (mulE r c).toOption)).map key
/-- `a*(b*c)` -/
def grpR (a b c : Expr) : Option (List Nat) :=
  ((mulE b c).toOption.bind (fun r => (mulE a r).toOption)).map key

/-- both groupings succeed on invariant operands and give different expressions; `a` is outside
`mulOperandSafe`.  The operands are taken in reverse: `Nonconfluent A A B` compares `(B*A)*A` with `B*(A*A)`. -/
def Nonconfluent (a b c : Expr) : Prop :=
  inv a = true ∧ inv b = true ∧ inv c = true ∧ mulOperandSafe a = false
  ∧ (grpL c b a).isSome = true ∧ (grpR c b a).isSome = true ∧ grpL c b a ≠ grpR c b a

private def sx : Expr := .sym "x"
private def sy : Expr := .sym "y"
private def pxy : Expr := .mul (.int 1) [(sx, .int 1), (sy, .int 1)]

/-- `(-1)**(1/3) * (-1)**(1/3) * (-1)**(1/6)`: `(-1)**(5/6)` or `I*(-1)**(1/3)` -/
theorem witness_mul_rad_negbase :
    Nonconfluent (.pow (.int (-1)) (.rat 1 3)) (.pow (.int (-1)) (.rat 1 3)) (.pow (.int (-1)) (.rat 1 6)) := by
  unfold Nonconfluent grpL grpR; decide

/-- `4**(1/3) * 4**(1/3) * 4**(1/6)`: `4**(5/6)` or `2*4**(1/3)` -/
theorem witness_mul_rad_perfectpower :
    Nonconfluent (.pow (.int 4) (.rat 1 3)) (.pow (.int 4) (.rat 1 3)) (.pow (.int 4) (.rat 1 6)) := by
  unfold Nonconfluent grpL grpR; decide

/-- `I**(1/2) * I**(1/2) * I**(1/3)`: `I*I**(1/3)` or `I**(4/3)` -/
theorem witness_mul_rad_gaussian :
    Nonconfluent (.pow imagUnit (.rat 1 2)) (.pow imagUnit (.rat 1 2)) (.pow imagUnit (.rat 1 3)) := by
  unfold Nonconfluent grpL grpR; decide

/-- `(x*y)**(1/2) * (x*y)**(1/2) * (x*y)**(1/4)`: `x*y*(x*y)**(1/4)` or `(x*y)**(5/4)` -/
theorem witness_mul_mulbase :
    Nonconfluent (.pow pxy (.rat 1 2)) (.pow pxy (.rat 1 2)) (.pow pxy (.rat 1 4)) := by
  unfold Nonconfluent grpL grpR; decide

/-- `(x**y)**(1/2) * (x**y)**(1/2) * (x**y)**(1/3)`: `x**y*(x**y)**(1/3)` or `(x**y)**(4/3)` -/
theorem witness_mul_powbase :
    Nonconfluent (.pow (.pow sx sy) (.rat 1 2)) (.pow (.pow sx sy) (.rat 1 2)) (.pow (.pow sx sy) (.rat 1 3)) := by
  unfold Nonconfluent grpL grpR; decide

/-- `2**x * 2**(1-x) * 2**y`: `2*2**y` or `2**(1+y)` -/
theorem witness_mul_num_symexp :
    Nonconfluent (.pow (.int 2) sx) (.pow (.int 2) (.add (.int 1) [(sx, .int (-1))])) (.pow (.int 2) sy) := by
  unfold Nonconfluent grpL grpR; decide

/-- the statement of the property without the operand restriction, for the model of `mul`: false -/
def C04_full : Prop :=
  ∀ a b c : Expr, inv a = true → inv b = true → inv c = true → exact a = true → exact b = true →
    exact c = true → grpL a b c = grpR a b c

theorem C04_full_false : ¬ C04_full := by
  intro h
  obtain ⟨ha, hb, hc, -, -, -, hne⟩ := witness_mul_rad_negbase
  exact hne (h _ _ _ hc hb ha (by decide) (by decide) (by decide))

end SymVerif.C04
