/-
C07  Arithmetic construction preserves mathematical value — certificate checking.

The real library computes `R = op(A, B, …)`.  The driver (`Drv/C07.lean`) prints
`ok` exactly when `C07.judge op args R = .ok`, which implies `C07.accepts op args R`.
This file proves: an accepted result has, for **every** field `K` of
characteristic 0, every square root `I` of -1 in `K` and every assignment `ρ` of
values to the atoms, the value `op` applied to the operand values — whenever
operands, operation and result are defined (`denote … = some w`: operands in the
exact integer-exponent fragment without poles at `ρ`, divisor ≠ 0, base ≠ 0 under
a negative exponent).

Radicals / non-integer exponents are outside this fragment (`C07_full`).
-/
import Mathlib.Data.Complex.Basic
import SymVerif.Lemmas.NFSound
import SymVerif.Model.C07Check

namespace SymVerif
namespace C07

open NF
open Classical

section
variable {K : Type*} [Field K] (I : K) (ρ : String → K)

noncomputable def sumK : List Expr → Option K
  | [] => some 0
  | a :: t => add2 (evalK I ρ a) (sumK t)

noncomputable def prodK : List Expr → Option K
  | [] => some 1
  | a :: t => mul2 (evalK I ρ a) (prodK t)

noncomputable def neg1 : Option K → Option K
  | some a => some (-a)
  | none => none

/-- `a / b`, undefined for `b = 0` -/
noncomputable def div2 : Option K → Option K → Option K
  | some a, some b => if b = 0 then none else some (a / b)
  | _, _ => none

/-- value of `op` applied to the values of the operands; `none` when an operand is undefined or the
operation is (division by zero, `0 ^ negative`) -/
noncomputable def denote : Op → List Expr → Option K
  | .add, [a, b] => add2 (evalK I ρ a) (evalK I ρ b)
  | .sub, [a, b] => add2 (evalK I ρ a) (neg1 (evalK I ρ b))
  | .mul, [a, b] => mul2 (evalK I ρ a) (evalK I ρ b)
  | .div, [a, b] => div2 (evalK I ρ a) (evalK I ρ b)
  | .neg, [a] => neg1 (evalK I ρ a)
  | .pow, [a, .int n] => (evalK I ρ a).bind (fun v => powVal v n)
  | .addn, as => sumK I ρ as
  | .muln, as => prodK I ρ as
  | _, _ => none

variable {I ρ}

theorem div2_some {x y : Option K} {v : K} (h : div2 x y = some v) :
    ∃ a b, x = some a ∧ y = some b ∧ b ≠ 0 ∧ v = a / b := by
  cases x <;> cases y <;> simp [div2] at h
  exact ⟨_, _, rfl, rfl, h.1, h.2.symm⟩

theorem _root_.SymVerif.NF.ORep.neg1 {f : Frac} {x : Option K} (hf : ORep I ρ f x) :
    ORep I ρ (negF f) (neg1 x) := by
  cases x with
  | none => exact .undef _
  | some a => exact .of (rep_negF (hf a rfl))

theorem _root_.SymVerif.NF.ORep.div2 (hI : I * I = -1) {f g : Frac} {x y : Option K} (hf : ORep I ρ f x)
    (hg : ORep I ρ g y) : ORep I ρ (divF f g) (div2 x y) := by
  intro v h
  obtain ⟨a, b, rfl, rfl, hb, rfl⟩ := div2_some h
  exact rep_divF hI (hf a rfl) (hg b rfl) hb

variable [CharZero K]

theorem sumF_rep (hI : I * I = -1) : ∀ (as : List Expr), ORep I ρ (sumF as) (sumK I ρ as)
  | [] => .of rep_zeroF
  | a :: t => (normT_rep hI a).add2 hI (sumF_rep hI t)

theorem prodF_rep (hI : I * I = -1) : ∀ (as : List Expr), ORep I ρ (prodF as) (prodK I ρ as)
  | [] => .of rep_oneF
  | a :: t => (normT_rep hI a).mul2 hI (prodF_rep hI t)

/-- the recipe fraction represents the value of the operation: `recipe` and `denote` are built in parallel -/
theorem recipe_sound (hI : I * I = -1) {op : Op} {args : List Expr} {f : Frac}
    (hf : recipe op args = some f) : ORep I ρ f (denote I ρ op args) := by
  revert hf
  fun_cases recipe op args <;> intro hf <;> cases hf <;> simp only [denote, subF]
  · exact (normT_rep hI _).add2 hI (normT_rep hI _)
  · exact (normT_rep hI _).add2 hI (normT_rep hI _).neg1
  · exact (normT_rep hI _).mul2 hI (normT_rep hI _)
  · exact (normT_rep hI _).div2 hI (normT_rep hI _)
  · exact (normT_rep hI _).neg1
  · exact (normT_rep hI _).powVal hI _
  · exact sumF_rep hI _
  · exact prodF_rep hI _

/-- **C07, certificate soundness.**  If the checker accepts `R` as the result of `op` on `args`,
then in every characteristic-0 field, for every assignment at which the operation on the operand values is
defined (`= some w`) and `R` is defined (`= some vr`), the value of `R` is the value of the operation. -/
theorem c07_certificate_sound (hI : I * I = -1) {op : Op} {args : List Expr} {r : Expr} {w vr : K}
    (hacc : accepts op args r = true)
    (hw : denote I ρ op args = some w) (hr : evalK I ρ r = some vr) : vr = w := by
  unfold accepts at hacc
  split at hacc
  · rename_i f hf
    exact (normT_rep hI r).equivF_sound hI (recipe_sound hI hf) hacc hr hw
  · cases hacc

end

theorem judge_ok {op : Op} {args : List Expr} {r : Expr} (h : judge op args r = .ok) :
    accepts op args r = true := by
  unfold judge at h
  -- `.ok` occurs only under `if accepts op args r`, where the test is in the context (`assumption` first: `cases h`
  -- succeeds there without closing the goal)
  repeat' split at h
  all_goals first | assumption | cases h

section
variable {K : Type*} [Field K] [CharZero K] {I : K} {ρ : String → K}

/-- **C07, driver level**: an `ok` line of the driver certifies value preservation. -/
theorem c07_driver_ok_sound (hI : I * I = -1) {op : Op} {args : List Expr} {r : Expr} {w vr : K}
    (hok : judge op args r = .ok)
    (hw : denote I ρ op args = some w) (hr : evalK I ρ r = some vr) : vr = w :=
  c07_certificate_sound hI (judge_ok hok) hw hr

theorem c07_add (hI : I * I = -1) {A B R : Expr} {a b r : K} (h : accepts .add [A, B] R = true)
    (hA : evalK I ρ A = some a) (hB : evalK I ρ B = some b) (hR : evalK I ρ R = some r) : r = a + b :=
  c07_certificate_sound hI h (by simp [denote, hA, hB, add2]) hR

theorem c07_sub (hI : I * I = -1) {A B R : Expr} {a b r : K} (h : accepts .sub [A, B] R = true)
    (hA : evalK I ρ A = some a) (hB : evalK I ρ B = some b) (hR : evalK I ρ R = some r) : r = a - b :=
  c07_certificate_sound hI h (by simp [denote, hA, hB, add2, neg1, sub_eq_add_neg]) hR

theorem c07_mul (hI : I * I = -1) {A B R : Expr} {a b r : K} (h : accepts .mul [A, B] R = true)
    (hA : evalK I ρ A = some a) (hB : evalK I ρ B = some b) (hR : evalK I ρ R = some r) : r = a * b :=
  c07_certificate_sound hI h (by simp [denote, hA, hB, mul2]) hR

theorem c07_div (hI : I * I = -1) {A B R : Expr} {a b r : K} (h : accepts .div [A, B] R = true)
    (hA : evalK I ρ A = some a) (hB : evalK I ρ B = some b) (hb : b ≠ 0) (hR : evalK I ρ R = some r) :
    r = a / b :=
  c07_certificate_sound hI h (by simp [denote, hA, hB, div2, hb]) hR

theorem c07_neg (hI : I * I = -1) {A R : Expr} {a r : K} (h : accepts .neg [A] R = true)
    (hA : evalK I ρ A = some a) (hR : evalK I ρ R = some r) : r = -a :=
  c07_certificate_sound hI h (by simp [denote, hA, neg1]) hR

theorem c07_pow (hI : I * I = -1) {A R : Expr} {n : Int} {a r : K} (h : accepts .pow [A, .int n] R = true)
    (hA : evalK I ρ A = some a) (ha : n < 0 → a ≠ 0) (hR : evalK I ρ R = some r) : r = a ^ n := by
  refine c07_certificate_sound hI h ?_ hR
  simp [denote, hA, powVal_of ha]

end

/-- non-vacuity (over ℂ): `x * x⁻¹` returned as `1` is accepted … -/
theorem ex_accepts : accepts .mul [.sym "x", .pow (.sym "x") (.int (-1))] (.int 1) = true := by
  decide +kernel

/-- … and the theorem applies at every assignment with `x ≠ 0`. -/
example (ρ : String → ℂ) (hx : ρ (Expr.dumpCanon (.sym "x")) ≠ 0) :
    ((1 : ℤ) : ℂ) = ρ (Expr.dumpCanon (.sym "x")) * ρ (Expr.dumpCanon (.sym "x")) ^ (-1 : ℤ) :=
  c07_certificate_sound (I := Complex.I) (ρ := ρ) Complex.I_mul_I ex_accepts
    (by simp [denote, evalK, intLit?, powVal, mul2, hx]) (by simp [evalK])

/-- `1/2 + 1/3` returned as `5/6` is accepted, `1/2 + 1/3` returned as `1` is not. -/
example : accepts .add [.rat 1 2, .rat 1 3] (.rat 5 6) = true
    ∧ accepts .add [.rat 1 2, .rat 1 3] (.int 1) = false := by
  decide +kernel

/-- `(1 + i)^2` returned as `2i` is accepted (Gaussian coefficients) -/
example : accepts .pow [.cplx ⟨1, 1⟩ ⟨1, 1⟩, .int 2] (.cplx ⟨0, 1⟩ ⟨2, 1⟩) = true := by
  decide +kernel

/-- The full property (all of add/sub/mul/div/neg/pow/sqrt/cbrt including non-integer exponents with the
principal branch, at every complex assignment away from branch cuts) is **not** proved here; it needs a
denotation into ℂ with `Complex.cpow` and a checker for radical identities.  Kept as a statement:
`evalC` is a parameter standing for that denotation. -/
def C07_full (evalC : (String → ℂ) → Expr → Option ℂ)
    (construct : String → List Expr → Expr) (meaning : String → List ℂ → Option ℂ) : Prop :=
  ∀ (op : String) (args : List Expr) (ρ : String → ℂ) (vals : List ℂ) (w r : ℂ),
    args.mapM (evalC ρ) = some vals → meaning op vals = some w →
    evalC ρ (construct op args) = some r → r = w

end C07
end SymVerif
