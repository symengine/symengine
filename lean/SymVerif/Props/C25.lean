import SymVerif.Lemmas.C25Scale
import SymVerif.Lemmas.C25FromCoo
import SymVerif.Lemmas.C25Binop
import SymVerif.Lemmas.C25Transpose
/-!
# C25 — sparse CSR matrices stay canonical and agree with dense ones

Model: `SymVerif/Model/CSR.lean` (the functions the driver `Drv/C25.lean` runs).  The theorems about
the single operations stand in `Lemmas/C25*.lean`; each is for *every* canonical state and every
input satisfying the stated side conditions, and also says that no `Err.oob` — no out-of-range vector
access — occurs.  Here: one call (`step_spec`) and histories of calls against the obvious dense
algorithm, the empty matrix, and two refutations for `csr_matmat`, which has no other theorem.
-/
namespace SymVerif.C25
open SymVerif.CSR Finset

/-- `d` outside the shape is not constrained: that is why `Agrees` bounds `i` and `c` -/
structure DM where
  row : Nat
  col : Nat
  d : Nat → Nat → Q

/-- the call is inside its documented domain for a `row × col` matrix -/
def OpOk (row col : Nat) : Op → Prop
  | .set i c _ => i < row ∧ c < col
  | .get i c => i < row ∧ c < col
  | .add ts => ∀ t ∈ ts, t.1 < row ∧ t.2.1 < col
  | .sub ts => ∀ t ∈ ts, t.1 < row ∧ t.2.1 < col
  | .emul ts => ∀ t ∈ ts, t.1 < row ∧ t.2.1 < col
  | .transpose => True
  | .conj => True
  | .scaleRows X => X.length = row ∧ ∀ r, r < row → X.toArray[r]! ≠ 0
  | .scaleCols X => X.length = col ∧ ∀ c, c < col → X.toArray[c]! ≠ 0
  | .diag => True
  | .check => True

/-- the same call on the dense matrix -/
def denseStep (D : DM) : Op → DM
  | .set i c e => { D with d := fun i' c' => if i' = i ∧ c' = c then e else D.d i' c' }
  | .get _ _ => D
  | .add ts => { D with d := fun i c => D.d i c + cooSum ts i c }
  | .sub ts => { D with d := fun i c => D.d i c - cooSum ts i c }
  | .emul ts => { D with d := fun i c => D.d i c * cooSum ts i c }
  | .transpose => { row := D.col, col := D.row, d := fun i c => D.d c i }
  | .conj => D
  | .scaleRows X => { D with d := fun i c => D.d i c * X.toArray[i]! }
  | .scaleCols X => { D with d := fun i c => D.d i c * X.toArray[c]! }
  | .diag => D
  | .check => D

/-- what the call must return, in terms of the dense matrix -/
def outOk (D : DM) : Op → Out → Prop
  | .get i c, o => o = .val (D.d i c)
  | .diag, o => o = .vals ((List.range (min D.row D.col)).map (fun r => D.d r r))
  | .check, o => o = .flags true false true
  | _, o => o = .state

/-- the CSR state denotes the dense matrix -/
def Agrees (m : Mat) (D : DM) : Prop :=
  m.row = D.row ∧ m.col = D.col ∧ ∀ i c, i < m.row → c < m.col → dense m i c = D.d i c

theorem Agrees.of_same_shape {m m' : Mat} {D : DM} (ha : Agrees m D) (hr : m'.row = m.row)
    (hc : m'.col = m.col) {d' : Nat → Nat → Q}
    (h : ∀ i c, i < m.row → c < m.col → dense m' i c = d' i c) : Agrees m' { D with d := d' } :=
  ⟨hr.trans ha.1, hc.trans ha.2.1, fun i c hi hc' => h i c (hr ▸ hi) (hc ▸ hc')⟩

/-- the three operations built on `csr_binop_csr_canonical` with a `from_coo` operand -/
theorem binop_coo_step (op : Q → Q → Q) (hop : op 0 0 = 0) {m : Mat} {D : DM} (hm : CanonCSR m)
    (ha : Agrees m D) (ts : List Triple) (hts : ∀ t ∈ ts, t.1 < m.row ∧ t.2.1 < m.col) :
    ∃ m', (do let b ← fromCoo m.row m.col ts; let r ← binop op m b; pure (r, Out.state))
        = Except.ok (m', Out.state) ∧ CanonCSR m' ∧
      Agrees m' { D with d := fun i c => op (D.d i c) (cooSum ts i c) } := by
  obtain ⟨b, e1, hb, hbr, hbc, hbd⟩ := fromCoo_spec m.row m.col ts hts
  obtain ⟨r, e2, hr, hrr, hrc, hrd⟩ := binop_spec op hop hm hb hbr.symm hbc.symm
  exact ⟨r, by simp only [e1, ok_bind, e2, pure_ok], hr, ha.of_same_shape hrr hrc
    (fun i c hi hc => by rw [hrd i c hi, ha.2.2 i c hi hc, hbd i c hi])⟩

/-- one call inside its domain, from a canonical state that denotes `D` -/
theorem step_spec {m : Mat} {D : DM} (hm : CanonCSR m) (ha : Agrees m D) (op : Op)
    (hok : OpOk D.row D.col op) :
    ∃ m' o, step m op = .ok (m', o) ∧ CanonCSR m' ∧ Agrees m' (denseStep D op) ∧ outOk D op o := by
  have ⟨har, hac, had⟩ := ha
  cases op with
  | set i c e =>
    obtain ⟨hi, hc⟩ := hok
    obtain ⟨m', e1, h1, h2, h3, h4⟩ := set_spec hm (har ▸ hi) (hac ▸ hc) e
    exact ⟨m', .state, by simp only [step, e1, ok_bind, pure_ok], h1, ha.of_same_shape h2 h3
      (fun i' c' hi' hc' => by rw [h4 i' c' hi', had i' c' hi' hc']), rfl⟩
  | get i c =>
    obtain ⟨hi, hc⟩ := hok
    refine ⟨m, .val (dense m i c), by
      simp only [step, get_spec hm (har ▸ hi) (hac ▸ hc), ok_bind, pure_ok],
      hm, ha, ?_⟩
    show Out.val _ = Out.val _
    rw [had i c (har ▸ hi) (hac ▸ hc)]
  | add ts =>
    obtain ⟨m', e, h1, h2⟩ := binop_coo_step (· + ·) (by simp) hm ha ts
      (by rw [har, hac]; exact hok)
    -- `binop_coo_step` is stated with the body of `step`, so `e` fits the goal by unfolding `step`
    exact ⟨m', .state, e, h1, h2, rfl⟩
  | sub ts =>
    obtain ⟨m', e, h1, h2⟩ := binop_coo_step (· - ·) (by simp) hm ha ts
      (by rw [har, hac]; exact hok)
    exact ⟨m', .state, e, h1, h2, rfl⟩
  | emul ts =>
    obtain ⟨m', e, h1, h2⟩ := binop_coo_step (· * ·) (by simp) hm ha ts
      (by rw [har, hac]; exact hok)
    exact ⟨m', .state, e, h1, h2, rfl⟩
  | transpose =>
    obtain ⟨t, e, h1, h2, h3, h4⟩ := transpose_spec hm
    refine ⟨t, .state, by simp only [step, e, ok_bind, pure_ok], h1,
      ⟨h2.trans hac, h3.trans har, ?_⟩, rfl⟩
    intro i c hi hc
    rw [h2] at hi
    rw [h3] at hc
    rw [h4 i c hi hc]
    exact had c i hc hi
  | conj =>
    exact ⟨m, .state, by simp only [step, conjugate_spec hm, ok_bind, pure_ok], hm, ha, rfl⟩
  | scaleRows X =>
    obtain ⟨hl, hnz⟩ := hok
    obtain ⟨m', e, h1, h2, h3, h4⟩ := scaleRows_spec hm X.toArray (by rw [List.size_toArray, hl, har])
      (fun r hr => hnz r (har ▸ hr))
    exact ⟨m', .state, by simp only [step, e, ok_bind, pure_ok], h1, ha.of_same_shape h2 h3
      (fun i c hi hc => by rw [h4 i c hi, had i c hi hc]), rfl⟩
  | scaleCols X =>
    obtain ⟨hl, hnz⟩ := hok
    obtain ⟨m', e, h1, h2, h3, h4⟩ := scaleCols_spec hm X.toArray (by rw [List.size_toArray, hl, hac])
      (fun c hc => hnz c (hac ▸ hc))
    exact ⟨m', .state, by simp only [step, e, ok_bind, pure_ok], h1, ha.of_same_shape h2 h3
      (fun i c hi hc => by rw [h4 i c hi, had i c hi hc]), rfl⟩
  | diag =>
    refine ⟨m, .vals ((List.range (min m.row m.col)).map (fun r => dense m r r)), by
      simp only [step, diagonal_spec hm, ok_bind, pure_ok], hm, ha, ?_⟩
    show Out.vals _ = Out.vals _
    congr 1
    rw [har, hac]
    apply List.map_congr_left
    intro r hr
    rw [List.mem_range] at hr
    have hr' := Nat.lt_min.mp hr
    exact had r r (har ▸ hr'.1) (hac ▸ hr'.2)
  | check =>
    exact ⟨m, .flags true false true, by
      simp only [step, hasSortedIndices_of_canon hm, hasDuplicates_of_canon hm,
        hasCanonicalFormat_of_canon hm, ok_bind, pure_ok], hm, ha, rfl⟩

/-- every call of the history is inside its domain (dimensions follow the transpositions) -/
def OpsOk : DM → List Op → Prop
  | _, [] => True
  | D, op :: ops => OpOk D.row D.col op ∧ OpsOk (denseStep D op) ops

/-- the final state of a history of calls, run without the intermediate states (`runM`) -/
theorem history_canon : ∀ (ops : List Op) {m : Mat} {D : DM}, CanonCSR m → Agrees m D → OpsOk D ops →
    ∃ m', runM m ops = .ok m' ∧ CanonCSR m' ∧ Agrees m' (ops.foldl denseStep D) := by
  intro ops
  induction ops with
  | nil => intro m D hm ha _; exact ⟨m, rfl, hm, ha⟩
  | cons op ops ih =>
    intro m D hm ha hok
    obtain ⟨m1, o, e, h1, h2, _⟩ := step_spec hm ha op hok.1
    obtain ⟨m', e', h3, h4⟩ := ih h1 h2 hok.2
    exact ⟨m', by simp only [runM, e, ok_bind, e'], h3, h4⟩

/-- every intermediate state (what the driver prints after each call) is canonical, and the run
never stops with an error -/
theorem history_states_canon : ∀ (ops : List Op) {m : Mat} {D : DM} (acc : List (Mat × Out)),
    CanonCSR m → Agrees m D → OpsOk D ops → (∀ s ∈ acc, CanonCSR s.1) →
    ∃ states, run m ops acc = (states, none) ∧ states.length = acc.length + ops.length ∧
      ∀ s ∈ states, CanonCSR s.1 := by
  intro ops
  induction ops with
  | nil =>
    intro m D acc _ _ _ hacc
    exact ⟨acc.reverse, rfl, by simp, fun s hs => hacc s (List.mem_reverse.mp hs)⟩
  | cons op ops ih =>
    intro m D acc hm ha hok hacc
    obtain ⟨m1, o, e, h1, h2, _⟩ := step_spec hm ha op hok.1
    obtain ⟨states, e', l, hs⟩ := ih ((m1, o) :: acc) h1 h2 hok.2 (fun s hs => by
      rcases List.mem_cons.mp hs with h | h
      · rw [h]; exact h1
      · exact hacc s h)
    refine ⟨states, by simp only [run, e, e'], by simp at l ⊢; omega, hs⟩

/-- `CSRMatrix(row, col)` is canonical and denotes the zero matrix -/
theorem zeroMat_canon (row col : Nat) :
    CanonCSR (zeroMat row col) ∧ ∀ i c, dense (zeroMat row col) i c = 0 := by
  have hp : ∀ k : Nat, (Array.replicate (row + 1) 0)[k]! = 0 := by
    intro k
    by_cases hk : k < row + 1
    · exact replicate_get! _ _ _ hk
    · have : ¬ k < (Array.replicate (row + 1) 0).size := by simpa using hk
      rw [getElem!_neg (Array.replicate (row + 1) 0) k this]; rfl
  have hrow : ∀ i, rowL (zeroMat row col) i = [] := fun i => by
    show seg _ _ (Array.replicate (row + 1) 0)[i]! (Array.replicate (row + 1) 0)[i + 1]! = []
    rw [hp, hp]; exact seg_self ..
  exact ⟨CanonCSR.of_rows (by simp [zeroMat]) rfl (hp 0) (by simp [zeroMat])
    (fun a b _ _ => by simp [zeroMat, hp])
    (fun i _ => by rw [hrow]; exact ⟨List.Pairwise.nil, fun _ h => absurd h List.not_mem_nil⟩),
    fun i c => by rw [dense_eq_rowSum, hrow]; rfl⟩

def wA : Mat := ⟨2, 2, #[0, 1, 1], #[0], #[1]⟩
def wB : Mat := ⟨2, 2, #[0, 2, 2], #[0, 1], #[1, 2]⟩
def wB12 : Mat := ⟨1, 2, #[0, 1], #[1], #[1]⟩
def wA11 : Mat := ⟨1, 1, #[0, 1], #[0], #[1]⟩
def isOkTrue : Except Err Bool → Bool | .ok true => true | _ => false
def isOkFalse : Except Err Bool → Bool | .ok false => true | _ => false
def isOob : Except Err Mat → Bool | .error .oob => true | _ => false

/-- the product of two canonical matrices computed by `csr_matmat_pass1/2` (modelled as they are in
the library) has a row with *unsorted* column indices: `[[1,0],[0,0]] * [[1,2],[0,0]]` is stored as
columns `1, 0` -/
theorem matmat_unsorted_witness :
    isOkTrue (isCanonical wA) = true ∧ isOkTrue (isCanonical wB) = true ∧
    isOkFalse (do let c ← matmat wA wB; hasSortedIndices c.p c.j c.row) = true := by
  decide +kernel

/-- with `B.col > A.col` the scratch vectors (`mask`, `next`, `sums`, sized `A.col_`) are indexed
out of range: a `1×1` times a `1×2` matrix -/
theorem matmat_scratch_oob_witness : isOob (matmat wA11 wB12) = true := by
  decide +kernel

/-- unsorted coordinates with a duplicate `(0,1)` and an explicit zero -/
def exTs : List Triple := [(1, 2, 3), (0, 1, 2), (0, 1, 5), (1, 0, 0), (0, 0, -1)]

theorem exTs_ok : ∀ t ∈ exTs, t.1 < 2 ∧ t.2.1 < 3 := by decide

/-- from_coo + get: the duplicate is summed -/
example : ∃ m, fromCoo 2 3 exTs = .ok m ∧ CanonCSR m ∧ CSR.get m 0 1 = .ok 7 := by
  obtain ⟨m, e, hc, hr, hcl, hd⟩ := fromCoo_spec 2 3 exTs exTs_ok
  refine ⟨m, e, hc, ?_⟩
  rw [get_spec hc (by omega) (by omega), hd 0 1 (by omega)]
  norm_num [cooSum, exTs]

/-- set on that state: insert, then set to zero (erase) -/
example : ∃ m m1 m2, fromCoo 2 3 exTs = .ok m ∧ CSR.set m 1 1 9 = .ok m1 ∧ CSR.set m1 0 1 0 = .ok m2 ∧
    CanonCSR m2 ∧ dense m2 1 1 = 9 ∧ dense m2 0 1 = 0 := by
  obtain ⟨m, e, hc, hr, hcl, hd⟩ := fromCoo_spec 2 3 exTs exTs_ok
  obtain ⟨m1, e1, c1, r1, l1, d1⟩ := set_spec hc (i := 1) (c := 1) (by omega) (by omega) 9
  obtain ⟨m2, e2, c2, r2, l2, d2⟩ := set_spec c1 (i := 0) (c := 1) (by omega) (by omega) 0
  refine ⟨m, m1, m2, e, e1, e2, c2, ?_, ?_⟩
  · rw [d2 1 1 (by omega), d1 1 1 (by omega)]; simp
  · rw [d2 0 1 (by omega)]; simp

/-- a whole history (set, add with duplicates, transpose, elementwise product, scaling, get) -/
def exOps : List Op :=
  [.set 0 2 4, .add [(1, 1, 1), (1, 1, -1), (0, 0, 1)], .transpose, .emul [(2, 0, 2), (1, 0, 3)],
   .scaleCols [2, 3], .get 2 0, .diag, .check, .conj, .sub [(0, 0, 1)], .scaleRows [1, 2, 3]]

def exD : DM := { row := 2, col := 3, d := cooSum exTs }

theorem exOps_ok : OpsOk exD exOps := by
  simp only [exOps, OpsOk, OpOk, denseStep, exD]
  -- one component per entry of `exOps`, in order; the two `?_`: no zero among the factors of `scaleCols`, `scaleRows`
  refine ⟨by decide, by decide, trivial, by decide, ⟨rfl, ?_⟩, by decide, trivial, trivial, trivial,
    by decide, ⟨rfl, ?_⟩, trivial⟩
  · intro c hc
    have : c = 0 ∨ c = 1 := by omega
    rcases this with h | h <;> subst h <;> decide
  · intro r hr
    have : r = 0 ∨ r = 1 ∨ r = 2 := by omega
    rcases this with h | h | h <;> subst h <;> decide

example : ∃ m m', fromCoo 2 3 exTs = .ok m ∧ runM m exOps = .ok m' ∧ CanonCSR m' ∧
    Agrees m' (exOps.foldl denseStep exD) := by
  obtain ⟨m, e, hc, hr, hcl, hd⟩ := fromCoo_spec 2 3 exTs exTs_ok
  have ha : Agrees m exD := ⟨hr, hcl, fun i c hi _ => hd i c (by omega)⟩
  obtain ⟨m', e', h1, h2⟩ := history_canon exOps hc ha exOps_ok
  exact ⟨m, m', e, e', h1, h2⟩

end SymVerif.C25
