import SymVerif.Lemmas.C33Trace
import SymVerif.Lemmas.C33Orig
/-!
# C33 — the prime sieve yields exactly the primes after any call history

Model: `SymVerif.Sieve` (`lean/SymVerif/Model/Sieve.lean`, the no-primesieve branch of
`symengine/prime_sieve.cpp`).  Vocabulary (all from the `Lemmas/C33*.lean` files):

* `np i` — the `i`-th prime (`Nat.nth Nat.Prime i`), `cnt n` — the number of primes `< n`;
* `primesUpTo L` — `(List.range (L+1)).filter Nat.Prime`;
* `Inv s` — `s.size ≤ s.buf.size`, `10 ≤ s.size`, `s.buf[i] = np i` for **every** `i < s.buf.size`
  (also in the stale region left behind by `clear`), `0 < s.sieveBits`;
* `WInv w` — `Inv w.s` and no iterator stands beyond the storage;
* `IterRun L i out j` — `out` is what an iterator with limit `L` at position `i` may return:
  the next prime (advance), or `L+1` only if the next prime exceeds the non-zero limit `L`;
* `OpsOk ops` — decidable: every `gen` limit `< 2^31`, every sieve size positive and `< 2^30`
  bits, every iterator limit `< 2^32 - 1` (the range where `Nat` and `unsigned` arithmetic agree).

The theorems are about the very functions the driver `Drv/C33.lean` executes (`run`, `step`,
`generatePrimes`, `nextPrime`, `extend`).
-/
namespace SymVerif.C33
open SymVerif.Sieve

theorem extend_no_oob (s : State) (limit : Nat) (hinv : Inv s) (hlim : limit < maxLimit) :
    extend s limit ≠ .error .oob := by
  obtain ⟨s', e, _⟩ := extend_correct s limit hinv hlim
  rw [e]; simp

-- the `example`s of this file apply a theorem to concrete arguments: its hypotheses can be met
example :=
  extend_correct init 1000 inv_init (by decide)

/-- **D15 in general**: with the original `finish = start + 2*segment + 1` the same function
performs an out-of-bounds access as soon as `limit` lies beyond the first segment. -/
theorem orig_extend_oob (fuel : Nat) (s : State) (limit : Nat) (hinv : Inv s)
    (hlim : limit < 2 ^ (2 ^ fuel))
    (h1 : Nat.sqrt limit ≤ s.back + 2 * s.sieveBits)
    (h2 : max (s.back + 1) (Nat.sqrt limit + 1) + 2 * s.sieveBits + 1 ≤ limit) :
    extendWith finishOrig (fuel + 1) s limit = .error .oob := by
  have hm1 := le_max_left (s.back + 1) (Nat.sqrt limit + 1)
  have hm2 := le_max_right (s.back + 1) (Nat.sqrt limit + 1)
  cases fuel with
  | zero =>
    have hl : limit < 2 := by simpa using hlim
    omega
  | succ fuel =>
    -- the recursive call stays within its first segment
    obtain ⟨s1, e, sz, g⟩ := extendWith_spec finishOrig fuel s (Nat.sqrt limit) hinv
      (fun l st hst _ hl => finishOrig_min
        (lt_of_le_of_lt (le_trans hl h1) (Nat.add_lt_add_right hst _))) (sqrt_lt_tower hlim)
    rw [extendWith_step hinv.bits (by omega) e]
    apply segLoop_orig_oob
    -- `s1` holds the primes below `max (s.back + 1) (sqrt limit + 1)`, so its last one is smaller
    have hlt : s1.back < max (s.back + 1) (Nat.sqrt limit + 1) := (g.inv.back_lt_iff _).2 (by
      rw [sz, hinv.size_eq_cnt]
      exact max_le (cnt_mono hm1) (cnt_mono hm2))
    rw [g.bits]; omega

/-- The API-reachable witness of D15: `set_sieve_size(1); generate_primes(p, 100000)` on a fresh
process (`8192` bits per segment). -/
theorem orig_extend_oob_witness :
    extendWith finishOrig 64 { init with sieveBits := 1 * 1024 * 8 } 100000 = .error .oob := by
  have hinv : Inv { init with sieveBits := 1 * 1024 * 8 } := inv_settings inv_init _ (by decide)
  have hb : ({ init with sieveBits := 1 * 1024 * 8 } : State).back = 29 := by decide
  have hbits : ({ init with sieveBits := 1 * 1024 * 8 } : State).sieveBits = 8192 := by decide
  have hs : Nat.sqrt 100000 < 1000 := Nat.sqrt_lt'.2 (by decide)
  apply orig_extend_oob 63 _ _ hinv
  · exact lt_tower_of_lt_maxLimit (by decide)
  · rw [hb, hbits]; omega
  · rw [hb, hbits]
    generalize Nat.sqrt 100000 = q at hs
    have : max (29 + 1) (q + 1) ≤ 1000 := max_le (by omega) (by omega)
    omega

/-- A small instance, by evaluation of the segment loop (segment of one bit; the theorem's bound gives limit 33 as the least). -/
theorem orig_segLoop_oob_small :
    (match segLoop finishOrig 1 40 41 30 init with | .error .oob => true | _ => false) = true := by
  decide

theorem inv_initial : Inv init ∧ WInv World.init := ⟨inv_init, winv_init⟩

theorem step_preserves_inv (w w' : World) (op : Op) (out : List Nat) (hw : WInv w)
    (hop : opOk op = true) (h : step w op = .ok (w', out)) : WInv w' := by
  rcases step_spec w op hw hop with ⟨w1, out1, e, hw1, _⟩ | ⟨e, _⟩
  · rw [e] at h
    simp only [Except.ok.injEq, Prod.mk.injEq] at h
    rw [← h.1]; exact hw1
  · rw [e] at h; simp at h

example : opOk (.gen 100000) = true ∧ opOk (.setSize 1) = true := by decide

example : (∀ i, 1 ≤ i → i < cnt 30 → np i * np i ≤ 100 → ¬ np i ∣ 91) ↔ Nat.Prime 91 :=
  sieve_unmarked_iff_prime (start := 30) (finish := 100) (by omega)
    (fun q _ hqq => by
      by_contra h
      have := Nat.mul_le_mul (not_lt.1 h) (not_lt.1 h)
      omega) (by omega) (by omega) (by omega)

example :=
  generatePrimes_correct init 100000 inv_init (by decide)

example := nextPrime_correct init { index := 10, limit := 0 } inv_init (by decide)

/-- **Main theorem.** For every history with admissible arguments, the run from the fresh
process state is a `GoodTrace`: every call succeeds with the right result (`OutOk`: `gen L`
returns `primesUpTo L`, `iterNext` returns an `IterRun` from the iterator's position, all other
iterators keep their position), except that the run may stop at an `iterNext` with `Err.range`
(an extension target `≥ 2^31`, see `nextPrime_correct`). -/
theorem history_correct (ops : List Op) (hops : OpsOk ops) :
    ∃ wf, run World.init ops [] = (wf, (run World.init ops []).2) ∧
      GoodTrace World.init ops (run World.init ops []).2 wf ∧ WInv wf := by
  obtain ⟨outs, wf, e, gt, hwf, _⟩ := run_spec World.init ops [] winv_init hops
  refine ⟨wf, ?_, ?_, hwf⟩
  · rw [e]
  · rw [e]; simpa using gt

theorem history_no_ub (ops : List Op) (hops : OpsOk ops) :
    ∀ r ∈ (run World.init ops []).2, r ≠ .error .oob ∧ r ≠ .error .fuel := by
  obtain ⟨wf, _, gt, _⟩ := history_correct ops hops
  exact gt.no_ub

theorem history_gen_outputs (ops : List Op) (hops : OpsOk ops) (k limit : Nat)
    (r : Except Err (List Nat)) (hop : ops[k]? = some (.gen limit))
    (hr : (run World.init ops []).2[k]? = some r) :
    r = .ok ((List.range (limit + 1)).filter (fun k => decide k.Prime)) := by
  obtain ⟨wf, _, gt, _⟩ := history_correct ops hops
  exact gt.gen k limit r hop hr

/-- Position-free statement for iterators: for every iterator alive at the end of a history,
everything it has returned since its creation (`iterLog`, computed from the printed outputs
alone) is an `IterRun` from position 0 — consecutive primes without gaps or repeats, the end
marker `limit+1` appearing only when the next prime exceeds the limit.  (Apply it to every
prefix of a history to cover every intermediate moment.) -/
theorem history_iter_outputs (ops : List Op) (hops : OpsOk ops) (slot : Nat) :
    ∀ it, lookupIter (run World.init ops []).1.iters slot = some it →
      IterRun it.limit 0 (iterLog slot ops (run World.init ops []).2 []) it.index := by
  obtain ⟨wf, e, gt, _⟩ := history_correct ops hops
  have : (run World.init ops []).1 = wf := by rw [e]
  rw [this]
  apply gt.iter_log slot []
  exact forall_init slot

/-- reading `IterRun`: without a limit the outputs are exactly the consecutive primes -/
theorem iterRun_unlimited {i j : Nat} {out : List Nat} (h : IterRun 0 i out j) :
    out = (List.range' i out.length).map np ∧ j = i + out.length := by
  generalize hL : (0 : Nat) = L at h
  induction h with
  | nil => simp
  | prime _ ih =>
    obtain ⟨h1, h2⟩ := ih
    constructor
    · simp only [List.length_cons, List.range'_succ, List.map_cons]
      rw [← h1]
    · simp only [List.length_cons]; omega
  | stop h0 => omega

/-- reading `IterRun`: a caller looping `while ((p = next_prime()) <= L)` sees exactly the
consecutive primes `≤ L` from position `i`; everything after them exceeds `L`. -/
theorem iterRun_limited {L i j : Nat} {out : List Nat} (h : IterRun L i out j) :
    ∃ m rest, out = (List.range' i m).map np ++ rest ∧ (∀ k, k < m → np (i + k) ≤ L) ∧
      (∀ v ∈ rest, L < v) ∧ (rest ≠ [] → L < np (i + m)) := by
  induction h with
  | nil => exact ⟨0, [], rfl, fun _ h => absurd h (Nat.not_lt_zero _),
      fun _ h => (List.not_mem_nil h).elim, fun h => absurd rfl h⟩
  | @prime i' j' out' hrun ih =>
    by_cases hle : np i' ≤ L
    · obtain ⟨m, rest, e, h1, h2, h3⟩ := ih
      refine ⟨m + 1, rest, ?_, ?_, h2, ?_⟩
      · rw [e, List.range'_succ, List.map_cons, List.cons_append]
      · intro k hk
        cases k with
        | zero => exact hle
        | succ k => have := h1 k (Nat.lt_of_succ_lt_succ hk); rwa [Nat.add_right_comm] at this
      · intro hne; have := h3 hne; rwa [Nat.add_right_comm] at this
    · exact ⟨0, np i' :: out', rfl, fun _ h => absurd h (Nat.not_lt_zero _),
        IterRun.all_gt (IterRun.prime hrun) (not_le.1 hle), fun _ => not_le.1 hle⟩
  | @stop i' j' out' h0 hl hrun _ =>
    exact ⟨0, (L + 1) :: out', rfl, fun _ h => absurd h (Nat.not_lt_zero _),
      IterRun.all_gt (IterRun.stop h0 hl hrun) hl, fun _ => hl⟩

/-- Histories whose iterators all carry a limit in `(0, 2^31)`: **no error at all** — one
successful result per call. -/
theorem history_no_error (ops : List Op) (hops : OpsOkStrict ops) :
    ∃ outs : List (List Nat), (run World.init ops []).2 = outs.map .ok ∧
      outs.length = ops.length := by
  obtain ⟨outs, wf, e, _, _, hs⟩ := run_spec World.init ops [] winv_init (OpsOk_of_strict hops)
  obtain ⟨oks, eo, len⟩ := hs limOk_init hops
  exact ⟨oks, by rw [e]; simpa using eo, len⟩

theorem GoodTrace.complete {w wf : World} {ops : List Op} {outs : List (Except Err (List Nat))}
    (gt : GoodTrace w ops outs wf) (hr : ∀ r ∈ outs, r ≠ .error .range) :
    outs.length = ops.length := by
  induction gt using GoodTrace.induction with
  | nil => rfl
  | ok _ _ _ ih => exact congrArg (· + 1) (ih fun r h => hr r (List.mem_cons_of_mem _ h))
  | stop => exact absurd rfl (hr _ List.mem_cons_self)

theorem history_complete (ops : List Op) (hops : OpsOk ops)
    (hr : ∀ r ∈ (run World.init ops []).2, r ≠ .error .range) :
    (run World.init ops []).2.length = ops.length := by
  obtain ⟨wf, _, gt, _⟩ := history_correct ops hops
  exact gt.complete hr

example : OpsOk [.setSize 1, .gen 100000, .setClear false, .iterNew 0 0, .iterNext 0 40, .clear,
    .iterNext 0 5, .gen 32795] := by decide
example : OpsOkStrict [.setBits 1, .iterNew 2 50, .iterNext 2 20, .gen 1000, .iterDel 2] := by decide
example := history_gen_outputs [.setSize 1, .gen 100000] (by decide) 1 100000

end SymVerif.C33
