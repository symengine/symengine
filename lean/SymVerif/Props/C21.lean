import SymVerif.Lemmas.C21Kron
import SymVerif.Lemmas.C21Div
import Mathlib.Algebra.Field.Rat

/-!
# C21 — univariate polynomial arithmetic is correct

Model: `SymVerif/Model/UPoly.lean` (the dictionary containers `UIntDict`, `URatDict`, `UExprDict`
over `std::map`, as repaired — see docs/C21.md for the five defects found in the code as it was).

Specification vocabulary:
* `toPoly d : R[X]` — the Mathlib polynomial denoted by a dictionary (`∑ monomial k c`);
* `Canon d` — keys strictly increasing (a `std::map`) and no stored zero (`is_canonical`);
  `canon_ext`: a canonical dictionary is determined by the polynomial it denotes, so every
  `toPoly` equation below pins down the *printed* result of the operation exactly;
* `conv f g k = ∑ i ≤ k, f i * g (k - i)` — the executable schoolbook convolution of coefficient
  functions; `coeff_of_mul` turns `toPoly r = toPoly a * toPoly b` into
  `getCoeff r k = conv (getCoeff a) (getCoeff b) k`.

Section `Generic`: `X_coeff_spec` (the lemma modules' result plus its `getCoeff` form) and `X_obj` (laws between objects) for any
ring, `MulOK mul`, `DivOK dv`; `UInt.*`, `URat.*`, `UExpr.*` are their instances at the constants the driver executes, for all
canonical inputs. The `D1x_*` theorems are about the code as it was found.
-/
open Polynomial
namespace SymVerif.C21
open SymVerif.UPoly

def conv {R : Type} [CommRing R] (f g : Nat → R) (k : Nat) : R :=
  ∑ i ∈ Finset.range (k + 1), f i * g (k - i)

def convPow {R : Type} [CommRing R] (f : Nat → R) : Nat → Nat → R
  | 0 => fun k => if k = 0 then 1 else 0
  | p + 1 => conv (convPow f p) f

theorem coeff_mul_conv {R : Type} [CommRing R] (p q : R[X]) (k : Nat) : (p * q).coeff k = conv p.coeff q.coeff k := by
  rw [coeff_mul, Finset.Nat.sum_antidiagonal_eq_sum_range_succ_mk]; rfl

theorem coeff_pow_convPow {R : Type} [CommRing R] (q : R[X]) (p k : Nat) : (q ^ p).coeff k = convPow q.coeff p k := by
  induction p generalizing k with
  | zero => simp [convPow, coeff_one]
  | succ p ih =>
    rw [pow_succ, coeff_mul_conv]
    simp only [convPow, conv]
    apply Finset.sum_congr rfl
    intro i _
    rw [ih]

section Generic
variable {R : Type} [CommRing R] [DecidableEq R]

/-! `mul` is the class's `Wrapper::mul` (`kmul` for `UIntDict`, `gmul` otherwise), which `pow` and `divides_upoly` call;
`mul'` (`pow_succ_obj`, `divides_mul_obj`) is `operator*=` (`mulAssign mul`), what `mul_upoly` runs; `dv` divides leading
coefficients. Every object-level law is the law of `R[X]` pulled back along `toPoly` by `canon_ext`. -/

theorem coeff_of_mul {a b r : Dict R} (ha : Sorted a) (hb : Sorted b) (hr : Sorted r)
    (h : toPoly r = toPoly a * toPoly b) (k : Nat) :
    getCoeff r k = conv (getCoeff a) (getCoeff b) k := by
  rw [getCoeff_spec hr, h, coeff_mul_conv, getCoeff_eq_coeff ha, getCoeff_eq_coeff hb]

theorem add_coeff_spec {a b : Dict R} (ha : Canon a) (hb : Canon b) :
    Canon (add a b) ∧ toPoly (add a b) = toPoly a + toPoly b ∧
    ∀ k, getCoeff (add a b) k = getCoeff a k + getCoeff b k :=
  have h1 := canon_add ha hb.2
  ⟨h1, toPoly_add a b, fun k => by
    rw [getCoeff_spec h1.1, getCoeff_spec ha.1, getCoeff_spec hb.1, toPoly_add, coeff_add]⟩

theorem sub_coeff_spec {a b : Dict R} (ha : Canon a) (hb : Canon b) :
    Canon (sub a b) ∧ toPoly (sub a b) = toPoly a - toPoly b ∧
    ∀ k, getCoeff (sub a b) k = getCoeff a k - getCoeff b k :=
  have h1 := canon_sub ha hb.2
  ⟨h1, toPoly_sub a b, fun k => by
    rw [getCoeff_spec h1.1, getCoeff_spec ha.1, getCoeff_spec hb.1, toPoly_sub, coeff_sub]⟩

theorem neg_coeff_spec {a : Dict R} (ha : Canon a) :
    Canon (neg a) ∧ toPoly (neg a) = - toPoly a ∧ ∀ k, getCoeff (neg a) k = - getCoeff a k :=
  have h1 := canon_neg ha
  ⟨h1, toPoly_neg a, fun k => by rw [getCoeff_spec h1.1, getCoeff_spec ha.1, toPoly_neg, coeff_neg]⟩

theorem mul_coeff_spec {mul : Dict R → Dict R → Except Err (Dict R)} (hmul : MulOK mul)
    {a b : Dict R} (ha : Canon a) (hb : Canon b) :
    ∃ r, mul a b = .ok r ∧ Canon r ∧ toPoly r = toPoly a * toPoly b ∧
      ∀ k, getCoeff r k = conv (getCoeff a) (getCoeff b) k := by
  obtain ⟨r, h1, h2, h3⟩ := hmul a b ha hb
  exact ⟨r, h1, h2, h3, coeff_of_mul ha.1 hb.1 h2.1 h3⟩

theorem pow_coeff_spec [Nontrivial R] {mul : Dict R → Dict R → Except Err (Dict R)} (hmul : MulOK mul)
    {a : Dict R} (ha : Canon a) (p : Nat) :
    ∃ r, UPoly.pow mul a p = .ok r ∧ Canon r ∧ toPoly r = toPoly a ^ p ∧
      ∀ k, getCoeff r k = convPow (getCoeff a) p k := by
  obtain ⟨r, h1, h2, h3⟩ := pow_spec hmul ha p
  refine ⟨r, h1, h2, h3, fun k => ?_⟩
  rw [getCoeff_spec h2.1, h3, coeff_pow_convPow, getCoeff_eq_coeff ha.1]

theorem diff_coeff_spec {a : Dict R} (ha : Canon a) :
    Canon (UPoly.diff a) ∧ toPoly (UPoly.diff a) = derivative (toPoly a) ∧
    ∀ k, getCoeff (UPoly.diff a) k = getCoeff a (k + 1) * ((k : R) + 1) := by
  obtain ⟨h1, h2⟩ := diff_spec ha.1
  refine ⟨h2, h1, fun k => ?_⟩
  rw [getCoeff_spec h2.1, getCoeff_spec ha.1, h1, coeff_derivative]

theorem degree_lc_spec {a : Dict R} (ha : Canon a) :
    (a = [] → UPoly.degree a = 0 ∧ getLc a = 0) ∧
    (a ≠ [] → UPoly.degree a = (toPoly a).natDegree ∧ getLc a = (toPoly a).leadingCoeff ∧ getLc a ≠ 0) :=
  ⟨fun h => h ▸ ⟨rfl, rfl⟩,
   fun h => ⟨(natDegree_toPoly ha h).symm, (leadingCoeff_toPoly ha h).symm, getLc_ne_zero ha h⟩⟩

theorem add_comm_obj {a b : Dict R} (ha : Canon a) (hb : Canon b) : add a b = add b a :=
  canon_ext (canon_add ha hb.2) (canon_add hb ha.2) (by rw [toPoly_add, toPoly_add, add_comm])

theorem add_assoc_obj {a b c : Dict R} (ha : Canon a) (hb : Canon b) (hc : Canon c) :
    add (add a b) c = add a (add b c) :=
  canon_ext (canon_add (canon_add ha hb.2) hc.2) (canon_add ha (canon_add hb hc.2).2)
    (by rw [toPoly_add, toPoly_add, toPoly_add, toPoly_add, add_assoc])

theorem sub_add_cancel_obj {a b : Dict R} (ha : Canon a) (hb : Canon b) : add (sub a b) b = a :=
  canon_ext (canon_add (canon_sub ha hb.2) hb.2) ha (by rw [toPoly_add, toPoly_sub, sub_add_cancel])

theorem neg_neg_obj {a : Dict R} (ha : Canon a) : neg (neg a) = a :=
  canon_ext (canon_neg (canon_neg ha)) ha (by rw [toPoly_neg, toPoly_neg, neg_neg])

section Mul
variable {mul : Dict R → Dict R → Except Err (Dict R)} (hmul : MulOK mul)
include hmul

theorem mul_comm_obj {a b : Dict R} (ha : Canon a) (hb : Canon b) :
    ∃ r, mul a b = .ok r ∧ mul b a = .ok r := by
  obtain ⟨r, h1, c1, p1⟩ := hmul a b ha hb
  obtain ⟨s, h2, c2, p2⟩ := hmul b a hb ha
  exact ⟨r, h1, by rw [h2, canon_ext c2 c1 (by rw [p1, p2, mul_comm])]⟩

theorem mul_add_obj {a b c : Dict R} (ha : Canon a) (hb : Canon b) (hc : Canon c) :
    ∃ ab ac r, mul a b = .ok ab ∧ mul a c = .ok ac ∧ mul a (add b c) = .ok r ∧ add ab ac = r := by
  obtain ⟨ab, h1, c1, p1⟩ := hmul a b ha hb
  obtain ⟨ac, h2, c2, p2⟩ := hmul a c ha hc
  obtain ⟨r, h3, c3, p3⟩ := hmul a (add b c) ha (canon_add hb hc.2)
  exact ⟨ab, ac, r, h1, h2, h3,
    canon_ext (canon_add c1 c2.2) c3 (by rw [toPoly_add, p3, p1, p2, toPoly_add, mul_add])⟩

theorem pow_succ_obj [Nontrivial R] {mul' : Dict R → Dict R → Except Err (Dict R)} (hmul' : MulOK mul')
    {a : Dict R} (ha : Canon a) (p : Nat) :
    ∃ ap r, UPoly.pow mul a p = .ok ap ∧ UPoly.pow mul a (p + 1) = .ok r ∧ mul' ap a = .ok r := by
  obtain ⟨ap, h1, c1, p1⟩ := pow_spec hmul ha p
  obtain ⟨r, h2, c2, p2⟩ := pow_spec hmul ha (p + 1)
  obtain ⟨s, h3, c3, p3⟩ := hmul' ap a c1 ha
  exact ⟨ap, r, h1, h2, by rw [h3, canon_ext c3 c2 (by rw [p3, p2, p1, pow_succ])]⟩

theorem divides_mul_obj [IsDomain R] {mul' : Dict R → Dict R → Except Err (Dict R)} (hmul' : MulOK mul')
    {dv : R → R → Option R} (hdv : DivOK dv) {a b : Dict R} (ha : Canon a) (hb : Canon b) (hae : a ≠ []) :
    ∃ r, mul' a b = .ok r ∧ dividesWith true mul dv a r = .ok (some b) := by
  obtain ⟨r, h1, c1, p1⟩ := hmul' a b ha hb
  refine ⟨r, h1, ?_⟩
  rcases divides_spec hmul hdv ha c1 hae with ⟨q, hq, cq, pq⟩ | ⟨_, hnd⟩
  · rw [hq, canon_ext cq hb (mul_left_cancel₀ (toPoly_ne_zero ha hae) (pq.symm.trans p1))]
  · exact absurd ⟨toPoly b, p1⟩ hnd

end Mul

end Generic

/-- whatever sequence of `m[d] = c` assignments builds the `std::map`, `from_dict` yields a
    canonical dictionary (this is how the driver and the harness construct every input) -/
theorem fromDict_canon {R : Type} [CommRing R] [DecidableEq R] (terms : List (Nat × R)) :
    Canon (fromMap (terms.foldl (fun m p => setKey m p.1 p.2) [])) := by
  apply canon_fromMap
  have : ∀ (m : Dict R), Sorted m → Sorted (terms.foldl (fun m p => setKey m p.1 p.2) m) := by
    induction terms with
    | nil => intro m hm; exact hm
    | cons p t ih => intro m hm; exact ih _ (sorted_setKey hm)
  exact this [] sorted_nil

namespace UInt
open SymVerif.UPoly.UInt

theorem fromDict_spec (terms : List (Nat × Int)) :
    Canon (fromDictU (terms.foldl (fun m p => setKey m p.1 p.2) [])) := fromDict_canon terms

theorem add_spec {a b : Dict Int} (ha : Canon a) (hb : Canon b) :
    Canon (addU a b) ∧ toPoly (addU a b) = toPoly a + toPoly b ∧
    ∀ k, coeffU (addU a b) k = coeffU a k + coeffU b k := C21.add_coeff_spec ha hb

theorem sub_spec {a b : Dict Int} (ha : Canon a) (hb : Canon b) :
    Canon (subU a b) ∧ toPoly (subU a b) = toPoly a - toPoly b ∧
    ∀ k, coeffU (subU a b) k = coeffU a k - coeffU b k := C21.sub_coeff_spec ha hb

theorem neg_spec {a : Dict Int} (ha : Canon a) :
    Canon (negU a) ∧ toPoly (negU a) = - toPoly a ∧ ∀ k, coeffU (negU a) k = - coeffU a k :=
  C21.neg_coeff_spec ha

/-- `UIntDict::mul` (Kronecker substitution, repaired): never fails; the result is canonical and
    its coefficients are the schoolbook convolution -/
theorem kronecker_spec {a b : Dict Int} (ha : Canon a) (hb : Canon b) :
    ∃ r, kmul a b = .ok r ∧ Canon r ∧ toPoly r = toPoly a * toPoly b ∧
      ∀ k, getCoeff r k = conv (getCoeff a) (getCoeff b) k := mul_coeff_spec kmul_ok ha hb

/-- `mul_upoly` (`operator*=` on top of `UIntDict::mul`) -/
theorem mul_spec {a b : Dict Int} (ha : Canon a) (hb : Canon b) :
    ∃ r, mulU a b = .ok r ∧ Canon r ∧ toPoly r = toPoly a * toPoly b ∧
      ∀ k, coeffU r k = conv (coeffU a) (coeffU b) k := mul_coeff_spec (mulAssign_ok kmul_ok) ha hb

/-- `pow_upoly`: terminates for every exponent (including 0), never fails, computes the power -/
theorem pow_spec {a : Dict Int} (ha : Canon a) (p : Nat) :
    ∃ r, powU a p = .ok r ∧ Canon r ∧ toPoly r = toPoly a ^ p ∧
      ∀ k, coeffU r k = convPow (coeffU a) p k := pow_coeff_spec kmul_ok ha p

/-- `divides_upoly` for a non-zero divisor: `true` with the exact quotient iff `a ∣ b` in `ℤ[X]` -/
theorem divides_spec {a b : Dict Int} (ha : Canon a) (hb : Canon b) (hae : a ≠ []) :
    (∃ q, dividesU a b = .ok (some q) ∧ Canon q ∧ toPoly b = toPoly a * toPoly q) ∨
    (dividesU a b = .ok none ∧ ¬ toPoly a ∣ toPoly b) :=
  C21.divides_spec kmul_ok divExactInt_ok ha hb hae

/-- `divides_upoly(0, b)` is `false` -/
theorem divides_zero (b : Dict Int) : dividesU [] b = .ok none := rfl

/-- `eval` (repaired: also on the zero polynomial) -/
theorem eval_spec {a : Dict Int} (ha : Canon a) (x : Int) : evalU a x = .ok ((toPoly a).eval x) :=
  C21.eval_spec ha.1 x

theorem diff_spec {a : Dict Int} (ha : Canon a) :
    Canon (diffU a) ∧ toPoly (diffU a) = derivative (toPoly a) ∧
    ∀ k, coeffU (diffU a) k = coeffU a (k + 1) * ((k : Int) + 1) := diff_coeff_spec ha

theorem coeff_spec {a : Dict Int} (ha : Canon a) (k : Nat) : coeffU a k = (toPoly a).coeff k :=
  getCoeff_spec ha.1 k
theorem degree_spec {a : Dict Int} (ha : Canon a) :
    (a = [] → degreeU a = 0 ∧ lcU a = 0) ∧
    (a ≠ [] → degreeU a = (toPoly a).natDegree ∧ lcU a = (toPoly a).leadingCoeff ∧ lcU a ≠ 0) :=
  degree_lc_spec ha

theorem add_comm_obj {a b : Dict Int} (ha : Canon a) (hb : Canon b) : addU a b = addU b a :=
  C21.add_comm_obj ha hb

theorem add_assoc_obj {a b c : Dict Int} (ha : Canon a) (hb : Canon b) (hc : Canon c) :
    addU (addU a b) c = addU a (addU b c) := C21.add_assoc_obj ha hb hc

theorem sub_add_cancel_obj {a b : Dict Int} (ha : Canon a) (hb : Canon b) : addU (subU a b) b = a :=
  C21.sub_add_cancel_obj ha hb

theorem neg_neg_obj {a : Dict Int} (ha : Canon a) : negU (negU a) = a := C21.neg_neg_obj ha

theorem mul_comm_obj {a b : Dict Int} (ha : Canon a) (hb : Canon b) :
    ∃ r, mulU a b = .ok r ∧ mulU b a = .ok r := C21.mul_comm_obj (mulAssign_ok kmul_ok) ha hb

theorem mul_add_obj {a b c : Dict Int} (ha : Canon a) (hb : Canon b) (hc : Canon c) :
    ∃ ab ac r, mulU a b = .ok ab ∧ mulU a c = .ok ac ∧ mulU a (addU b c) = .ok r ∧ addU ab ac = r :=
  C21.mul_add_obj (mulAssign_ok kmul_ok) ha hb hc

/-- `pow` unfolds as repeated `mul`: `a^(p+1)` is the same object as `a^p * a` -/
theorem pow_succ_obj {a : Dict Int} (ha : Canon a) (p : Nat) :
    ∃ ap r, powU a p = .ok ap ∧ powU a (p + 1) = .ok r ∧ mulU ap a = .ok r :=
  C21.pow_succ_obj kmul_ok (hmul' := mulAssign_ok kmul_ok) ha p

/-- exact division undoes multiplication: `divides(a, a*b)` answers yes with quotient `b` (for `a ≠ 0`) -/
theorem divides_mul_obj {a b : Dict Int} (ha : Canon a) (hb : Canon b) (hae : a ≠ []) :
    ∃ r, mulU a b = .ok r ∧ dividesU a r = .ok (some b) :=
  C21.divides_mul_obj kmul_ok (hmul' := mulAssign_ok kmul_ok) divExactInt_ok ha hb hae

end UInt

namespace URat
open SymVerif.UPoly.URat

theorem fromDict_spec (terms : List (Nat × Rat)) :
    Canon (fromDictU (terms.foldl (fun m p => setKey m p.1 p.2) [])) := fromDict_canon terms

theorem add_spec {a b : Dict Rat} (ha : Canon a) (hb : Canon b) :
    Canon (addU a b) ∧ toPoly (addU a b) = toPoly a + toPoly b ∧
    ∀ k, coeffU (addU a b) k = coeffU a k + coeffU b k := C21.add_coeff_spec ha hb

theorem sub_spec {a b : Dict Rat} (ha : Canon a) (hb : Canon b) :
    Canon (subU a b) ∧ toPoly (subU a b) = toPoly a - toPoly b ∧
    ∀ k, coeffU (subU a b) k = coeffU a k - coeffU b k := C21.sub_coeff_spec ha hb

theorem neg_spec {a : Dict Rat} (ha : Canon a) :
    Canon (negU a) ∧ toPoly (negU a) = - toPoly a ∧ ∀ k, coeffU (negU a) k = - coeffU a k :=
  C21.neg_coeff_spec ha

/-- `ODictWrapper::mul` (schoolbook) -/
theorem mulGeneric_spec {a b : Dict Rat} (ha : Canon a) (hb : Canon b) :
    Canon (mulGeneric a b) ∧ toPoly (mulGeneric a b) = toPoly a * toPoly b ∧
    ∀ k, getCoeff (mulGeneric a b) k = conv (getCoeff a) (getCoeff b) k :=
  have h1 := canon_mulGeneric a b
  ⟨h1, toPoly_mulGeneric a b, coeff_of_mul ha.1 hb.1 h1.1 (toPoly_mulGeneric a b)⟩

theorem mul_spec {a b : Dict Rat} (ha : Canon a) (hb : Canon b) :
    ∃ r, mulU a b = .ok r ∧ Canon r ∧ toPoly r = toPoly a * toPoly b ∧
      ∀ k, coeffU r k = conv (coeffU a) (coeffU b) k := mul_coeff_spec (mulAssign_ok gmul_ok) ha hb

theorem pow_spec {a : Dict Rat} (ha : Canon a) (p : Nat) :
    ∃ r, powU a p = .ok r ∧ Canon r ∧ toPoly r = toPoly a ^ p ∧
      ∀ k, coeffU r k = convPow (coeffU a) p k := pow_coeff_spec gmul_ok ha p

theorem divides_spec {a b : Dict Rat} (ha : Canon a) (hb : Canon b) (hae : a ≠ []) :
    (∃ q, dividesU a b = .ok (some q) ∧ Canon q ∧ toPoly b = toPoly a * toPoly q) ∨
    (dividesU a b = .ok none ∧ ¬ toPoly a ∣ toPoly b) :=
  C21.divides_spec gmul_ok divExactRat_ok ha hb hae

theorem divides_zero (b : Dict Rat) : dividesU [] b = .ok none := rfl

theorem eval_spec {a : Dict Rat} (ha : Canon a) (x : Rat) : evalU a x = .ok ((toPoly a).eval x) :=
  C21.eval_spec ha.1 x

theorem diff_spec {a : Dict Rat} (ha : Canon a) :
    Canon (diffU a) ∧ toPoly (diffU a) = derivative (toPoly a) ∧
    ∀ k, coeffU (diffU a) k = coeffU a (k + 1) * ((k : Rat) + 1) := diff_coeff_spec ha

theorem coeff_spec {a : Dict Rat} (ha : Canon a) (k : Nat) : coeffU a k = (toPoly a).coeff k :=
  getCoeff_spec ha.1 k
theorem degree_spec {a : Dict Rat} (ha : Canon a) :
    (a = [] → degreeU a = 0 ∧ lcU a = 0) ∧
    (a ≠ [] → degreeU a = (toPoly a).natDegree ∧ lcU a = (toPoly a).leadingCoeff ∧ lcU a ≠ 0) :=
  degree_lc_spec ha

theorem add_comm_obj {a b : Dict Rat} (ha : Canon a) (hb : Canon b) : addU a b = addU b a :=
  C21.add_comm_obj ha hb

theorem add_assoc_obj {a b c : Dict Rat} (ha : Canon a) (hb : Canon b) (hc : Canon c) :
    addU (addU a b) c = addU a (addU b c) := C21.add_assoc_obj ha hb hc

theorem sub_add_cancel_obj {a b : Dict Rat} (ha : Canon a) (hb : Canon b) : addU (subU a b) b = a :=
  C21.sub_add_cancel_obj ha hb

theorem neg_neg_obj {a : Dict Rat} (ha : Canon a) : negU (negU a) = a := C21.neg_neg_obj ha

theorem mul_comm_obj {a b : Dict Rat} (ha : Canon a) (hb : Canon b) :
    ∃ r, mulU a b = .ok r ∧ mulU b a = .ok r := C21.mul_comm_obj (mulAssign_ok gmul_ok) ha hb

theorem mul_add_obj {a b c : Dict Rat} (ha : Canon a) (hb : Canon b) (hc : Canon c) :
    ∃ ab ac r, mulU a b = .ok ab ∧ mulU a c = .ok ac ∧ mulU a (addU b c) = .ok r ∧ addU ab ac = r :=
  C21.mul_add_obj (mulAssign_ok gmul_ok) ha hb hc

theorem pow_succ_obj {a : Dict Rat} (ha : Canon a) (p : Nat) :
    ∃ ap r, powU a p = .ok ap ∧ powU a (p + 1) = .ok r ∧ mulU ap a = .ok r :=
  C21.pow_succ_obj gmul_ok (hmul' := mulAssign_ok gmul_ok) ha p

theorem divides_mul_obj {a b : Dict Rat} (ha : Canon a) (hb : Canon b) (hae : a ≠ []) :
    ∃ r, mulU a b = .ok r ∧ dividesU a r = .ok (some b) :=
  C21.divides_mul_obj gmul_ok (hmul' := mulAssign_ok gmul_ok) divExactRat_ok ha hb hae

end URat

/-! ## UExprPoly with integer coefficients -/

namespace UExpr
open SymVerif.UPoly.UExpr

theorem mul_spec {a b : Dict Int} (ha : Canon a) (hb : Canon b) :
    ∃ r, mulU a b = .ok r ∧ Canon r ∧ toPoly r = toPoly a * toPoly b ∧
      ∀ k, getCoeff r k = conv (getCoeff a) (getCoeff b) k := mul_coeff_spec (mulAssign_ok gmul_ok) ha hb

theorem pow_spec {a : Dict Int} (ha : Canon a) (p : Nat) :
    ∃ r, powU a p = .ok r ∧ Canon r ∧ toPoly r = toPoly a ^ p := C21.pow_spec gmul_ok ha p

theorem eval_spec (a : Dict Int) (x : Int) : evalU a x = .ok ((toPoly a).eval x) := by
  show Except.ok (evalSum a x) = _
  rw [evalSum_spec]

end UExpr

/-! ## The code as it was found (defects D11, D12, D17, D18, D19 of docs/C21.md) -/

/-- D12: `ODictWrapper::pow(a, 0)` never leaves `while (p != 1)` -/
theorem D12_pow_zero_hangs (mul : Dict Int → Dict Int → Except Err (Dict Int)) (a : Dict Int) :
    powWith false mul a 0 = .error .hang := by
  rw [powWith, powLoop]
  rfl

/-- D18: `USymEnginePoly::eval` on the zero polynomial dereferences `rbegin()` of an empty map -/
theorem D18_eval_zero_oob (x : Int) : evalWith false ([] : Dict Int) x = .error .oob := rfl

/-- D19: `UIntDict::mul` with an empty operand dereferences `begin()` of an empty map
    (reached from `pow_upoly(0, p)`) -/
theorem D19_kmul_empty_oob (b : Dict Int) : kmulOrig [] b = .error .oob := rfl

/-- D11: with `N` as found (no bit for the sign) `(7x²+7x+7)²` decodes to a wrong polynomial … -/
theorem D11_kron_as_found_wrong :
    (kmulOrig [(0, 7), (1, 7), (2, 7)] [(0, 7), (1, 7), (2, 7)]).toOption
      = some [(0, 49), (1, 98), (2, -109), (3, 99), (4, 49)] := by decide +kernel

/-- … the repaired code returns the product -/
theorem D11_kron_repaired :
    (kmul [(0, 7), (1, 7), (2, 7)] [(0, 7), (1, 7), (2, 7)]).toOption
      = some [(0, 49), (1, 98), (2, 147), (3, 98), (4, 49)] := by decide +kernel

/-- D17: the loop condition as found compares the numbers of *terms*:
    `x²-x+1` does not "divide" `x³+1` (it does: quotient `x+1`) … -/
theorem D17_divides_as_found_false_negative :
    (dividesWith false kmulOrig divExactInt [(0, 1), (1, -1), (2, 1)] [(0, 1), (3, 1)]).toOption
      = some none := by decide +kernel

/-- … the repaired code answers `true` with the quotient `x+1` -/
theorem D17_divides_repaired :
    (dividesWith true kmul divExactInt [(0, 1), (1, -1), (2, 1)] [(0, 1), (3, 1)]).toOption
      = some (some [(0, 1), (1, 1)]) := by decide +kernel

/-- D17, as found: for `a = x²`, `b = x+1` the unsigned exponent `b_deg - a_deg` wraps (run on the `URat` class, where
    the library returns a quotient with wrapped exponents; the `UInt` run hangs; the model answers `.wrap` for both) -/
theorem D17_divides_as_found_wraps :
    (match dividesWith false gmul divExactRat [(2, 1)] [(0, 1), (1, 1)] with
      | .error .wrap => true
      | _ => false) = true := by decide +kernel

/-! ## Non-vacuity: the hypotheses are satisfiable on non-trivial values -/

def p777 : Dict Int := [(0, 7), (1, 7), (2, 7)]
theorem p777_canon : Canon p777 := ⟨by unfold Sorted; decide, by unfold NoZero; decide⟩

example : ∃ r, UPoly.UInt.mulU p777 p777 = .ok r ∧ Canon r ∧ toPoly r = toPoly p777 * toPoly p777 ∧
    ∀ k, getCoeff r k = conv (getCoeff p777) (getCoeff p777) k := UInt.mul_spec p777_canon p777_canon
example := UInt.pow_spec p777_canon 0
example : conv (getCoeff p777) (getCoeff p777) 2 = 147 := by decide
example : Canon (UPoly.UInt.addU p777 p777) := (UInt.add_spec p777_canon p777_canon).1
example := UInt.divides_spec p777_canon p777_canon (by simp [p777])
example := UInt.eval_spec p777_canon 3
example := UInt.diff_spec p777_canon

def qhalf : Dict Rat := [(0, 1 / 2), (3, -2)]
theorem qhalf_canon : Canon qhalf :=
  ⟨by unfold Sorted; decide, List.forall_mem_cons.2 ⟨by norm_num, List.forall_mem_singleton.2 (by norm_num)⟩⟩
example := URat.mul_spec qhalf_canon qhalf_canon
example := URat.pow_spec qhalf_canon 5
example := URat.divides_spec qhalf_canon qhalf_canon (by simp [qhalf])
example := UExpr.mul_spec p777_canon p777_canon

end SymVerif.C21
