/-
C45 — arbitrary-precision evaluation (eval_mpfr / eval_mpc / evalf > 53 bits) and RealMPFR
arithmetic.

Claimed theorems about the call sequences *translated from the C++ sources on this run*
(Gen/MpfrFormulas.lean), read through the documented meaning of the MPFR/MPC entry points
(`Mpfr.callSem`): agreement of the translated tables with eval_double's, up to three differences by
design (in-place folds of Add and Mul that start from the first operand; constants with a library
routine); the defining properties over ℝ of the derived formulas, carried over from C12 through that
agreement; facts about the RealMPFR dispatch table, the `#ifdef HAVE_SYMENGINE_MPC` branches at source
level only (MPC is not installed here).  `mpfrNodeVal` and `mpfrConstVal` are copies of single branches
of `evalG` on what an entry denotes (`toNodeDef`), `foldFirstVals` is `C12.foldFirstVal · 1`
(`foldFirstVals_eq`); the statements speak of them, none of the table `Mpfr.toDefs` the driver runs.

Correct rounding itself is a property of MPFR/MPC and outside the kernel: the claim is *partial*.
-/
import SymVerif.Props.C12
import SymVerif.Gen.MpfrFormulas

namespace SymVerif.C45
open SymVerif SymVerif.EvalG SymVerif.Mpfr

/-- kinds whose MPFR definition differs from eval_double's by design -/
def byDesign : List String := ["Add", "Mul", "Constant"]

/-- agreement of a translated MPFR/MPC definition with an eval_double definition of the same kind -/
def agreeM (k : String) (d : MDef) (nd : NodeDef) : Bool :=
  match d, nd with
  -- in-place fold from the first operand vs `tmp = unit; for …: tmp = step(tmp, operand)`
  | .fold fn, .foldArgs u step => decide (foldStep fn = some step) && decide (foldUnit fn = some u)
  -- library constants: π, e must denote the same formula; the others are compared numerically
  | .const tbl, .const dtbl =>
    ["pi", "E"].all fun n =>
      match tbl.lookup n, dtbl.lookup n with
      | some body, some f => decide (bodyFormula body = some f)
      | _, _ => false
  | d, nd => decide (toNodeDef k d = some nd)

/-- `p` agrees with the entry of the same kind in `defs`, if there is one -/
def agreeWith (defs : Defs) (p : String × MDef) : Bool :=
  match defs.find p.1 with
  | some nd => agreeM p.1 p.2 nd
  | none => true

/-- eval_mpfr agrees with eval_double, node kind by node kind (definition level) -/
theorem mpfr_table_agree : ∀ p ∈ Gen.mpfrDefs, agreeWith EvalG.Gen.visitorReal p = true := by
  decide +kernel

/-- eval_mpc agrees with the generic (complex) double visitor, node kind by node kind -/
theorem mpc_table_agree : ∀ p ∈ Gen.mpcDefs, agreeWith EvalG.Gen.visitorGeneric p = true := by
  decide +kernel

/-- node kinds only one of the two evaluators defines (reported, not required to agree) -/
def onlyMpfr : List String := (Gen.mpfrDefs.map (·.1)).filter fun k => (EvalG.Gen.visitorReal.find k).isNone
def onlyDouble : List String := (EvalG.Gen.visitorReal.map (·.1)).filter fun k => (Gen.mpfrDefs.find k).isNone

theorem mpfr_only_kinds : onlyMpfr = ["RealMPFR", "UpperGamma", "LowerGamma", "Beta", "NumberWrapper", "FunctionWrapper"] := by
  decide +kernel

theorem double_only_kinds : onlyDouble = ["Symbol", "BooleanAtom", "Piecewise"] := by
  decide +kernel

/-- every straight-line body is well formed: no register is read before it is written and every
call has a documented meaning (the bodies inside a Constant table are not looked at) -/
def wellFormed : MDef → Bool
  | .seq body => (bodyFormula body).isSome
  | .fold fn => (foldStep fn).isSome
  | .powE e b => (bodyFormula e).isSome && (bodyFormula b).isSome
  | .cmp p => (predCmp p).isSome
  | _ => true

/-- the incomplete gamma functions have no counterpart in the formula language -/
def noFormula : List String := ["UpperGamma", "LowerGamma"]

theorem mpfr_bodies_well_formed :
    ∀ p ∈ Gen.mpfrDefs, p.1 ∈ noFormula ∨ wellFormed p.2 = true := by
  decide +kernel

theorem mpc_bodies_well_formed : ∀ p ∈ Gen.mpcDefs, wellFormed p.2 = true := by
  decide +kernel

section Specs
variable (erf erfc : ℝ → ℝ)
local notation "R" => realOps erf erfc

/-- the function-node branch of `evalG` on what the MPFR entry of kind `k` denotes (cf. `nodeVal`) -/
def mpfrNodeVal {α : Type} (O : NumOps α) (k : String) (args : List α) : Except Err α :=
  match Gen.mpfrDefs.find k with
  | some d =>
    match toNodeDef k d with
    | some (.fn body) => evalF O args body
    | _ => .error .notImpl
  | none => .error .notImpl

theorem MDefs.mem_of_find {d : MDefs} {k : String} {v : MDef} (h : d.find k = some v) : (k, v) ∈ d := by
  induction d with
  | nil => cases h
  | cons p t ih =>
    obtain ⟨k', v'⟩ := p
    rw [MDefs.find] at h
    split at h
    · next hk => cases h; rw [hk]; exact List.mem_cons_self
    · exact List.mem_cons_of_mem _ (ih h)

/-- Where eval_double evaluates a formula, the agreement (`mpfr_table_agree`) says the MPFR call sequence denotes that
formula, so the two values coincide over any number structure. -/
theorem mpfrNodeVal_eq_of_agree {α : Type} (O : NumOps α) {k : String} (args : List α)
    (hm : (Gen.mpfrDefs.find k).isSome = true) (hv : (EvalG.Gen.visitorReal.find k).any C12.isFnDef = true) :
    mpfrNodeVal O k args = nodeVal O EvalG.Gen.visitorReal k args := by
  obtain ⟨d, hd⟩ := Option.isSome_iff_exists.mp hm
  obtain ⟨nd, hnd, hfn⟩ := (Option.any_eq_true _ _).mp hv
  obtain ⟨body, rfl⟩ := C12.fn_of_isFnDef hfn
  have h := mpfr_table_agree (k, d) (MDefs.mem_of_find hd)
  have ha : agreeM k d (.fn body) = decide (toNodeDef k d = some (.fn body)) := by cases d <;> rfl
  simp only [agreeWith, hnd, ha, decide_eq_true_eq] at h
  simp only [mpfrNodeVal, nodeVal, hd, h, hnd]

/-- for the kinds below (those with a C12 `*_spec`, and ATan2) the MPFR value *is* the eval_double value, over
any number structure; `mpfrNodeVal_eq_of_agree` gives it for every kind both tables define as a function -/
theorem mpfrNodeVal_eq {α : Type} (O : NumOps α) (k : String) (args : List α)
    (hk : k ∈ ["Cot", "Sec", "Csc", "ASec", "ACsc", "ACot", "Coth", "Sech", "Csch", "ACsch", "ACoth", "ASech",
               "Equality", "Unequality", "LessThan", "StrictLessThan", "ATan2"]) :
    mpfrNodeVal O k args = nodeVal O EvalG.Gen.visitorReal k args := by
  refine mpfrNodeVal_eq_of_agree O args ?_ ?_ <;> revert k <;> decide +kernel

theorem mpfr_cot_spec (x : ℝ) (hx : Real.sin x ≠ 0) :
    ∃ y, mpfrNodeVal R "Cot" [x] = .ok y ∧ y * Real.sin x = Real.cos x := by
  rw [mpfrNodeVal_eq _ _ _ (by simp)]; exact C12.cot_spec erf erfc x hx

theorem mpfr_sec_spec (x : ℝ) (hx : Real.cos x ≠ 0) :
    ∃ y, mpfrNodeVal R "Sec" [x] = .ok y ∧ y * Real.cos x = 1 := by
  rw [mpfrNodeVal_eq _ _ _ (by simp)]; exact C12.sec_spec erf erfc x hx

theorem mpfr_csc_spec (x : ℝ) (hx : Real.sin x ≠ 0) :
    ∃ y, mpfrNodeVal R "Csc" [x] = .ok y ∧ y * Real.sin x = 1 := by
  rw [mpfrNodeVal_eq _ _ _ (by simp)]; exact C12.csc_spec erf erfc x hx

/-- asec: principal value in [0, π] whose cosine is 1/x (defect 1 of docs/C45.md: the body said `asin`) -/
theorem mpfr_asec_spec (x : ℝ) (hx : 1 ≤ |x|) :
    ∃ y, mpfrNodeVal R "ASec" [x] = .ok y ∧ Real.cos y = 1 / x ∧ 0 ≤ y ∧ y ≤ Real.pi := by
  rw [mpfrNodeVal_eq _ _ _ (by simp)]; exact C12.asec_spec erf erfc x hx

theorem mpfr_acsc_spec (x : ℝ) (hx : 1 ≤ |x|) :
    ∃ y, mpfrNodeVal R "ACsc" [x] = .ok y ∧ Real.sin y = 1 / x ∧ -(Real.pi / 2) ≤ y ∧ y ≤ Real.pi / 2 := by
  rw [mpfrNodeVal_eq _ _ _ (by simp)]; exact C12.acsc_spec erf erfc x hx

theorem mpfr_acot_spec (x : ℝ) (hx : x ≠ 0) :
    ∃ y, mpfrNodeVal R "ACot" [x] = .ok y ∧ Real.tan y * x = 1 ∧ -(Real.pi / 2) < y ∧ y < Real.pi / 2 := by
  rw [mpfrNodeVal_eq _ _ _ (by simp)]; exact C12.acot_spec erf erfc x hx

theorem mpfr_coth_spec (x : ℝ) (hx : Real.sinh x ≠ 0) :
    ∃ y, mpfrNodeVal R "Coth" [x] = .ok y ∧ y * Real.sinh x = Real.cosh x := by
  rw [mpfrNodeVal_eq _ _ _ (by simp)]; exact C12.coth_spec erf erfc x hx

theorem mpfr_sech_spec (x : ℝ) : ∃ y, mpfrNodeVal R "Sech" [x] = .ok y ∧ y * Real.cosh x = 1 := by
  rw [mpfrNodeVal_eq _ _ _ (by simp)]; exact C12.sech_spec erf erfc x

theorem mpfr_csch_spec (x : ℝ) (hx : Real.sinh x ≠ 0) :
    ∃ y, mpfrNodeVal R "Csch" [x] = .ok y ∧ y * Real.sinh x = 1 := by
  rw [mpfrNodeVal_eq _ _ _ (by simp)]; exact C12.csch_spec erf erfc x hx

theorem mpfr_acsch_spec (x : ℝ) : ∃ y, mpfrNodeVal R "ACsch" [x] = .ok y ∧ Real.sinh y = 1 / x := by
  rw [mpfrNodeVal_eq _ _ _ (by simp)]; exact C12.acsch_spec erf erfc x

theorem mpfr_acoth_spec (x : ℝ) (hx : 1 < |x|) :
    ∃ y, mpfrNodeVal R "ACoth" [x] = .ok y ∧ Real.tanh y = 1 / x := by
  rw [mpfrNodeVal_eq _ _ _ (by simp)]; exact C12.acoth_spec erf erfc x hx

theorem mpfr_asech_spec (x : ℝ) (h0 : 0 < x) (h1 : x ≤ 1) :
    ∃ y, mpfrNodeVal R "ASech" [x] = .ok y ∧ Real.cosh y = 1 / x ∧ 0 ≤ y := by
  rw [mpfrNodeVal_eq _ _ _ (by simp)]; exact C12.asech_spec erf erfc x h0 h1

theorem mpfr_lt_spec (a b : ℝ) :
    mpfrNodeVal R "StrictLessThan" [a, b] = .ok (if a < b then 1 else 0) := by
  rw [mpfrNodeVal_eq _ _ _ (by simp)]; exact C12.lt_spec erf erfc a b

theorem mpfr_le_spec (a b : ℝ) :
    mpfrNodeVal R "LessThan" [a, b] = .ok (if a ≤ b then 1 else 0) := by
  rw [mpfrNodeVal_eq _ _ _ (by simp)]; exact C12.le_spec erf erfc a b

theorem mpfr_eq_spec (a b : ℝ) :
    mpfrNodeVal R "Equality" [a, b] = .ok (if a = b then 1 else 0) := by
  rw [mpfrNodeVal_eq _ _ _ (by simp)]; exact C12.eq_spec erf erfc a b

theorem mpfr_ne_spec (a b : ℝ) :
    mpfrNodeVal R "Unequality" [a, b] = .ok (if a ≠ b then 1 else 0) := by
  rw [mpfrNodeVal_eq _ _ _ (by simp)]; exact C12.ne_spec erf erfc a b

/-- `atan2(num, den)`: the first operand is the ordinate -/
theorem mpfr_atan2_spec (y x : ℝ) :
    mpfrNodeVal R "ATan2" [y, x] = .ok (Complex.arg ⟨x, y⟩) := by
  rw [mpfrNodeVal_eq _ _ _ (by simp), nodeVal_fn (body := .call2 .atan2 (.arg 0) (.arg 1)) (by decide +kernel)]
  rfl

/-- the `Constant` branch of `evalG` on what the MPFR entry denotes (cf. `C12.constVal`) -/
def mpfrConstVal {α : Type} (O : NumOps α) (name : String) : Except Err α :=
  match Gen.mpfrDefs.find "Constant" with
  | some (.const tbl) =>
    match tbl.lookup name with
    | some body =>
      match bodyFormula body with
      | some f => evalF O [] f
      | none => .error .notImpl
    | none => .error .notImpl
  | _ => .error .notImpl

def mpfrConstFormula (name : String) : Option Formula :=
  match Gen.mpfrDefs.find "Constant" with
  | some (.const tbl) => (tbl.lookup name).bind bodyFormula
  | _ => none

theorem mpfrConstVal_eq {α : Type} {O : NumOps α} {name : String} {f : Formula}
    (h : mpfrConstFormula name = some f) : mpfrConstVal O name = evalF O [] f := by
  unfold mpfrConstFormula at h
  unfold mpfrConstVal
  split at h
  · cases hb : List.lookup name _ with
    | none => rw [hb] at h; cases h
    | some body => rw [hb] at h; simp only [Option.bind_some] at h; simp only [h]
  · cases h

theorem mpfr_pi_spec : mpfrConstVal R "pi" = .ok Real.pi :=
  (mpfrConstVal_eq (by decide +kernel)).trans (C12.pi_formula erf erfc)

theorem mpfr_e_spec : mpfrConstVal R "E" = .ok (Real.exp 1) :=
  (mpfrConstVal_eq (by decide +kernel)).trans (C12.e_formula erf erfc)

/-- `(sqrt(5) + 1) / 2` *is* the golden ratio (the double evaluator only has a 22-digit literal) -/
theorem mpfr_goldenRatio_exact : mpfrConstVal R "GoldenRatio" = .ok Real.goldenRatio := by
  rw [mpfrConstVal_eq (f := .div (.add (.call1 .sqrt (.lit 5 1)) (.lit 1 1)) (.lit 2 1)) (by decide +kernel)]
  simp only [evalF, optErr, bind, Except.bind, pure, Except.pure, C12.realOps_lit, Int.cast_ofNat, Int.cast_one,
    C15.R_sqrt, C15.R_add, C15.R_div]
  rw [Real.goldenRatio, add_comm]

end Specs

/-- in-place fold of Add / Mul / Max / Min: first operand, then `res := step(res, operand)` -/
def foldFirstVals {α : Type} (O : NumOps α) (step : Formula) : List α → Except Err α
  | [] => .error .badArg
  | v :: vs => foldVals O step v vs

theorem foldFirstVals_eq {α : Type} (O : NumOps α) (step : Formula) (vs : List α) :
    foldFirstVals O step vs = C12.foldFirstVal O 1 step vs := by
  cases vs <;> rfl

/-- In any number structure where `unit` is a left unit of `step`, the in-place fold of eval_mpfr
equals the accumulator loop of eval_double on the same operand list.  This is why `toNodeDef` may
send the in-place fold of Add/Mul to eval_double's `.foldArgs unit step`, so that the tables compare
literally; Max/Min go to `.foldFirst 1 step`, what the C++ does, and need no such step. -/
theorem fold_first_eq_foldArgs {α : Type} (O : NumOps α) (step : Formula) (unit : α)
    (hunit : ∀ a, evalF O [unit, a] step = .ok a) (v : α) (vs : List α) :
    foldFirstVals O step (v :: vs) = foldVals O step unit (v :: vs) :=
  (C12.foldVals_skip O (hunit v) vs).symm

theorem real_add_unit (erf erfc : ℝ → ℝ) (a : ℝ) :
    evalF (realOps erf erfc) [(0 : ℝ), a] (.add (.arg 0) (.arg 1)) = .ok a :=
  congrArg Except.ok (zero_add a)

theorem real_mul_unit (erf erfc : ℝ → ℝ) (a : ℝ) :
    evalF (realOps erf erfc) [(1 : ℝ), a] (.mul (.arg 0) (.arg 1)) = .ok a :=
  congrArg Except.ok (one_mul a)

/-- what the methods say: `get_prec()` everywhere, `max(get_prec(), other.get_prec())` for RealMPFR -/
theorem dispatch_precision_table :
    ∀ e ∈ Gen.realArith,
      (e.body ≠ [] → (if e.other = "RealMPFR" then e.prec = "max" else e.prec = "this"))
      ∧ (e.body = [] → e.prec = "" ∧ isComplexKind e.other = true) := by
  decide +kernel

/-- result precision: the receiver's precision, or the larger one for two RealMPFR operands -/
theorem dispatch_precision :
    ∀ e ∈ Gen.realArith, ∀ p q : Nat,
      (e.body ≠ [] → arithPrec e p q = some (if e.other = "RealMPFR" then max p q else p))
      ∧ (e.body = [] → arithPrec e p q = none ∧ isComplexKind e.other = true) := by
  intro e he p q
  have key := dispatch_precision_table e he
  constructor
  · intro hb
    have h := key.1 hb
    by_cases ho : e.other = "RealMPFR"
    · simp only [ho, if_true] at h ⊢
      simp [arithPrec, h]
    · simp only [ho, if_false] at h ⊢
      simp [arithPrec, h]
  · intro hb
    obtain ⟨h1, h2⟩ := key.2 hb
    exact ⟨by simp [arithPrec, h1], h2⟩

def arithKinds (op : String) : List String :=
  if op == "rsub" || op == "rdiv" || op == "rpow" then ["Integer", "Rational", "Complex", "RealDouble", "ComplexDouble"]
  else ["Integer", "Rational", "Complex", "RealDouble", "ComplexDouble", "RealMPFR"]

theorem dispatch_total :
    ∀ op ∈ ["add", "sub", "rsub", "mul", "div", "rdiv", "pow", "rpow"], ∀ k ∈ arithKinds op,
      (findArith Gen.realArith op k).isSome = true := by
  decide +kernel

/-- the formula a method's real branch computes on (arg 0 = this, arg 1 = other) -/
def arithFormula (e : ArithEntry) : Option Formula := bodyFormula e.body
def mpcFormula (e : ArithEntry) : Option Formula := bodyFormula e.mpcBody

/-- `f` is one of the accepted forms for `e.op` -/
def orderOk (e : ArithEntry) (f : Option Formula) : Bool :=
  match f with
  | some f => (expected e.op).contains f
  | none => false

/-- the real branch of every method computes `this ∘ other` (`other ∘ this` for the r-methods),
possibly written in one of the listed algebraically equal ways -/
theorem dispatch_operand_order :
    ∀ e ∈ Gen.realArith, e.body ≠ [] → orderOk e (arithFormula e) = true := by
  decide +kernel

/-- the accepted alternative forms are equal to the primary form over ℝ -/
theorem rsub_alternative_sound (erf erfc : ℝ → ℝ) (a b : ℝ) :
    evalF (realOps erf erfc) [a, b] (.neg (.sub (.arg 0) (.arg 1)))
      = evalF (realOps erf erfc) [a, b] (.sub (.arg 1) (.arg 0)) :=
  congrArg Except.ok (neg_sub a b)

-- unconditional only because `x / 0 = 0` in ℝ: at `a = 0` or `b = 0` it says nothing of MPFR
theorem rdiv_alternative_sound (erf erfc : ℝ → ℝ) (a b : ℝ) :
    evalF (realOps erf erfc) [a, b] (.div Mpfr.one (.div (.arg 0) (.arg 1)))
      = evalF (realOps erf erfc) [a, b] (.div (.arg 1) (.arg 0)) := by
  show Except.ok ((realOps erf erfc).ofQNear 1 1 / (a / b)) = Except.ok (b / a)
  rw [C12.realOps_lit, Int.cast_one, one_div_div]

/-- A guard for the complex branch, where a method has one, is on the sign of the *base* of the power
(`this` for pow, `other` for rpow); the other operations have none. -/
theorem dispatch_guard_on_base :
    ∀ e ∈ Gen.realArith, e.guard = "" ∨ e.guard = expectedGuard e.op := by
  decide +kernel

/-- methods whose real branch rounds more than once -/
def multiRounding : List (String × String) :=
  (Gen.realArith.filter fun e => decide (roundingCalls e.body > 1)).map fun e => (e.op, e.other)

/-- Exactly these methods are *not* a single correctly rounded MPFR call (reported as finding):
`Integer / x`, `Rational / x` divide and then invert; powers with a Rational / Integer / double
operand first round that operand to the receiver's precision. -/
theorem double_rounding_witnesses :
    multiRounding = [("rdiv", "Integer"), ("rdiv", "Rational"), ("pow", "Rational"), ("pow", "RealDouble"),
                     ("rpow", "Integer"), ("rpow", "Rational"), ("rpow", "RealDouble")] := by
  decide +kernel

theorem not_pred_of_not_mem_filter_map {α β : Type} {l : List α} {P : α → Bool} {g : α → β} {e : α}
    (he : e ∈ l) (hn : g e ∉ (l.filter P).map g) : P e = false := by
  cases h : P e
  · rfl
  · exact absurd (List.mem_map.mpr ⟨e, List.mem_filter.mpr ⟨he, h⟩, rfl⟩) hn

theorem body_rounds : ∀ e ∈ Gen.realArith, e.body ≠ [] → 1 ≤ roundingCalls e.body := by
  decide +kernel

/-- all other real branches are one library call (correctly rounded by MPFR's contract) -/
theorem dispatch_single_rounding_partial :
    ∀ e ∈ Gen.realArith, e.body ≠ [] → (e.op, e.other) ∉ multiRounding → roundingCalls e.body = 1 := by
  intro e he hb hn
  -- at most one: of any table, `multiRounding` being the rows with more
  have h2 : ¬ roundingCalls e.body > 1 := of_decide_eq_false
    (not_pred_of_not_mem_filter_map (l := Gen.realArith) (P := fun e => decide (roundingCalls e.body > 1))
      (g := fun e => (e.op, e.other)) he hn)
  -- at least one: decided on this table
  have h1 := body_rounds e he hb
  omega

/-- the methods whose `#ifdef HAVE_SYMENGINE_MPC` branch does not compute in the expected operand order -/
def mpcSwapped : List (String × String) :=
  (Gen.realArith.filter fun e =>
      e.mpcBody != [] && (match mpcFormula e with
        | some f => !(expected e.op).contains f
        | none => true)).map fun e => (e.op, e.other)

theorem mpc_branch_operand_order_partial :
    ∀ e ∈ Gen.realArith, e.mpcBody ≠ [] → (e.op, e.other) ∉ mpcSwapped →
      orderOk e (mpcFormula e) = true := by
  -- true of any table: `mpcSwapped` lists exactly the entries with an MPC body that are not `orderOk`;
  -- what the source says is in `mpc_branch_swapped`
  intro e he hb hn
  have h := not_pred_of_not_mem_filter_map he hn
  -- the `match` in `mpcSwapped` is `!orderOk e (mpcFormula e)` written out
  unfold orderOk
  cases hf : mpcFormula e with
  | none => simp [hb, hf] at h
  | some f => simpa [hb, hf] using h

/-- Source-level finding (MPC is not installed, so it cannot be executed here): in these methods the
MPC branch computes the operation with the operands exchanged — `subreal(Complex)` is
`other − this`, `rsubreal(Complex)` is `this − other`, likewise div / rdiv / pow / rpow. -/
theorem mpc_branch_swapped :
    mpcSwapped = [("sub", "Complex"), ("sub", "ComplexDouble"), ("rsub", "Complex"), ("rsub", "ComplexDouble"),
                  ("div", "Complex"), ("div", "ComplexDouble"), ("rdiv", "Complex"), ("rdiv", "ComplexDouble"),
                  ("pow", "Complex"), ("rpow", "Complex")] := by
  decide +kernel

def reverseOp : String → String
  | "sub" => "rsub" | "rsub" => "sub" | "div" => "rdiv" | "rdiv" => "div"
  | "pow" => "rpow" | "rpow" => "pow" | o => o

theorem mpc_branch_swapped_is_reverse :
    ∀ e ∈ Gen.realArith, (e.op, e.other) ∈ mpcSwapped →
      orderOk { e with op := reverseOp e.op } (mpcFormula e) = true := by
  decide +kernel

theorem outcome_real_prec (e : ArithEntry) (p q : Nat) (oz tn on : Bool) (r : Nat)
    (h : outcome e p q oz tn on = .real r) : arithPrec e p q = some r := by
  unfold outcome at h
  split at h
  · cases h
  · split at h
    · cases h
    · cases hp : arithPrec e p q with
      | none => simp [hp] at h
      | some v => simp [hp] at h; rw [h]

-- `true = true`: the translator prints the flag after matching the text of `evalf_numeric` (and raises otherwise);
-- the content is that match, none is the kernel's
theorem evalf_uses_requested_precision : Gen.evalfRealUsesBitsPrecision = true := by decide

example : ∃ y, mpfrNodeVal (realOps id id) "ASec" [2] = .ok y ∧ Real.cos y = 1 / 2 ∧ 0 ≤ y ∧ y ≤ Real.pi :=
  mpfr_asec_spec id id 2 (by norm_num)

example : agreeM "ATan2" (.seq [.load .tmp 0, .load .res 1, .call "atan2" .res [.reg .tmp, .reg .res]])
    (.fn (.call2 .atan2 (.arg 0) (.arg 1))) = true := by decide +kernel

-- a swapped atan2 would be rejected
example : agreeM "ATan2" (.seq [.load .tmp 0, .load .res 1, .call "atan2" .res [.reg .res, .reg .tmp]])
    (.fn (.call2 .atan2 (.arg 0) (.arg 1))) = false := by decide +kernel

example : arithPrec (Gen.realArith.find? (fun e => e.op == "mul" && e.other == "RealMPFR")).get! 100 200 = some 200 := by
  decide +kernel

example : outcome (findArith Gen.realArith "rpow" "RealDouble").get! 100 53 false true false = .real 100 := by
  decide +kernel

/-- The arithmetic half of the full property, not asserted: every arithmetic method returns the
correctly rounded value of the exact operation (nothing is stated here of `eval_mpfr` on trees).
`rounds p x y` abstracts "y is x rounded to p bits"; it needs a formal model of MPFR and is outside
this development. -/
def C45_full (rounds : Nat → ℝ → ℝ → Prop) (implArith : String → String → Nat → Nat → ℝ → ℝ → Option ℝ)
    (erf erfc : ℝ → ℝ) : Prop :=
  ∀ e ∈ Gen.realArith, ∀ (p q : Nat) (a b : ℝ) (f : Formula) (x r : ℝ),
    arithFormula e = some f → evalF (realOps erf erfc) [a, b] f = .ok x →
    implArith e.op e.other p q a b = some r →
    ∃ pr, arithPrec e p q = some pr ∧ rounds pr x r

end SymVerif.C45
