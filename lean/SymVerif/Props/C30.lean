import Mathlib.Analysis.SpecialFunctions.Pow.Complex
import Mathlib.LinearAlgebra.Matrix.NonsingularInverse
import SymVerif.Lemmas.C30Cert
import SymVerif.Lemmas.C30Cubic
import SymVerif.Lemmas.C30Real
import Mathlib.Analysis.SpecialFunctions.Pow.Real
/-!
C30 — equation solving returns exactly the solution set.

Model: `SymVerif/Model/Solve.lean` (closed forms of solve.cpp on rational coefficient vectors, degree
dispatch, `solve_rational`, fraction-free Gauss-Jordan `linsolve`) and `SymVerif/Model/SolveCert.lean`
(the certificate checker run by `Drv/C30.lean` on every set returned by the real library).

Proved: the closed forms of degree ≤ 2 and the exact branches of the cubic return exactly the root set; an accepted
certificate means the returned elements are exactly the roots (any degree; elements built from square roots of
rationals); the realness decisions and the exclusion of poles; each Cardano / Euler value is a root.
Not proved: completeness of the Cardano branch (`C30_cubic_full`; nothing is stated for Euler's) and the elimination of `linsolve`
(`C30_linsolve_full`); both are stated as `def … : Prop`.
-/
namespace SymVerif.C30
open SymVerif SymVerif.Solve SymVerif.Solve.RP

set_option linter.unusedSectionVars false  -- not every statement below uses `[CharZero K]`
variable {K : Type*} [Field K] [CharZero K]

def surdVal (sq : ℚ → K) (s : Surd) : K := (s.a : K) + (s.b : K) * sq s.d

variable (sq : ℚ → K) (hsq : ∀ r : ℚ, sq r * sq r = (r : K))

@[simp] theorem surdVal_ofRat (r : ℚ) : surdVal sq (Surd.ofRat r) = (r : K) := by
  simp [surdVal, Surd.ofRat]

/-- `solve_poly_linear`: for `c1 ≠ 0` the returned set is exactly `{x | c0 + c1 x = 0}` -/
theorem linear_sound_complete (c0 c1 : ℚ) (h : c1 ≠ 0) (x : K) :
    (c0 : K) + (c1 : K) * x = 0 ↔ x ∈ (solvePolyLinear c0 c1).map (surdVal sq) := by
  have h1 : (c1 : K) ≠ 0 := Rat.cast_ne_zero.2 h
  simp only [solvePolyLinear, List.map_cons, List.map_nil, List.mem_singleton, surdVal_ofRat]
  rw [Rat.cast_neg, Rat.cast_div, ← neg_div, eq_div_iff h1, add_comm, add_eq_zero_iff_eq_neg, mul_comm]

example : (6 : ℚ) + (3 : ℚ) * (-2 : ℚ) = 0 ↔ (-2 : ℚ) ∈ (solvePolyLinear 6 3).map (surdVal (fun r => r)) :=
  linear_sound_complete (K := ℚ) (fun r => r) 6 3 (by norm_num) (-2)

include hsq in
/-- `solve_poly_quadratic` (all three branches: c = 0, b = 0, general): for `c2 ≠ 0` the returned set is
    exactly the root set of `c0 + c1 x + c2 x²` -/
theorem quadratic_sound_complete (c0 c1 c2 : ℚ) (h : c2 ≠ 0) (x : K) :
    (c0 : K) + (c1 : K) * x + (c2 : K) * x ^ 2 = 0 ↔
      x ∈ (solvePolyQuadratic c0 c1 c2).map (surdVal sq) := by
  have h2 : (c2 : K) ≠ 0 := Rat.cast_ne_zero.2 h
  have hscale : ∀ a : ℚ, (a : K) = c2 * ((a / c2 : ℚ) : K) := fun a => by rw [Rat.cast_div, mul_div_cancel₀ _ h2]
  rw [hscale c0, hscale c1]
  unfold solvePolyQuadratic
  simp only []
  generalize c1 / c2 = b
  generalize c0 / c2 = c
  have key : ∀ r1 r2 : K, x ^ 2 + b * x + c = (x - r1) * (x - r2) →
      ((c2 : K) * c + c2 * b * x + c2 * x ^ 2 = 0 ↔ x = r1 ∨ x = r2) := fun r1 r2 hid => by
    rw [show (c2 : K) * c + c2 * b * x + c2 * x ^ 2 = c2 * ((x - r1) * (x - r2)) by rw [← hid]; ring,
      mul_eq_zero, mul_eq_zero, sub_eq_zero, sub_eq_zero, or_iff_right h2]
  split_ifs with hc hb <;>
    simp only [List.map_cons, List.map_nil, List.mem_cons, List.not_mem_nil, or_false, surdVal, Surd.ofRat] <;>
    apply key
  · simp only [hc, Rat.cast_neg, Rat.cast_zero]; ring
  · have hs := hsq (-c)
    simp only [hb, Rat.cast_neg, Rat.cast_zero, Rat.cast_one] at hs ⊢
    linear_combination hs
  · have hs := hsq (b * b - 4 * c)
    simp only [Rat.cast_div, Rat.cast_neg, Rat.cast_one, Rat.cast_ofNat, Rat.cast_sub, Rat.cast_mul] at hs ⊢
    linear_combination (1 / 4 : K) * hs

include hsq in
/-- discriminant 0: the two elements the general branch of `solvePolyQuadratic` lists have the same value `-b/2` -/
theorem quadratic_repeated (c0 c1 c2 : ℚ)
    (hd : c1 / c2 * (c1 / c2) - 4 * (c0 / c2) = 0) :
    ∀ s ∈ [(⟨-(c1 / c2) / 2, 1 / 2, c1 / c2 * (c1 / c2) - 4 * (c0 / c2)⟩ : Surd),
           ⟨-(c1 / c2) / 2, -(1 / 2), c1 / c2 * (c1 / c2) - 4 * (c0 / c2)⟩],
      surdVal sq s = ((-(c1 / c2) / 2 : ℚ) : K) := by
  have h0 : sq 0 = 0 := mul_self_eq_zero.1 ((hsq 0).trans Rat.cast_zero)
  intro s hs
  simp only [List.mem_cons, List.not_mem_nil, or_false] at hs
  rcases hs with rfl | rfl <;> simp only [surdVal, hd, h0, mul_zero, add_zero]

/-- principal roots in ℂ -/
noncomputable def rtC : ℕ → ℂ → ℂ := fun d x => x ^ ((d : ℂ)⁻¹)
theorem rtC_pow (d : ℕ) (x : ℂ) (hd : d ≠ 0) : rtC d x ^ d = x := Complex.cpow_nat_inv_pow x hd

/-- the principal square root of a rational in ℂ: `sqOf rtC` written out (`sqC_real` needs the `cpow` form, `den` needs `rtC`) -/
noncomputable def sqC : ℚ → ℂ := fun r => (r : ℂ) ^ ((2 : ℕ)⁻¹ : ℂ)
theorem sqC_mul_self (r : ℚ) : sqC r * sqC r = (r : ℂ) := sqOf_mul_self rtC rtC_pow r

example (x : ℂ) : ((-1 : ℚ) : ℂ) + ((-1 : ℚ) : ℂ) * x + ((1 : ℚ) : ℂ) * x ^ 2 = 0 ↔
    x ∈ (solvePolyQuadratic (-1) (-1) 1).map (surdVal sqC) :=
  quadratic_sound_complete sqC sqC_mul_self (-1) (-1) 1 (by norm_num) x

theorem trim_cons (c : ℚ) (cs : Poly) : trim (c :: cs) =
    (match trim cs with
     | [] => if c = 0 then [] else [c]
     | cs' => c :: cs') := by
  rfl

theorem evalK_polyK_trim (p : Poly) (x : K) : evalK (polyK (trim p)) x = evalK (polyK p) x := by
  induction p with
  | nil => rfl
  | cons c cs ih =>
    rw [trim_cons]
    rw [polyK_cons, evalK_cons, ← ih]
    cases htc : trim cs with
    | nil =>
      simp only []
      split_ifs with hc0 <;> simp [hc0]
    | cons d ds => rfl

theorem trim_getLast_ne_zero : ∀ (p : Poly) (c : ℚ), (trim p).getLast? = some c → c ≠ 0
  | [], c, h => nomatch h
  | a :: as, c, h => by
    have ih := trim_getLast_ne_zero as c
    rw [trim_cons] at h
    rcases htc : trim as with _ | ⟨d, ds⟩ <;> rw [htc] at h ih <;> simp only [] at h
    · split_ifs at h with ha
      · cases h
      · cases h; exact ha
    · exact ih (by rwa [List.getLast?_cons_cons] at h)

include hsq in
/-- Degeneration handled by the dispatch: whatever leading zeros the coefficient vector has, for true degree
    ≤ 2 the model returns the whole domain exactly for the zero polynomial and otherwise exactly the root set. -/
theorem solvePoly_sound_complete (p : Poly) (hdeg : (trim p).length ≤ 3) :
    (solvePoly p = .all ∧ ∀ x : K, evalK (polyK p) x = 0) ∨
    (∃ l, solvePoly p = .roots l ∧ ∀ x : K, evalK (polyK p) x = 0 ↔ x ∈ l.map (surdVal sq)) := by
  have hl := trim_getLast_ne_zero p
  have he : ∀ x : K, evalK (polyK p) x = evalK (polyK (trim p)) x := fun x => (evalK_polyK_trim p x).symm
  simp only [he]
  unfold solvePoly
  generalize trim p = q at hdeg hl
  rcases q with _ | ⟨c0, _ | ⟨c1, _ | ⟨c2, _ | ⟨c3, rest⟩⟩⟩⟩
  · exact .inl ⟨rfl, fun x => rfl⟩
  · have : (c0 : K) ≠ 0 := Rat.cast_ne_zero.2 (hl c0 rfl)
    exact .inr ⟨[], rfl, fun x => by simp [this]⟩
  · refine .inr ⟨_, rfl, fun x => ?_⟩
    rw [← linear_sound_complete sq c0 c1 (hl c1 rfl) x,
      show evalK (polyK [c0, c1]) x = c0 + c1 * x by simp only [polyK_cons, polyK_nil, evalK_cons, evalK_nil]; ring]
  · refine .inr ⟨_, rfl, fun x => ?_⟩
    rw [← quadratic_sound_complete sq hsq c0 c1 c2 (hl c2 rfl) x,
      show evalK (polyK [c0, c1, c2]) x = c0 + c1 * x + c2 * x ^ 2 by
        simp only [polyK_cons, polyK_nil, evalK_cons, evalK_nil]; ring]
  · exact absurd hdeg (by simp)

example : (trim [2, -3, 1, 0, 0]).length ≤ 3 := by decide +kernel

include hsq in
/-- whenever the model of `solve_poly_cubic` answers with an explicit root list (branches `d = 0`, `Δ = 0` with a
    triple root, `Δ = 0` with a double root), that list is exactly the root set -/
theorem cubic_exact_sound_complete (c0 c1 c2 c3 : ℚ) (h3 : c3 ≠ 0) (l : List Surd)
    (h : solvePolyCubic c0 c1 c2 c3 = .roots l) (x : K) :
    (c0 : K) + (c1 : K) * x + (c2 : K) * x ^ 2 + (c3 : K) * x ^ 3 = 0 ↔ x ∈ l.map (surdVal sq) := by
  have h3' : (c3 : K) ≠ 0 := Rat.cast_ne_zero.2 h3
  unfold solvePolyCubic at h
  simp only [] at h
  have hscale : ∀ a : ℚ, (a : K) = c3 * ((a / c3 : ℚ) : K) := fun a => by rw [Rat.cast_div, mul_div_cancel₀ _ h3']
  rw [hscale c0, hscale c1, hscale c2]
  generalize c2 / c3 = b at h ⊢
  generalize c1 / c3 = c at h ⊢
  generalize c0 / c3 = d at h ⊢
  rw [show (c3 : K) * d + c3 * c * x + c3 * b * x ^ 2 + c3 * x ^ 3
      = c3 * (x ^ 3 + b * x ^ 2 + c * x + d) by ring, mul_eq_zero, or_iff_right h3']
  -- four branches; `cases h` closes the Cardano one (`.symbolic ≠ .roots`) and substitutes `l` in the others
  split_ifs at h with hd hdelta hdelta0 <;> cases h
  · -- d = 0
    rw [List.map_cons, List.mem_cons, surdVal_ofRat,
      ← quadratic_sound_complete sq hsq c b 1 one_ne_zero x, hd, Rat.cast_zero, Rat.cast_one,
      show x ^ 3 + (b : K) * x ^ 2 + (c : K) * x + 0 = x * ((c : K) + (b : K) * x + 1 * x ^ 2) by ring, mul_eq_zero]
  · -- Δ = 0, Δ₀ = 0, hence Δ₁ = 0
    rw [div_eq_zero_iff, or_iff_left (by norm_num), hdelta0] at hdelta
    have h1 : 2 * b ^ 3 - 9 * b * c + 27 * d = 0 := pow_eq_zero_iff two_ne_zero |>.1 (by linear_combination -hdelta)
    rw [← pow_two] at hdelta0
    have k0 := (Rat.cast_eq_zero (α := K)).2 hdelta0
    have k1 := (Rat.cast_eq_zero (α := K)).2 h1
    simp only [Rat.cast_sub, Rat.cast_add, Rat.cast_mul, Rat.cast_pow, Rat.cast_ofNat] at k0 k1
    rw [cubic_triple_root (b : K) c d x k0 k1]
    simp only [List.map_cons, List.map_nil, List.mem_singleton, surdVal_ofRat, Rat.cast_div, Rat.cast_neg,
      Rat.cast_ofNat]
  · -- Δ = 0, Δ₀ ≠ 0
    rw [div_eq_zero_iff, or_iff_left (by norm_num)] at hdelta
    have hR : 4 * (b ^ 2 - 3 * c) ^ 3 - (2 * b ^ 3 - 9 * b * c + 27 * d) ^ 2 = 0 := by linear_combination hdelta
    rw [← pow_two] at hdelta0
    have k0 := (Rat.cast_ne_zero (α := K)).2 hdelta0
    have kR := (Rat.cast_eq_zero (α := K)).2 hR
    simp only [Rat.cast_sub, Rat.cast_add, Rat.cast_mul, Rat.cast_pow, Rat.cast_ofNat] at k0 kR
    rw [cubic_double_root (b : K) c d x k0 kR]
    -- `pow_two`, `pow_three'` unfold `^` to the model's `b * b * b`; the list has `r12` twice, hence `or_self_left`
    simp only [List.map_cons, List.map_nil, List.mem_cons, List.not_mem_nil, or_false, surdVal_ofRat,
      Rat.cast_div, Rat.cast_sub, Rat.cast_add, Rat.cast_mul, Rat.cast_ofNat, pow_two, pow_three']
    exact or_self_left.symm

/-- non-vacuity: -(x-2)²(x-1) takes the double-root branch -/
example (x : ℂ) : ((4 : ℚ) : ℂ) + ((-8 : ℚ) : ℂ) * x + ((5 : ℚ) : ℂ) * x ^ 2 + ((-1 : ℚ) : ℂ) * x ^ 3 = 0 ↔
    x ∈ [Surd.ofRat 2, Surd.ofRat 2, Surd.ofRat 1].map (surdVal sqC) :=
  cubic_exact_sound_complete sqC sqC_mul_self 4 (-8) 5 (-1) (by norm_num) _ (by decide +kernel) x

variable (rt : ℕ → K → K) (hrt : ∀ (d : ℕ) (x : K), d ≠ 0 → rt d x ^ d = x)

include hrt in
/-- **Certificate soundness.**  `elems` are the elements of the FiniteSet returned by the library for the
    polynomial `p`.  If the driver's checker evaluates them (`toRPs`) and accepts the factorisation certificate
    (`checkFactor`), the numbers they denote are exactly the roots of `p`: every member is a solution and
    every solution is a member. -/
theorem certPoly_sound (p : Poly) (elems : List Expr) (rs : List RP)
    (h1 : toRPs elems = some rs) (h2 : checkFactor p rs = true) (x : K) :
    evalK (polyK p) x = 0 ↔ x ∈ elems.map (den rt) := by
  rw [toRPs_sound rt hrt elems rs h1]
  exact checkFactor_sound (sqOf rt) (sqOf_mul_self rt hrt) p rs h2 x

theorem certPoly_sound_complex (p : Poly) (elems : List Expr) (rs : List RP)
    (h1 : toRPs elems = some rs) (h2 : checkFactor p rs = true) (x : ℂ) :
    evalK (polyK p) x = 0 ↔ x ∈ elems.map (den rtC) :=
  certPoly_sound rtC rtC_pow p elems rs h1 h2 x

/-- non-vacuity: the set `{√2, -√2}` returned for `x² - 2` (wire form `(^ 2 1/2)`, `(* -1 (2 1/2))`) is
    accepted, hence these two complex numbers are exactly the roots -/
example (x : ℂ) : evalK (polyK [-2, 0, 1]) x = 0 ↔
    x ∈ [Expr.pow (.int 2) (.rat 1 2), Expr.mul (.int (-1)) [(.int 2, .rat 1 2)]].map (den rtC) :=
  certPoly_sound_complex [-2, 0, 1] _ [[(1, [2])], [(-1, [2])]] (by decide +kernel) (by decide +kernel) x

theorem sqC_real (r : ℚ) (h : 0 ≤ r) : (sqC r).im = 0 := by
  have hr : (0 : ℝ) ≤ (r : ℝ) := by exact_mod_cast h
  have e : sqC r = (((r : ℝ) ^ ((2 : ℝ)⁻¹) : ℝ) : ℂ) := by
    rw [Complex.ofReal_cpow hr]
    simp [sqC]
  rw [e]
  exact Complex.ofReal_im _

/-- over ℂ with principal roots; `sqC` is `sqOf rtC`, the square roots under `den rtC` in `certPoly_sound_complex` -/
theorem realness_sound_complex (p : RP) :
    (isRealRP p = true → (ev sqC p).im = 0) ∧ (isNonRealRP p = true → (ev sqC p).im ≠ 0) :=
  ⟨isRealRP_sound sqC sqC_mul_self sqC_real p, isNonRealRP_sound sqC sqC_mul_self sqC_real p⟩

example : isRealRP [(1, [2])] = true ∧ isNonRealRP [(-1/2, []), (1/2, [-1, 3])] = true := by decide +kernel

/-- `solve_rational` = numerator roots minus denominator roots.  If the representation is injective on the two
    lists (`hinj`: equal values ⇒ `==`), the result denotes exactly `{x ∈ numerator roots | x not a pole}`. -/
theorem rational_excludes_poles {α : Type} [BEq α] [LawfulBEq α] (val : α → K) (nr dr : List α)
    (hinj : ∀ a ∈ nr, ∀ b ∈ dr, val a = val b → a = b) (x : K) :
    x ∈ (solveRational nr dr).map val ↔ x ∈ nr.map val ∧ x ∉ dr.map val := by
  simp only [solveRational, List.mem_map, List.mem_filter, Bool.not_eq_true', List.contains_eq_mem,
    decide_eq_false_iff_not]
  constructor
  · rintro ⟨a, ⟨ha, hna⟩, rfl⟩
    refine ⟨⟨a, ha, rfl⟩, ?_⟩
    rintro ⟨b, hb, hab⟩
    have := hinj a ha b hb hab.symm
    subst this
    exact hna hb
  · rintro ⟨⟨a, ha, rfl⟩, hnd⟩
    exact ⟨a, ⟨ha, fun had => hnd ⟨a, had, rfl⟩⟩, rfl⟩

/-- with exact root sets of numerator `N` and denominator `D`, the result is `{x | N x = 0 ∧ D x ≠ 0}` -/
theorem rational_solution_set {α : Type} [BEq α] [LawfulBEq α] (val : α → K) (nr dr : List α)
    (N D : K → K) (hN : ∀ x, N x = 0 ↔ x ∈ nr.map val) (hD : ∀ x, D x = 0 ↔ x ∈ dr.map val)
    (hinj : ∀ a ∈ nr, ∀ b ∈ dr, val a = val b → a = b) (x : K) :
    x ∈ (solveRational nr dr).map val ↔ N x = 0 ∧ D x ≠ 0 := by
  rw [rational_excludes_poles val nr dr hinj, hN, Ne, hD]

example : (1 : ℚ) ∈ (solveRational [(1 : ℚ), -1] [1]).map (fun q : ℚ => q) ↔
    (1 : ℚ) ∈ [(1 : ℚ), -1].map (fun q : ℚ => q) ∧ (1 : ℚ) ∉ [(1 : ℚ)].map (fun q : ℚ => q) :=
  rational_excludes_poles (fun q : ℚ => q) [1, -1] [1] (by intro a _ b _ h; exact h) 1

/-- Cardano for the depressed cubic `s³ - 3Δ₀s - Δ₁`: `s = y + Δ₀/y` with `y³ = (Δ₁ + t)/2`, `t² = Δ₁² - 4Δ₀³` -/
theorem cardano_depressed (D E y t : K) (hy : y ≠ 0) (hy3 : y ^ 3 = (E + t) / 2) (ht : t ^ 2 = E ^ 2 - 4 * D ^ 3) :
    (y + D / y) ^ 3 - 3 * D * (y + D / y) - E = 0 := by
  generalize hz : D / y = z
  have hzy : z * y = D := by rw [← hz, div_mul_cancel₀ _ hy]
  have hz3 : z ^ 3 = (E - t) / 2 := by
    apply mul_right_cancel₀ (pow_ne_zero 3 hy)
    rw [← mul_pow, hzy, hy3]
    linear_combination (1 / 4 : K) * ht
  linear_combination hy3 + hz3 + 3 * (y + z) * hzy

/-- `solve_poly_cubic`, general branch: with `y` any cube root of `(Δ₁ + t)/2`, `t` any square root of
    `Δ₁² - 4Δ₀³ = -27Δ`, the value `-(b + y + Δ₀/y)/3` is a root.  The three returned roots are the instances
    `y = C`, `y = ωC`, `y = ω²C` (all cube roots of the same number). -/
theorem cardano_root_check (b c d y t : K) (hy : y ≠ 0)
    (hy3 : y ^ 3 = ((2 * b ^ 3 - 9 * b * c + 27 * d) + t) / 2)
    (ht : t ^ 2 = (2 * b ^ 3 - 9 * b * c + 27 * d) ^ 2 - 4 * (b ^ 2 - 3 * c) ^ 3) :
    (-(b + y + (b ^ 2 - 3 * c) / y) / 3) ^ 3 + b * (-(b + y + (b ^ 2 - 3 * c) / y) / 3) ^ 2
      + c * (-(b + y + (b ^ 2 - 3 * c) / y) / 3) + d = 0 := by
  -- with s = y + Δ₀/y the value is -(b + s)/3, and p(-(b + s)/3) = -(s³ - 3Δ₀s - Δ₁)/27
  have key := cardano_depressed _ _ y t hy hy3 ht
  generalize hs : y + (b ^ 2 - 3 * c) / y = s at key
  rw [add_assoc b, hs]
  linear_combination (-1 / 27 : K) * key

/-- a cube root of unity times a cube root is again a cube root: the formulas for `root2`, `root3` -/
theorem cardano_root_check_omega (b c d C t w : K) (hC : C ≠ 0) (hw : w ^ 3 = 1)
    (hC3 : C ^ 3 = ((2 * b ^ 3 - 9 * b * c + 27 * d) + t) / 2)
    (ht : t ^ 2 = (2 * b ^ 3 - 9 * b * c + 27 * d) ^ 2 - 4 * (b ^ 2 - 3 * c) ^ 3) :
    (-(b + w * C + (b ^ 2 - 3 * c) / (w * C)) / 3) ^ 3 + b * (-(b + w * C + (b ^ 2 - 3 * c) / (w * C)) / 3) ^ 2
      + c * (-(b + w * C + (b ^ 2 - 3 * c) / (w * C)) / 3) + d = 0 := by
  have hw0 : w ≠ 0 := by
    intro h; rw [h] at hw; norm_num at hw
  apply cardano_root_check b c d (w * C) t (mul_ne_zero hw0 hC) _ ht
  rw [mul_pow, hw, one_mul, hC3]

example : ((-(0 + (1 : ℚ) + (0 ^ 2 - 3 * 0) / 1) / 3) ^ 3 + 0 * (-(0 + (1 : ℚ) + (0 ^ 2 - 3 * 0) / 1) / 3) ^ 2
    + 0 * (-(0 + (1 : ℚ) + (0 ^ 2 - 3 * 0) / 1) / 3) + 1 / 27 : ℚ) = 0 :=
  cardano_root_check (K := ℚ) 0 0 (1 / 27) 1 1 (by norm_num) (by norm_num) (by norm_num)

/-- `solve_poly_quartic`: the substitution `x = y - a/4` with the coefficients `e, ff, g` as coded -/
theorem quartic_depress (a b c d y : K) :
    (y - a / 4) ^ 4 + a * (y - a / 4) ^ 3 + b * (y - a / 4) ^ 2 + c * (y - a / 4) + d =
      y ^ 4 + (b - 3 * (a * a) / 8) * y ^ 2 + (c + a * a * a / 8 - a * b / 2) * y
        + (d + a * a * b / 16 - (a * c / 4 + 3 * (a * a * a) * a / 256)) := by
  ring

/-- Euler's method: if `p², q², r²` are the roots of the resolvent cubic
    `z³ + (e/2) z² + ((e² - 4g)/16) z - f²/64` (Vieta: `h1`, `h2`) and the signs satisfy `p q r = -f/8`
    (enforced in the code by `r = -f/(8 p q)`), then `p + q + r` is a root of `y⁴ + e y² + f y + g`;
    the other three returned values are the sign changes `(p,-q,-r)`, `(-p,q,-r)`, `(-p,-q,r)`, which satisfy the
    same hypotheses. -/
theorem euler_root_check (e f g p q r : K)
    (h1 : p ^ 2 + q ^ 2 + r ^ 2 = -e / 2)
    (h2 : p ^ 2 * q ^ 2 + p ^ 2 * r ^ 2 + q ^ 2 * r ^ 2 = (e ^ 2 - 4 * g) / 16)
    (h3 : p * q * r = -f / 8) :
    (p + q + r) ^ 4 + e * (p + q + r) ^ 2 + f * (p + q + r) + g = 0 := by
  linear_combination (p ^ 2 + q ^ 2 + r ^ 2 + e / 2 + 4 * (p * q + p * r + q * r)) * h1 + 4 * h2
    + 8 * (p + q + r) * h3

example : ((1 : ℚ) + 2 + 3) ^ 4 + (-28) * ((1 : ℚ) + 2 + 3) ^ 2 + (-48) * ((1 : ℚ) + 2 + 3) + 0 = 0 :=
  euler_root_check (K := ℚ) (-28) (-48) 0 1 2 3 (by norm_num) (by norm_num) (by norm_num)

/-- the model's checked answer solves the system: this reads back the multiply-back test inside `linsolveChecked` (the
    driver additionally compares the unchecked elimination result with the library's answer).  Nothing about uniqueness
    is claimed here -/
theorem linsolve_unique_partial (n : ℕ) (A : Mat) (b : Array ℚ) (x : List ℚ)
    (h : linsolveChecked n A b = .ok x) : mulVec A x = b.toList := by
  unfold linsolveChecked at h
  cases hl : linsolve n A b with
  | error e => rw [hl] at h; cases h
  | ok y =>
    rw [hl] at h
    simp only [bind, Except.bind] at h
    split_ifs at h with hm
    cases h; exact hm

/-- a system with `det A ≠ 0` has at most one solution.  This is about Mathlib's `Matrix (Fin n) (Fin n) ℚ` and
`Matrix.mulVec`; no lemma relates them to the model's `Mat` and `mulVec`, so it is not composed with
`linsolve_unique_partial` -/
theorem linsolve_solution_unique {n : ℕ} (A : Matrix (Fin n) (Fin n) ℚ) (hdet : A.det ≠ 0)
    (b x y : Fin n → ℚ) (hx : A.mulVec x = b) (hy : A.mulVec y = b) : x = y := by
  have hu : IsUnit A := (Matrix.isUnit_iff_isUnit_det A).mpr (isUnit_iff_ne_zero.mpr hdet)
  exact (Matrix.mulVec_injective_iff_isUnit.mpr hu) (hx.trans hy.symm)

example : linsolveChecked 2 #[#[1, 2], #[3, 4]] #[3, 5] = .ok [-1, 2] := by decide +kernel

/-- The full statement for `linsolve` (not proved: the fraction-free elimination itself is only compared with the
    library output and re-checked by multiplication on every sample). -/
def C30_linsolve_full : Prop :=
  ∀ (n : ℕ) (A : Matrix (Fin n) (Fin n) ℚ) (b : Fin n → ℚ), A.det ≠ 0 →
    ∃ x : List ℚ, linsolve n (Array.ofFn fun i => Array.ofFn fun j => A i j) (Array.ofFn b) = .ok x ∧
      ∀ i : Fin n, (∑ j : Fin n, A i j * x.getD j 0) = b i

/-- The full statement for degree 3 (not proved): every root is one of the three Cardano values (completeness, correct
    pairing of the branches); no such statement is written for the quartic.  Soundness of the individual formulas is
    `cardano_root_check` / `euler_root_check`; per returned set the driver's certificate (`certPoly_sound`) or the numeric
    oracle decides. -/
def C30_cubic_full : Prop :=
  ∀ (b c d C t w : ℂ), C ≠ 0 → w ^ 2 + w + 1 = 0 →
    C ^ 3 = ((2 * b ^ 3 - 9 * b * c + 27 * d) + t) / 2 →
    t ^ 2 = (2 * b ^ 3 - 9 * b * c + 27 * d) ^ 2 - 4 * (b ^ 2 - 3 * c) ^ 3 →
    ∀ x : ℂ, x ^ 3 + b * x ^ 2 + c * x + d = 0 →
      x = -(b + C + (b ^ 2 - 3 * c) / C) / 3 ∨ x = -(b + w * C + (b ^ 2 - 3 * c) / (w * C)) / 3 ∨
      x = -(b + w ^ 2 * C + (b ^ 2 - 3 * c) / (w ^ 2 * C)) / 3

end SymVerif.C30
