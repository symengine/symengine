import Mathlib.Data.Nat.Fib.Basic
import Mathlib.Data.Nat.Choose.Basic
import Mathlib.Data.Nat.Factorial.Basic
import Mathlib.Tactic.Ring
import Mathlib.Tactic.Linarith
import SymVerif.Lemmas.C32Basic
import SymVerif.Lemmas.C32Arith
import SymVerif.Lemmas.C32Order
import SymVerif.Lemmas.C32Crt
import SymVerif.Lemmas.C32Proot
import SymVerif.Lemmas.C32Jacobi
import SymVerif.Lemmas.C32Harmonic
import SymVerif.Lemmas.C32NthRes
import SymVerif.Lemmas.C32NthZero
/-!
# C32  Number-theoretic functions agree with their definitions

Theorems about the model `SymVerif.NTheory` (the functions the driver `Drv/C32.lean` runs).  Most headlines are named
in snake case after the C++ function (`pfm_spec`), lemmas in camel case after the model function (`pfm_factList`);
props/c32.py lists the headlines.
-/
namespace SymVerif.C32
open SymVerif.NTheory

/-- truncating family (`quotient`, `mod`, `quotient_mod`): `n = q*d + r`, `|r| < |d|`, `r` has the sign of `n`. -/
theorem quotient_mod_spec (n d : Int) (hd : d ≠ 0) :
    n = (quotientMod n d).1 * d + (quotientMod n d).2 ∧ (quotientMod n d).2.natAbs < d.natAbs ∧
    (0 ≤ n → 0 ≤ (quotientMod n d).2) ∧ (n ≤ 0 → (quotientMod n d).2 ≤ 0) ∧
    quotient n d = (quotientMod n d).1 ∧ mod n d = (quotientMod n d).2 := by
  simp only [quotientMod, quotient, mod]
  refine ⟨?_, ?_, ?_, ?_, trivial, trivial⟩
  · exact ((add_comm _ _).trans (Int.tmod_add_tdiv_mul n d)).symm
  · exact GmpSpec.tmod_natAbs_lt n hd
  · intro h; exact Int.tmod_nonneg d h
  · intro h; exact GmpSpec.tmod_nonpos d h

/-- flooring family (`quotient_f`, `mod_f`, `quotient_mod_f`): `n = q*d + r`, `|r| < |d|`, `r` has the sign of `d`. -/
theorem quotient_mod_f_spec (n d : Int) (hd : d ≠ 0) :
    n = (quotientModF n d).1 * d + (quotientModF n d).2 ∧ (quotientModF n d).2.natAbs < d.natAbs ∧
    (0 < d → 0 ≤ (quotientModF n d).2) ∧ (d < 0 → (quotientModF n d).2 ≤ 0) ∧
    quotientF n d = (quotientModF n d).1 ∧ modF n d = (quotientModF n d).2 := by
  simp only [quotientModF, quotientF, modF]
  refine ⟨((add_comm _ _).trans (Int.fmod_add_fdiv_mul n d)).symm, ?_,
    fun h => Int.fmod_nonneg_of_pos n h, fun h => (fmod_neg_bounds n h).2, trivial, trivial⟩
  rcases lt_or_gt_of_ne hd with h | h
  · obtain ⟨h1, h2⟩ := fmod_neg_bounds n h
    omega
  · have h1 := Int.fmod_nonneg_of_pos n h
    have h2 := Int.fmod_lt_of_pos n h
    omega

example : quotientMod (-7) 2 = (-3, -1) ∧ quotientModF (-7) 2 = (-4, 1) ∧ quotientModF 7 (-2) = (-4, -1) := by decide

/-- `gcd`: non-negative, divides both arguments, and every common divisor divides it (so it is *the* gcd;
`gcd 0 0 = 0`) -/
theorem gcd_spec (a b : Int) :
    0 ≤ NTheory.gcd a b ∧ NTheory.gcd a b ∣ a ∧ NTheory.gcd a b ∣ b ∧
      ∀ d : Int, d ∣ a → d ∣ b → d ∣ NTheory.gcd a b := by
  unfold NTheory.gcd
  exact ⟨Int.natCast_nonneg _, Int.gcd_dvd_left a b, Int.gcd_dvd_right a b, fun d h1 h2 => Int.dvd_coe_gcd h1 h2⟩

/-- `lcm`: non-negative, a common multiple, divides every common multiple, and `gcd * lcm = |a * b|` -/
theorem lcm_spec (a b : Int) :
    0 ≤ NTheory.lcm a b ∧ a ∣ NTheory.lcm a b ∧ b ∣ NTheory.lcm a b ∧
      (∀ m : Int, a ∣ m → b ∣ m → NTheory.lcm a b ∣ m) ∧
      NTheory.gcd a b * NTheory.lcm a b = ((a * b).natAbs : Int) := by
  unfold NTheory.lcm NTheory.gcd
  refine ⟨Int.natCast_nonneg _, Int.dvd_lcm_left a b, Int.dvd_lcm_right a b,
    fun m h1 h2 => Int.coe_lcm_dvd h1 h2, ?_⟩
  rw [← Int.natCast_mul, Int.gcd_mul_lcm, Int.natAbs_mul]

/-- `gcd_ext`: the first component is the non-negative gcd, on every branch of the normalisation -/
theorem gcdExt_fst (a b : Int) : (gcdExt a b).1 = (Int.gcd a b : Nat) := by
  have ite_fst : ∀ {c : Prop} [Decidable c] {x y : Int × Int × Int}, x.1 = (Int.gcd a b : Nat) →
      y.1 = (Int.gcd a b : Nat) → (if c then x else y).1 = (Int.gcd a b : Nat) := by
    intros; split <;> assumption
  unfold gcdExt
  refine ite_fst rfl <| ite_fst rfl <| ite_fst rfl <| ite_fst rfl <| ite_fst rfl ?_
  dsimp only
  split <;> rfl

/-- `gcd_ext`, Bézout identity on the degenerate branches (`|a| = |b|`, `a = 0` or `b = 0`), where GMP's
documented normalisation fixes the cofactors by hand.  The generic branch (cofactor through the modular
inverse) is compared with the library and the Bézout oracle by the harness; it has no theorem yet. -/
theorem gcdExt_bezout_degenerate_partial (a b : Int) (h : a.natAbs = b.natAbs ∨ a = 0 ∨ b = 0) :
    a * (gcdExt a b).2.1 + b * (gcdExt a b).2.2 = (gcdExt a b).1 := by
  rw [gcdExt_fst]
  unfold gcdExt
  by_cases h1 : a.natAbs = b.natAbs
  · simp only [h1, beq_self_eq_true, ↓reduceIte]
    rw [mul_zero, zero_add, mul_sgn]
    simp only [Int.gcd, h1, Nat.gcd_self]
  · have h1' : (a.natAbs == b.natAbs) = false := by simpa using h1
    simp only [h1', Bool.false_eq_true, ↓reduceIte]
    rcases h with h | h | h
    · exact absurd h h1
    · subst h
      have hb : b ≠ 0 := by intro hb; subst hb; simp at h1
      have hb' : (b == 0) = false := by simpa using hb
      simp only [hb', Bool.false_eq_true, ↓reduceIte, beq_self_eq_true, zero_mul, zero_add, mul_sgn]
      rw [Int.gcd_zero_left]
    · subst h
      simp only [beq_self_eq_true, ↓reduceIte, mul_zero, add_zero, mul_sgn]
      rw [Int.gcd_zero_right]

theorem mod_inverse_spec (a m : Int) (hm : m ≠ 0) :
    (Int.gcd a m = 1 → ∃ inv, modInverse a m = some inv ∧ 0 ≤ inv ∧ inv < (m.natAbs : Int) ∧
        (a * inv) % (m.natAbs : Int) = 1 % (m.natAbs : Int)) ∧
    (Int.gcd a m ≠ 1 → modInverse a m = none) := by
  rw [modInverse, if_neg (by simpa using hm)]
  exact mpInvert_spec a hm

example : ∃ inv, modInverse 3 (-7) = some inv ∧ 0 ≤ inv ∧ inv < 7 ∧ (3 * inv) % 7 = 1 % 7 :=
  (mod_inverse_spec 3 (-7) (by decide)).1 (by decide)
example : modInverse 4 6 = none := (mod_inverse_spec 4 6 (by decide)).2 (by decide)

theorem fib_spec (n : Nat) : fibonacci n = Nat.fib n := by simp [fibonacci, fibPair_eq]

/-- `fibonacci2 n = (F n, F (n-1))`, stated at `n + 1` and at `0` (where `F (-1) = 1`). -/
theorem fib2_spec (n : Nat) : fibonacci2 (n + 1) = (Nat.fib (n + 1), Nat.fib n) ∧ fibonacci2 0 = (0, 1) := by
  simp [fibonacci2, fibPair_eq]

/-- `lucas n = L n`, the Lucas number `F (n-1) + F (n+1) = 2 F (n+1) - F n`. -/
theorem lucas_spec (n : Nat) : (lucas n : Int) = 2 * Nat.fib (n + 1) - Nat.fib n := by
  have := (lucasPair_eq n).1
  unfold lucas
  omega

example : fibonacci 10 = 55 ∧ lucas 10 = 123 ∧ fibonacci2 10 = (55, 34) ∧ lucas2 10 = (123, 76) := by decide

theorem factorial_spec (n : Nat) : factorial n = n.factorial := by
  induction n with
  | zero => rfl
  | succ k ih => simp [factorial, ih, Nat.factorial_succ]

theorem binomial_eq_of_fallingFact {n : Int} {k : Nat} {c : Int}
    (h : fallingFact n k = (k.factorial : Int) * c) : binomial n k = c := by
  rw [binomial, factorial_spec, h]
  exact Int.mul_ediv_cancel_left _ (by exact_mod_cast k.factorial_ne_zero)

theorem binomial_spec (n k : Nat) : binomial (n : Int) k = (n.choose k : Nat) := by
  apply binomial_eq_of_fallingFact
  rw [fallingFact_nat, Nat.descFactorial_eq_factorial_mul_choose, Nat.cast_mul]

/-- for negative upper argument: `C(-n, k) = (-1)^k C(n+k-1, k)` (the GMP convention). -/
theorem binomial_neg_spec (n k : Nat) : binomial (-(n : Int)) k = (-1) ^ k * ((n + k - 1).choose k : Nat) := by
  apply binomial_eq_of_fallingFact
  rw [fallingFact_neg, Nat.ascFactorial_eq_factorial_mul_choose', Nat.cast_mul, mul_left_comm]

example : binomial 10 3 = 120 ∧ binomial (-3) 2 = 6 ∧ binomial (-1) 3 = -1 := by decide

/-- `prime_factor_multiplicities n` (for `n ≠ 0`) is the prime factorisation of `|n|`:
    primes with positive multiplicities, strictly ascending, product `|n|`, and the multiplicities are
    those of `Nat.factorization`. -/
theorem pfm_spec {n : Int} {l : List (Nat × Nat)} (hn : n ≠ 0) (h : primeFactorMultiplicities n = .ok l) :
    FactList l n.natAbs ∧ ∀ pe ∈ l, n.natAbs.factorization pe.1 = pe.2 :=
  ⟨pfm_factList hn h, (pfm_factList hn h).factorization_eq⟩

/-- it succeeds for every `|n| < 2^64` (`⌊√|n|⌋` fits an `unsigned`) -/
theorem pfm_total (n : Int) (h : Nat.sqrt n.natAbs ≤ uintMax) : ∃ l, primeFactorMultiplicities n = .ok l := by
  unfold primeFactorMultiplicities
  by_cases h0 : (n.natAbs == 0) = true
  · simp [h0]
  · simp only [h0, Bool.false_eq_true, if_false]
    have : ¬ (Nat.sqrt n.natAbs > uintMax) := by omega
    simp [this]

example : ∃ l, primeFactorMultiplicities 360 = .ok l ∧ FactList l 360 := by
  obtain ⟨l, hl⟩ := pfm_total 360 ((Nat.sqrt_le_self _).trans (by decide))
  exact ⟨l, hl, (pfm_spec (by decide) hl).1⟩

theorem totient_spec {n : Int} {v : Nat} (hn : n ≠ 0) (h : totient n = .ok v) : v = Nat.totient n.natAbs := by
  rw [totient, if_neg (by simpa using hn)] at h
  obtain ⟨l, hl, hv⟩ := pfm_bind hn h
  have := totientLoop_spec l n.natAbs 1 hl
  rw [mul_one, mul_one] at this
  rw [← Except.ok.inj hv, this]

example : ∃ v, totient 36 = .ok v ∧ v = Nat.totient 36 := by
  obtain ⟨l, hl⟩ := pfm_total 36 ((Nat.sqrt_le_self _).trans (by decide))
  refine ⟨totientLoop l 36, ?_, ?_⟩
  · simp [totient, hl, bind, Except.bind, pure, Except.pure]
  · exact totient_spec (n := 36) (by decide) (by simp [totient, hl, bind, Except.bind, pure, Except.pure])

/-- `carmichael n = λ(|n|)` (Mathlib's reduced totient, the exponent of `(ℤ/n)ˣ`) -/
theorem carmichael_spec {n : Int} {v : Nat} (hn : n ≠ 0) (h : carmichael n = .ok v) :
    v = ArithmeticFunction.carmichael n.natAbs := by
  rw [carmichael, if_neg (by simpa using hn)] at h
  obtain ⟨l, hl, hv⟩ := pfm_bind hn h
  have := carmichaelLoop_spec l n.natAbs 1 hl (fun q hq hd => absurd (Nat.dvd_one.mp hd) hq.ne_one)
  rw [← Except.ok.inj hv, this, Nat.lcm_one_left]

theorem mobius_spec {a : Int} {v : Int} (ha : 0 < a) (h : mobius a = .ok v) :
    v = ArithmeticFunction.moebius a.natAbs := by
  rw [mobius, if_neg (by omega)] at h
  obtain ⟨l, hl, hv⟩ := pfm_bind (by omega) h
  rw [moebius_factList l _ hl]
  -- pull `pure` out of the two nested `if`s of `mobius`: `hv` then has the right side of `moebius_factList`
  simp only [beq_iff_eq, ← apply_ite (pure : Int → M Int)] at hv
  exact (Except.ok.inj hv).symm

theorem mertensLoop_spec : ∀ (f i : Nat) (acc v : Int), 1 ≤ i → mertensLoop f i acc = .ok v →
    v = acc + ∑ k ∈ Finset.range f, ArithmeticFunction.moebius (i + k) := by
  intro f
  induction f with
  | zero =>
    intro i acc v _ h
    rw [← Except.ok.inj h, Finset.sum_range_zero, add_zero]
  | succ f ih =>
    intro i acc v hi h
    rw [mertensLoop] at h
    obtain ⟨mu, hm, h⟩ := bind_eq_ok h
    have h2 := mobius_spec (a := (i : Int)) (by omega) hm
    rw [Int.natAbs_natCast] at h2
    rw [ih (i + 1) (acc + mu) v (by omega) h, h2, Finset.sum_range_succ', add_assoc,
      add_comm (ArithmeticFunction.moebius i : Int)]
    simp only [Nat.add_assoc, Nat.add_comm 1, Nat.add_zero]

theorem mertens_spec {a : Nat} {v : Int} (h : mertens a = .ok v) :
    v = ∑ k ∈ Finset.range a, ArithmeticFunction.moebius (1 + k) := by
  have := mertensLoop_spec a 1 0 v (le_refl _) h
  rwa [zero_add] at this

/-- `multiplicative_order(a, n)` for `n ≠ 0`: fails exactly when `gcd(a, n) ≠ 1`, otherwise returns the
    order of `a` in `(ℤ/|n|)ˣ`, i.e. the least `k > 0` with `a^k ≡ 1 (mod |n|)`. -/
theorem multiplicative_order_spec {a n : Int} {r : Option Nat} (hn : n ≠ 0)
    (h : multiplicativeOrder a n = .ok r) :
    (r = none ∧ Int.gcd a n ≠ 1) ∨
    (∃ o, r = some o ∧ Int.gcd a n = 1 ∧ o = orderOf ((a : ZMod n.natAbs))) := by
  have hpos : 0 < n.natAbs := Int.natAbs_pos.mpr hn
  have hgm : Int.gcd a (n.natAbs : Int) = Int.gcd a n := gcd_natAbs_right a n
  rw [multiplicativeOrder, hgm] at h
  by_cases hg : Int.gcd a n = 1
  · right
    rw [if_neg (by simp [hg])] at h
    obtain ⟨lam, hlam, h⟩ := bind_eq_ok h
    rw [carmichael_spec hn hlam] at h
    obtain ⟨l, hl, h⟩ := pfm_bind (by exact_mod_cast (carmichael_pos hpos.ne').ne') h
    rw [Int.natAbs_natCast] at hl
    rw [if_neg (by simpa using hpos.ne')] at h
    obtain ⟨o, ho, h⟩ := bind_eq_ok h
    rw [orderLoop_carmichael hpos (hgm.trans hg) hl] at ho
    exact ⟨o, (Except.ok.inj h).symm, hg, (Except.ok.inj ho).symm⟩
  · left
    rw [if_pos (by simp [hg])] at h
    exact ⟨(Except.ok.inj h).symm, hg⟩

/-- `crt(R, rem, mod)`: when it returns true, `R ≡ rem[i] (mod mod[i])` for every modulus; when it
    returns false, the system has no solution at all (`Sol x rem mod` = `∀ i, mod[i] ∣ x - rem[i]`). -/
theorem crt_spec {rem mod : List Int} {res : Option Int} (h : crt rem mod = .ok res) :
    (∀ R, res = some R → Sol R rem mod) ∧ (res = none → ¬ ∃ x, Sol x rem mod) := by
  obtain ⟨r0, rs, m0, ms, rfl, rfl, hl⟩ := crt_eq_ok h
  have := crtLoop_ok rs ms m0 r0 res hl
  refine ⟨fun R hR => ?_, fun hR => ?_⟩
  · subst hR
    obtain ⟨M, hM, _⟩ := this
    exact sol_cons.mpr ((hM R).mp (by rw [sub_self]; exact Int.dvd_zero M))
  · subst hR
    rintro ⟨x, hx⟩
    exact this x (sol_cons.mp hx)

/-- with at least two moduli, all positive, the returned value is the least non-negative solution. -/
theorem crt_least {r0 r1 m0 m1 : Int} {rs ms : List Int} {R : Int} (h0 : 0 < m0) (h1 : 0 < m1)
    (hpos : ∀ x ∈ ms, 0 < x) (h : crt (r0 :: r1 :: rs) (m0 :: m1 :: ms) = .ok (some R)) :
    0 ≤ R ∧ ∀ x, 0 ≤ x → Sol x (r0 :: r1 :: rs) (m0 :: m1 :: ms) → R ≤ x := by
  obtain ⟨_, _, _, _, e1, e2, h⟩ := crt_eq_ok h
  cases e1; cases e2
  obtain ⟨M, hsol, hcanon⟩ := crtLoop_ok _ _ _ _ (some R) h
  obtain ⟨hM, hR⟩ := hcanon h0 (List.forall_mem_cons.mpr ⟨h1, hpos⟩)
  obtain ⟨hR0, hRM⟩ := hR (.inl (List.cons_ne_nil _ _))
  refine ⟨hR0, fun x hx hx' => ?_⟩
  obtain ⟨c, hc⟩ := (hsol x).mpr (sol_cons.mp hx')
  -- `x = R + M c` with `0 ≤ R < M`: `x < R` would force `c ≤ -1` and `x < 0`
  by_contra hlt
  have hcneg : c < 0 := by
    by_contra hcc
    have : 0 ≤ M * c := Int.mul_nonneg hM.le (by omega)
    omega
  have : M * c ≤ M * (-1) := Int.mul_le_mul_of_nonneg_left (by omega) hM.le
  omega

theorem crt_total {r0 m0 : Int} {rs ms : List Int} (h0 : m0 ≠ 0) (hnz : ∀ x ∈ ms, x ≠ 0)
    (hlen : ms.length ≤ rs.length) : ∃ res, crt (r0 :: rs) (m0 :: ms) = .ok res := by
  unfold crt
  have : ¬ ((m0 :: ms).length > (r0 :: rs).length) := by simp; omega
  simp only [this, if_false]
  exact crtLoop_total rs ms m0 r0 h0 hnz hlen

example : ∃ res, crt [2, 4] [4, 6] = .ok res ∧
    ((∀ R, res = some R → Sol R [2, 4] [4, 6]) ∧ (res = none → ¬ ∃ x, Sol x [2, 4] [4, 6])) := by
  obtain ⟨res, h⟩ := crt_total (r0 := 2) (m0 := 4) (rs := [4]) (ms := [6]) (by decide) (by decide) (by decide)
  exact ⟨res, h, crt_spec h⟩

/-- `powermod(a, b, m)` with an integer exponent (`den = 1`), `m ≠ 0`:
    for `b ≥ 0` the result is `a^b mod |m|`; for `b < 0` it is the inverse of `a^|b|` in `[0,|m|)`,
    or "false" exactly when `gcd(a^|b|, m) ≠ 1`. -/
theorem powermod_spec {a b m : Int} {res : Option Int} (hm : m ≠ 0) (h : powermod a b 1 m = .ok res) :
    (0 ≤ b → res = some (a ^ b.toNat % (m.natAbs : Int))) ∧
    (b < 0 → (Int.gcd (a ^ b.natAbs) m = 1 → ∃ v, res = some v ∧ 0 ≤ v ∧ v < (m.natAbs : Int) ∧
                (a ^ b.natAbs * v) % (m.natAbs : Int) = 1 % (m.natAbs : Int)) ∧
             (Int.gcd (a ^ b.natAbs) m ≠ 1 → res = none)) := by
  have hg1 : NTheory.gcd b 1 = 1 := by simp [NTheory.gcd]
  have hred : powermod a b 1 m = powInv a (b / 1) m := by
    unfold powermod
    rw [hg1]
    rfl
  rw [Int.ediv_one] at hred
  rw [hred, powInv, mpPowm_natCast a b.natAbs hm] at h
  simp only [bind, Except.bind, pure, Except.pure] at h
  constructor
  · intro hb
    rw [if_neg (by omega)] at h
    rw [← Except.ok.inj h, ← Int.toNat_natCast b.natAbs, Int.natAbs_of_nonneg hb]
  · intro hb
    rw [if_pos hb, mpInvert_emod] at h
    exact Except.ok.inj h ▸ mpInvert_spec _ hm

/-- `primitive_root(g, p)` for a prime `p ≥ 5` (with `⌊√(p-1)⌋` fitting an `unsigned`): it succeeds and
    returns the least `g ≥ 2` whose multiplicative order modulo `p` is `p - 1`. -/
theorem primitive_root_prime_partial {p : Nat} (hp : p.Prime) (h5 : 5 ≤ p) (hr : Nat.sqrt (p - 1) ≤ uintMax) :
    ∃ g, primitiveRoot (p : Int) = .ok (some g) ∧ 2 ≤ g ∧ g < p ∧ orderOf ((g : ZMod p)) = p - 1 ∧
      ∀ j, 2 ≤ j → j < g → orderOf ((j : ZMod p)) ≠ p - 1 := by
  have hnat : ((p : Int) - 1).natAbs = p - 1 := by omega
  obtain ⟨l, hl⟩ := pfm_total ((p : Int) - 1) (by rw [hnat]; exact hr)
  obtain ⟨ps, hps⟩ : ∃ ps, primeFactors ((p : Int) - 1) = .ok ps := ⟨_, by rw [primeFactors, hl]; rfl⟩
  have hmem := primeFactors_mem (by omega) hps
  rw [hnat] at hmem
  exact ⟨_, primitiveRoot_prime hp h5 hps, findRootLoop_primitive hp (by omega) _ hmem⟩

example : ∃ g, primitiveRoot 7 = .ok (some g) ∧ 2 ≤ g ∧ g < 7 ∧ orderOf ((g : ZMod 7)) = 7 - 1 ∧
    ∀ j, 2 ≤ j → j < g → orderOf ((j : ZMod 7)) ≠ 7 - 1 :=
  primitive_root_prime_partial (p := 7) Nat.prime_seven (by decide) ((Nat.sqrt_le_self _).trans (by decide))

/-- `jacobi(a, b)` (the same GMP routine serves `legendre` and `kronecker`) is Mathlib's Jacobi symbol
    for every odd positive `b`; in particular the Legendre symbol when `b` is an odd prime. -/
theorem jacobi_spec (a : Int) {b : Nat} (hb : b % 2 = 1) : kronecker a (b : Int) = jacobiSym a b := by
  have hb0 : ¬ ((b : Int) == 0) = true := by
    rw [beq_iff_eq]
    omega
  have hbodd : ¬ (a % 2 == 0 && (b : Int) % 2 == 0) = true := by
    rw [Bool.and_eq_true, beq_iff_eq, beq_iff_eq]
    omega
  have hbneg : ¬ (b : Int) < 0 := by omega
  rw [kronecker, if_neg hb0, if_neg hbodd]
  simp only [Int.natAbs_natCast, val2_odd hb, pow_zero, Nat.div_one]
  -- `b` is odd and positive: no factor from the 2-part of `b` nor from the signs
  rw [show ((0 : Nat) % 2 == 1) = false from rfl, decide_eq_false hbneg, Bool.false_and, Bool.false_and,
    if_neg Bool.false_ne_true, one_mul, one_mul, jacobiOdd_eq a hb]

example : kronecker 2 (15 : Nat) = jacobiSym 2 15 := jacobi_spec 2 (by decide)

/-- `harmonic(n, m)` is `Σ_{i=1..n} 1/i^m` (`Σ i^|m|` for `m ≤ 0`), as a rational number. -/
theorem harmonic_spec (n : Nat) (m : Int) :
    (NTheory.harmonic n m).toRat = ∑ k ∈ Finset.range n, harmTerm m (1 + k) ∧
      0 < (NTheory.harmonic n m).den := by
  obtain ⟨h1, h2⟩ := harmonicLoop_spec m n 1 ⟨0, 1⟩ (le_refl _) Nat.one_pos
  refine ⟨?_, h2⟩
  rw [NTheory.harmonic, h1, Q.toRat, Int.cast_zero, zero_div, zero_add]

/-- for `m = 1` this is Mathlib's `harmonic n`. -/
theorem harmonic_one_spec (n : Nat) : (NTheory.harmonic n 1).toRat = _root_.harmonic n := by
  rw [(harmonic_spec n 1).1, _root_.harmonic]
  apply Finset.sum_congr rfl
  intro k _
  rw [harmTerm, if_pos Int.one_pos, show (1 : Int).toNat = 1 from rfl, pow_one, one_div, Nat.add_comm 1 k]

/-- `polygonal_number(s, n) = ((s-2) n² - (s-4) n)/2`, the division being exact. -/
theorem polygonal_spec (s n : Int) : 2 * mpPolygonalNumber s n = (s - 2) * n * n - (s - 4) * n := by
  unfold mpPolygonalNumber
  apply Int.mul_tdiv_cancel'
  -- `(s-2) n² - (s-4) n = (s-2) n (n-1) + 2 n`, and `n (n-1)` is even
  have h2 : (2 : Int) ∣ n * (n - 1) := even_iff_two_dvd.mp (Int.even_mul_pred_self n)
  have : (s - 2) * n * n - (s - 4) * n = (s - 2) * (n * (n - 1)) + 2 * n := by ring
  rw [this]
  exact Int.dvd_add (Dvd.dvd.mul_left h2 _) (Dvd.intro _ rfl)

/-- the solvability test used by `is_nth_residue`, `is_quad_residue` and (as its first step) by
    `nthroot_mod(_list)` for an odd prime power `p^k` and `p ∤ a`:
    `a^(φ/gcd(φ,n)) ≡ 1 (mod p^k)` holds exactly when `x^n ≡ a (mod p^k)` has a solution. -/
theorem is_nthroot_mod1_spec {p : Nat} (hp : p.Prime) (hp2 : p ≠ 2) (a n : Int) (k : Nat) (hk : 1 ≤ k)
    (hn : 1 ≤ n) (ha : ¬ (p : Int) ∣ a) :
    isNthrootMod1 a n p k = true ↔ ∃ x : ZMod (p ^ k), x ^ n.toNat = (a : ZMod (p ^ k)) := by
  have hpk2 : 2 ≤ p ^ k := hp.two_le.trans (Nat.le_self_pow (by omega) p)
  have : NeZero (p ^ k) := ⟨by omega⟩
  have := ZMod.isCyclic_units_of_prime_pow p hp hp2 k
  obtain ⟨u, hua⟩ := (ZMod.coe_int_isUnit_iff_isCoprime a (p ^ k)).mpr (by
    rw [Nat.cast_pow]
    exact IsCoprime.pow_left ((Nat.prime_iff_prime_int.mp hp).coprime_iff_not_dvd.mpr ha))
  have hphi : p ^ k * (p - 1) / p = Fintype.card (ZMod (p ^ k))ˣ := by
    rw [ZMod.card_units_eq_totient, Nat.totient_prime_pow hp (by omega)]
    obtain ⟨k', rfl⟩ : ∃ k', k = k' + 1 := ⟨k - 1, by omega⟩
    rw [Nat.add_sub_cancel, pow_succ, mul_right_comm, Nat.mul_div_cancel _ hp.pos]
  obtain ⟨m, rfl⟩ := Int.eq_ofNat_of_zero_le (by omega : 0 ≤ n)
  rw [Int.toNat_natCast]
  unfold isNthrootMod1
  dsimp only
  rw [Int.gcd_natCast_natCast, hphi, powmN_eq_one_iff hpk2, ← hua, ← Units.val_pow_eq_pow_val,
    Units.val_eq_one, ← cyclic_pow_iff u m]
  constructor
  · rintro ⟨v, hv⟩
    exact ⟨(v : ZMod (p ^ k)), by rw [← Units.val_pow_eq_pow_val, hv]⟩
  · rintro ⟨x, hx⟩
    have hxu : IsUnit x := (isUnit_pow_iff (by omega)).mp (hx ▸ u.isUnit)
    obtain ⟨v, rfl⟩ := hxu
    exact ⟨v, Units.ext (by rw [Units.val_pow_eq_pow_val, hx])⟩

example : isNthrootMod1 2 2 7 1 = true ↔ ∃ x : ZMod (7 ^ 1), x ^ (2 : Int).toNat = ((2 : Int) : ZMod (7 ^ 1)) :=
  is_nthroot_mod1_spec Nat.prime_seven (by decide) 2 2 1 (by decide) (by decide) (by decide)

/-- one complete branch of `_nthroot_mod_prime_power` (`all_roots = true`, `a ≡ 0 (mod p^k)`):
    the list is exactly `{x ∈ [0, p^k) | x^n ≡ 0 (mod p^k)}` (soundness and completeness).  The branch returns
    without recursing, so any non-zero fuel `f + 1` gives the result. -/
theorem nthroot_zero_branch_partial {p : Nat} (hp : p.Prime) (a n : Int) (k f : Nat) (hk : 1 ≤ k)
    (hn : 1 ≤ n) (ha : ((p ^ k : Nat) : Int) ∣ a) :
    ∃ l, nthrootModPrimePower a n p true (f + 1) k = .ok (some l) ∧
      ∀ x : Int, x ∈ l ↔ 0 ≤ x ∧ x < ((p ^ k : Nat) : Int) ∧ ((p ^ k : Nat) : Int) ∣ x ^ n.toNat := by
  have hpk : (p : Int) ∣ ((p ^ k : Nat) : Int) := Int.natCast_dvd_natCast.mpr (dvd_pow_self p (by omega))
  have h1 : Int.tmod a p = 0 := Int.tmod_eq_zero_of_dvd (hpk.trans ha)
  have h2 : Int.tmod a ((p ^ k : Nat) : Int) = 0 := Int.tmod_eq_zero_of_dvd ha
  obtain ⟨hck, hc1, hc2⟩ := ceilDiv_bounds k n.toNat hk (by omega)
  unfold nthrootModPrimePower
  simp only [h1, h2, bne_self_eq_false, Bool.false_eq_true, if_false, beq_self_eq_true, if_true,
    Bool.not_true]
  rw [zero_branch_exponent n k hk]
  generalize (k - 1) / n.toNat + 1 = c at hck hc1 hc2
  rw [Nat.sub_sub_self hck]
  refine ⟨_, rfl, fun x => ?_⟩
  rw [spreadRoots_zero_mem]
  constructor
  · rintro ⟨i, hi, rfl⟩
    obtain ⟨hlt, hd⟩ := (nthRoot_zero_iff_multiple hp hck hc1 hc2 (i * p ^ c)).mpr ⟨i, hi, rfl⟩
    exact ⟨Int.mul_nonneg (Int.natCast_nonneg _) (Int.natCast_nonneg _), by exact_mod_cast hlt, by exact_mod_cast hd⟩
  · rintro ⟨hx0, hxlt, hxd⟩
    obtain ⟨y, rfl⟩ := Int.eq_ofNat_of_zero_le hx0
    obtain ⟨i, hi, rfl⟩ := (nthRoot_zero_iff_multiple hp hck hc1 hc2 y).mp
      ⟨by exact_mod_cast hxlt, by exact_mod_cast hxd⟩
    exact ⟨i, hi, by push_cast; rfl⟩

example : ∃ l, nthrootModPrimePower 27 2 3 true (3 + 1) 3 = .ok (some l) ∧
    ∀ x : Int, x ∈ l ↔ 0 ≤ x ∧ x < ((3 ^ 3 : Nat) : Int) ∧ ((3 ^ 3 : Nat) : Int) ∣ x ^ (2 : Int).toNat :=
  nthroot_zero_branch_partial Nat.prime_three 27 2 3 3 (by decide) (by decide) (by decide)

end SymVerif.C32
