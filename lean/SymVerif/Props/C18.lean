/-
C18  Parsing arbitrary input is safe, and parser reuse is stateless.

Model: `Model/Parser.lean` (tokenizer over a NUL-terminated byte buffer whose cursors are suffixes of the buffer;
dereferencing beyond the buffer is `Err.oob`) and `Model/ParserState.lean` (the `Parser` object as a state machine).

Proved here: the tokenizer part (`lex_total_inbounds`, `lexAll_total`, `parse_lex_no_oob`: in bounds, total, never out
of fuel, for every byte string) and statelessness (`parse_history_indep`, `run_eq_fresh`: for EVERY parser state,
reachable or not).  Not proved: that the grammar part of the model never answers `fuel` (the second half of
`C18_full`), and anything about the generated C++ (`tokenizer.cpp`, `parser.tab.cc`) and the semantic actions.
-/
import SymVerif.Model.ParserState
import SymVerif.Lemmas.C17Lex

namespace SymVerif
namespace C18

open Parser

theorem mem_dropWhile {p : UInt8 → Bool} {z : UInt8} (hz : p z = false) : ∀ {l : Bytes}, z ∈ l → z ∈ l.dropWhile p
  | a :: r, h => by
    by_cases ha : p a = true
    · rw [List.dropWhile_cons_of_pos ha]
      rcases List.mem_cons.mp h with rfl | h
      · rw [hz] at ha; cases ha
      · exact mem_dropWhile hz h
    · rw [List.dropWhile_cons_of_neg ha]; exact h

theorem scanWhile_spec (p : UInt8 → Bool) (hp : p 0 = false) :
    ∀ cur : Bytes, 0 ∈ cur →
      ∃ t c, scanWhile p cur = .ok (t, c) ∧ cur = t ++ c ∧ 0 ∈ c ∧ (∀ x ∈ t, p x = true) := by
  intro cur h
  have hm := mem_dropWhile hp h
  refine ⟨_, _, ?_, List.takeWhile_append_dropWhile.symm, hm, List.all_eq_true.mp List.all_takeWhile⟩
  rw [scanWhile_eq, if_neg (List.ne_nil_of_mem hm)]

theorem scanWhile_len (p : UInt8 → Bool) (hp : p 0 = false) (cur : Bytes) (h : (0 : UInt8) ∈ cur) :
    ∃ t c, scanWhile p cur = .ok (t, c) ∧ (0 : UInt8) ∈ c ∧ cur.length = t.length + c.length := by
  obtain ⟨t, c, hsc, hcat, hc, _⟩ := scanWhile_spec p hp cur h
  exact ⟨t, c, hsc, hc, by rw [hcat, List.length_append]⟩

theorem scanWhile_head_ne_nil (p : UInt8 → Bool) {c : UInt8} {r a c1 : Bytes} (hp : p c = true)
    (h : scanWhile p (c :: r) = .ok (a, c1)) : a ≠ [] := by
  rw [scanWhile_eq, List.takeWhile_cons_of_pos hp] at h
  split at h
  · cases h
  · cases h; exact List.cons_ne_nil _ _

theorem isDig_zero : isDig 0 = false := by decide
theorem isAlpha_zero : isAlpha 0 = false := by decide
theorem isIdCont_zero : isIdCont 0 = false := by decide
theorem isWs_zero : isWs 0 = false := by decide

theorem nul_mem_tail (p : UInt8 → Bool) (hp : p 0 = false) {c : UInt8} {r : Bytes} (hc : p c = true)
    (h : (0 : UInt8) ∈ c :: r) : (0 : UInt8) ∈ r :=
  List.mem_of_ne_of_mem (fun h0 => by rw [h0, hc] at hp; cases hp) h

/-- outcome of a scanner step started at `cur`: ParseError, or progress inside the buffer -/
def Good (cur : Bytes) (r : Except Err (Tok × Bytes)) : Prop :=
  match r with
  | .ok (t, c) => (t = .eof ∨ 0 ∈ c) ∧ c.length < cur.length
  | .error e => e = .parse

theorem lexExp_spec : ∀ cur : Bytes, 0 ∈ cur →
    ∃ t c, lexExp cur = .ok (t, c) ∧ cur = t ++ c ∧ 0 ∈ c := by
  intro cur h
  unfold lexExp
  match cur, h with
  | e :: c1, h =>
    simp only
    by_cases he : (e == 101 || e == 69) = true
    · simp only [he, if_true]
      have h1 : 0 ∈ c1 := nul_mem_tail (fun e => e == 101 || e == 69) (by decide) he h
      match c1, h1 with
      | s :: c2, h1 =>
        simp only
        have h2 : 0 ∈ (if (s == 43 || s == 45) = true then c2 else s :: c2) := by
          split
          · rename_i hs
            exact nul_mem_tail (fun s => s == 43 || s == 45) (by decide) hs h1
          · exact h1
        obtain ⟨ds, c3, hsc, hcat, hc3, _⟩ := scanWhile_spec isDig isDig_zero _ h2
        simp only [hsc]
        by_cases hd : ds.isEmpty = true
        · rw [if_pos hd]
          exact ⟨[], e :: s :: c2, rfl, rfl, h⟩
        · rw [if_neg hd]
          refine ⟨_, c3, rfl, ?_, hc3⟩
          split at hcat <;> simp [*]
    · simp only [he]
      exact ⟨[], e :: c1, by simp, rfl, h⟩

theorem lexNumTail_good (text : Bytes) {cur c : Bytes} (h : (0 : UInt8) ∈ c) (hl : c.length < cur.length) :
    Good cur (lexNumTail text c) := by
  unfold lexNumTail
  match c, h with
  | f :: r, h =>
    simp only
    by_cases hf : isAlpha f = true
    · obtain ⟨idt, c', hsc, hc', hlen⟩ := scanWhile_len isIdCont isIdCont_zero (f :: r) h
      simp only [hf, if_true, hsc]
      exact ⟨Or.inr hc', by omega⟩
    · rw [if_neg hf]
      exact ⟨Or.inr h, hl⟩

theorem lexNumber_good (c : UInt8) (r : Bytes) (hc : (isDig c || c == 46) = true) (h : (0 : UInt8) ∈ c :: r) :
    Good (c :: r) (lexNumber (c :: r)) := by
  unfold lexNumber
  obtain ⟨a, c1, hsc, hcat, hc1, _⟩ := scanWhile_spec isDig isDig_zero (c :: r) h
  simp only [hsc]
  match c1, hc1 with
  | d :: c1', hc1 =>
    simp only
    have hlen1 : (c :: r).length = a.length + (d :: c1').length := by
      rw [hcat]; simp
    by_cases hd : (d == 46) = true
    · have h2 : 0 ∈ c1' := nul_mem_tail (· == 46) (by decide) hd hc1
      obtain ⟨b, c2, hsc2, hc2, hlen2⟩ := scanWhile_len isDig isDig_zero c1' h2
      simp only [hd, if_true, hsc2]
      by_cases hb : b.isEmpty = true
      · simp only [hb, if_true]
        by_cases ha : a.isEmpty = true
        · simp [ha, Good]
        · simp only [ha]
          refine lexNumTail_good _ hc2 ?_
          -- progress in the two "." branches: the "." itself was stepped over (`(d :: c1').length` in `hlen1`)
          simp at hlen1 ⊢
          omega
      · simp only [hb]
        obtain ⟨ex, c3, hex, hcat3, hc3⟩ := lexExp_spec c2 hc2
        rw [hex]
        refine lexNumTail_good _ hc3 ?_
        have : c2.length = ex.length + c3.length := by rw [hcat3]; simp
        simp at hlen1 ⊢
        omega
    · simp only [hd]
      obtain ⟨ex, c3, hex, hcat3, hc3⟩ := lexExp_spec (d :: c1') hc1
      rw [hex]
      refine lexNumTail_good _ hc3 ?_
      have h3 : (d :: c1').length = ex.length + c3.length := by rw [hcat3]; simp
      -- `a` is non-empty: the first byte is a digit because it is not '.'
      have ha : a ≠ [] := by
        intro ha
        rw [ha] at hcat
        have hcd : c = d := by simpa using congrArg List.head? hcat
        have hdig : isDig c = true := by
          rcases (Bool.or_eq_true _ _).mp hc with h | h
          · exact h
          · rw [hcd] at h; exact absurd h hd
        exact scanWhile_head_ne_nil isDig hdig hsc ha
      have : 0 < a.length := List.length_pos_iff.mpr ha
      simp at hlen1 h3 ⊢
      omega

theorem Good.ite {cur : Bytes} {p : Prop} [Decidable p] {a b : Except Err (Tok × Bytes)}
    (ha : Good cur a) (hb : Good cur b) : Good cur (if p then a else b) := by
  split
  · exact ha
  · exact hb

/-- the two-byte tokens: one byte of look-ahead, then the token or what a single first byte stands for (`alt`).  The
`match` has to elaborate to the matcher `lexTok` unfolds to, so nothing may be generalised into its motive: hence
`(generalizing := false)` and `0 ∈ r` after the colon. -/
theorem look1_good {c : UInt8} {r : Bytes} (k : UInt8) {t1 : Tok} {alt : Except Err (Tok × Bytes)} (hk : k ≠ 0)
    (halt : Good (c :: r) alt) :
    (0 : UInt8) ∈ r → Good (c :: r) (match (generalizing := false) r with
      | [] => .error .oob
      | d :: r' => if (d == k) = true then .ok (t1, r') else alt) := by
  intro hr
  match r, hr with
  | d :: r', hr =>
    simp only
    by_cases hdk : (d == k) = true
    · rw [if_pos hdk]
      exact ⟨Or.inr (nul_mem_tail (· == k) (by simpa using hk.symm) hdk hr), by simp only [List.length_cons]; omega⟩
    · rw [if_neg hdk]
      exact halt

theorem lexTok_good : ∀ cur : Bytes, 0 ∈ cur → Good cur (lexTok cur) := by
  intro cur h
  match cur, h with
  | c :: r, h =>
    unfold lexTok
    simp only
    by_cases h0 : (c == 0) = true
    · rw [if_pos h0]
      exact ⟨Or.inl rfl, by simp only [List.length_cons]; omega⟩
    · rw [if_neg h0]
      have hc0 : c ≠ 0 := by
        intro hh; subst hh; exact h0 (by decide)
      have hr : 0 ∈ r := List.mem_of_ne_of_mem (Ne.symm hc0) h
      have hself : ∀ t, Good (c :: r) (.ok (t, r)) := fun _ =>
        ⟨Or.inr hr, by simp only [List.length_cons]; omega⟩
      by_cases hnum : (isDig c || c == 46) = true
      · rw [if_pos hnum]
        exact lexNumber_good c r hnum h
      · rw [if_neg hnum]
        refine .ite ?_ ?_
        · -- identifier or `Piecewise`
          obtain ⟨t, r', hsc, hr', hlen⟩ := scanWhile_len isIdCont isIdCont_zero r hr
          simp only [hsc]
          exact ⟨Or.inr hr', by simp only [List.length_cons]; omega⟩
        refine .ite (look1_good 42 (by decide) (hself _) hr) ?_                             -- "*" or "**"
        refine .ite (hself _) ?_                                                            -- "@"
        refine .ite (look1_good 61 (by decide) (hself _) hr) ?_                             -- "<" or "<="
        refine .ite (look1_good 61 (by decide) (hself _) hr) ?_                             -- ">" or ">="
        refine .ite (look1_good 61 (alt := .error .parse) (by decide) rfl hr) ?_            -- "!=", a lone "!" is unknown
        refine .ite (look1_good 61 (alt := .error .parse) (by decide) rfl hr) ?_            -- "==", a lone "=" is unknown
        exact .ite (hself _) rfl                                                            -- `isOp1`, else unknown token

/-- **`Tokenizer::lex` is total and stays in bounds.**  From a cursor with a NUL ahead: no out-of-bounds read;
the result is ParseError (unknown token) or a token with a cursor strictly further on which - unless the token is
END_OF_FILE - still has a NUL ahead, so the next call is again inside the buffer. -/
theorem lex_total_inbounds (cur : Bytes) (h : (0 : UInt8) ∈ cur) :
    (lex cur = .error .parse) ∨
    (∃ t c, lex cur = .ok (t, c) ∧ (t = .eof ∨ (0 : UInt8) ∈ c) ∧ c.length < cur.length) := by
  unfold lex
  obtain ⟨w, c, hsc, hc, hlen⟩ := scanWhile_len isWs isWs_zero cur h
  simp only [hsc]
  have hg := lexTok_good c hc
  unfold Good at hg
  split at hg
  · rename_i t c' heq
    right
    exact ⟨t, c', heq, hg.1, by omega⟩
  · rename_i e heq
    left
    rw [heq, hg]

theorem lex_no_oob (cur : Bytes) (h : (0 : UInt8) ∈ cur) : lex cur ≠ .error .oob := by
  rcases lex_total_inbounds cur h with h1 | ⟨t, c, h1, _⟩ <;> rw [h1] <;> simp

theorem lexAll_good : ∀ (f : Nat) (cur : Bytes), (0 : UInt8) ∈ cur → cur.length ≤ f →
    lexAll f cur = .error .parse ∨ ∃ ts, lexAll f cur = .ok ts ∧ ts.getLast? = some .eof := by
  intro f
  induction f with
  | zero =>
    intro cur h hl
    have : cur = [] := List.length_eq_zero_iff.mp (Nat.le_zero.mp hl)
    subst this; cases h
  | succ f ih =>
    intro cur h hl
    unfold lexAll
    rcases lex_total_inbounds cur h with h1 | ⟨t, c, h1, h2, h3⟩
    · left; simp [h1]
    · simp only [h1]
      by_cases ht : t = .eof
      · right; simp [ht]
      · simp only [ht, if_false]
        have hc : (0 : UInt8) ∈ c := by
          rcases h2 with h2 | h2
          · exact absurd h2 ht
          · exact h2
        rcases ih c hc (by omega) with h4 | ⟨ts, h4, h5⟩
        · left; simp [h4]
        · right
          refine ⟨t :: ts, by simp [h4], ?_⟩
          cases ts with
          | nil => simp at h5
          | cons a l => simpa [List.getLast?_cons_cons] using h5

/-- **The token loop of `Parser::parse` is total and in bounds** for every byte string (embedded NULs, high bytes,
anything): with the buffer `input ++ [0]` the outcome is ParseError or a token list that ends with END_OF_FILE -
never an out-of-bounds read, never fuel exhaustion.  (`input.length + 2` is the fuel `parseBytesWith` supplies;
`lexAll_good` needs the buffer length, `input.length + 1`.) -/
theorem lexAll_total (input : Bytes) :
    lexAll (input.length + 2) (input ++ [0]) = .error .parse ∨
    ∃ ts, lexAll (input.length + 2) (input ++ [0]) = .ok ts ∧ ts.getLast? = some .eof :=
  lexAll_good _ _ (by simp) (by simp)

example : lexAll 5 ([120, 42, 42] ++ [0]) = .ok [.ident [120], .pow, .eof] := by rfl
example : lex [49, 101, 43, 0] = .ok (.imul [49, 101], [43, 0]) := by rfl   -- "1e+": marker restored
example : lex [49, 101, 43] = .error .oob := by rfl                          -- no terminator: caught

theorem lexAllS_fst : ∀ (f : Nat) (s : PState), (lexAllS f s).1 = lexAll f s.cur := by
  intro f
  induction f with
  | zero => intro s; rfl
  | succ f ih =>
    intro s
    unfold lexAllS lexAll lexS
    cases hl : lex s.cur with
    | error e => simp
    | ok p =>
      obtain ⟨t, c⟩ := p
      simp only
      by_cases ht : t = .eof
      · simp [ht]
      · simp only [ht, if_false]
        rw [show lexAllS f { s with tok := s.cur, mar := s.cur, cur := c } = (lexAll f c, _) from Prod.ext (ih _) rfl]
        cases lexAll f c <;> rfl

/-- the answer of `Parser::parse` as a function of the input alone: the syntactic part is `parseBytes` (what C17 is
about), then the actions that may throw (`check`) -/
def pureParse (input : Bytes) (cx : Bool) : Outcome :=
  match parseBytes input cx with
  | .error e => .throws e
  | .ok ast =>
    match check ast with
    | .parseError => .throws .parse
    | _ => .value ast

theorem parse_eq_pure (s : PState) (input : Bytes) (cx : Bool) : (s.parse input cx).1 = pureParse input cx := by
  unfold PState.parse pureParse parseBytes parseBytesWith
  simp only
  rw [show lexAllS _ _ = (lexAll _ _, _) from Prod.ext (lexAllS_fst _ _) rfl]
  simp only
  cases lexAll _ _ with
  | error e => rfl
  | ok ts =>
    simp only
    cases parseTokens genBP ts with
    | error e => rfl
    | ok ast =>
      simp only
      cases check ast <;> rfl

/-- **Parser reuse is stateless.**  For every state `S` of a `Parser` object - any contents of `inp`, any (dangling)
tokenizer cursors, any previous result, in particular every state reachable through successful and failed parses -
`parse` returns exactly what a freshly constructed parser returns. -/
theorem parse_history_indep (S : PState) (input : Bytes) (cx : Bool) :
    (S.parse input cx).1 = freshParse input cx := by
  unfold freshParse
  rw [parse_eq_pure, parse_eq_pure]

theorem run_eq_fresh (S : PState) (hist : List (Bytes × Bool)) :
    S.run hist = hist.map (fun p => freshParse p.1 p.2) := by
  induction hist generalizing S with
  | nil => rfl
  | cons a t ih =>
    obtain ⟨i, cx⟩ := a
    simp only [PState.run, List.map_cons]
    rw [ih, parse_history_indep]

/-- after a *failed* parse the stale result of an earlier success is still stored (so the statement above is not
vacuous: the state does differ), and yet the next answer is the fresh one -/
example :
    let S1 := (PState.init.parse [120] true).2          -- "x"   succeeds
    let S2 := (S1.parse [120, 32, 121] true).2          -- "x y" fails
    S2.res = some (.ident [120]) ∧ (S1.parse [120, 32, 121] true).1 = .throws .parse
      ∧ (S2.parse [121] true).1 = freshParse [121] true := by
  refine ⟨by rfl, by rfl, parse_history_indep _ _ _⟩

/-- **The token loop that `Parser::parse` runs never reads out of bounds**, whatever the bytes: its answer is a token
list or `ParseError`; `oob` is impossible.  (That `parse` runs it on this buffer whatever the object's history is
`parse_eq_pure`.) -/
theorem parse_lex_no_oob (input : Bytes) (cx : Bool) :
    lexAll ((if cx then convertXor input else input).length + 2)
        ((if cx then convertXor input else input) ++ [0]) ≠ .error .oob := by
  rcases lexAll_total (if cx then convertXor input else input) with h | ⟨ts, h, _⟩ <;> rw [h] <;> simp

/-- What C18 asks in full and what is *not* a theorem here: memory safety and termination of the generated C++
(`tokenizer.cpp`, `parser.tab.cc`, the SBML variants) and of the semantic actions, for all byte strings.  The
theorems above are about the tokenizer *specification* and the `Parser` object's state discipline; the generated
code is covered by the differential runs (assert + ASan/UBSan builds).  The proposition below is the part of it that
can be said of the model: statelessness (`parse_history_indep`) and that `parse` throws nothing but ParseError
(proved for the tokenizer, `parse_lex_no_oob`; open for the grammar's fuel). -/
def C18_full : Prop :=
  ∀ (S : PState) (input : Bytes) (cx : Bool),
    (S.parse input cx).1 = freshParse input cx ∧
    (∀ e, (S.parse input cx).1 = .throws e → e = .parse)

end C18
end SymVerif
