import SymVerif.Lemmas.C28Recipe
/-!
# C28 — boolean simplification preserves truth value

Model: `SymVerif/Model/Logic.lean` (the functions the driver `Drv/C28.lean` runs).
`Val` is a valuation of the opaque atoms, `Val.ok` says it respects the code's notion of complementary literal
(`rel i n` and `rel i (!n)` take opposite values: `Lt(x,y)` vs `Le(y,x)`, `Eq` vs `Ne`).  Every theorem quantifies over all formulas /
argument lists (no size bound) and all such valuations.

`andOr` is `and_or` without the FiniteSet-domain rule (exactly `and_or<Or>`, and `and_or<And>` when no
`Contains(x, FiniteSet)` conjunct is present); `andD` is `and_or<And>` with that rule.  The rule depends on the
arithmetic meaning of the atoms over `x`, so its theorems quantify over the numeric valuations `nv x v`
(every integer value `x` of the symbol, every valuation `v` of the other atoms).  `andD` answers `none` when several
`Contains(x, FiniteSet)` conjuncts meet (the C++ result then depends on hash order) or its fuel runs out (no theorem
excludes that; the model says it does not happen from fuel 3 on): those inputs are outside the
theorems (`partial` in `props/c28.py` lists the first kind) and are checked by the harness oracle only.  `build` also
answers `none` on a malformed recipe (`not` with other than one argument).
-/
namespace SymVerif.C28
open SymVerif.Logic SymVerif.Logic.B

/-- `logical_and` / `logical_or` (`and_or<And>(s,false)`, `and_or<Or>(s,true)`): the result has the value of the
n-ary connective over the arguments. -/
theorem and_or_sound (v : Val) (hv : v.ok) (isOr : Bool) (s : List B) :
    truth v (andOr isOr s) = if isOr then s.any (truth v) else s.all (truth v) := by
  rw [and_or_val v hv, foldOp, anyT_eq_any, allT_eq_all]

/-- `logical_and` including the FiniteSet-domain rule: at every integer value of `x` and every valuation of the
other atoms the result has the value of the conjunction. -/
theorem and_sound (x : Int) (v : Val) (hv : v.ok) (s : List B) (b : B) (h : andE s = some b) :
    truth (nv x v) b = s.all (truth (nv x v)) := by
  rw [andD_sound x v hv _ s b h, allT_eq_all]

/-- substitution of an integer for `x` (what the domain rule evaluates) does not change the value at that `x` -/
theorem subst_sound_at (x : Int) (v : Val) (hv : v.ok) (b : B) :
    truth (nv x v) (substB x b) = truth (nv x v) b := subst_sound x v hv b

theorem or_sound (v : Val) (hv : v.ok) (s : List B) : truth v (orE s) = s.any (truth v) := by
  simpa [orE] using and_or_sound v hv true s

/-- `logical_not` of every class negates the value: `not_sound` (proved in `Lemmas/C28Truth.lean`). -/
example (v : Val) (hv : v.ok) (b : B) : truth v (notB b) = !truth v b := not_sound v hv b

/-- `logical_xor`: parity of the arguments, in the given order. -/
theorem xor_sound (v : Val) (hv : v.ok) (l : List B) :
    truth v (xorE l) = l.foldl (fun acc b => acc ^^ truth v b) false := by
  rw [xor_val v hv, parT_eq_foldl]

theorem nand_sound (x : Int) (v : Val) (hv : v.ok) (s : List B) (b : B) (h : nandE s = some b) :
    truth (nv x v) b = !s.all (truth (nv x v)) := by
  simp only [nandE, Option.map_eq_some_iff] at h
  obtain ⟨b', hb', rfl⟩ := h
  rw [not_sound _ (nv_ok x v hv), and_sound x v hv s b' hb']

theorem nor_sound (v : Val) (hv : v.ok) (s : List B) : truth v (norE s) = !s.any (truth v) := by
  rw [nor_val v hv, anyT_eq_any]

theorem xnor_sound (v : Val) (hv : v.ok) (l : List B) :
    truth v (xnorE l) = !l.foldl (fun acc b => acc ^^ truth v b) false := by
  rw [xnor_val v hv, parT_eq_foldl]

/-- the value of `logical_and` / `logical_or` does not depend on the order of the arguments: the returned
formulas are equal (`andOr_congr`), for every valuation -/
theorem and_or_perm_truth (v : Val) (hv : v.ok) (isOr : Bool) (s s' : List B) (h : s.Perm s') :
    truth v (andOr isOr s) = truth v (andOr isOr s') := by
  rw [andOr_congr isOr fun _ => h.mem_iff]

/-- the value of `logical_and` / `logical_or` does not depend on repetitions of arguments: the returned formulas
are equal -/
theorem and_or_dup_truth (v : Val) (hv : v.ok) (isOr : Bool) (s : List B) :
    truth v (andOr isOr (s ++ s)) = truth v (andOr isOr s) := by
  rw [andOr_congr isOr fun _ => List.mem_append.trans or_self_iff]

/-- De Morgan: `Nor(s)` has the value of `And(Not s…)` -/
theorem nor_de_morgan (v : Val) (hv : v.ok) (s : List B) :
    truth v (norE s) = truth v (andOr false (s.map notB)) := by
  rw [nor_val v hv, and_or_val v hv, ← notL_eq_map, ← notL_all v hv]
  rfl

theorem xnor_not_xor (v : Val) (hv : v.ok) (l : List B) : truth v (xnorE l) = !truth v (xorE l) := by
  rw [xnor_sound v hv, xor_sound v hv]

/-- double negation keeps the value, for every object (canonical or not) -/
theorem not_not_truth (v : Val) (hv : v.ok) (b : B) : truth v (notB (notB b)) = truth v b := by
  rw [not_sound v hv, not_sound v hv, Bool.not_not]

theorem xor_perm_truth (v : Val) (hv : v.ok) (l l' : List B) (h : l.Perm l') :
    truth v (xorE l) = truth v (xorE l') := by
  rw [xor_val v hv, xor_val v hv, parT_perm v h]

/-- the three outcomes of `piecewise()` -/
theorem piecewise_cases (vec : List (Nat × B)) :
    (pwPrune vec [] = [] ∧ piecewise vec = .error .domain) ∨
    (∃ e, pwPrune vec [] = [(e, .tt)] ∧ piecewise vec = .ok (.expr e)) ∨
    (piecewise vec = .ok (.pw (pwPrune vec [])) ∧ pwPrune vec [] ≠ [] ∧ ∀ e, pwPrune vec [] ≠ [(e, .tt)]) := by
  unfold piecewise
  split
  · rename_i h; exact Or.inl ⟨h, rfl⟩
  · rename_i e h; exact Or.inr (Or.inl ⟨e, h, rfl⟩)
  · rename_i h1 h2; exact Or.inr (Or.inr ⟨rfl, h1, h2⟩)

/-- `piecewise()`: pruning never changes the first branch whose condition holds; a `DomainError` is raised only
when no branch can ever apply. -/
theorem piecewise_sound (v : Val) (vec : List (Nat × B)) :
    match piecewise vec with
    | .error _ => firstTrue v vec = none
    | .ok r => pwVal v r = firstTrue v vec := by
  have h := pwPrune_sound v vec [] (by simp)
  rcases piecewise_cases vec with ⟨h0, hp⟩ | ⟨e, h0, hp⟩ | ⟨hp, _, _⟩
  · rw [hp]; rw [h0] at h; simpa [firstTrue] using h.symm
  · rw [hp]; rw [h0] at h; simpa [firstTrue, truth, pwVal] using h
  · rw [hp]; simpa [pwVal] using h

/-- A whole recipe (any nesting of the seven API calls, any depth): the object built bottom-up has the textbook
value of the recipe. -/
theorem recipe_sound (x : Int) (v : Val) (hv : v.ok) (r : R) (b : B) (h : build r = some b) :
    truth (nv x v) b = rTruth (nv x v) r := build_sound x v hv r b h

/-- `logical_not` is an involution on everything the API returns. -/
theorem not_involutive (b : B) (h : wf b = true) : notB (notB b) = b := notB_invol b h

theorem wf_canonical {b : B} (h : wf b = true) : wf b = true ∧ cppCanonical b = true :=
  ⟨h, wf_cppCanonical b h⟩

/-- `logical_not` returns canonical objects (the `make_rcp<Or>` in `And::logical_not` passes its assertion). -/
theorem not_canonical (b : B) (h : wf b = true) : wf (notB b) = true ∧ cppCanonical (notB b) = true :=
  wf_canonical (wf_notB b h)

/-- `and_or` returns a canonical object: ≥ 2 arguments, no constants, no nested same kind, no complementary pair. -/
theorem and_or_canonical (isOr : Bool) (s : List B) (hs : ∀ a ∈ s, wf a = true) :
    wf (andOr isOr s) = true ∧ cppCanonical (andOr isOr s) = true :=
  wf_canonical (wf_andOr isOr s hs)

/-- `logical_and` with the FiniteSet-domain rule returns a canonical object -/
theorem and_canonical (s : List B) (b : B) (hs : ∀ a ∈ s, wf a = true) (h : andE s = some b) :
    wf b = true ∧ cppCanonical b = true :=
  wf_canonical (wf_andD _ s b hs h)

/-- `logical_xor` returns a canonical object: ≥ 2 arguments, no constants, no nested `Xor`, no duplicate and no
complementary pair (also below an outer `Not`). -/
theorem xor_canonical (s : List B) (hs : ∀ a ∈ s, wf a = true) :
    wf (xorE s) = true ∧ cppCanonical (xorE s) = true :=
  wf_canonical (wf_xorE s hs)

/-- every object a recipe can build is canonical, at every node -/
theorem recipe_canonical (r : R) (b : B) (hl : leavesWf r = true) (h : build r = some b) :
    wf b = true ∧ cppCanonical b = true :=
  wf_canonical (build_wf r b hl h)

/-- `make_rcp<Piecewise>` receives a vector that passes `Piecewise::is_canonical`. -/
theorem piecewise_canonical (vec : List (Nat × B)) (l : List (Nat × B)) (h : piecewise vec = .ok (.pw l)) :
    pwCanonical l = true ∧ ∀ p ∈ l, p ∈ vec := by
  obtain ⟨hc, hm⟩ := pwPrune_canon vec []
  rcases piecewise_cases vec with ⟨_, hp⟩ | ⟨e, _, hp⟩ | ⟨hp, h1, h2⟩
  · rw [hp] at h; cases h
  · rw [hp] at h; cases h
  · rw [hp] at h
    simp only [Except.ok.injEq, PW.pw.injEq] at h
    rw [h] at hc hm h1 h2
    refine ⟨?_, hm⟩
    unfold pwCanonical
    split
    · exact absurd rfl (h2 _)  -- a lone `true` branch is returned as `.expr`, never as `.pw`
    · simp only [hc, List.isEmpty_eq_false_iff.2 h1, Bool.not_false, Bool.and_self]

/-- a valuation that respects complementary literals and is not constant -/
def vEx : Val := { rel := fun i n => (i % 2 == 0) ^^ n, mem := fun i => i == 1, fs := fun _ => false }

theorem vEx_ok : vEx.ok := by
  intro i n
  simp only [vEx]
  exact Bool.xor_not _ _

def fEx : List B := [.rel 0 false, .or [.rel 1 true, .mem 0], .and [.rel 2 false, .rel 3 true], .tt, .mem 1]
def fExR : B := .and [.rel 0 false, .rel 2 false, .rel 3 true, .mem 1, .or [.rel 1 true, .mem 0]]

example : andE fEx = some fExR := by decide
example : truth (nv 0 vEx) fExR = fEx.all (truth (nv 0 vEx)) := and_sound 0 vEx vEx_ok fEx fExR (by decide)
example : truth (nv 0 vEx) fExR = true := by decide
example : orE [.rel 0 false, .rel 1 true, .rel 0 true] = .tt := by decide
example : andE [.rel 0 false, .rel 1 true, .rel 0 true] = some .ff := by decide
-- the FiniteSet-domain rule: x ∈ {1,2,3} ∧ x < 3  ↦  x ∈ {1,2}   (rel 65 = `x<3`: 8 + 3*(3+16) + 0)
example : andE [.fs [1, 2, 3], .rel 65 false] = some (.fs [1, 2]) := by decide
-- … with a symbolic conjunct left: x ∈ {1,2,3} ∧ x < 3 ∧ a0  ↦  x ∈ {1,2} ∧ a0 ∧ x < 3
example : andE [.fs [1, 2, 3], .rel 65 false, .rel 0 false]
    = some (.and [.rel 0 false, .rel 65 false, .fs [1, 2]]) := by decide
example : andE [.fs [1, 2], .fs [2, 3]] = none := by decide
example : truth (nv 2 vEx) (.fs [1, 2]) = [B.fs [1, 2, 3], .rel 65 false].all (truth (nv 2 vEx)) :=
  and_sound 2 vEx vEx_ok _ _ (by decide)
example : xorE [.rel 0 false, .mem 0, .rel 0 true, .xor [.mem 0, .mem 1]] = .not (.mem 1) := by decide
example : truth vEx (xorE [.rel 0 false, .mem 0, .rel 0 true, .xor [.mem 0, .mem 1]])
    = [B.rel 0 false, .mem 0, .rel 0 true, .xor [.mem 0, .mem 1]].foldl (fun acc b => acc ^^ truth vEx b) false :=
  xor_sound vEx vEx_ok _
example : wf fExR = true := (and_canonical fEx fExR (by decide) (by decide)).1
example : notB (notB fExR) = fExR := not_involutive _ (by decide)
example : piecewise [(0, .ff), (1, .rel 0 false), (2, .rel 0 false), (3, .tt), (4, .mem 0)]
    = .ok (.pw [(1, .rel 0 false), (3, .tt)]) := by rfl
example : piecewise [(0, .ff), (1, orE [.ff, .ff])] = .error .domain := by rfl
example : build (.node .nand [.leaf (.rel 0 false), .node .xor [.leaf (.mem 0), .leaf .tt]])
    = some (.or [.rel 0 true, .mem 0]) := by decide

end SymVerif.C28
