/-
C01 — equal expressions always have equal hashes.

Model: `SymVerif.Expr.hash`, `beq'` (`Model/ExprHash.lean`), mirroring `Basic::hash` / `eq` bit for bit;
the driver `Drv/C01.lean` runs exactly these functions (after `Expr.norm`, the model of building the
ordered containers) and is compared with the real `Basic::hash()` / `eq()` values.

The unrestricted statement is false for a source with the unfixed `RealDouble::__hash__` (defect D1:
`eq(0.0, -0.0)` holds, the hashes differ).  `d1_witness`, `C01_full_false` say so under the translator flag
`TC.dblHashZeroNorm = false` and are vacuous when the flag is `true` (the fix is in the source); the property
is proved for expressions without the double `-0.0` (`hash_congr_partial`).
-/
import SymVerif.Lemmas.C01Hash

namespace SymVerif.C01
open SymVerif SymVerif.Expr

/-- C01 as stated: for well-formed objects, `eq` implies equal hashes. -/
def C01_full : Prop := ∀ a b : Expr, WF a = true → WF b = true → beq' a b = true → Expr.hash a = Expr.hash b

/-- D1: `eq(real_double(0.0), real_double(-0.0))` is true, the hashes differ — as long as the source has
the unfixed `RealDouble::__hash__` (the translator reports which form is present). -/
theorem d1_witness : TC.dblHashZeroNorm = false →
    WF (dbl 0) = true ∧ WF (dbl negZeroBits) = true ∧
    beq' (dbl 0) (dbl negZeroBits) = true ∧ Expr.hash (dbl 0) ≠ Expr.hash (dbl negZeroBits) := by decide +kernel

/-- D1 inside a container, `f(0.0)` vs `f(-0.0)`, and in `ComplexDouble` (its own `__hash__`, its own flag):
`ComplexDouble(-0.0, 1.0)` vs `ComplexDouble(0.0, 1.0)`. -/
theorem d1_witness_nested :
    (TC.dblHashZeroNorm = false →
      beq' (fsym "f" [dbl 0]) (fsym "f" [dbl negZeroBits]) = true ∧
      Expr.hash (fsym "f" [dbl 0]) ≠ Expr.hash (fsym "f" [dbl negZeroBits])) ∧
    (TC.cdblHashZeroNorm = false →
      beq' (cdbl negZeroBits 0x3ff0000000000000) (cdbl 0 0x3ff0000000000000) = true ∧
      Expr.hash (cdbl negZeroBits 0x3ff0000000000000) ≠ Expr.hash (cdbl 0 0x3ff0000000000000)) := by decide +kernel

/-- the unrestricted property fails on a source with the unfixed `RealDouble::__hash__` -/
theorem C01_full_false (unfixed : TC.dblHashZeroNorm = false) : ¬ C01_full := fun h => by
  obtain ⟨wa, wb, heq, hne⟩ := d1_witness unfixed
  exact hne (h _ _ wa wb heq)

example : TC.dblHashZeroNorm = false ∨ TC.dblHashZeroNorm = true := (Bool.eq_false_or_eq_true _).symm

/-- On well-formed expressions without the double `-0.0` (and without NaN doubles, which are `eq` to
nothing), `eq` holds only between identical model objects … -/
theorem eq_imp_identical {a b : Expr} (wa : WF a = true) (wb : WF b = true)
    (na : noNaN a = true) (nb : noNaN b = true) (za : noSignedZero a = true) (zb : noSignedZero b = true)
    (h : beq' a b = true) : a = b :=
  (J_all a b ⟨wa, na, za⟩ ⟨wb, nb, zb⟩).eq.mp h

/-- … hence equal expressions have equal hashes (C01 with the decidable exclusions). -/
theorem hash_congr_partial {a b : Expr} (wa : WF a = true) (wb : WF b = true)
    (na : noNaN a = true) (nb : noNaN b = true) (za : noSignedZero a = true) (zb : noSignedZero b = true)
    (h : beq' a b = true) : Expr.hash a = Expr.hash b := by
  rw [eq_imp_identical wa wb na nb za zb h]

-- on the fragment `eq` is identity, so an instance has the same term on both sides: this one and the two on `exSum`
-- below show that the side conditions are met by evaluation
example : Expr.hash (add (int 1) [(sym "x", rat 1 2), (pow (sym "y") (int 2), int 3)])
    = Expr.hash (add (int 1) [(sym "x", rat 1 2), (pow (sym "y") (int 2), int 3)]) :=
  hash_congr_partial (by decide +kernel) (by decide +kernel) (by decide +kernel) (by decide +kernel) (by decide +kernel) (by decide +kernel) (by decide +kernel)

/-- `Add::__hash__` XOR-folds the per-entry hashes: the iteration order of the unordered dictionary is
irrelevant.  `WF` keeps the unordered `umap_basic_num` of an Add as the `keyLess`-sorted list, an order the C++ never
iterates in: this is what makes the model's hash that of the library whatever the bucket order. -/
theorem hash_add_perm (c : Expr) {ts ts' : List (Expr × Expr)} (h : ts.Perm ts') :
    Expr.hash (add c ts) = Expr.hash (add c ts') := by
  rw [Expr.hash, Expr.hash]; exact hashAddTerms_perm h _

example : Expr.hash (add (int 0) [(sym "x", int 1), (sym "y", int 2)])
    = Expr.hash (add (int 0) [(sym "y", int 2), (sym "x", int 1)]) :=
  hash_add_perm _ (List.Perm.swap _ _ _)

/-- `eq` is an equivalence on these expressions: symmetry; reflexivity below (`beq'_refl`, the converse direction of
`eq_imp_identical`); transitivity follows from `eq_imp_identical` and is not stated. -/
theorem eq_symm_partial {a b : Expr} (wa : WF a = true) (wb : WF b = true)
    (na : noNaN a = true) (nb : noNaN b = true) (za : noSignedZero a = true) (zb : noSignedZero b = true)
    (h : beq' a b = true) : beq' b a = true := by
  have := eq_imp_identical wa wb na nb za zb h
  subst this; exact h

theorem eq_refl_partial {a : Expr} (wa : WF a = true) (na : noNaN a = true) (za : noSignedZero a = true) :
    beq' a a = true := Expr.beq'_refl ⟨wa, na, za⟩

def exSum : Expr := add (int 1) [(sym "x", rat 1 2), (pow (sym "y") (int 2), int 3)]

example : beq' exSum exSum = true :=
  eq_refl_partial (by decide +kernel) (by decide +kernel) (by decide +kernel)

example : beq' exSum exSum = true → beq' exSum exSum = true :=
  eq_symm_partial (by decide +kernel) (by decide +kernel) (by decide +kernel) (by decide +kernel)
    (by decide +kernel) (by decide +kernel)

/-- Consequence: a hash set (`uset_basic`, the key set of `umap_basic_num`) filled by insertions never
holds two entries that are `eq`. -/
theorem uset_no_dup {l : List Expr}
    (ol : ∀ x ∈ l, WF x = true ∧ noNaN x = true ∧ noSignedZero x = true) :
    List.Pairwise (fun a b => beq' a b = false ∧ beq' b a = false) (usetOf l) :=
  uset_aux l ol [] (by simp) List.Pairwise.nil

example : (usetOf [sym "x", int 2, sym "x", pow (sym "x") (int 2), int 2]).length = 3 := by
  decide +kernel

end SymVerif.C01
