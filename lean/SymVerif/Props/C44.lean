/-
C44 — the alternative printers are total and well-formed: the proved cores (the property is claimed in part only).

MathML: every tree the model `mathmlTree` produces serialises to a well-formed XML element (`mathml_wellformed`).
The model is compared with the real output on every generated expression (modulo the order of the summands of
`<apply><plus/>`).  `Element` is wider than XML 1.0: no `Char` production (control characters pass), `]]>` is
character data, every code point ≥ 128 may start a name.
LaTeX: `latex_balanced` says only that the matcher `texCheck` accepts every well-nested token sequence (`serTex` of a
`TexTree`, a tree of groups without content).  No function makes a `TexTree` from an `Expr`, and the lexer `texLex`, through
which the driver's `texBalanced` reads the real text, occurs in `texCheck_examples` only.
`unescaped_witness` is about the reader `parseXml` (its own name test `isNameChar`) on two literal strings;
`mathml_wellformed` is membership in `Element` (names by `nameOK`): no theorem relates the two recognisers.
Unicode, Julia and SBML are oracle-checked on the real output only.
-/
import SymVerif.Lemmas.C44Mathml

namespace SymVerif.C44
open SymVerif SymVerif.Expr SymVerif.Markup

/-- **mathml_wellformed**: whatever expression the MathML model prints, the text is a well-formed XML element
(symbol and function-symbol names may contain markup characters: they are escaped; for what `WellFormedXml` lets
through beyond XML 1.0 see the head comment) -/
theorem mathml_wellformed (e : Expr) (t : XmlTree) (h : mathmlTree e = .ok t) : WellFormedXml (ser t) := by
  have := mathml_ok e
  rw [h] at this
  cases t with
  | text s => exact this.elim
  | elem n as kids => exact ser_wellformed n as kids this

/-- non-vacuity: `2*x**2 + sin(a<b)` with a symbol whose name contains markup -/
def ex1 : Expr :=
  add (int 0) [(pow (sym "x") (int 2), int 2), (app "Sin" [sym "a<b"], int 1)]

/-- `MRes` has no `DecidableEq`: the example below refutes `.throws` / `.skip` through this test -/
def isOk : MRes → Bool
  | .ok _ => true
  | _ => false

example : ∃ t, mathmlTree ex1 = .ok t ∧ WellFormedXml (ser t) := by
  have hk : isOk (mathmlTree ex1) = true := by decide +kernel
  cases h : mathmlTree ex1 with
  | ok t => exact ⟨t, rfl, mathml_wellformed ex1 t h⟩
  | throws | skip => rw [h] at hk; cases hk

example : (match mathmlTree ex1 with
    | .ok t => serStr t
    | _ => "") =
  "<apply><plus/><apply><times/><cn type=\"integer\">2</cn><apply><power/><ci>x</ci><cn type=\"integer\">2</cn></apply></apply><apply><sin/><ci>a&lt;b</ci></apply></apply>" := by
  decide +kernel

/-- the code before the fix wrote the name unescaped: the text `<ci>a<b</ci>` is rejected by the XML reader `parseXml`,
the escaped text is read back to `<ci>` with the text `a<b` (two literal strings: no printer occurs in the statement) -/
theorem unescaped_witness :
    parseXml "<ci>a<b</ci>" = none ∧
    (match parseXml "<ci>a&lt;b</ci>" with
      | some (.elem "ci" [] [.text s]) => s == "a<b"
      | _ => false) = true := by decide +kernel

mutual
  theorem texCheck_ser : (t : TexTree) → ∀ (rest : List TexTok) (stk : List Open),
      texCheck (serTex t ++ rest) stk = texCheck rest stk
    | .raw, rest, stk => by simp [serTex, texCheck]
    | .group kids, rest, stk | .leftRight kids, rest, stk | .env _ kids, rest, stk => by
      simp only [serTex, List.cons_append, List.append_assoc, texCheck]
      rw [texCheck_sers kids]
      simp [texCheck]  -- pops the matching opener; `env` alone needs that the names agree (`n == n`)
  theorem texCheck_sers : (ks : List TexTree) → ∀ (rest : List TexTok) (stk : List Open),
      texCheck (serTexs ks ++ rest) stk = texCheck rest stk
    | [], rest, stk => by simp [serTexs]
    | k :: t, rest, stk => by
      simp only [serTexs, List.append_assoc]
      rw [texCheck_ser k, texCheck_sers t]
end

/-- **latex_balanced**: `texCheck`, the matcher the driver runs (behind `texLex`) on the real output of `latex(e)`, accepts
the token sequence of every tree of groups (`{ }`, `\left`/`\right`, environments) -/
theorem latex_balanced (t : TexTree) : texCheck (serTex t) [] = true := by
  have := texCheck_ser t [] []
  simpa [texCheck] using this

example : texCheck (serTex (.group [.raw, .leftRight [.env "cases" [.raw, .group []]], .raw])) [] = true :=
  latex_balanced _

/-- the matcher rejects unbalanced texts and accepts what `latex` prints for `\frac{x}{\left(y + 1\right)^{2}}` -/
theorem texCheck_examples :
    texBalanced "\\frac{x}{\\left(y + 1\\right)^{2}}" = true ∧
    texBalanced "\\frac{x}{\\left(y + 1^{2}}" = false ∧
    texBalanced "\\begin{cases} x & \\text{for}\\: y \\end{cases}" = true ∧
    texBalanced "a \\} b" = true ∧ texBalanced "a } b" = false := by decide +kernel

end SymVerif.C44
