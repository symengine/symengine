/-
C02 — expression ordering is a strict total order consistent with eq.

Model: `SymVerif.Expr.cmp` (`Basic::__cmp__`), `beq'` (`eq`), `keyLess` (`RCPBasicKeyLess`), `sortKeys`
(insertion into a `set_basic`) in `Model/ExprHash.lean`; the driver `Drv/C02.lean` runs exactly these
functions and is compared with the real `__cmp__` / `RCPBasicKeyLess` / `set_basic` iteration order.

The unrestricted statement is FALSE on the code as it is:
  D3  `RealDouble::compare` / `ComplexDouble::compare` on NaN: `cmp(nan, 1.0) = cmp(1.0, nan) = cmp(nan, nan) = 1`
and, for a source with the unfixed `RealDouble::__hash__` only (translator flag `TC.dblHashZeroNorm = false`; the
witness is vacuous otherwise):
  D1  (from C01) `f(0.0) + y` and `f(-0.0) + y` compare 0 but are not `eq`
Both are proved on witnesses below; the order axioms are proved for well-formed expressions without NaN
doubles and without the double `-0.0`.
-/
import SymVerif.Lemmas.C02Container

namespace SymVerif.C02
open SymVerif SymVerif.Expr

def nanBits : UInt64 := 0x7ff8000000000000
def oneBits : UInt64 := 0x3ff0000000000000

/-- D3: a NaN double compares 1 with `1.0` in both directions, and 1 with itself (also as a part of a ComplexDouble). -/
theorem d3_witness :
    cmp (dbl nanBits) (dbl oneBits) = 1 ∧ cmp (dbl oneBits) (dbl nanBits) = 1 ∧
    cmp (dbl nanBits) (dbl nanBits) = 1 ∧
    cmp (cdbl nanBits 0) (cdbl oneBits 0) = 1 ∧ cmp (cdbl oneBits 0) (cdbl nanBits 0) = 1 := by decide +kernel

def fz : Expr := add (int 0) [(sym "y", int 1), (fsym "f" [dbl 0], int 1)]
def fnz : Expr := add (int 0) [(sym "y", int 1), (fsym "f" [dbl negZeroBits], int 1)]

/-- D1 seen from C02: `f(0.0) + y` and `f(-0.0) + y` (both well-formed) compare 0 although `eq` is false —
as long as the source has the unfixed `RealDouble::__hash__` (reported by the translator). -/
theorem d1_witness : TC.dblHashZeroNorm = false →
    WF fz = true ∧ WF fnz = true ∧ cmp fz fnz = 0 ∧ beq' fz fnz = false := by decide +kernel

/-- the two axioms of C02 that the defects break (antisymmetry, `cmp = 0 ⇔ eq`), for all well-formed objects -/
def C02_full : Prop :=
  ∀ a b : Expr, WF a = true → WF b = true → (cmp a b = - cmp b a) ∧ (cmp a b = 0 ↔ beq' a b = true)

theorem C02_full_false : ¬ C02_full := fun h => by
  have := (h (dbl nanBits) (dbl oneBits) (by decide +kernel) (by decide +kernel)).1
  rw [d3_witness.1, d3_witness.2.1] at this
  cases this

/-- `__cmp__` returns only -1, 0, 1 (for all well-formed operands, NaN and `-0.0` included). -/
theorem cmp_range {a b : Expr} (wa : WF a = true) (wb : WF b = true) :
    cmp a b = -1 ∨ cmp a b = 0 ∨ cmp a b = 1 := cmp_rng a b wa wb

example : cmp (mul (int 2) [(sym "x", int 1)]) (dbl nanBits) = -1 ∨ cmp (mul (int 2) [(sym "x", int 1)]) (dbl nanBits) = 0
    ∨ cmp (mul (int 2) [(sym "x", int 1)]) (dbl nanBits) = 1 := cmp_range (by decide +kernel) (by decide +kernel)

section
variable {a b c : Expr}
  (wa : WF a = true) (na : noNaN a = true) (za : noSignedZero a = true)
  (wb : WF b = true) (nb : noNaN b = true) (zb : noSignedZero b = true)
  (wc : WF c = true) (nc : noNaN c = true) (zc : noSignedZero c = true)
include wa na za wb nb zb

theorem cmp_eq_iff_partial : cmp a b = 0 ↔ beq' a b = true :=
  (J_all a b ⟨wa, na, za⟩ ⟨wb, nb, zb⟩).eqv.symm

theorem cmp_antisymm_partial : cmp a b = - cmp b a := (J_all a b ⟨wa, na, za⟩ ⟨wb, nb, zb⟩).anti

/-- `eq` (equivalently `cmp = 0`) holds only between identical model objects -/
theorem cmp_zero_imp_identical (h : cmp a b = 0) : a = b := (J_all a b ⟨wa, na, za⟩ ⟨wb, nb, zb⟩).zero.mp h

include wc nc zc

theorem cmp_trans_partial (h1 : cmp a b = -1) (h2 : cmp b c = -1) : cmp a c = -1 :=
  cmp_trans a b c ⟨wa, na, za⟩ ⟨wb, nb, zb⟩ ⟨wc, nc, zc⟩ h1 h2

theorem cmp_trans_le_partial (h1 : cmp a b ≤ 0) (h2 : cmp b c ≤ 0) : cmp a c ≤ 0 :=
  cmp_trans_le ⟨wa, na, za⟩ ⟨wb, nb, zb⟩ ⟨wc, nc, zc⟩ h1 h2

theorem keyLess_trans_partial (h1 : keyLess a b = true) (h2 : keyLess b c = true) : keyLess a c = true :=
  keyLess_trans ⟨wa, na, za⟩ ⟨wb, nb, zb⟩ ⟨wc, nc, zc⟩ h1 h2
end

example : cmp (add (int 1) [(sym "x", int 2)]) (add (int 1) [(sym "x", int 3)]) = -1 ∧
    cmp (add (int 1) [(sym "x", int 3)]) (pow (sym "x") (int 2)) = -1 ∧
    cmp (add (int 1) [(sym "x", int 2)]) (pow (sym "x") (int 2)) = -1 := by
  have h1 : cmp (add (int 1) [(sym "x", int 2)]) (add (int 1) [(sym "x", int 3)]) = -1 := by decide +kernel
  have h2 : cmp (add (int 1) [(sym "x", int 3)]) (pow (sym "x") (int 2)) = -1 := by decide +kernel
  exact ⟨h1, h2, cmp_trans_partial (by decide +kernel) (by decide +kernel) (by decide +kernel) (by decide +kernel)
    (by decide +kernel) (by decide +kernel) (by decide +kernel) (by decide +kernel) (by decide +kernel) h1 h2⟩

/-! non-vacuity of the section's theorems: concrete well-formed operands (a product with two factors, a sum,
a function application, a finite set), hypotheses discharged by evaluation -/

def exMul : Expr := mul (int 2) [(sym "x", int 1), (sym "y", rat 1 2)]
def exAdd : Expr := add (rat 1 2) [(sym "x", int 3), (app "Sin" [sym "y"], int 1)]
def exSet : Expr := app "FiniteSet" [int 1, sym "x"]

theorem exMul_ok : WF exMul = true ∧ noNaN exMul = true ∧ noSignedZero exMul = true := by decide +kernel
theorem exAdd_ok : WF exAdd = true ∧ noNaN exAdd = true ∧ noSignedZero exAdd = true := by decide +kernel
theorem exSet_ok : WF exSet = true ∧ noNaN exSet = true ∧ noSignedZero exSet = true := by decide +kernel

example : cmp exMul exMul = 0 ↔ beq' exMul exMul = true :=
  cmp_eq_iff_partial exMul_ok.1 exMul_ok.2.1 exMul_ok.2.2 exMul_ok.1 exMul_ok.2.1 exMul_ok.2.2

example : cmp exMul exAdd = - cmp exAdd exMul :=
  cmp_antisymm_partial exMul_ok.1 exMul_ok.2.1 exMul_ok.2.2 exAdd_ok.1 exAdd_ok.2.1 exAdd_ok.2.2

example : cmp exAdd exSet ≤ 0 :=
  cmp_trans_le_partial (b := exAdd) exAdd_ok.1 exAdd_ok.2.1 exAdd_ok.2.2 exAdd_ok.1 exAdd_ok.2.1 exAdd_ok.2.2
    exSet_ok.1 exSet_ok.2.1 exSet_ok.2.2 (by decide +kernel) (by decide +kernel)

example : keyLess exSet exMul = true → keyLess exMul exAdd = true → keyLess exSet exAdd = true :=
  keyLess_trans_partial exSet_ok.1 exSet_ok.2.1 exSet_ok.2.2 exMul_ok.1 exMul_ok.2.1 exMul_ok.2.2
    exAdd_ok.1 exAdd_ok.2.1 exAdd_ok.2.2

theorem keyLess_irrefl_partial {a : Expr} (wa : WF a = true) (na : noNaN a = true) (za : noSignedZero a = true) :
    keyLess a a = false := keyLess_irrefl (Expr.beq'_refl ⟨wa, na, za⟩)

theorem keyLess_asymm_partial {a b : Expr}
    (wa : WF a = true) (na : noNaN a = true) (za : noSignedZero a = true)
    (wb : WF b = true) (nb : noNaN b = true) (zb : noSignedZero b = true)
    (h : keyLess a b = true) : keyLess b a = false := by
  cases hb : keyLess b a
  · rfl
  · exact (keyLess_asymm (J_all a b ⟨wa, na, za⟩ ⟨wb, nb, zb⟩).anti h hb).elim

example : keyLess (pow (sym "x") (int 2)) (pow (sym "x") (int 2)) = false :=
  keyLess_irrefl_partial (by decide +kernel) (by decide +kernel) (by decide +kernel)

/-- with transitivity, irreflexivity and asymmetry above: `RCPBasicKeyLess` is a strict weak order whose equivalence is
`eq` (what `std::set` / `std::map` need to behave as sets keyed by equality) -/
theorem keyLess_incomparable_iff_eq_partial {a b : Expr}
    (wa : WF a = true) (na : noNaN a = true) (za : noSignedZero a = true)
    (wb : WF b = true) (nb : noNaN b = true) (zb : noSignedZero b = true) :
    (keyLess a b = false ∧ keyLess b a = false) ↔ beq' a b = true := by
  constructor
  · rintro ⟨h1, h2⟩
    have := keyLess_total ⟨wa, na, za⟩ ⟨wb, nb, zb⟩ h1 h2
    subst this
    exact Expr.beq'_refl ⟨wa, na, za⟩
  · intro h
    have := (J_all a b ⟨wa, na, za⟩ ⟨wb, nb, zb⟩).eq.mp h
    subst this
    exact ⟨keyLess_irrefl (Expr.beq'_refl ⟨wa, na, za⟩), keyLess_irrefl (Expr.beq'_refl ⟨wa, na, za⟩)⟩

example : (keyLess exSet exMul = false ∧ keyLess exMul exSet = false) ↔ beq' exSet exMul = true :=
  keyLess_incomparable_iff_eq_partial exSet_ok.1 exSet_ok.2.1 exSet_ok.2.2 exMul_ok.1 exMul_ok.2.1 exMul_ok.2.2

/-- An ordered container (`set_basic`; the model of insertion is `sortKeys`) built from any permutation of
the same keys is the same sequence … -/
theorem insertSorted_perm_invariant {l1 l2 : List Expr}
    (ol : ∀ x ∈ l1, WF x = true ∧ noNaN x = true ∧ noSignedZero x = true) (h : l1.Perm l2) :
    sortKeys l1 = sortKeys l2 := sortKeys_perm_invariant ol h

/-- … strictly sorted, with exactly the inserted keys as members -/
theorem insertSorted_sorted {l : List Expr} (ol : ∀ x ∈ l, WF x = true ∧ noNaN x = true ∧ noSignedZero x = true) :
    List.Pairwise (fun a b => keyLess a b = true) (sortKeys l) ∧ ∀ y, y ∈ sortKeys l ↔ y ∈ l :=
  ⟨sortKeys_sorted ol, mem_sortKeys ol⟩

example : sortKeys [sym "x", int 2, pow (sym "x") (int 2)] = sortKeys [pow (sym "x") (int 2), sym "x", int 2] :=
  insertSorted_perm_invariant (by decide +kernel)
    ((List.Perm.cons _ (List.Perm.swap _ _ _)).trans (List.Perm.swap _ _ _))

end SymVerif.C02
