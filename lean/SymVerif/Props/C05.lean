import SymVerif.Lemmas.C05PowC
/-!
C05 — exact number arithmetic (Integer, Rational, Complex) is correct and normalised.

The theorems are about the functions the driver `drv_c05` runs; `F` (the float type) is arbitrary and irrelevant
here.  There is no bound on the size of the integers.
-/
namespace SymVerif.C05
open SymVerif.Num


variable {F : Type} [FloatOps F]

/-- addition (below: subtraction, multiplication) of exact numbers, all nine ordered kind pairs: the call
succeeds, the result is normalised and its value is exactly the mathematical one. -/
theorem add_correct (a b : Num F) (ea : Exact a) (eb : Exact b) (na : Normalised a) (nb : Normalised b)
    (za zb : ℂ) (ha : val a = some za) (hb : val b = some zb) :
    ∃ r, Num.add a b = .ok r ∧ Good r (za + zb) :=
  add_good ⟨ea, na, ha⟩ ⟨eb, nb, hb⟩

theorem sub_correct (a b : Num F) (ea : Exact a) (eb : Exact b) (na : Normalised a) (nb : Normalised b)
    (za zb : ℂ) (ha : val a = some za) (hb : val b = some zb) :
    ∃ r, Num.sub a b = .ok r ∧ Good r (za - zb) :=
  sub_good ⟨ea, na, ha⟩ ⟨eb, nb, hb⟩

theorem mul_correct (a b : Num F) (ea : Exact a) (eb : Exact b) (na : Normalised a) (nb : Normalised b)
    (za zb : ℂ) (ha : val a = some za) (hb : val b = some zb) :
    ∃ r, Num.mul a b = .ok r ∧ Good r (za * zb) :=
  mul_good ⟨ea, na, ha⟩ ⟨eb, nb, hb⟩

/-- division of exact numbers by anything but the exact zero: the call succeeds for all
nine kind pairs (no `NotImplementedError`; Rational / Complex is where D10 was), exact value, normalised. -/
theorem div_correct (a b : Num F) (ea : Exact a) (eb : Exact b) (na : Normalised a) (nb : Normalised b)
    (za zb : ℂ) (ha : val a = some za) (hb : val b = some zb) (hb0 : b ≠ .int 0) :
    ∃ r, Num.div a b = .ok r ∧ Good r (za / zb) :=
  div_good ⟨ea, na, ha⟩ ⟨eb, nb, hb⟩ hb0

theorem div_zero (a : Num F) (ea : Exact a) (na : Normalised a) :
    Num.div a (.int 0) = .ok (if a.isZero then .nan else .infty 0) :=
  div_int_zero a ea na

/-- `a.pow(e)` for an exact `a` and an `Integer` exponent `e` of either sign
(`Integer::powint / pow_negint`, `Rational::powrat`, `Complex::powcomp`): the call succeeds, and returns
zoo for `0 ** negative`, otherwise the normalised number whose value is exactly `a ^ e`.
`|e| ≤ hugeExp = 100000` is the modelled range (beyond it the real computation does not finish). -/
theorem pow_int_correct (a : Num F) (ea : Exact a) (na : Normalised a) (za : ℂ) (ha : val a = some za)
    (e : Int) (hs : e.natAbs ≤ hugeExp) :
    ∃ r, Num.pow a (.int e) = .ok r ∧
      (if a.isZero = true ∧ e < 0 then r = .infty 0 else Good r (za ^ e)) :=
  pow_good ⟨ea, na, ha⟩ e hs

/-- the free function `pow(a, e)` (pow.cpp) on an exact base and an `Integer` exponent:
`0 ** negative = zoo`, otherwise exactly `a ^ e`, normalised. -/
theorem powTop_correct (a : Num F) (ea : Exact a) (na : Normalised a) (za : ℂ) (ha : val a = some za)
    (e : Int) (hs : e.natAbs ≤ hugeExp) :
    ∃ r, powTop a e = .ok r ∧
      (if a.isZero = true ∧ e < 0 then r = .infty 0 else Good r (za ^ e)) := by
  by_cases h0 : e = 0
  · subst h0
    refine ⟨.int 1, rfl, ?_⟩
    rw [if_neg (fun h => absurd h.2 (by decide)), zpow_zero]
    exact ⟨rfl, rfl, by rw [val_int, Int.cast_one]⟩
  by_cases h1 : e = 1
  · subst h1
    refine ⟨a, rfl, ?_⟩
    rw [if_neg (fun h => absurd h.2 (by decide)), zpow_one]
    exact ⟨ea, na, ha⟩
  have key := pow_int_correct a ea na za ha e hs
  unfold powTop
  rw [if_neg (not_beq_of_ne h0), if_neg (not_beq_of_ne h1)]
  -- the shortcuts `0 ** e`, `(-1) ** e` exist for an Integer base only; Rational and Complex fall through to `a.pow(e)`
  cases a with
  | int n =>
    rw [val_int] at ha
    simp only [Option.some.injEq] at ha; subst ha
    by_cases hn : n = 0
    · subst hn
      by_cases he : 0 < e
      · refine ⟨.int 0, by simp only [beq_self_eq_true, if_true, he], ?_⟩
        rw [if_neg (fun h => absurd h.2 (by omega))]
        exact ⟨rfl, rfl, by rw [val_int]; simp [zero_zpow e h0]⟩
      · have he' : e < 0 := by omega
        exact ⟨.infty 0, by simp only [beq_self_eq_true, if_true, he, if_false], by rw [if_pos ⟨rfl, he'⟩]⟩
    · have hz : ¬ ((Num.int n : Num F).isZero = true ∧ e < 0) := fun h => hn (beq_iff_eq.mp h.1)
      simp only [if_neg hz] at key ⊢
      simp only [if_neg (not_beq_of_ne hn)]
      by_cases hm : n = -1
      · subst hm
        by_cases hev : e % 2 = 0
        · refine ⟨.int 1, by simp only [beq_self_eq_true, if_true, hev], rfl, rfl, ?_⟩
          rw [val_int]; simp [Even.neg_one_zpow (Int.even_iff.mpr hev)]
        · refine ⟨.int (-1), by simp only [beq_self_eq_true, if_true, beq_iff_eq, hev, if_false],
            rfl, rfl, ?_⟩
          have hO : Odd e := Int.odd_iff.mpr (by omega)
          rw [val_int]; simp [Odd.neg_one_zpow hO]
      · simp only [if_neg (not_beq_of_ne hm)]
        exact key
  | rat q => exact key
  | cplx re im => exact key
  | _ => cases ea

/-- normal forms are unique: two exact normalised numbers with the same value are the same
object (so "exact tree dump equal" is the same as "value equal"). -/
theorem normal_form_unique (a b : Num F) (ea : Exact a) (eb : Exact b) (na : Normalised a)
    (nb : Normalised b) (h : val a = val b) : a = b :=
  val_injective ea eb na nb h

theorem good_unique {r s : Num F} {z w : ℂ} (hr : Good r z) (hs : Good s w) (h : z = w) : r = s :=
  normal_form_unique r s hr.exact hs.exact hr.normal hs.normal (by rw [hr.value, hs.value, h])

section
variable {op : Num F → Num F → Res F} {f : ℂ → ℂ → ℂ}
  (hop : ∀ {a b : Num F} {za zb : ℂ}, Good a za → Good b zb → ∃ r, op a b = .ok r ∧ Good r (f za zb))
  {a b c : Num F} {za zb zc : ℂ} (ha : Good a za) (hb : Good b zb) (hc : Good c zc)
include hop ha hb

theorem comm_exact (hf : ∀ z w, f z w = f w z) : ∃ r, op a b = .ok r ∧ op b a = .ok r := by
  obtain ⟨r, hr, gr⟩ := hop ha hb
  obtain ⟨s, hs, gs⟩ := hop hb ha
  exact ⟨r, hr, by rw [hs, good_unique gs gr (hf zb za)]⟩

include hc in
theorem assoc_exact (hf : ∀ x y z, f (f x y) z = f x (f y z)) :
    ∃ ab bc r, op a b = .ok ab ∧ op b c = .ok bc ∧ op ab c = .ok r ∧ op a bc = .ok r := by
  obtain ⟨ab, h1, g1⟩ := hop ha hb
  obtain ⟨bc, h2, g2⟩ := hop hb hc
  obtain ⟨r, h3, g3⟩ := hop g1 hc
  obtain ⟨s, h4, g4⟩ := hop ha g2
  exact ⟨ab, bc, r, h1, h2, h3, by rw [h4, good_unique g4 g3 (hf za zb zc).symm]⟩

end

/-- **object-level commutativity** of `+` on exact numbers: both orders succeed with the *same* object
(not just the same value) — the nine kind pairs and their mirror images dispatch to different C++ methods. -/
theorem add_comm_exact (a b : Num F) (ea : Exact a) (eb : Exact b) (na : Normalised a) (nb : Normalised b)
    (za zb : ℂ) (ha : val a = some za) (hb : val b = some zb) :
    ∃ r, Num.add a b = .ok r ∧ Num.add b a = .ok r :=
  comm_exact add_good ⟨ea, na, ha⟩ ⟨eb, nb, hb⟩ add_comm

theorem mul_comm_exact (a b : Num F) (ea : Exact a) (eb : Exact b) (na : Normalised a) (nb : Normalised b)
    (za zb : ℂ) (ha : val a = some za) (hb : val b = some zb) :
    ∃ r, Num.mul a b = .ok r ∧ Num.mul b a = .ok r :=
  comm_exact mul_good ⟨ea, na, ha⟩ ⟨eb, nb, hb⟩ mul_comm

/-- **object-level associativity** of `+`: `(a + b) + c` and `a + (b + c)` succeed with the same object -/
theorem add_assoc_exact (a b c : Num F) (ea : Exact a) (eb : Exact b) (ec : Exact c)
    (na : Normalised a) (nb : Normalised b) (nc : Normalised c)
    (za zb zc : ℂ) (ha : val a = some za) (hb : val b = some zb) (hc : val c = some zc) :
    ∃ ab bc r, Num.add a b = .ok ab ∧ Num.add b c = .ok bc ∧ Num.add ab c = .ok r ∧ Num.add a bc = .ok r :=
  assoc_exact add_good ⟨ea, na, ha⟩ ⟨eb, nb, hb⟩ ⟨ec, nc, hc⟩ add_assoc

theorem mul_assoc_exact (a b c : Num F) (ea : Exact a) (eb : Exact b) (ec : Exact c)
    (na : Normalised a) (nb : Normalised b) (nc : Normalised c)
    (za zb zc : ℂ) (ha : val a = some za) (hb : val b = some zb) (hc : val c = some zc) :
    ∃ ab bc r, Num.mul a b = .ok ab ∧ Num.mul b c = .ok bc ∧ Num.mul ab c = .ok r ∧ Num.mul a bc = .ok r :=
  assoc_exact mul_good ⟨ea, na, ha⟩ ⟨eb, nb, hb⟩ ⟨ec, nc, hc⟩ mul_assoc

/-- **distributivity** at object level: `a * (b + c)` and `a*b + a*c` are the same object -/
theorem mul_add_exact (a b c : Num F) (ea : Exact a) (eb : Exact b) (ec : Exact c)
    (na : Normalised a) (nb : Normalised b) (nc : Normalised c)
    (za zb zc : ℂ) (ha : val a = some za) (hb : val b = some zb) (hc : val c = some zc) :
    ∃ bc ab ac r, Num.add b c = .ok bc ∧ Num.mul a b = .ok ab ∧ Num.mul a c = .ok ac ∧
      Num.mul a bc = .ok r ∧ Num.add ab ac = .ok r := by
  have ga : Good a za := ⟨ea, na, ha⟩
  obtain ⟨bc, h1, g1⟩ := add_good ⟨eb, nb, hb⟩ ⟨ec, nc, hc⟩
  obtain ⟨ab, h2, g2⟩ := mul_good ga ⟨eb, nb, hb⟩
  obtain ⟨ac, h3, g3⟩ := mul_good ga ⟨ec, nc, hc⟩
  obtain ⟨r, h4, g4⟩ := mul_good ga g1
  obtain ⟨s, h5, g5⟩ := add_good g2 g3
  exact ⟨bc, ab, ac, r, h1, h2, h3, h4, by rw [h5, good_unique g5 g4 (mul_add za zb zc).symm]⟩

/-- `(a - b) + b = a` as objects (subtraction is the inverse of addition, no drift in the normal form) -/
theorem sub_add_cancel_exact (a b : Num F) (ea : Exact a) (eb : Exact b) (na : Normalised a) (nb : Normalised b)
    (za zb : ℂ) (ha : val a = some za) (hb : val b = some zb) :
    ∃ d, Num.sub a b = .ok d ∧ Num.add d b = .ok a := by
  have ga : Good a za := ⟨ea, na, ha⟩
  obtain ⟨d, h1, g1⟩ := sub_good ga ⟨eb, nb, hb⟩
  obtain ⟨s, h2, g2⟩ := add_good g1 ⟨eb, nb, hb⟩
  exact ⟨d, h1, by rw [h2, good_unique g2 ga (sub_add_cancel za zb)]⟩

/-- the defect D10 in the unpatched source: `Complex::rdiv` handles only `Integer`, so
`Rational / Complex` throws `NotImplementedError` -/
theorem D10_orig (q re im : Q) : divOrig (F := F) (.rat q) (.cplx re im) = .error .notImpl := by
  simp [divOrig, cplxRdivOrig]

theorem ex_norm_cplx : Normalised (F := F) (.cplx ⟨1, 2⟩ ⟨-3, 4⟩) :=
  normalised_cplx.mpr ⟨⟨by decide, by decide⟩, ⟨by decide, by decide⟩, by decide⟩
theorem ex_norm_rat : Normalised (F := F) (.rat ⟨-7, 3⟩) :=
  normalised_rat.mpr ⟨⟨by decide, by decide⟩, by decide⟩

example : ∃ r, Num.add (F := F) (.rat ⟨1, 2⟩) (.cplx ⟨1, 2⟩ ⟨-3, 4⟩) = .ok r ∧
    Good r (gv ⟨1, 2⟩ (.ofInt 0) + gv ⟨1, 2⟩ ⟨-3, 4⟩) :=
  add_correct (.rat ⟨1, 2⟩) (.cplx ⟨1, 2⟩ ⟨-3, 4⟩) rfl rfl rfl ex_norm_cplx _ _ rfl rfl
example : ∃ r, Num.mul (F := F) (.cplx ⟨0, 1⟩ ⟨1, 1⟩) (.cplx ⟨0, 1⟩ ⟨1, 1⟩) = .ok r ∧
    Good r (gv ⟨0, 1⟩ ⟨1, 1⟩ * gv ⟨0, 1⟩ ⟨1, 1⟩) :=
  mul_correct (.cplx ⟨0, 1⟩ ⟨1, 1⟩) (.cplx ⟨0, 1⟩ ⟨1, 1⟩) rfl rfl rfl rfl _ _ rfl rfl
example : ∃ r, Num.div (F := F) (.rat ⟨1, 2⟩) (.cplx ⟨1, 1⟩ ⟨1, 1⟩) = .ok r ∧
    Good r (gv ⟨1, 2⟩ (.ofInt 0) / gv ⟨1, 1⟩ ⟨1, 1⟩) :=
  div_correct (.rat ⟨1, 2⟩) (.cplx ⟨1, 1⟩ ⟨1, 1⟩) rfl rfl rfl rfl _ _ rfl rfl (by simp)
example : Num.div (F := F) (.rat ⟨1, 2⟩) (.cplx ⟨1, 1⟩ ⟨1, 1⟩) = .ok (.cplx ⟨1, 4⟩ ⟨-1, 4⟩) := rfl
example : Num.div (F := F) (.rat ⟨-7, 3⟩) (.int 0) = .ok (.infty 0) := by
  rw [div_zero (.rat ⟨-7, 3⟩) rfl ex_norm_rat]; rfl
example : ∃ r, Num.pow (F := F) (.cplx ⟨1, 2⟩ ⟨-3, 4⟩) (.int (-5)) = .ok r ∧ Good r (gv ⟨1, 2⟩ ⟨-3, 4⟩ ^ (-5 : ℤ)) := by
  obtain ⟨r, hr, g⟩ :=
    pow_int_correct (F := F) (.cplx ⟨1, 2⟩ ⟨-3, 4⟩) rfl ex_norm_cplx _ rfl (-5) (by decide)
  exact ⟨r, hr, by rwa [if_neg (fun h => Bool.false_ne_true h.1)] at g⟩
example : powTop (F := F) (.int 0) (-3) = .ok (.infty 0) := by
  obtain ⟨r, hr, h⟩ := powTop_correct (F := F) (.int 0) rfl rfl _ rfl (-3) (by decide)
  simp [Num.isZero] at h
  rw [hr, h]

end SymVerif.C05
