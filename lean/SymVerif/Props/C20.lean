/-
C20  Deserializing untrusted bytes is memory-safe.   (claimed level: PARTIAL)

Model: SymVerif/Model/Codec.lean, `decode : Nat → List UInt8 → Except Err Expr` = Basic::loads on arbitrary bytes
(total; performs the loader's checks and only those).

Proved: at parser level, on the model.
Refuted: `not_C20_full`: `decode bs = ok e → canonNec e` is FALSE: explicit byte strings decode to objects that
violate the canonical-form conditions checked by Add/Mul/Pow/Infty::is_canonical, and to And()/Max() without
arguments (which the printers / evaluators dereference: observed SIGSEGV).
Not covered by proof (runtime only, observed by the harness under ASan/UBSan): memory safety of cereal/libstdc++
on hostile lengths, recursion depth of the real loader, bool fields holding bytes other than 0/1.
-/
import SymVerif.Lemmas.C20Dec
import SymVerif.Lemmas.ExprEqb

namespace SymVerif.C20
open SymVerif SymVerif.Codec

/-- reads are length-checked: a failing read is `eof` exactly when too few bytes are left -/
theorem read_checked (swap : Bool) (w : Nat) (bs : Bytes) :
    (∀ e, rdNat swap w bs = .error e → e = .eof ∧ bs.length < w) ∧
    (∀ n rest, rdNat swap w bs = .ok (n, rest) → w ≤ bs.length ∧ rest = bs.drop w) :=
  ⟨fun _ h => rdNat_err h, fun _ _ h => (rdNat_ok h).symm⟩

/-- the decoder only consumes bytes that exist: every scalar read is length-checked (`read_checked`; strings:
    `rdStr_suffix`) and what `decT` leaves is a suffix of what it was given -/
theorem decode_no_oob (cfg : Cfg) (fuel : Nat) (c : Cls) (m : Map) (bs : Bytes) (t : T) (m' : Map) (rest : Bytes)
    (h : decT cfg fuel c m bs = .ok (t, m', rest)) : ∃ consumed, consumed ++ rest = bs :=
  (decT_safe cfg fuel c m bs).suffix h

/-- whatever a load site of static type `c` receives (freshly built or through a back-reference) is an object
    whose *dynamic* class derives from `c`: the `rcp_static_cast` is sound, also when Rational::from_two_ints /
    Complex::from_two_nums return an object of another class -/
theorem decode_typesafe (cfg : Cfg) (fuel : Nat) (c : Cls) (m : Map) (bs : Bytes) (t : T) (m' : Map) (rest : Bytes)
    (h : decT cfg fuel c m bs = .ok (t, m', rest)) :
    ∃ e, semT t = .ok e ∧ isA c (Expr.className e) = true :=
  (decT_safe cfg fuel c m bs).post h

theorem decHeader_ne_fuel (bs : Bytes) : decHeader bs ≠ .error .fuel := by
  unfold decHeader
  split
  · simp
  · simp only
    split
    · simp
    · split
      · simp
      · split <;> simp

theorem decodeT_ne_fuel (cap : Nat) (bs : Bytes) : decodeT cap bs ≠ .error .fuel := by
  unfold decodeT
  split
  next e h => exact error_ne_fuel (decHeader_ne_fuel bs) h
  · rename_i sw bs1 h
    split
    next e h2 =>
      exact error_ne_fuel ((decT_safe ⟨sw, cap⟩ (bs1.length + 1) .basic [] bs1).ne_fuel (Nat.lt_succ_self _)) h2
    · simp

/-- a successful parse always yields a constructed expression -/
theorem loaded_is_constructed (cap : Nat) (bs : Bytes) (t : T) (h : decodeT cap bs = .ok t) :
    ∃ e, decode cap bs = .ok e ∧ semT t = .ok e := by
  unfold decode
  rw [h]
  unfold decodeT at h
  split at h
  · simp at h
  · rename_i sw bs1 _
    split at h
    · simp at h
    · rename_i t' m' rest hd
      simp at h; subst h
      obtain ⟨e, he, _⟩ := (decT_safe ⟨sw, cap⟩ (bs1.length + 1) .basic [] bs1).post hd
      exact ⟨e, he, he⟩

/-- the nesting fuel (stream length + 1) suffices for EVERY byte string: the error `fuel` is unreachable, every
    outcome is an expression or one of the loader's exceptions -/
theorem decode_total (cap : Nat) (bs : Bytes) :
    (∃ r, decode cap bs = r) ∧ decode cap bs ≠ .error .fuel := by
  refine ⟨⟨_, rfl⟩, ?_⟩
  unfold decode
  split
  next e h => exact error_ne_fuel (decodeT_ne_fuel cap bs) h
  · rename_i t h
    obtain ⟨e, _, he⟩ := loaded_is_constructed cap bs t h
    rw [he]; simp

def isZero : Expr → Bool
  | .int 0 => true
  | _ => false

def isIntOrRat : Expr → Bool
  | .int _ => true
  | .rat _ _ => true
  | _ => false

def isInt : Expr → Bool
  | .int _ => true
  | _ => false

mutual
  /-- conjuncts of Add/Mul/Pow/Infty::is_canonical (necessary conditions of canonical form), and non-empty argument
      lists for the classes whose printers / evaluators read the first argument unconditionally -/
  def canonNec : Expr → Bool
    | .add c ts =>
      !ts.isEmpty && !(ts.length == 1 && isZero c) && canonNec c && canonAddTerms ts
    | .mul c ts =>
      !isZero c && !ts.isEmpty && canonNec c && canonMulTerms ts
    | .pow b e =>
      !(match b with | .int 1 => true | _ => false) && !isZero e && !(match e with | .int 1 => true | _ => false)
        && !(isIntOrRat b && isInt e) && canonNec b && canonNec e
    | .infty d => d == 1 || d == -1 || d == 0
    | .fsym _ args => canonList args
    | .app h args =>
      !(["And", "Or", "Xor", "Union", "Piecewise", "Max", "Min"].contains h && args.isEmpty) && canonList args
    | _ => true
  def canonAddTerms : List (Expr × Expr) → Bool
    | [] => true
    | (k, v) :: t => !k.isNum && !isZero v && canonNec k && canonNec v && canonAddTerms t
  def canonMulTerms : List (Expr × Expr) → Bool
    | [] => true
    | (k, v) :: t =>
      !(isIntOrRat k && isInt v) && !isZero v && canonNec k && canonNec v && canonMulTerms t
  def canonList : List Expr → Bool
    | [] => true
    | a :: t => canonNec a && canonList t
end

/-- the statement C20 needs for "anything it returns can be printed, hashed, compared and evaluated" -/
def C20_full : Prop := ∀ (cap : Nat) (bs : Bytes) (e : Expr), decode cap bs = .ok e → canonNec e = true

/-- the witness streams are decoded by the kernel and the result compared by `Expr.eqb` (`Expr` derives `BEq` only, so
    `decide` on the equation has no instance) -/
theorem decodes_of {x : Except Err Expr} {e : Expr}
    (h : (match x with | .ok e' => Expr.eqb e' e | .error _ => false) = true) : x = .ok e := by
  cases x with
  | error _ => cases h
  | ok e' => rw [Expr.eqb_eq e' e h]

theorem fails_of {x : Except Err Expr} {e : Err}
    (h : (match x with | .error e' => decide (e' = e) | .ok _ => false) = true) : x = .error e := by
  cases x with
  | ok _ => cases h
  | error e' => rw [of_decide_eq_true h]

/-! concrete streams (also replayed on the real loader by harness/c20.cpp, tags noncanon-*, empty-container); the cap
`2 ^ 26` below is that of the C19 examples and plays no part: no string is longer than 15 bytes, no resized vector non-empty
(the harness replays under `2 ^ 24`) -/
def wAddZero : Bytes := [1, 0, 0, 14, 0, 96, 16, 0, 0, 0, 0, 0, 0, 1, 16, 16, 16, 0, 0, 0, 0, 0, 0, 1, 0, 1, 0, 0, 0, 0, 0, 0, 0, 48, 2, 0, 0, 0, 0, 0, 0, 0, 32, 16, 0, 0, 0, 0, 0, 0, 1, 13, 1, 0, 0, 0, 0, 0, 0, 0, 120, 48, 16, 0, 0, 0, 0, 0, 0, 1, 0, 1, 0, 0, 0, 0, 0, 0, 0, 48, 64, 16, 0, 0, 0, 0, 0, 0, 1, 13, 1, 0, 0, 0, 0, 0, 0, 0, 121, 80, 16, 0, 0, 0, 0, 0, 0, 1, 0, 1, 0, 0, 0, 0, 0, 0, 0, 49]
def wPowOne : Bytes := [1, 0, 0, 14, 0, 144, 16, 0, 0, 0, 0, 0, 0, 1, 17, 112, 16, 0, 0, 0, 0, 0, 0, 1, 13, 1, 0, 0, 0, 0, 0, 0, 0, 120, 128, 16, 0, 0, 0, 0, 0, 0, 1, 0, 1, 0, 0, 0, 0, 0, 0, 0, 49]
def wMulNumKey : Bytes := [1, 0, 0, 14, 0, 240, 16, 0, 0, 0, 0, 0, 0, 1, 15, 160, 16, 0, 0, 0, 0, 0, 0, 1, 0, 1, 0, 0, 0, 0, 0, 0, 0, 49, 2, 0, 0, 0, 0, 0, 0, 0, 176, 16, 0, 0, 0, 0, 0, 0, 1, 0, 1, 0, 0, 0, 0, 0, 0, 0, 50, 192, 16, 0, 0, 0, 0, 0, 0, 1, 0, 1, 0, 0, 0, 0, 0, 0, 0, 51, 208, 16, 0, 0, 0, 0, 0, 0, 1, 13, 1, 0, 0, 0, 0, 0, 0, 0, 120, 224, 16, 0, 0, 0, 0, 0, 0, 1, 0, 1, 0, 0, 0, 0, 0, 0, 0, 49]
def wInftyFive : Bytes := [1, 0, 0, 14, 0, 16, 17, 0, 0, 0, 0, 0, 0, 1, 7, 0, 17, 0, 0, 0, 0, 0, 0, 1, 0, 1, 0, 0, 0, 0, 0, 0, 0, 53]
def wAndEmpty : Bytes := [1, 0, 0, 14, 0, 32, 17, 0, 0, 0, 0, 0, 0, 1, 99, 0, 0, 0, 0, 0, 0, 0, 0]
def wMaxEmpty : Bytes := [1, 0, 0, 14, 0, 48, 17, 0, 0, 0, 0, 0, 0, 1, 78, 0, 0, 0, 0, 0, 0, 0, 0]
def wRatTwoFour : Bytes := [1, 0, 0, 14, 0, 96, 17, 0, 0, 0, 0, 0, 0, 1, 1, 64, 17, 0, 0, 0, 0, 0, 0, 1, 0, 1, 0, 0, 0, 0, 0, 0, 0, 50, 80, 17, 0, 0, 0, 0, 0, 0, 1, 0, 1, 0, 0, 0, 0, 0, 0, 0, 52]

/-- 0*x + y : an Add with a zero coefficient (Add::is_canonical fails: assertion abort in assert builds) -/
theorem wAddZero_decodes :
    decode (2 ^ 26) wAddZero = .ok (.add (.int 0) [(.sym "x", .int 0), (.sym "y", .int 1)]) :=
  decodes_of (by decide +kernel)

theorem wPowOne_decodes : decode (2 ^ 26) wPowOne = .ok (.pow (.sym "x") (.int 1)) :=
  decodes_of (by decide +kernel)

theorem wMulNumKey_decodes :
    decode (2 ^ 26) wMulNumKey = .ok (.mul (.int 1) [(.int 2, .int 3), (.sym "x", .int 1)]) :=
  decodes_of (by decide +kernel)

theorem wInftyFive_decodes : decode (2 ^ 26) wInftyFive = .ok (.infty 5) :=
  decodes_of (by decide +kernel)

/-- 23 bytes that load as `And()`; printing it dereferences begin() of an empty set (SIGSEGV observed) -/
theorem wAndEmpty_decodes : decode (2 ^ 26) wAndEmpty = .ok (.app "And" []) :=
  decodes_of (by decide +kernel)

/-- 23 bytes that load as `Max()`; eval_double dereferences begin() of an empty vector (SIGSEGV observed) -/
theorem wMaxEmpty_decodes : decode (2 ^ 26) wMaxEmpty = .ok (.app "Max" []) :=
  decodes_of (by decide +kernel)

/-- Rational is NOT a counterexample: Rational::from_two_ints canonicalises 2/4 to 1/2 -/
theorem wRatTwoFour_decodes : decode (2 ^ 26) wRatTwoFour = .ok (.rat 1 2) :=
  decodes_of (by decide +kernel)

theorem not_C20_full : ¬ C20_full := by
  intro h
  have := h (2 ^ 26) wAddZero _ wAddZero_decodes
  exact absurd this (by decide)

/-- each witness violates a different class's conditions -/
theorem witnesses_noncanonical :
    canonNec (.add (.int 0) [(.sym "x", .int 0), (.sym "y", .int 1)]) = false ∧
    canonNec (.pow (.sym "x") (.int 1)) = false ∧
    canonNec (.mul (.int 1) [(.int 2, .int 3), (.sym "x", .int 1)]) = false ∧
    canonNec (.infty 5) = false ∧
    canonNec (.app "And" []) = false ∧
    canonNec (.app "Max" []) = false := by decide

-- non-vacuity of the safety theorems: a hostile stream (type code 200) and a truncated one

set_option maxRecDepth 100000 in
example : decode (2 ^ 26) [1, 0, 0, 14, 0, 16, 0, 0, 0, 0, 0, 0, 0, 1, 200] = .error .tcRange :=
  fails_of (by decide +kernel)
set_option maxRecDepth 100000 in
example : decode (2 ^ 26) (wPowOne.take 40) = .error .eof := fails_of (by decide +kernel)
set_option maxRecDepth 100000 in
example : ∃ t, decodeT (2 ^ 26) wPowOne = .ok t ∧ ∃ e, semT t = .ok e ∧ isA .basic (Expr.className e) = true := by
  have h := wPowOne_decodes
  unfold decode at h
  split at h
  · cases h
  · next t ht => exact ⟨t, ht, _, h, rfl⟩

end SymVerif.C20
