import SymVerif.Lemmas.C38Math
import SymVerif.Lemmas.C38Loop
/-!
C38 — finite-difference weights are exact: `fdiff_exact` and its corollaries, for the model of
`generate_fdiff_weights_vector` (Model/FiniteDiff.lean).
-/
namespace SymVerif.C38
open SymVerif.FiniteDiff Polynomial Finset

/-- the decidable precondition of the property: a non-empty grid of pairwise distinct points -/
def GoodGrid (grid : Array ℚ) : Prop := 0 < grid.size ∧ grid.toList.Nodup

instance (grid : Array ℚ) : Decidable (GoodGrid grid) := by unfold GoodGrid; infer_instance

theorem injOn_of_nodup (grid : Array ℚ) (hd : grid.toList.Nodup) :
    Set.InjOn (fun m => rd grid m) (Finset.range grid.size) := by
  intro a ha b hb hab
  simp only [coe_range, Set.mem_Iio] at ha hb
  simp only [rd, Array.getD, ha, hb, dif_pos] at hab
  have h1 : grid.toList[a]'(by simpa using ha) = grid.toList[b]'(by simpa using hb) := by
    simpa using hab
  exact (hd.getElem_inj_iff).mp h1

/-- what every run on a non-empty grid does: no index leaves the vectors; a division by zero needs a
repeated grid point; otherwise the result is the table of derivatives of the Lagrange basis -/
theorem weights_run (grid : Array ℚ) (M : ℕ) (z : ℚ) (hpos : 0 < grid.size) :
    Run (¬ grid.toList.Nodup) (fun w => Mat w grid.size M (S (rd grid) z (grid.size - 1)))
      (weights grid M z) := by
  have hD : ∀ a b, a < b → b < grid.size → rd grid b = rd grid a → ¬ grid.toList.Nodup :=
    fun a b hab hb he hd =>
      absurd (injOn_of_nodup grid hd (mem_coe.mpr (mem_range.mpr hb))
        (mem_coe.mpr (mem_range.mpr (hab.trans hb))) he) (Nat.ne_of_gt hab)
  have hmr : Mat (Array.replicate (grid.size * (M + 1)) (0 : ℚ)) grid.size M (fun _ _ => 0) := by
    refine ⟨by simp, ?_⟩
    intro j hj k hk
    have := cellIdx_lt hj hk
    simp [rd, Array.getD, this]
  obtain ⟨w0, hw0, hm0⟩ := hmr.set0 hpos 1
  have hm0' : Mat w0 grid.size M (S (rd grid) z 0) := by
    refine hm0.congr ?_
    intro j' _ k _
    unfold S
    by_cases hj : j' = 0
    · subst hj
      cases k with
      | zero => simp [dv_zero_zero]
      | succ k => simp [dv_eq_zero_of_lt (rd grid) z le_rfl (Nat.succ_pos k)]
    · have : ¬ (j' ≤ 0) := by omega
      simp [hj, this]
  rw [weights, getG_ok hpos, hw0]
  show Run _ _ (iLoop grid z grid.size M (grid.size - 1) 1 1 (rd grid 0 - z) w0)
  -- the initial `c1` is the only `1 : ℚ` of the goal
  rw [← cprod_zero (rd grid) 0]
  exact iLoop_spec hD grid rfl (fun _ => rfl) (grid.size - 1) 0 w0 (by omega) hm0'
    (by rw [cprod_zero]; exact one_ne_zero)

/-- **C38, full statement.**  For every non-empty grid of distinct rationals, every centre `z`, every
`M = max_deriv`: the model returns (no out-of-range index, no division by zero) a vector `w` of
`len*(M+1)` weights such that for every order `k ≤ M` and every polynomial `P` of degree `< len`,
the order-`k` weights applied to the values of `P` on the grid give exactly `P^(k)(z)`. -/
theorem fdiff_exact (grid : Array ℚ) (M : ℕ) (z : ℚ) (hg : GoodGrid grid) :
    ∃ w, weights grid M z = .ok w ∧ w.size = grid.size * (M + 1) ∧
      ∀ k ≤ M, ∀ P : ℚ[X], P.degree < grid.size →
        ∑ j ∈ range grid.size, w.getD (j + k * grid.size) 0 * P.eval (grid.getD j 0)
          = (derivative^[k] P).eval z := by
  obtain ⟨hpos, hd⟩ := hg
  obtain ⟨w, hw, hm⟩ := (weights_run grid M z hpos).ok (not_not.mpr hd)
  refine ⟨w, hw, hm.1, ?_⟩
  intro k hk P hP
  rw [← sum_dv_eq (rd grid) z hpos (injOn_of_nodup grid hd) k P hP]
  refine sum_congr rfl fun j hj => ?_
  have hj' : j < grid.size := mem_range.mp hj
  have hcell : w.getD (j + k * grid.size) 0 = dv (rd grid) z (grid.size - 1) j k := by
    rw [← rd, hm.2 j hj' k hk, S, if_pos (by omega)]
  rw [hcell]
  rfl

/-- **bounds, unconditional**: for every non-empty grid — repeated points included, where the run
ends in `Err.divzero` — no index leaves `grid` / `weights` -/
theorem fdiff_inbounds_all (grid : Array ℚ) (M : ℕ) (z : ℚ) (hne : 0 < grid.size) :
    weights grid M z ≠ .error .oob :=
  (weights_run grid M z hne).ne_oob

theorem fdiff_inbounds (grid : Array ℚ) (M : ℕ) (z : ℚ) (hg : GoodGrid grid) :
    weights grid M z ≠ .error .oob :=
  fdiff_inbounds_all grid M z hg.1

/-- the order-0 row is the Lagrange interpolation weights: they sum to one -/
theorem fdiff_row0_sum_one (grid : Array ℚ) (M : ℕ) (z : ℚ) (hg : GoodGrid grid) :
    ∃ w, weights grid M z = .ok w ∧ ∑ j ∈ range grid.size, w.getD j 0 = 1 := by
  obtain ⟨w, hw, _, h⟩ := fdiff_exact grid M z hg
  refine ⟨w, hw, ?_⟩
  have := h 0 (Nat.zero_le _) 1 (by rw [degree_one]; exact_mod_cast hg.1)
  simpa only [Nat.zero_mul, Nat.add_zero, eval_one, mul_one, Function.iterate_zero, id_eq] using this

/-- every derivative row annihilates constants -/
theorem fdiff_rowk_sum_zero (grid : Array ℚ) (M : ℕ) (z : ℚ) (hg : GoodGrid grid) :
    ∃ w, weights grid M z = .ok w ∧
      ∀ k, 1 ≤ k → k ≤ M → ∑ j ∈ range grid.size, w.getD (j + k * grid.size) 0 = 0 := by
  obtain ⟨w, hw, _, h⟩ := fdiff_exact grid M z hg
  refine ⟨w, hw, ?_⟩
  intro k hk1 hkM
  have := h k hkM 1 (by rw [degree_one]; exact_mod_cast hg.1)
  rw [iterate_derivative_one (by omega)] at this
  simpa only [eval_one, mul_one, eval_zero] using this

/-- **uniqueness**: the returned order-`k` row is the *only* weight vector on the grid that is exact on all
polynomials of degree `< len` — any other exact rule `v` coincides with it entry by entry.  (So a change to
the recurrences that still returned *some* consistent-looking numbers cannot satisfy `fdiff_exact`.) -/
theorem fdiff_unique (grid : Array ℚ) (M : ℕ) (z : ℚ) (hg : GoodGrid grid) :
    ∃ w, weights grid M z = .ok w ∧
      ∀ k ≤ M, ∀ v : ℕ → ℚ,
        (∀ P : ℚ[X], P.degree < grid.size →
          ∑ j ∈ range grid.size, v j * P.eval (grid.getD j 0) = (derivative^[k] P).eval z) →
        ∀ i < grid.size, v i = w.getD (i + k * grid.size) 0 := by
  obtain ⟨w, hw, _, h⟩ := fdiff_exact grid M z hg
  refine ⟨w, hw, ?_⟩
  intro k hk v hv i hi
  have hinj : Set.InjOn (fun j => grid.getD j 0) (range grid.size) := injOn_of_nodup grid hg.2
  have him : i ∈ range grid.size := mem_range.mpr hi
  set B : ℚ[X] := Lagrange.basis (range grid.size) (fun j => grid.getD j 0) i with hB
  have hdeg : B.degree < grid.size := by
    rw [hB, Lagrange.degree_basis hinj him, card_range]
    have : 0 < grid.size := hg.1
    exact_mod_cast Nat.sub_lt this Nat.one_pos
  have hev : ∀ j ∈ range grid.size, B.eval (grid.getD j 0) = if j = i then 1 else 0 := by
    intro j hj
    by_cases hji : j = i
    · subst hji
      rw [if_pos rfl, hB]
      exact Lagrange.eval_basis_self (v := fun j => grid.getD j 0) hinj him
    · rw [if_neg hji, hB]
      exact Lagrange.eval_basis_of_ne (v := fun j => grid.getD j 0) (Ne.symm hji) hj
  have pick : ∀ u : ℕ → ℚ, ∑ j ∈ range grid.size, u j * B.eval (grid.getD j 0) = u i := by
    intro u
    rw [sum_congr rfl (fun j hj => by rw [hev j hj])]
    simp [him]
  rw [← pick v, hv B hdeg, ← h k hk B hdeg, pick fun j => w.getD (j + k * grid.size) 0]

/-- the empty grid is outside the function's domain: the C++ reads `grid[0]` -/
theorem fdiff_empty (M : ℕ) (z : ℚ) : weights #[] M z = .error .oob := rfl

/-- non-vacuity: the classical 3-point central stencil `-1, 0, 1` around `0` with two derivatives -/
example : GoodGrid #[-1, 0, 1] := by decide +kernel
example : weights #[-1, 0, 1] 2 0 = .ok #[0, 1, 0, -1/2, 0, 1/2, 1, -2, 1] := by decide +kernel
/-- a repeated point is a division by zero -/
example : weights #[1, 1] 1 0 = .error .divzero := by decide +kernel

end SymVerif.C38
