import SymVerif.Lemmas.C40Step
import SymVerif.Gen.RcShape
/-!
C40 (partial): the reference-count protocol of `symengine_rcp.h` is memory-safe and leak-free.

All theorems quantify over **every** program `ops : List Op` run from the empty heap by `RC.run`,
i.e. by the `RC.step` the driver `drv_c40` folds over its input.  What they do *not* cover: index
arithmetic, casts and uninitialised reads in the rest of the library (those are only explored by
the sanitizer configurations of the harness — exploration, not proof).
-/
namespace SymVerif.C40
open SymVerif.RC

theorem reach_inv {ops : List Op} {s : State} (h : run init ops = .ok s) : Inv s :=
  ((run_good ops init inv_init).of_ok h).1

/-- **No op touches a freed object**: whatever the program, the only possible failure is an
    ill-formed program (`badOp`: unknown handle, null dereference, member index out of range);
    `useAfterFree`, `doubleFree`, `negativeCount` and `fuel` are unreachable. -/
theorem no_memory_error (ops : List Op) (e : Err) (h : run init ops = .error e) : e = .badOp := by
  exact (run_good ops init inv_init).of_error h

/-- **rc_inv**: after every program, for every object id `o`
    * `use_count()` equals the number of references to it (program handles + members of live objects),
    * it is live exactly when that number is positive (freed exactly when the count reaches 0),
    * members of live objects were constructed earlier (no cycles). -/
theorem rc_inv (ops : List Op) (s : State) (h : run init ops = .ok s) :
    (∀ o, cnt s o = refs s o) ∧ (∀ o, isLive s o = true ↔ 0 < refs s o) ∧
    (∀ p, isLive s p = true → ∀ c ∈ childrenOf s p, c < p ∧ isLive s c = true) := by
  have i := reach_inv h
  refine ⟨fun o => by have := i.counts o; simp at this; omega, fun o => i.live_iff, ?_⟩
  · intro p hl c hc
    obtain ⟨pb, h1, h2⟩ := isLive_iff.mp hl
    rw [childrenOf_of_get h1] at hc
    exact ⟨i.acyc p pb h1 h2 c hc, i.child_live h1 h2 hc⟩

/-- **Immutability while referenced**: an object that is still live after any further program has
    been live all the time and has exactly the members it had before. -/
theorem immutable (ops1 ops2 : List Op) (s1 s2 : State) (h1 : run init ops1 = .ok s1)
    (h2 : run s1 ops2 = .ok s2) (o : Nat) (ho : o < s1.objs.length) (hl : isLive s2 o = true) :
    isLive s1 o = true ∧ childrenOf s2 o = childrenOf s1 o := by
  have g := (run_good ops2 s1 (reach_inv h1)).of_ok h2
  exact ⟨g.2.live o ho hl, g.2.kids o ho hl⟩

/-- **steal_safe**: when `Add::from_dict` takes the steal branch (`use_count() == 1`) for the object
    `o` held in slot `h`, then (1) no other reference to `o` exists, (2) the new object owns exactly
    the members `o` had, (3) `o` is deleted by the end of the operation and (4) no later program can
    observe it: it stays dead and unreferenced for ever. -/
theorem steal_safe (ops : List Op) (s s' : State) (h o : Nat) (hr : run init ops = .ok s)
    (hd : deref s h = .ok o) (hc : cnt s o = 1) (hs : step s (.steal h) = .ok s') :
    (s.handles.count (some o) = 1 ∧ parentRefs s o = 0) ∧
    childrenOf s' s.objs.length = childrenOf s o ∧
    isLive s' o = false ∧
    ∀ (ops2 : List Op) (s2 : State), run s' ops2 = .ok s2 → isLive s2 o = false ∧ refs s2 o = 0 := by
  have i := reach_inv hr
  obtain ⟨ob, h1, h2⟩ := isLive_iff.mp (i.live_of_handle (deref_ok hd))
  have hcnt := cnt_of_live h1 h2
  obtain ⟨s'', e, i', x, hdead, hnew⟩ := step_steal i hd h1 h2
  rw [hs] at e; cases e
  have hdead' := hdead (by omega)
  refine ⟨?_, ?_, hdead', ?_⟩
  · have hm : some o ∈ s.handles := List.mem_of_getElem? (deref_ok hd)
    have : 0 < s.handles.count (some o) := List.count_pos_iff.mpr hm
    have hco := i.counts o
    unfold refs at hco; simp at hco; omega
  · rw [hnew, childrenOf_of_get h1]
  · intro ops2 s2 h2'
    have g := (run_good ops2 s' i').of_ok h2'
    have hlt : o < s'.objs.length := Nat.lt_of_lt_of_le (lt_of_getElem? h1) x.len
    have hd2 : isLive s2 o = false := Bool.eq_false_iff.mpr fun hq =>
      Bool.false_ne_true (hdead'.symm.trans (g.2.live o hlt hq))
    exact ⟨hd2, Nat.eq_zero_of_not_pos fun hp => Bool.false_ne_true (hd2.symm.trans (g.1.live_iff.mpr hp))⟩

/-- **no_leak**: once every program handle is null/destroyed, no object is live. -/
theorem no_leak (ops : List Op) (s : State) (h : run init ops = .ok s)
    (hh : ∀ x ∈ s.handles, x = none) : ∀ o, isLive s o = false := by
  have i := reach_inv h
  have hcount : ∀ o, s.handles.count (some o) = 0 := fun o =>
    List.count_eq_zero.mpr fun hm => nomatch hh _ hm
  -- a live object needs a live parent with a larger id: impossible at the top
  have key : ∀ n o, s.objs.length ≤ o + n → isLive s o = false := by
    intro n
    induction n with
    | zero =>
      intro o ho
      unfold isLive
      have : s.objs[o]? = none := List.getElem?_eq_none (by omega)
      simp [this]
    | succ n ih =>
      intro o ho
      refine Bool.eq_false_iff.mpr fun hl => ?_
      -- some live parent stores `o`
      have hpr : 0 < parentRefs s o := by
        have := i.live_iff.mp hl
        unfold refs at this
        rw [hcount o] at this
        simpa using this
      obtain ⟨k, p, hk', hpl, hpp⟩ := exists_parent hpr
      have hlt := i.acyc k p hk' hpl o hpp
      exact Bool.false_ne_true ((ih k (by omega)).symm.trans (isLive_iff.mpr ⟨p, hk', hpl⟩))
  intro o
  exact key s.objs.length o (by omega)

/-- `no_leak` as the property text has it -/
theorem no_leak_count (ops : List Op) (s : State) (h : run init ops = .ok s)
    (hh : ∀ x ∈ s.handles, x = none) : liveCount s = 0 := by
  have hl := no_leak ops s h hh
  unfold liveCount
  apply List.countP_eq_zero.mpr
  intro ob hm hq
  obtain ⟨k, hk, hkp⟩ := List.getElem_of_mem hm
  have := hl k
  unfold isLive at this
  simp [List.getElem?_eq_getElem hk, hkp] at this
  simp [this] at hq

/-- **Source tie** (re-checked against the regenerated table on every run): every place in the
    library that casts away the constness of a dictionary to move out of it sits inside an
    `if (… use_count() == 1)` block, i.e. is an instance of the guarded `steal` of the model, and is
    compiled only in non-thread-safe builds.  (An entry of `Gen/RcShape.lean` is `(file, line, guarded,
    compiled only without thread safety)`: `s.2.2.1`, `s.2.2.2` are the last two.) -/
theorem steal_sites_guarded :
    ∀ s ∈ SymVerif.Gen.RcShape.stealSites, s.2.2.1 = true ∧ s.2.2.2 = true := by decide

example : SymVerif.Gen.RcShape.stealSites.length ≥ 1 := by decide

/-- x, y symbols; a = Add(x,y); b = copy a; c = Mul(a, x); drop a, x, y; the program is legal,
    ends with the counts (x:2, y:1, a:2, c:1) and all four objects live. -/
def demo : List Op :=
  [.construct [], .construct [], .construct [0, 1], .copy 2, .construct [2, 0],
   .destroy 2, .destroy 0, .destroy 1]

example : (run init demo).toOption.map (fun s => (List.range 4).map (cnt s)) = some [2, 1, 2, 1] := by decide
example : (run init demo).toOption.map liveCount = some 4 := by decide

/-- dropping the remaining two handles (`b`, `c`) frees everything (cascade through `c → a → x,y`) -/
example : (run init (demo ++ [.destroy 3, .destroy 4])).toOption.map liveCount = some 0 := by decide

/-- a steal that really takes the steal branch: m = Mul(x,y) held only by slot 2 -/
def demoSteal : List Op := [.construct [], .construct [], .construct [0, 1], .steal 2]
example : (run init demoSteal).toOption.map (fun s => (isLive s 2, childrenOf s 3, cnt s 0)) =
    some (false, [0, 1], 2) := by decide

/-- `badOp` is reachable, e.g. by the use of a destroyed handle (a null dereference) -/
example : (match run init [.construct [], .destroy 0, .rcpFromThis 0] with
    | .error e => e == .badOp | .ok _ => false) = true := by decide

/-- **The guard matters**: stealing from a *shared* object (`use_count() == 2`) without the
    `use_count() == 1` test leaves the other handle (slot 3) pointing to a live object whose members
    have silently changed from `[0, 1]` to `[]` — exactly what `immutable` excludes for the real `step`. -/
theorem steal_unguarded_unsafe :
    ∃ s s', run init [.construct [], .construct [], .construct [0, 1], .copy 2] = .ok s ∧
      stealUnguarded s 2 = .ok s' ∧ s'.handles[3]? = some (some 2) ∧ isLive s' 2 = true ∧
      childrenOf s 2 = [0, 1] ∧ childrenOf s' 2 = [] := by
  refine ⟨_, _, rfl, rfl, ?_⟩
  decide

end SymVerif.C40
