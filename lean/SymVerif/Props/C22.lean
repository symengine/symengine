import SymVerif.Lemmas.C22Arith
import SymVerif.Lemmas.C22Poly
/-!
# C22 — multivariate polynomial arithmetic is correct

The model (`SymVerif/Model/MPoly.lean`, the code the driver `drv_c22` runs) is related to
Mathlib's `MvPolynomial ℕ R`: the variable `k` of the model is the indeterminate `X k`,
`sem p` is the polynomial denoted by the monomial dictionary of `p` read over `p.vars`.

All theorems are stated for an arbitrary commutative ring of coefficients `R` with decidable
equality (plus "no zero divisors" for `mul`, "nontrivial" for `pow`); `R = ℤ` is `MIntPoly`,
`R = ℚ` is `MExprPoly` restricted to rational coefficients.  The `mint_*` corollaries restate
the headline results at `Int`; the driver's `Rat` runs are the same instantiation.
-/

open SymVerif.MPoly MvPolynomial

namespace SymVerif.C22
-- `wf_iff` and `eq_const_any_vars` inherit an instance of the section unused
set_option linter.unusedSectionVars false

variable {R : Type} [CommRing R] [DecidableEq R]

/-- the polynomial denoted by a model polynomial -/
noncomputable def sem (p : Poly R) : MvPolynomial ℕ R := dictMv p.vars p.dict

/-- well-formed object: the variable set is strictly increasing (a `std::set`) and the dictionary
    satisfies the container invariant (vectors of length `vars.size()`, distinct keys, no zero) -/
structure WF (p : Poly R) : Prop where
  sorted : p.vars.Pairwise (· < ·)
  canon : Canon p.vars.length p.dict

theorem wf_iff (p : Poly R) : WF p ↔
    p.vars.Pairwise (· < ·) ∧ LenOk p.vars.length p.dict ∧ NoZero p.dict ∧ (keys p.dict).Nodup :=
  ⟨fun h => ⟨h.sorted, h.canon.len, h.canon.nz, h.canon.nodup⟩, fun h => ⟨h.1, ⟨h.2.1, h.2.2.1, h.2.2.2⟩⟩⟩

instance (p : Poly R) : Decidable (WF p) := decidable_of_iff _ (wf_iff p).symm

/-- `reconcile` on two sorted variable sets: the sorted union `s` and, for each input set, the vector of positions
of its variables inside `s` -/
theorem reconcile_spec (s1 s2 : List Var) (h1 : s1.Pairwise (· < ·)) (h2 : s2.Pairwise (· < ·)) :
    ∃ v1 v2 s, reconcile s1 s2 = (v1, v2, s) ∧
      s.Pairwise (· < ·) ∧ (∀ x, x ∈ s ↔ x ∈ s1 ∨ x ∈ s2) ∧
      v1 = s1.map (fun x => s.idxOf x) ∧ v2 = s2.map (fun x => s.idxOf x) ∧
      (∀ k (hk : k < s1.length), ∃ h : v1.getD k 0 < s.length, s[v1.getD k 0] = s1[k]) ∧
      (∀ k (hk : k < s2.length), ∃ h : v2.getD k 0 < s.length, s[v2.getD k 0] = s2[k]) ∧
      v1.Pairwise (· < ·) ∧ v2.Pairwise (· < ·) := by
  have hs := sorted_merge s1 s2 h1
  exact ⟨_, _, _, reconcile_eq s1 s2 h1 h2, hs, mem_union_vars s1 s2, rfl, rfl,
    getD_map_idxOf (subset_merge_left s1 s2), getD_map_idxOf (subset_merge_right s1 s2),
    pairwise_map_idxOf hs h1 (subset_merge_left s1 s2), pairwise_map_idxOf hs h2 (subset_merge_right s1 s2)⟩

example : reconcile [0, 2, 5] [1, 2, 7] = ([0, 2, 3], [1, 2, 4], [0, 1, 2, 5, 7]) := by decide

/-- `translate` along the position vector produced by `reconcile` re-expresses the dictionary
    over the union without changing the polynomial, and keeps the container invariant. -/
theorem translate_sem (s1 s2 : List Var) (d : Dict R) (h1 : s1.Pairwise (· < ·))
    (h2 : s2.Pairwise (· < ·)) (hd : Canon s1.length d) :
    ∃ d', translate (reconcile s1 s2).1 (reconcile s1 s2).2.2.length d = .ok d' ∧
      Canon (reconcile s1 s2).2.2.length d' ∧ dictMv (reconcile s1 s2).2.2 d' = dictMv s1 d := by
  rw [reconcile_eq s1 s2 h1 h2]
  exact translate_spec (merge s1 s2) s1 d h1.nodup (subset_merge_left s1 s2) hd.keysOk

/-- `get_translated_container` -/
theorem translated_spec (a b : Poly R) (ha : WF a) (hb : WF b) :
    ∃ x y, translated a b = .ok (merge a.vars b.vars, x, y) ∧
      Canon (merge a.vars b.vars).length x ∧ Canon (merge a.vars b.vars).length y ∧
      dictMv (merge a.vars b.vars) x = sem a ∧ dictMv (merge a.vars b.vars) y = sem b := by
  obtain ⟨x, hx, hcx, hsx⟩ := translate_spec (merge a.vars b.vars) a.vars a.dict ha.sorted.nodup
    (subset_merge_left _ _) ha.canon.keysOk
  obtain ⟨y, hy, hcy, hsy⟩ := translate_spec (merge a.vars b.vars) b.vars b.dict hb.sorted.nodup
    (subset_merge_right _ _) hb.canon.keysOk
  refine ⟨x, y, ?_, hcx, hcy, hsx, hsy⟩
  simp only [translated, reconcile_eq a.vars b.vars ha.sorted hb.sorted, hx, hy]

/-- `add_mpoly` -/
theorem add_sem (a b : Poly R) (ha : WF a) (hb : WF b) :
    ∃ r, addPoly a b = .ok r ∧ WF r ∧ r.vars = merge a.vars b.vars ∧ sem r = sem a + sem b := by
  obtain ⟨x, y, ht, hcx, hcy, hsx, hsy⟩ := translated_spec a b ha hb
  obtain ⟨hc, hs⟩ := addDict_spec (merge a.vars b.vars) x y hcx hcy
  exact ⟨⟨merge a.vars b.vars, addDict x y⟩, by simp only [addPoly, ht], ⟨sorted_merge _ _ ha.sorted, hc⟩, rfl, hsx ▸ hsy ▸ hs⟩

/-- `sub_mpoly` -/
theorem sub_sem (a b : Poly R) (ha : WF a) (hb : WF b) :
    ∃ r, subPoly a b = .ok r ∧ WF r ∧ r.vars = merge a.vars b.vars ∧ sem r = sem a - sem b := by
  obtain ⟨x, y, ht, hcx, hcy, hsx, hsy⟩ := translated_spec a b ha hb
  obtain ⟨hc, hs⟩ := subDict_spec (merge a.vars b.vars) x y hcx hcy
  exact ⟨⟨merge a.vars b.vars, subDict x y⟩, by simp only [subPoly, ht], ⟨sorted_merge _ _ ha.sorted, hc⟩, rfl, hsx ▸ hsy ▸ hs⟩

/-- `mul_mpoly` (coefficients without zero divisors: the constant shortcut of `*=` does not
    re-check for zero products) -/
theorem mul_sem [NoZeroDivisors R] (a b : Poly R) (ha : WF a) (hb : WF b) :
    ∃ r, mulPoly a b = .ok r ∧ WF r ∧ r.vars = merge a.vars b.vars ∧ sem r = sem a * sem b := by
  obtain ⟨x, y, ht, hcx, hcy, hsx, hsy⟩ := translated_spec a b ha hb
  obtain ⟨z, hz, hc, hs⟩ := mulDict_spec (merge a.vars b.vars) x y hcx hcy
  exact ⟨⟨merge a.vars b.vars, z⟩, by simp only [mulPoly, ht, hz], ⟨sorted_merge _ _ ha.sorted, hc⟩, rfl, hsx ▸ hsy ▸ hs⟩

/-- `neg_mpoly` -/
theorem neg_sem (a : Poly R) (ha : WF a) :
    WF (negPoly a) ∧ (negPoly a).vars = a.vars ∧ sem (negPoly a) = - sem a := by
  obtain ⟨hc, hs⟩ := negDict_spec a.vars a.dict ha.canon
  exact ⟨⟨ha.sorted, hc⟩, rfl, hs⟩

/-- `pow_mpoly` (with the repair for exponent 0): `p ^ n` for every `n`, in particular `p ^ 0 = 1`
    (`Nontrivial`: the repaired start value `{0…0 ↦ 1}` must not be a stored zero) -/
theorem pow_sem [Nontrivial R] (a : Poly R) (n : Nat) (ha : WF a) :
    ∃ r, powPoly a n = .ok r ∧ WF r ∧ r.vars = a.vars ∧ sem r = sem a ^ n := by
  obtain ⟨d, hd, hc, hs⟩ := powDict_spec a.vars a.dict n ha.canon.len
  exact ⟨⟨a.vars, d⟩, by simp only [powPoly, hd], ⟨ha.sorted, hc⟩, rfl, hs⟩

/-- `from_dict(v, d)` for a vector `v` of distinct variables in any order and a dictionary with
    vectors of length `v.size()`: the variables get sorted, the exponents permuted accordingly,
    explicit zeros dropped; the polynomial is the one `d` denotes when read over `v`. -/
theorem fromDict_sem (v : List Var) (d : Dict R) (hv : v.Nodup) (hd : KeysOk v.length d) :
    ∃ p, fromDict v d = .ok p ∧ WF p ∧ p.vars = sortVars v ∧ (∀ x, x ∈ p.vars ↔ x ∈ v) ∧
      sem p = dictMv v d := by
  have hc := canon_stripZeros hd
  obtain ⟨d', h, hcan, hsem⟩ := translate_spec (sortVars v) v (stripZeros d) hv
    (fun x hx => (mem_sortVars v x).mpr hx) hc.keysOk
  refine ⟨⟨sortVars v, d'⟩, ?_, ⟨sorted_sortVars v, hcan⟩, rfl, mem_sortVars v, ?_⟩
  · -- `translate`'s size assertion: sorting distinct variables keeps their number
    have hsz : (v.map fun x => (sortVars v).idxOf x).length = (sortVars v).length := by
      rw [List.length_map, length_sortVars v hv]
    simp only [fromDict, ne_eq, hsz, not_true_eq_false, if_false, h]
  · simp only [sem, hsem, dictMv_stripZeros]

/-- `eval(vals)` when every variable of the polynomial is bound: the value of the polynomial at
    the assignment. -/
theorem eval_sem (p : Poly R) (vals : List (Var × R)) (hp : WF p)
    (hv : ∀ v ∈ p.vars, (lookupVal vals v).isSome) :
    evalPoly p vals = .ok (eval (valFn vals) (sem p)) := by
  simp only [evalPoly, evalDict_spec vals p.vars p.dict 0 hv hp.canon.len, zero_add, sem]

/-- `sem` is faithful: the stored terms are the coefficients of `sem p` -/
theorem coeff_sem (p : Poly R) (k : Mono) (hp : WF p) (hk : k.length = p.vars.length) :
    coeff (monoOf p.vars k) (sem p) = (find? p.dict k).getD 0 :=
  coeff_dictMv p.vars p.dict k hp.sorted.nodup hp.canon.keysOk hk

/-- With the repair (`&&`), `__eq__` is sound: equal objects denote the same polynomial. -/
theorem eq_sound (p q : Poly R) (hp : WF p) (hq : WF q) (h : polyEq p q = true) : sem p = sem q := by
  obtain ⟨pv, pd⟩ := p
  obtain ⟨qv, qd⟩ := q
  by_cases hv : pv = qv
  · subst hv
    exact dictEq_sound pv pd qd hp.canon.nodup hq.canon.nodup (polyEq_same_vars pv pd qd ▸ h)
  · -- different variable sets: only two equal constants compare equal
    simp only [polyEq, polyEqWith] at h
    split at h
    · rename_i k1 c1 k2 c2
      by_cases hc : c1 = c2
      · -- the two guards are false
        have hz : k1 = List.replicate pv.length 0 ∧ k2 = List.replicate qv.length 0 := by
          simpa only [hc, ne_eq, not_true_eq_false, if_false, hv, and_false, Bool.and_eq_true, isZeroVec,
            beq_iff_eq] using h
        obtain ⟨rfl, rfl⟩ := hz
        simp only [sem, dictMv_cons, monoOf_replicate_zero, hc]
        rfl
      · rw [if_pos hc] at h
        exact absurd h Bool.false_ne_true
    · rfl
    · -- the general arm compares the variable sets first
      simp only [Bool.and_eq_true, beq_iff_eq] at h
      exact absurd h.1 hv

/-- Over the same variable set `__eq__` is also complete: it decides equality of polynomials. -/
theorem eq_complete_same_vars (p q : Poly R) (hp : WF p) (hq : WF q) (hv : p.vars = q.vars)
    (h : sem p = sem q) : polyEq p q = true := by
  obtain ⟨pv, pd⟩ := p
  obtain ⟨qv, qd⟩ := q
  obtain rfl : pv = qv := hv
  rw [polyEq_same_vars]
  exact dictEq_complete pv pd qd hp.sorted.nodup hp.canon hq.canon h

theorem eq_iff_sem_same_vars (p q : Poly R) (hp : WF p) (hq : WF q) (hv : p.vars = q.vars) :
    polyEq p q = true ↔ sem p = sem q :=
  ⟨eq_sound p q hp hq, eq_complete_same_vars p q hp hq hv⟩

/-- a strictly increasing list is determined by its members -/
theorem sorted_ext {s t : List Var} (hs : s.Pairwise (· < ·)) (ht : t.Pairwise (· < ·))
    (h : ∀ x, x ∈ s ↔ x ∈ t) : s = t :=
  hs.eq_of_mem_iff ht h

/-- the union of the variable sets does not depend on the operand order -/
theorem merge_comm (s1 s2 : List Var) (h1 : s1.Pairwise (· < ·)) (h2 : s2.Pairwise (· < ·)) :
    merge s1 s2 = merge s2 s1 :=
  sorted_ext (sorted_merge s1 s2 h1) (sorted_merge s2 s1 h2)
    (fun x => by rw [mem_union_vars, mem_union_vars, or_comm])

/-- not `sem r = sem s`: `__eq__` is incomplete across variable sets (`eq_full_fails`), so that the sets agree is the content -/
theorem comm_eq_of_sem {a b r s : Poly R} (ha : WF a) (hb : WF b) (wr : WF r) (ws : WF s)
    (vr : r.vars = merge a.vars b.vars) (vs : s.vars = merge b.vars a.vars) (h : sem r = sem s) :
    r.vars = s.vars ∧ polyEq r s = true :=
  have hv : r.vars = s.vars := by rw [vr, vs, merge_comm _ _ ha.sorted hb.sorted]
  ⟨hv, eq_complete_same_vars r s wr ws hv h⟩

theorem add_comm_eq (a b : Poly R) (ha : WF a) (hb : WF b) :
    ∃ r s, addPoly a b = .ok r ∧ addPoly b a = .ok s ∧ r.vars = s.vars ∧ polyEq r s = true := by
  obtain ⟨r, hr, wr, vr, sr⟩ := add_sem a b ha hb
  obtain ⟨s, hs, ws, vs, ss⟩ := add_sem b a hb ha
  exact ⟨r, s, hr, hs, comm_eq_of_sem ha hb wr ws vr vs (by rw [sr, ss, add_comm])⟩

theorem mul_comm_eq [NoZeroDivisors R] (a b : Poly R) (ha : WF a) (hb : WF b) :
    ∃ r s, mulPoly a b = .ok r ∧ mulPoly b a = .ok s ∧ r.vars = s.vars ∧ polyEq r s = true := by
  obtain ⟨r, hr, wr, vr, sr⟩ := mul_sem a b ha hb
  obtain ⟨s, hs, ws, vs, ss⟩ := mul_sem b a hb ha
  exact ⟨r, s, hr, hs, comm_eq_of_sem ha hb wr ws vr vs (by rw [sr, ss, mul_comm])⟩

/-- Two constants are `__eq__` whatever their variable sets (the case behind defect D2: equal
    objects whose `__hash__` mixes in the variable names). -/
theorem eq_const_any_vars (v w : List Var) (c : R) :
    polyEq (⟨v, [(List.replicate v.length 0, c)]⟩ : Poly R) ⟨w, [(List.replicate w.length 0, c)]⟩ = true := by
  simp [polyEq, polyEqWith, isZeroVec]

/-- The statement one would like (`__eq__` decides equality of the denoted polynomials across
    arbitrary variable sets).  It is false, see `eq_full_fails`. -/
def C22_eq_full : Prop :=
  ∀ p q : Poly Int, WF p → WF q → (polyEq p q = true ↔ sem p = sem q)

def wX : Poly Int := ⟨[0], [([1], 1)]⟩
def wXover01 : Poly Int := ⟨[0, 1], [([1, 0], 1)]⟩
def w3X : Poly Int := ⟨[0], [([1], 3)]⟩
def w3 : Poly Int := ⟨[0], [([0], 3)]⟩

theorem wf_wX : WF wX := by decide
theorem wf_wXover01 : WF wXover01 := by decide
theorem wf_w3X : WF w3X := by decide
theorem wf_w3 : WF w3 := by decide

/-- Known limitation (the `TODO` in `__eq__`): `x` over `{x}` and `x` over `{x, y}` are the same
    polynomial but not `__eq__`. -/
theorem eq_incomplete_witness : sem wX = sem wXover01 ∧ polyEq wX wXover01 = false := by
  constructor
  · simp only [sem, wX, wXover01, dictMv_cons, dictMv_nil, monoOf_cons, Finsupp.single_zero, zero_add]
  · decide

theorem eq_full_fails : ¬ C22_eq_full := by
  intro h
  have := (h wX wXover01 wf_wX wf_wXover01).mpr eq_incomplete_witness.1
  rw [eq_incomplete_witness.2] at this
  exact Bool.false_ne_true this

/-- Defect in the library as it is (`||`): `3*x` and the constant `3` compare equal. -/
theorem eqOrig_unsound_witness : polyEqOrig w3X w3 = true ∧ sem w3X ≠ sem w3 := by
  constructor
  · decide
  · intro h
    -- the coefficient of `x` is 3 on one side and 0 on the other
    have hc : (find? w3X.dict [1]).getD 0 = (find? w3.dict [1]).getD 0 :=
      (coeff_sem w3X [1] wf_w3X rfl).symm.trans ((congrArg (coeff _) h).trans (coeff_sem w3 [1] wf_w3 rfl))
    exact absurd hc (by decide)

/-- the repaired `__eq__` tells them apart -/
example : polyEq w3X w3 = false := by decide

theorem mint_add_sem (a b : Poly Int) (ha : WF a) (hb : WF b) :
    ∃ r, addPoly a b = .ok r ∧ WF r ∧ r.vars = merge a.vars b.vars ∧ sem r = sem a + sem b :=
  add_sem a b ha hb
theorem mint_sub_sem (a b : Poly Int) (ha : WF a) (hb : WF b) :
    ∃ r, subPoly a b = .ok r ∧ WF r ∧ r.vars = merge a.vars b.vars ∧ sem r = sem a - sem b :=
  sub_sem a b ha hb
theorem mint_mul_sem (a b : Poly Int) (ha : WF a) (hb : WF b) :
    ∃ r, mulPoly a b = .ok r ∧ WF r ∧ r.vars = merge a.vars b.vars ∧ sem r = sem a * sem b :=
  mul_sem a b ha hb
theorem mint_neg_sem (a : Poly Int) (ha : WF a) :
    WF (negPoly a) ∧ (negPoly a).vars = a.vars ∧ sem (negPoly a) = - sem a :=
  neg_sem a ha
theorem mint_pow_sem (a : Poly Int) (n : Nat) (ha : WF a) :
    ∃ r, powPoly a n = .ok r ∧ WF r ∧ r.vars = a.vars ∧ sem r = sem a ^ n :=
  pow_sem a n ha
theorem mint_eval_sem (p : Poly Int) (vals : List (Var × Int)) (hp : WF p)
    (hv : ∀ v ∈ p.vars, (lookupVal vals v).isSome) :
    evalPoly p vals = .ok (eval (valFn vals) (sem p)) :=
  eval_sem p vals hp hv
theorem mint_fromDict_sem (v : List Var) (d : Dict Int) (hv : v.Nodup) (hd : KeysOk v.length d) :
    ∃ p, fromDict v d = .ok p ∧ WF p ∧ p.vars = sortVars v ∧ (∀ x, x ∈ p.vars ↔ x ∈ v) ∧
      sem p = dictMv v d :=
  fromDict_sem v d hv hd
theorem mint_eq_sound (p q : Poly Int) (hp : WF p) (hq : WF q) (h : polyEq p q = true) : sem p = sem q :=
  eq_sound p q hp hq h

def exA : Poly Int := ⟨[0, 2], [([1, 0], 3), ([0, 2], -1)]⟩      -- 3*x0 - x2^2
def exB : Poly Int := ⟨[1, 2], [([0, 2], 1), ([1, 1], 5)]⟩       -- x2^2 + 5*x1*x2

theorem wf_exA : WF exA := by decide
theorem wf_exB : WF exB := by decide

example : ∃ r, addPoly exA exB = .ok r ∧ WF r ∧ r.vars = [0, 1, 2] ∧ sem r = sem exA + sem exB := by
  obtain ⟨r, h1, h2, h3, h4⟩ := mint_add_sem exA exB wf_exA wf_exB
  exact ⟨r, h1, h2, by rw [h3]; decide, h4⟩
-- the cancellation `-x2^2 + x2^2` really happens in the model
example : (addPoly exA exB).toOption.map (fun r => r.dict.length) = some 2 := by decide
example : ∃ r, mulPoly exA exB = .ok r ∧ WF r ∧ sem r = sem exA * sem exB := by
  obtain ⟨r, h1, h2, _, h4⟩ := mint_mul_sem exA exB wf_exA wf_exB
  exact ⟨r, h1, h2, h4⟩
example : ∃ r, powPoly exA 0 = .ok r ∧ sem r = 1 := by
  obtain ⟨r, h1, _, _, h4⟩ := mint_pow_sem exA 0 wf_exA
  exact ⟨r, h1, by simpa using h4⟩
example : evalPoly exA [(2, 4), (0, 5)] = .ok (-1) := by decide
example : ∀ v ∈ exA.vars, (lookupVal [(2, (4 : Int)), (0, 5)] v).isSome := by decide
example : (fromDict [2, 0] ([([2, 1], 7), ([0, 0], 0)] : Dict Int)).toOption.map (fun p => (p.vars, p.dict))
    = some ([0, 2], [([1, 2], 7)]) := by decide
example : KeysOk 2 ([([2, 1], 7), ([0, 0], 0)] : Dict Int) := by unfold KeysOk; decide

end SymVerif.C22
