import SymVerif.Lemmas.C27Step

/-!
# C27  Set operations have pointwise membership semantics

Model: `SymVerif/Model/Sets.lean` (symengine/sets.cpp, set_funcs.cpp *as repaired*, see docs/C27.md).
`mem s q` is the denotation of a set object on the rational point `q`; `WF s` says that every `Interval` node is
canonical (`start < end`) and every `Union` node has members (both hold for every object the library can build).

Headline theorems, for *every* call depth `n`, all well-formed operands and all rational points (partial
correctness: whenever the modelled method returns a set):

* `contains_sound`                      `contains` never contradicts the denotation
* `union_mem`, `inter_mem`, `compl_mem` the methods `a->set_union(b)`, `a->set_intersection(b)`, `a->set_complement(b)`
* `nunion_mem`, `ninter_mem`            the free functions on a container
* `eval_sound`                          expression trees of the driver's op language without boundary / interior /
                                        closure nodes (`boolOnly`)
* `sup_upper`, `inf_lower`, `sup_least_iv`, …   `sup` / `inf`
* `interior_mem`, `closure_mem`, `boundary_*`   `interior = s \ boundary`, `closure = s ∪ boundary`, boundary of atoms

Not proved: the boundary of a `Union` is the topological boundary (the definition `C27_boundary_full` kept for it is
false as written, see there);
termination (not stated).
The branches `Complement::set_union`, `Complement::set_complement`, `Intersection::set_complement` are known to be
wrong in the C++ and are not modelled (the model answers `Err.defect`), so the theorems say nothing about them.
-/
namespace SymVerif.C27
open SymVerif.Sets

/-- decides `r = .ok s` through the sound Boolean equality of `SetE` (which has no `DecidableEq`), so that the
    examples and the refutations can evaluate the model in the kernel -/
def isOkEq (r : Except Err SetE) (s : SetE) : Bool :=
  match r with
  | .ok t => t == s
  | .error _ => false

theorem isOkEq_sound {r : Except Err SetE} {s : SetE} (h : isOkEq r s = true) : r = .ok s := by
  unfold isOkEq at h
  split at h
  · rw [soundBEq_SetE _ _ h]
  · simp at h

/-- `[0, 2]`, `[5, 7]`, `[1, 3)` and the finite set of the confirmed defect D14 in its hash order -/
def iv02 : SetE := .iv (.fin 0) (.fin 2) false false
def iv57 : SetE := .iv (.fin 5) (.fin 7) false false
def iv13o : SetE := .iv (.fin 1) (.fin 3) false true
def fsD14 : List ENum := [.fin 1, .fin 2, .fin 3, .fin 10, .fin (1/2), .fin (-5)]

theorem WF_iv02 : WF iv02 := by simp only [iv02, WF, ENum.fin_lt_fin]; norm_num
theorem WF_iv57 : WF iv57 := by simp only [iv57, WF, ENum.fin_lt_fin]; norm_num
theorem WF_iv13o : WF iv13o := by simp only [iv13o, WF, ENum.fin_lt_fin]; norm_num

/-- `contains()` answers exactly the denotation (it never returns an unevaluated `Contains` on this fragment). -/
theorem contains_sound (s : SetE) (q : ℚ) (h : WF s) : contains s (.fin q) = true ↔ mem s q :=
  contains_iff s q h

example : contains (.co .reals iv02) (.fin 3) = true ∧ mem (.co .reals iv02) 3 := by
  have h : contains (.co .reals iv02) (.fin 3) = true := by decide +kernel
  exact ⟨h, (contains_sound _ 3 (by simp only [WF, true_and]; exact WF_iv02)).1 h⟩

theorem union_mem (n : Nat) (a b s : SetE) (ha : WF a) (hb : WF b) (h : (ops n).mu a b = .ok s) :
    WF s ∧ ∀ q : ℚ, mem s q ↔ (mem a q ∨ mem b q) := (ops_sound n).mu a b s ha hb h

theorem inter_mem (n : Nat) (a b s : SetE) (ha : WF a) (hb : WF b) (h : (ops n).mi a b = .ok s) :
    WF s ∧ ∀ q : ℚ, mem s q ↔ (mem a q ∧ mem b q) := (ops_sound n).mi a b s ha hb h

/-- `a->set_complement(u)` = `set_complement(u, a)` = `u \ a` -/
theorem compl_mem (n : Nat) (a u s : SetE) (ha : WF a) (hu : WF u) (h : (ops n).mc a u = .ok s) :
    WF s ∧ ∀ q : ℚ, mem s q ↔ (mem u q ∧ ¬ mem a q) := (ops_sound n).mc a u s ha hu h

theorem nunion_mem (n : Nat) (l : List SetE) (s : SetE) (hl : WFL l) (h : (ops n).nu l = .ok s) :
    WF s ∧ ∀ q : ℚ, mem s q ↔ memAny l q := (ops_sound n).nu l s hl h

theorem ninter_mem (n : Nat) (l : List SetE) (s : SetE) (hl : WFL l) (h : (ops n).ni l = .ok s) :
    WF s ∧ ∀ q : ℚ, mem s q ↔ memAll l q := (ops_sound n).ni l s hl h

-- non-vacuity: the theorems apply to real evaluations of the model
example : ∀ q : ℚ, mem iv57 q ↔ (mem iv57 q ∧ ¬ mem iv02 q) :=
  (compl_mem topFuel iv02 iv57 iv57 WF_iv02 WF_iv57 (isOkEq_sound (by decide +kernel))).2

example : ∀ q : ℚ, mem (.iv (.fin 0) (.fin 3) false true) q ↔ (mem iv02 q ∨ mem iv13o q) :=
  (union_mem topFuel iv02 iv13o _ WF_iv02 WF_iv13o (isOkEq_sound (by decide +kernel))).2

example : ∀ q : ℚ, mem (.iv (.fin 1) (.fin 2) false false) q ↔ (mem iv02 q ∧ mem iv13o q) :=
  (inter_mem topFuel iv02 iv13o _ WF_iv02 WF_iv13o (isOkEq_sound (by decide +kernel))).2

example : ∀ q : ℚ, mem (.un [.ints, .iv (.fin 0) (.fin 2) false false]) q ↔ memAny (mkSS [iv02, .ints, .fs [.fin 1]]) q :=
  (nunion_mem topFuel (mkSS [iv02, .ints, .fs [.fin 1]]) _
    ((WFL_mkSS _).2 ⟨WF_iv02, by simp [WF], by simp [WF], trivial⟩) (isOkEq_sound (by decide +kernel))).2

example : ∀ q : ℚ, mem (.fs [.fin 1, .fin 2]) q ↔ memAll (mkSS [iv02, .nats]) q :=
  (ninter_mem topFuel (mkSS [iv02, .nats]) _
    ((WFL_mkSS _).2 ⟨WF_iv02, by simp [WF], trivial⟩) (isOkEq_sound (by decide +kernel))).2

mutual
/-- reference semantics of an expression (boolean combination of the memberships of its leaves) -/
def den : Expr → ℚ → Prop
  | .lit s, q => mem s q
  | .iv a b lo ro, q => memIv a b lo ro q
  | .fs l, q => ENum.fin q ∈ l
  | .un l, q => denAny l q
  | .inn l, q => denAll l q
  | .co u a, q => den u q ∧ ¬ den a q
  | .mu a b, q => den a q ∨ den b q
  | .mi a b, q => den a q ∧ den b q
  | .mc a b, q => den b q ∧ ¬ den a q
  | .bd _, _ => False
  | .ir _, _ => False
  | .cl _, _ => False
def denAny : List Expr → ℚ → Prop
  | [], _ => False
  | x :: t, q => den x q ∨ denAny t q
def denAll : List Expr → ℚ → Prop
  | [], _ => True
  | x :: t, q => den x q ∧ denAll t q
end

mutual
/-- expressions without topological operators whose literals are well-formed -/
def boolOnly : Expr → Prop
  | .lit s => WF s
  | .iv .. => True
  | .fs _ => True
  | .un l => boolOnlyL l
  | .inn l => boolOnlyL l
  | .co u a => boolOnly u ∧ boolOnly a
  | .mu a b => boolOnly a ∧ boolOnly b
  | .mi a b => boolOnly a ∧ boolOnly b
  | .mc a b => boolOnly a ∧ boolOnly b
  | .bd _ => False
  | .ir _ => False
  | .cl _ => False
def boolOnlyL : List Expr → Prop
  | [] => True
  | x :: t => boolOnly x ∧ boolOnlyL t
end

/-- a binary node: both operands are evaluated, then a sound method `f` with set-theoretic meaning `C` is called -/
theorem bin_sound {C : Prop → Prop → Prop} (hC : ∀ {p p' r r' : Prop}, (p ↔ p') → (r ↔ r') → (C p r ↔ C p' r'))
    {f : SetE → SetE → Except Err SetE} (hf : ∀ {a b}, WF a → WF b → Den (f a b) fun q => C (mem a q) (mem b q))
    {xa xb : Except Err SetE} {da db : ℚ → Prop} (iha : Den xa da) (ihb : Den xb db) :
    Den (xa >>= fun a => xb >>= fun b => f a b) fun q => C (da q) (db q) :=
  Den.bind fun a h1 => Den.bind fun b h2 =>
    have ha := iha a h1
    have hb := ihb b h2
    (hf ha.1 hb.1).congr fun q => hC (ha.2 q) (hb.2 q)

mutual
/-- Evaluating an expression tree with the modelled library operations yields a set whose rational points are
    exactly those of the boolean reference semantics. -/
theorem eval_sound : ∀ (e : Expr) (s : SetE), boolOnly e → evalE e = .ok s → WF s ∧ ∀ q : ℚ, mem s q ↔ den e q
  | .lit t, s, hb, h =>
    Den.ok hb (fun _ => Iff.rfl) s h
  | .iv a b lo ro, s, _, h =>
    Den.ok (WF_interval) (mem_interval _ _ _ _) s h
  | .fs l, s, _, h =>
    Den.ok (WF_finiteset _) (fun q => (mem_finiteset _ q).trans (mem_mkSB _ l)) s h
  | .un l, s, hb, h =>
    Den.bind (fun ss h1 =>
      have hl := evalL_sound l ss hb h1
      (den_nu_mkSS top_sound hl.1).congr hl.2.1) s h
  | .inn l, s, hb, h =>
    Den.bind (fun ss h1 =>
      have hl := evalL_sound l ss hb h1
      (den_ni_mkSS top_sound hl.1).congr hl.2.2) s h
  | .co u a, s, hb, h =>
    bin_sound (C := fun p r => p ∧ ¬ r) (fun h1 h2 => and_congr h1 (not_congr h2))
      -- the free `set_complement(u, a)` is the method `a->set_complement(u)`: the operands swap
      (f := fun u' a' => top.mc a' u') (fun hu ha => top_sound.den_mc ha hu)
      (fun u' => eval_sound u u' hb.1) (fun a' => eval_sound a a' hb.2) s h
  | .mu a b, s, hb, h =>
    bin_sound or_congr top_sound.den_mu (fun a' => eval_sound a a' hb.1) (fun b' => eval_sound b b' hb.2) s h
  | .mi a b, s, hb, h =>
    bin_sound and_congr top_sound.den_mi (fun a' => eval_sound a a' hb.1) (fun b' => eval_sound b b' hb.2) s h
  | .mc a b, s, hb, h =>
    bin_sound (C := fun p r => r ∧ ¬ p) (fun h1 h2 => and_congr h2 (not_congr h1)) top_sound.den_mc
      (fun a' => eval_sound a a' hb.1) (fun b' => eval_sound b b' hb.2) s h
  | .bd _, _, hb, _ | .ir _, _, hb, _ | .cl _, _, hb, _ => hb.elim
theorem evalL_sound : ∀ (l : List Expr) (ss : List SetE), boolOnlyL l → evalL l = .ok ss →
    WFL ss ∧ (∀ q : ℚ, memAny ss q ↔ denAny l q) ∧ (∀ q : ℚ, memAll ss q ↔ denAll l q)
  | [], ss, _, h => by
    cases h
    exact ⟨trivial, fun q => Iff.rfl, fun q => Iff.rfl⟩
  | x :: t, ss, hb, h => by
    obtain ⟨s, h1, h⟩ := bind_eq_ok h
    obtain ⟨st, h2, h⟩ := bind_eq_ok h
    cases h
    have hx := eval_sound x s hb.1 h1
    have ht := evalL_sound t st hb.2 h2
    exact ⟨⟨hx.1, ht.1⟩, fun q => or_congr (hx.2 q) (ht.2.1 q), fun q => and_congr (hx.2 q) (ht.2.2 q)⟩
end

/-- `([0,2] ∪ {1/2, 5}) \ ℤ` as an expression -/
def exprEx : Expr := .co (.un [.iv (.fin 0) (.fin 2) false false, .fs [.fin (1/2), .fin 5]]) (.lit .ints)

theorem exprEx_value : evalE exprEx = .ok (.co (.iv (.fin 0) (.fin 2) false false) .ints) := by
  have h1 : top.nu (mkSS [interval (.fin 0) (.fin 2) false false, finiteset (mkSB [.fin (1/2), .fin 5])])
      = .ok (.un [.fs [.fin 5], .iv (.fin 0) (.fin 2) false false]) := isOkEq_sound (by decide +kernel)
  have h2 : top.mc .ints (.un [.fs [.fin 5], .iv (.fin 0) (.fin 2) false false])
      = .ok (.co (.iv (.fin 0) (.fin 2) false false) .ints) := isOkEq_sound (by decide +kernel)
  simp only [exprEx, evalE, evalL, bind, Except.bind, pure, Except.pure, h1, h2]

example : ∀ q : ℚ, mem (.co (.iv (.fin 0) (.fin 2) false false) .ints) q ↔ den exprEx q :=
  (eval_sound exprEx _ (by simp [exprEx, boolOnly, boolOnlyL, WF]) exprEx_value).2

theorem foldl_bound {R : ENum → ENum → Prop} (hrefl : ∀ a, R a a) (htrans : ∀ {a b c}, R a b → R b c → R a c)
    {op : ENum → ENum → ENum} (hop : ∀ a b, R a (op a b) ∧ R b (op a b)) :
    ∀ (l : List ENum) (x : ENum), R x (l.foldl op x) ∧ ∀ y ∈ l, R y (l.foldl op x)
  | [], x => ⟨hrefl x, fun _ h => nomatch h⟩
  | z :: t, x => by
    have := foldl_bound hrefl htrans hop t (op x z)
    exact ⟨htrans (hop x z).1 this.1, fun y hy =>
      (List.mem_cons.1 hy).elim (fun e => e.symm ▸ htrans (hop x z).2 this.1) (this.2 y)⟩

theorem maxList_ge {l : List ENum} {v : ENum} (h : maxList l = .ok v) : ∀ y ∈ l, y ≤ v := by
  cases l with
  | nil => cases h
  | cons x t =>
    injection h with h
    have := foldl_bound (R := (· ≤ ·)) (op := ENum.max2) le_refl le_trans
      (fun a b => by rw [ENum.max2_eq]; exact ⟨le_max_left a b, le_max_right a b⟩) t x
    exact fun y hy => h ▸ (List.mem_cons.1 hy).elim (fun e => e.symm ▸ this.1) (this.2 y)

theorem minList_le {l : List ENum} {v : ENum} (h : minList l = .ok v) : ∀ y ∈ l, v ≤ y := by
  cases l with
  | nil => cases h
  | cons x t =>
    injection h with h
    have := foldl_bound (R := (· ≥ ·)) (op := ENum.min2) le_refl (fun h1 h2 => le_trans h2 h1)
      (fun a b => by rw [ENum.min2_eq]; exact ⟨min_le_left a b, min_le_right a b⟩) t x
    exact fun y hy => h ▸ (List.mem_cons.1 hy).elim (fun e => e.symm ▸ this.1) (this.2 y)

theorem fin_intCast_le {k : ℤ} {q : ℚ} (hd : q.den = 1) (hk : k ≤ q.num) : ENum.fin k ≤ ENum.fin q := by
  rw [ENum.fin_le_fin, ← (Rat.den_eq_one_iff q).1 hd]
  exact_mod_cast hk

/-- `v` bounds `x` from above (`isSup`) or from below -/
def bnd (isSup : Bool) (x v : ENum) : Prop := if isSup then x ≤ v else v ≤ x

mutual
theorem supInf_bnd (isSup : Bool) : ∀ (s : SetE) (v : ENum) (q : ℚ), supInf isSup s = .ok v → mem s q →
    bnd isSup (.fin q) v
  | .reals, v, q, h, _ | .rats, v, q, h, _ | .ints, v, q, h, _ => by
    cases isSup <;> (injection h with h; subst h)
    · show ENum.ninf ≤ _
      exact ENum.ninf_le _
    · exact ENum.le_pinf _
  | .nats, v, q, h, hm => by
    cases isSup <;> (injection h with h; subst h)
    · show ENum.fin 1 ≤ ENum.fin q
      simpa using fin_intCast_le (k := 1) hm.1 hm.2
    · exact ENum.le_pinf _
  | .nats0, v, q, h, hm => by
    cases isSup <;> (injection h with h; subst h)
    · show ENum.fin 0 ≤ ENum.fin q
      simpa using fin_intCast_le (k := 0) hm.1 hm.2
    · exact ENum.le_pinf _
  | .iv a b lo ro, v, q, h, hm => by
    cases isSup <;> (injection h with h; subst h)
    · show a ≤ .fin q
      exact memIv.lb hm
    · exact memIv.ub hm
  | .fs l, v, q, h, hm => by
    cases isSup
    · exact minList_le h _ hm
    · exact maxList_ge h _ hm
  | .un l, v, q, h, hm => by
    obtain ⟨vs, h1, h2⟩ := bind_eq_ok h
    obtain ⟨w, hw, hle⟩ := supInfL_bnd isSup l vs q h1 hm
    cases isSup
    · exact le_trans (minList_le h2 w hw) hle
    · exact le_trans hle (maxList_ge h2 w hw)
  | .co _ _, _, _, h, _ | .empty, _, _, h, _ | .univ, _, _, h, _ | .inter _, _, _, h, _ => by cases h
theorem supInfL_bnd (isSup : Bool) : ∀ (l : List SetE) (vs : List ENum) (q : ℚ), supInfL isSup l = .ok vs →
    memAny l q → ∃ w ∈ vs, bnd isSup (.fin q) w
  | [], _, _, _, hm => hm.elim
  | x :: t, vs, q, h, hm => by
    obtain ⟨v, h1, h⟩ := bind_eq_ok h
    obtain ⟨vt, h2, h⟩ := bind_eq_ok h
    cases h
    rcases hm with hm | hm
    · exact ⟨v, List.mem_cons_self, supInf_bnd isSup x v q h1 hm⟩
    · obtain ⟨w, hw, hle⟩ := supInfL_bnd isSup t vt q h2 hm
      exact ⟨w, List.mem_cons_of_mem _ hw, hle⟩
end

theorem sup_upper_auxL : ∀ (l : List SetE) (vs : List ENum) (q : ℚ), supInfL true l = .ok vs → memAny l q →
    ∃ w ∈ vs, ENum.fin q ≤ w :=
  supInfL_bnd true

theorem inf_lower_auxL : ∀ (l : List SetE) (vs : List ENum) (q : ℚ), supInfL false l = .ok vs → memAny l q →
    ∃ w ∈ vs, w ≤ ENum.fin q :=
  supInfL_bnd false

/-- `sup(s)` is an upper bound of every rational point of `s`. -/
theorem sup_upper (s : SetE) (v : ENum) (h : supInf true s = .ok v) : ∀ q : ℚ, mem s q → ENum.fin q ≤ v :=
  fun q hm => supInf_bnd true s v q h hm

/-- `inf(s)` is a lower bound of every rational point of `s`. -/
theorem inf_lower (s : SetE) (v : ENum) (h : supInf false s = .ok v) : ∀ q : ℚ, mem s q → v ≤ ENum.fin q :=
  fun q hm => supInf_bnd false s v q h hm

example : supInf true (.un [iv02, .fs [.fin 5]]) = .ok (.fin 5) ∧ ∀ q : ℚ, mem (.un [iv02, .fs [.fin 5]]) q → ENum.fin q ≤ .fin 5 := by
  have h : supInf true (.un [iv02, .fs [.fin 5]]) = .ok (.fin 5) := by decide +kernel
  exact ⟨h, sup_upper _ _ h⟩

/-- between two extended rationals there is a rational -/
theorem exists_rat_between {a b : ENum} (h : a < b) : ∃ q : ℚ, a < .fin q ∧ .fin q < b := by
  cases a with
  | pinf => exact absurd h (not_lt.2 (ENum.le_pinf _))
  | ninf =>
    cases b with
    | ninf => exact absurd h (lt_irrefl _)
    | fin y => exact ⟨y - 1, ENum.ninf_lt_fin _, (ENum.fin_lt_fin _ _).2 (sub_one_lt y)⟩
    | pinf => exact ⟨0, ENum.ninf_lt_fin _, ENum.fin_lt_pinf _⟩
  | fin x =>
    cases b with
    | ninf => exact absurd h (not_lt.2 (ENum.ninf_le _))
    | fin y =>
      rw [ENum.fin_lt_fin] at h
      exact ⟨(x + y) / 2, by rw [ENum.fin_lt_fin]; linarith, by rw [ENum.fin_lt_fin]; linarith⟩
    | pinf => exact ⟨x + 1, (ENum.fin_lt_fin _ _).2 (lt_add_one x), ENum.fin_lt_pinf _⟩

theorem exists_mem_iv_between {a b w w' : ENum} (lo ro : Bool) (h : max a w < min b w') :
    ∃ q : ℚ, mem (.iv a b lo ro) q ∧ w < .fin q ∧ .fin q < w' := by
  obtain ⟨q, h1, h2⟩ := exists_rat_between h
  exact ⟨q, ⟨Or.inl ((le_max_left _ _).trans_lt h1), Or.inl (h2.trans_le (min_le_left _ _))⟩,
    (le_max_right _ _).trans_lt h1, h2.trans_le (min_le_right _ _)⟩

/-- the supremum of an interval is the least upper bound: every smaller bound is exceeded by a point of the set -/
theorem sup_least_iv (a b : ENum) (lo ro : Bool) (hab : a < b) (w : ENum) (hw : w < b) :
    ∃ q : ℚ, mem (.iv a b lo ro) q ∧ w < .fin q := by
  have hov : max a w < min b .pinf := by rw [min_eq_left (ENum.le_pinf b)]; exact max_lt hab hw
  obtain ⟨q, hq, h1, _⟩ := exists_mem_iv_between lo ro hov
  exact ⟨q, hq, h1⟩

/-- the infimum of an interval is the greatest lower bound -/
theorem inf_greatest_iv (a b : ENum) (lo ro : Bool) (hab : a < b) (w : ENum) (hw : a < w) :
    ∃ q : ℚ, mem (.iv a b lo ro) q ∧ .fin q < w := by
  have hov : max a .ninf < min b w := by rw [max_eq_left (ENum.ninf_le a)]; exact lt_min hab hw
  obtain ⟨q, hq, _, h2⟩ := exists_mem_iv_between lo ro hov
  exact ⟨q, hq, h2⟩

/-- `interior(s) = s \ boundary(s)` on points, whatever the boundary is -/
theorem interior_mem (s b r : SetE) (hs : WF s) (hb : WF b) (h1 : boundary topFuel s = .ok b)
    (h2 : interior s = .ok r) : WF r ∧ ∀ q : ℚ, mem r q ↔ (mem s q ∧ ¬ mem b q) := by
  unfold interior at h2
  rw [h1] at h2
  exact top_sound.den_mc hb hs r h2

/-- `closure(s) = s ∪ boundary(s)` on points -/
theorem closure_mem (s b r : SetE) (hs : WF s) (hb : WF b) (h1 : boundary topFuel s = .ok b)
    (h2 : closure s = .ok r) : WF r ∧ ∀ q : ℚ, mem r q ↔ (mem s q ∨ mem b q) := by
  unfold closure at h2
  rw [h1] at h2
  exact top_sound.den_mu hs hb r h2

theorem boundary_iv (n : Nat) (a b : ENum) (lo ro : Bool) (r : SetE) (h : boundary (n + 1) (.iv a b lo ro) = .ok r) :
    WF r ∧ ∀ q : ℚ, mem r q ↔ (ENum.fin q = a ∨ ENum.fin q = b) := by
  simp only [boundary] at h
  exact Den.ok (WF_finiteset _) (fun q => by rw [mem_finiteset, mem_mkSB]; simp) r h

/-- topological boundary point of a set of rationals (order topology): every open interval around `q` meets the
    set and its complement -/
def IsBoundaryPt (S : ℚ → Prop) (q : ℚ) : Prop :=
  ∀ x y : ℚ, x < q → q < y → (∃ z, x < z ∧ z < y ∧ S z) ∧ (∃ z, x < z ∧ z < y ∧ ¬ S z)

theorem not_boundary_of_const {S : ℚ → Prop} {q : ℚ} {u w : ENum} (hu : u < .fin q) (hw : .fin q < w)
    (h : (∀ z, u < .fin z → .fin z < w → S z) ∨ (∀ z, u < .fin z → .fin z < w → ¬ S z)) : ¬ IsBoundaryPt S q := by
  intro hbd
  obtain ⟨x, hx1, hx2⟩ := exists_rat_between hu
  obtain ⟨y, hy1, hy2⟩ := exists_rat_between hw
  obtain ⟨⟨z, hz1, hz2, hz⟩, z', hz1', hz2', hz'⟩ :=
    hbd x y ((ENum.fin_lt_fin _ _).1 hx2) ((ENum.fin_lt_fin _ _).1 hy1)
  have inside : ∀ {t : ℚ}, x < t → t < y → u < .fin t ∧ .fin t < w := fun h1 h2 =>
    ⟨hx1.trans ((ENum.fin_lt_fin _ _).2 h1), ((ENum.fin_lt_fin _ _).2 h2).trans hy2⟩
  rcases h with h | h
  · exact hz' (h z' (inside hz1' hz2').1 (inside hz1' hz2').2)
  · exact h z (inside hz1 hz2).1 (inside hz1 hz2).2 hz

/-- the end points of an interval are exactly its topological boundary points -/
theorem boundary_iv_topological (a b : ENum) (lo ro : Bool) (hab : a < b) (q : ℚ) :
    IsBoundaryPt (mem (.iv a b lo ro)) q ↔ (ENum.fin q = a ∨ ENum.fin q = b) := by
  constructor
  · intro hbd
    by_contra hne
    simp only [not_or] at hne
    rcases lt_trichotomy (ENum.fin q) a with h | h | h
    · exact not_boundary_of_const (ENum.ninf_lt_fin q) h
        (Or.inr fun z _ hz hm => absurd (memIv.lb hm) (not_le.2 hz)) hbd
    · exact hne.1 h
    · rcases lt_trichotomy (ENum.fin q) b with h' | h' | h'
      · exact not_boundary_of_const h h' (Or.inl fun z h1 h2 => ⟨Or.inl h1, Or.inl h2⟩) hbd
      · exact hne.2 h'
      · exact not_boundary_of_const h' (ENum.fin_lt_pinf q)
          (Or.inr fun z hz _ hm => absurd (memIv.ub hm) (not_le.2 hz)) hbd
  · intro h x y hx hy
    have hx' : ENum.fin x < .fin q := (ENum.fin_lt_fin _ _).2 hx
    have hy' : ENum.fin q < .fin y := (ENum.fin_lt_fin _ _).2 hy
    constructor
    · -- inside: the stretch (x, y) around an end point overlaps (a, b)
      have hov : max a (.fin x) < min b (.fin y) := by
        rcases h with rfl | rfl
        · exact max_lt (lt_min hab hy') (lt_min (hx'.trans hab) (hx'.trans hy'))
        · exact max_lt (lt_min hab (hab.trans hy')) (lt_min hx' (hx'.trans hy'))
      obtain ⟨z, hz, h1, h2⟩ := exists_mem_iv_between lo ro hov
      exact ⟨z, (ENum.fin_lt_fin _ _).1 h1, (ENum.fin_lt_fin _ _).1 h2, hz⟩
    · -- outside: the midpoint on the far side of the end point
      rcases h with rfl | rfl
      · refine ⟨(x + q) / 2, by linarith, by linarith, fun hc => ?_⟩
        have := (ENum.fin_le_fin _ _).1 (memIv.lb hc)
        linarith
      · refine ⟨(q + y) / 2, by linarith, by linarith, fun hc => ?_⟩
        have := (ENum.fin_le_fin _ _).1 (memIv.ub hc)
        linarith

/-- interior of an interval: the open interval (consequence of `interior_mem`, `boundary_iv`) -/
theorem interior_iv (a b : ENum) (lo ro : Bool) (hab : a < b) (r : SetE)
    (h : interior (.iv a b lo ro) = .ok r) : ∀ q : ℚ, mem r q ↔ (a < ENum.fin q ∧ ENum.fin q < b) := by
  obtain ⟨bd, hbd, _⟩ := bind_eq_ok h
  have hb := boundary_iv _ a b lo ro bd hbd  -- `_`: `topFuel` is a successor
  have := interior_mem (.iv a b lo ro) bd r hab hb.1 hbd h
  intro q
  rw [this.2 q, hb.2 q]
  simp only [mem, memIv]
  grind

theorem closure_iv (a b : ENum) (lo ro : Bool) (hab : a < b) (r : SetE)
    (h : closure (.iv a b lo ro) = .ok r) : ∀ q : ℚ, mem r q ↔ (a ≤ ENum.fin q ∧ ENum.fin q ≤ b) := by
  obtain ⟨bd, hbd, _⟩ := bind_eq_ok h
  have hb := boundary_iv _ a b lo ro bd hbd
  have := closure_mem (.iv a b lo ro) bd r hab hb.1 hbd h
  intro q
  rw [this.2 q, hb.2 q]
  simp only [mem, memIv]
  -- the end points belong to `[a, b]` because `a < b`
  grind

example : ∀ q : ℚ, mem (.iv (.fin (-1)) (.fin 4) true true) q ↔ ((.fin (-1) : ENum) < .fin q ∧ ENum.fin q < .fin 4) :=
  interior_iv (.fin (-1)) (.fin 4) false false (by rw [ENum.fin_lt_fin]; norm_num) _
    (isOkEq_sound (by decide +kernel))

/-- full statement for `boundary` (NOT proved for `Union`s): the result consists of the topological boundary
    points.  FALSE as written: it fails at `s = .rats` (boundary `Reals`), and at `[0,1) ∪ [1,2]`, a well-formed Union
    whose members touch (the model answers `{0, 1, 2}`); it needs sets without `Rationals` whose Union members neither
    overlap nor touch. -/
def C27_boundary_full : Prop :=
  ∀ (s b : SetE), WF s → boundary topFuel s = .ok b → ∀ q : ℚ, mem b q ↔ IsBoundaryPt (mem s) q

/-- D13: the original `Interval::set_complement` returns `(2, 7]` for `[5,7] \ [0,2]` … -/
theorem D13_orig_value : ivComplIvOrig top (.fin 0) (.fin 2) false false (.fin 5) (.fin 7) false false
    = .ok (.iv (.fin 2) (.fin 7) true false) := isOkEq_sound (by decide +kernel)

/-- … which contains `5/2`, a point outside `[5,7]`. -/
theorem D13_orig_wrong : mem (.iv (.fin 2) (.fin 7) true false) (5/2) ∧ ¬ mem iv57 (5/2) := by
  simp only [mem, memIv, iv57, ENum.fin_lt_fin, ENum.fin.injEq]
  norm_num

/-- D14: the original `FiniteSet::set_complement` walks `{1, 2, 3, 10, 1/2, -5}` in hash order and returns
    `[0,1) ∪ (1,2)` for `[0,2] \ {…}` … -/
theorem D14_orig_value : fsComplIvOrig fsD14 (.fin 0) (.fin 2) false false
    = .ok (.un [.iv (.fin 0) (.fin 1) false true, .iv (.fin 1) (.fin 2) true true]) :=
  isOkEq_sound (by decide +kernel)

/-- … which still contains the element `1/2`. -/
theorem D14_orig_wrong :
    mem (.un [.iv (.fin 0) (.fin 1) false true, .iv (.fin 1) (.fin 2) true true]) (1/2) ∧ ENum.fin (1/2) ∈ fsD14 := by
  refine ⟨?_, by simp [fsD14]⟩
  simp only [mem, memAny, memIv, ENum.fin_lt_fin, ENum.fin.injEq]
  norm_num

/-- the repaired code removes it -/
theorem D14_fixed_value : fsComplIv fsD14 (.fin 0) (.fin 2) false false
    = .ok (.un [.iv (.fin 1) (.fin 2) true true, .iv (.fin 0) (.fin (1/2)) false true,
                .iv (.fin (1/2)) (.fin 1) true true]) := isOkEq_sound (by decide +kernel)

/-- original `Naturals0::set_complement(Integers)` = `Integers \ Naturals` contains `0`, which is in `Naturals0` -/
theorem N5_orig_wrong : mem (nats0ComplOrig .ints) 0 ∧ mem .nats0 0 := by
  simp [nats0ComplOrig, mem]

/-- original `Intersection::contains`: `-2 ∈ (0,7) ∩ ℚ` answered True -/
theorem N6_orig_wrong : containsAllOrig [.iv (.fin 0) (.fin 7) true true, .rats] (.fin (-2)) = true
    ∧ ¬ mem (.inter [.iv (.fin 0) (.fin 7) true true, .rats]) (-2) := by
  refine ⟨by decide +kernel, ?_⟩
  simp only [mem, memAll, memIv, ENum.fin_lt_fin, ENum.fin.injEq]
  norm_num

/-- original `Interval::set_union` leaves `[0,1) ∪ [1,2]` unmerged (then `boundary` reports the inner point 1) -/
theorem N3_orig_value : ivUnionIvOrig (.fin 0) (.fin 1) false true (.fin 1) (.fin 2) false false
    = .ok (.un [.iv (.fin 0) (.fin 1) false true, .iv (.fin 1) (.fin 2) false false]) :=
  isOkEq_sound (by decide +kernel)

theorem N3_fixed_value : ivUnionIv (.fin 0) (.fin 1) false true (.fin 1) (.fin 2) false false
    = .ok (.iv (.fin 0) (.fin 2) false false) := isOkEq_sound (by decide +kernel)

end SymVerif.C27
