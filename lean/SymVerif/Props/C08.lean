import SymVerif.Lemmas.C08Laws
import SymVerif.Lemmas.C08Tables
import Mathlib.Analysis.SpecialFunctions.Gamma.Basic
import Mathlib.Analysis.SpecialFunctions.Gaussian.GaussianIntegral
import Mathlib.Data.Rat.Floor
/-!
# C08 — function constructors' automatic evaluation preserves value

Model: `SymVerif/Model/Funcs.lean` (+ `Model/Surd.lean`, generated `Gen/TrigTables.lean`); the theorems are listed in
docs/C08.md.  The table theorems stand (in this namespace) in `Lemmas/C08Tables.lean`, `get_pi_shift_sound` in
`Lemmas/C08Lin.lean`, `trig_simplify_sound` and `trig_ctor_sound` in `Lemmas/C08Trig.lean`, where they are proved.

`C08_full` states the table part of the property; its comment lists what is proved and what is not.
-/
namespace SymVerif.C08
open SymVerif SymVerif.Funcs Real

/-- what the driver prints for a table entry is that real number -/
theorem sinTab_sound (i : Nat) (hi : i < 24) (s : Surd) (h : sinTab i = some s) :
    s.toReal = Real.sin (π * (i : ℝ) / 12) := by
  rw [← sinTable_value i hi]
  unfold sinTab at h
  rw [Nat.mod_eq_of_lt hi] at h
  unfold tabR
  cases hr : Gen.TrigTables.sinTable[i]? with
  | none => simp [hr] at h
  | some r =>
    simp only [hr, Option.bind_some] at h
    simp [Recipe.evalS_sound r s h]

example : cstGood 8 = true := by decide
example : tctProved 9 = true := by decide

section
variable {K : Type} [Field K] [CharZero K]

/-- `handle_minus`: the returned flag says exactly whether the argument was negated — whatever the
iteration order of the dictionary is -/
theorem handle_minus_sound (ρ : Expr → K) (pi : K) (hρ : Compositional ρ pi) (order : List Expr)
    (fuel : Nat) (l : Lin) (b : Bool) (r : Lin) (hw : l.wf = true) (h : handleMinus order fuel l = .ok (b, r)) :
    r.eval ρ pi = (if b then -1 else 1) * l.eval ρ pi :=
  (handleMinus_sound ρ pi hρ order fuel l b r hw h).1

end

theorem trig_ctor_value_complex {ρ : Expr → ℂ} (hρ : Compositional ρ (π : ℂ)) (order : List Expr) (fuel : Nat)
    (fn : TrigFn) (arg : Lin) (res : Res) (hw : arg.wf = true) (h : trigCtor order fuel fn arg = .ok res) :
    res.sem ρ (π : ℂ) Fc = Fc fn (arg.eval ρ (π : ℂ)) :=
  trig_ctor_sound complexLaws hρ order fuel fn arg res hw h

theorem trig_ctor_value_real {ρ : Expr → ℝ} (hρ : Compositional ρ π) (order : List Expr) (fuel : Nat)
    (fn : TrigFn) (arg : Lin) (res : Res) (hw : arg.wf = true) (h : trigCtor order fuel fn arg = .ok res) :
    res.sem ρ π Fr = Fr fn (arg.eval ρ π) :=
  trig_ctor_sound realLaws hρ order fuel fn arg res hw h

theorem sin_ctor_value {ρ : Expr → ℂ} (hρ : Compositional ρ (π : ℂ)) (order : List Expr) (fuel : Nat)
    (arg : Lin) (res : Res) (hw : arg.wf = true) (h : trigCtor order fuel .sin arg = .ok res) :
    res.sem ρ (π : ℂ) Fc = Complex.sin (arg.eval ρ (π : ℂ)) :=
  trig_ctor_value_complex hρ order fuel .sin arg res hw h

theorem cos_ctor_value {ρ : Expr → ℂ} (hρ : Compositional ρ (π : ℂ)) (order : List Expr) (fuel : Nat)
    (arg : Lin) (res : Res) (hw : arg.wf = true) (h : trigCtor order fuel .cos arg = .ok res) :
    res.sem ρ (π : ℂ) Fc = Complex.cos (arg.eval ρ (π : ℂ)) :=
  trig_ctor_value_complex hρ order fuel .cos arg res hw h

theorem tan_ctor_value {ρ : Expr → ℂ} (hρ : Compositional ρ (π : ℂ)) (order : List Expr) (fuel : Nat)
    (arg : Lin) (res : Res) (hw : arg.wf = true) (h : trigCtor order fuel .tan arg = .ok res) :
    res.sem ρ (π : ℂ) Fc = Complex.tan (arg.eval ρ (π : ℂ)) := by
  rw [← Fc_tan]; exact trig_ctor_value_complex hρ order fuel .tan arg res hw h

theorem cot_ctor_value {ρ : Expr → ℂ} (hρ : Compositional ρ (π : ℂ)) (order : List Expr) (fuel : Nat)
    (arg : Lin) (res : Res) (hw : arg.wf = true) (h : trigCtor order fuel .cot arg = .ok res) :
    res.sem ρ (π : ℂ) Fc = Complex.cos (arg.eval ρ (π : ℂ)) / Complex.sin (arg.eval ρ (π : ℂ)) :=
  trig_ctor_value_complex hρ order fuel .cot arg res hw h

theorem csc_ctor_value {ρ : Expr → ℂ} (hρ : Compositional ρ (π : ℂ)) (order : List Expr) (fuel : Nat)
    (arg : Lin) (res : Res) (hw : arg.wf = true) (h : trigCtor order fuel .csc arg = .ok res) :
    res.sem ρ (π : ℂ) Fc = 1 / Complex.sin (arg.eval ρ (π : ℂ)) :=
  trig_ctor_value_complex hρ order fuel .csc arg res hw h

theorem sec_ctor_value {ρ : Expr → ℂ} (hρ : Compositional ρ (π : ℂ)) (order : List Expr) (fuel : Nat)
    (arg : Lin) (res : Res) (hw : arg.wf = true) (h : trigCtor order fuel .sec arg = .ok res) :
    res.sem ρ (π : ℂ) Fc = 1 / Complex.cos (arg.eval ρ (π : ℂ)) :=
  trig_ctor_value_complex hρ order fuel .sec arg res hw h

/-- a table result of the sine constructor is the value of the generated table entry -/
theorem sin_ctor_table_value (sgn : Int) (i : Nat) (hi : i < 24) (ρ : Expr → ℝ) :
    (Res.tab sgn .sin i).sem ρ π Fr = (sgn : ℝ) * tabR i := by
  simp [Res.sem, Fr, mkF, sinTable_value i hi]

mutual
  /-- the obvious valuation: numbers, symbols from `σ`, sums by their stored fields (`π` for the key `pi`), 0 on
  every other atom.  `semE_compositional`: the hypothesis `Compositional`, which constrains Add atoms only, can be met. -/
  noncomputable def semE (σ : String → ℂ) : Expr → ℂ
    | .int n => (n : ℂ)
    | .rat n d => ((ratOfExpr (.rat n d)).getD 0 : Rat)
    | .sym s => σ s
    | .add c ts => (((ratOfExpr c).getD 0 : Rat) : ℂ) + semPairs σ ts
    | _ => 0
  noncomputable def semPairs (σ : String → ℂ) : List (Expr × Expr) → ℂ
    | [] => 0
    | (k, v) :: t => (((ratOfExpr v).getD 0 : Rat) : ℂ) * (if isPi k then (π : ℂ) else semE σ k) + semPairs σ t
end

theorem semPairs_eq (σ : String → ℂ) : ∀ (ts : List (Expr × Expr)) (ts' : List (Expr × Rat)),
    linTerms ts = some ts' → semPairs σ ts = sumTs (semE σ) (π : ℂ) ts'
  | [], ts', h => by simp [linTerms] at h; subst h; simp [semPairs]
  | (k, v) :: t, ts', h => by
    simp only [linTerms, Option.bind_eq_bind, Option.bind_eq_some_iff] at h
    obtain ⟨q, hq, r, hr, h⟩ := h
    split at h
    · cases h
    · simp at h; subst h
      simp [semPairs, semPairs_eq σ t r hr, termVal, atomVal, hq]

theorem semE_compositional (σ : String → ℂ) : Compositional (semE σ) (π : ℂ) := by
  intro c ts inner h
  simp only [toLin, Option.bind_eq_bind, Option.bind_eq_some_iff] at h
  obtain ⟨c', hc, ts', hts, h⟩ := h
  simp at h; subst h
  simp [semE, Lin.eval, hc, semPairs_eq σ ts ts' hts]

/-- non-vacuity: `sin(x + 3·pi)` is rewritten to `-sin(x)` and the theorem applies to it -/
example (σ : String → ℂ) :
    ∃ res, trigCtor [.sym "x", piE] trigFuel .sin ⟨0, [(.sym "x", 1), (piE, 3)]⟩ = .ok res ∧
      res.sem (semE σ) (π : ℂ) Fc = Complex.sin (σ "x" + 3 * π) := by
  have hw : (Lin.mk 0 [(.sym "x", 1), (piE, 3)]).wf = true := by decide
  -- the call succeeds (kernel evaluation), without writing its result down
  have hok : (match trigCtor [.sym "x", piE] trigFuel .sin ⟨0, [(.sym "x", 1), (piE, 3)]⟩ with
      | .ok _ => true | .error _ => false) = true := by decide +kernel
  cases h : trigCtor [.sym "x", piE] trigFuel .sin ⟨0, [(.sym "x", 1), (piE, 3)]⟩ with
  | error e => rw [h] at hok; simp at hok
  | ok res =>
    refine ⟨res, rfl, ?_⟩
    rw [sin_ctor_value (semE_compositional σ) _ _ _ res hw h]
    simp [Lin.eval, termVal, atomVal, isPi, piE, semE]

theorem floor_eq_intFloor (q : ℚ) : q.floor = ⌊q⌋ := rfl

theorem ceil_eq_intCeil (q : ℚ) : q.ceil = ⌈q⌉ := by
  rw [Rat.ceil_eq_neg_floor_neg, floor_eq_intFloor, Int.floor_neg, neg_neg]

/-- `floor(q)` of an exact rational is the mathematical floor (`mp_fdiv_q`) -/
theorem floor_rat (q : ℚ) : roundFn "Floor" q = some ⌊q⌋ := by simp [roundFn, floor_eq_intFloor]
/-- `ceiling(q)` (`mp_cdiv_q`) -/
theorem ceiling_rat (q : ℚ) : roundFn "Ceiling" q = some ⌈q⌉ := by simp [roundFn, ceil_eq_intCeil]
/-- `truncate(q)` rounds towards zero (`mp_tdiv_q`) -/
theorem truncate_rat (q : ℚ) : roundFn "Truncate" q = some (if q < 0 then ⌈q⌉ else ⌊q⌋) := by
  simp [roundFn, ratTrunc, ceil_eq_intCeil, floor_eq_intFloor]

example : roundFn "Floor" (-7 / 2 : ℚ) = some (-4) := by rw [floor_rat]; norm_num
example : roundFn "Truncate" (-7 / 2 : ℚ) = some (-3) := by rw [truncate_rat]; norm_num

theorem sign_int (n : Int) : numCtor1 "Sign" (.int n) = .ok (.int (SignType.sign n)) := by
  simp only [numCtor1, ratOfExpr]
  rcases lt_trichotomy n 0 with h | h | h
  · have h1 : ¬ ((n : Rat) > 0) := by exact_mod_cast not_lt.mpr (le_of_lt h)
    have h2 : (n : Rat) < 0 := by exact_mod_cast h
    simp [h1, h2, sign_neg h]
  · subst h; simp
  · have h1 : (n : Rat) > 0 := by exact_mod_cast h
    simp [h1, sign_pos h]

theorem abs_int (n : Int) : numCtor1 "Abs" (.int n) = .ok (.int |n|) := by
  simp only [numCtor1, ratOfExpr]
  rcases lt_or_ge n 0 with h | h
  · have h2 : (n : Rat) < 0 := by exact_mod_cast h
    simp [h2, ratToExpr, abs_of_neg h]
  · have h2 : ¬ (n : Rat) < 0 := by exact_mod_cast not_lt.mpr h
    simp [h2, ratToExpr, abs_of_nonneg h]

theorem fact_eq (n : Nat) : fact n = n.factorial := by
  induction n with
  | zero => rfl
  | succ n ih => simp [fact, ih, Nat.factorial_succ]

/-- `gamma(n+1) = n!` (`gamma_positive_int`) -/
theorem gamma_int (n : Nat) : gammaNum ((((n + 1 : ℕ) : ℤ) : ℚ)) = .rat (n.factorial : ℚ) ∧
    Real.Gamma ((n : ℝ) + 1) = (n.factorial : ℝ) := by
  refine ⟨?_, Real.Gamma_nat_eq_factorial n⟩
  have hden : ((((n + 1 : ℕ) : ℤ) : ℚ)).den = 1 := Rat.den_intCast _
  have hnum : ((((n + 1 : ℕ) : ℤ) : ℚ)).num = ((n + 1 : ℕ) : ℤ) := Rat.num_intCast _
  unfold gammaNum
  rw [hnum]
  simp only [hden, beq_self_eq_true, if_true]
  have hpos : ((n + 1 : ℕ) : ℤ) > 0 := by positivity
  rw [if_pos hpos, Int.toNat_natCast, Nat.add_sub_cancel, fact_eq]

theorem oddFact_pos (n : Nat) : 0 < oddFact n := by
  induction n with
  | zero => simp [oddFact]
  | succ m ih => simp only [oddFact]; exact Nat.mul_pos (by omega) ih

/-- what `gamma_multiple_2` is supposed to compute at `k + 1/2`, at `1/2 - n`: identities of `Real.Gamma`, without `gammaNum` -/
theorem gamma_half_pos (k : Nat) : Real.Gamma ((k : ℝ) + 1 / 2) = (oddFact k : ℝ) / 2 ^ k * √π := by
  induction k with
  | zero =>
    rw [show ((0 : ℕ) : ℝ) + 1 / 2 = 1 / 2 by norm_num, Real.Gamma_one_half_eq]; simp [oddFact]
  | succ k ih =>
    have h0 : ((k : ℝ) + 1 / 2) ≠ 0 := by positivity
    have : ((k + 1 : ℕ) : ℝ) + 1 / 2 = ((k : ℝ) + 1 / 2) + 1 := by push_cast; ring
    rw [this, Real.Gamma_add_one h0, ih]
    simp only [oddFact]
    push_cast
    ring

theorem gamma_half_neg (n : Nat) :
    Real.Gamma (1 / 2 - (n : ℝ)) = (2 : ℝ) ^ n / ((-1) ^ n * (oddFact n : ℝ)) * √π := by
  induction n with
  | zero =>
    rw [show (1 : ℝ) / 2 - ((0 : ℕ) : ℝ) = 1 / 2 by norm_num, Real.Gamma_one_half_eq]; simp [oddFact]
  | succ n ih =>
    have h0 : (1 / 2 - ((n + 1 : ℕ) : ℝ)) ≠ 0 := by
      push_cast
      have : (0 : ℝ) ≤ n := Nat.cast_nonneg n
      intro h; linarith
    have hrec := Real.Gamma_add_one h0
    have e : 1 / 2 - ((n + 1 : ℕ) : ℝ) + 1 = 1 / 2 - (n : ℝ) := by push_cast; ring
    rw [e, ih] at hrec
    have hsol : Real.Gamma (1 / 2 - ((n + 1 : ℕ) : ℝ))
        = (2 : ℝ) ^ n / ((-1) ^ n * (oddFact n : ℝ)) * √π / (1 / 2 - ((n + 1 : ℕ) : ℝ)) := by
      rw [hrec, mul_div_cancel_left₀ _ h0]
    rw [hsol]
    simp only [oddFact]
    push_cast
    have h2 : ((1 : ℝ) / 2 - ((n : ℝ) + 1)) = -((2 * (n : ℝ) + 1) / 2) := by ring
    rw [h2]
    field_simp
    ring

/-- Only the table part is stated here.  The property as stated in properties.jsonl, over the functions the Lean
model covers, is: for every constructor `f` of the family and every argument, the value of the returned expression is
`f` at the value of the argument.  Proved: the six trigonometric constructors on linear arguments (`trig_ctor_sound`), the table
rows listed by `cstGood`/`tctProved`, floor/ceiling/truncate of exact rationals (`roundFn`), sign/abs of exact integers,
gamma at positive integers (`gammaNum`).  Not proved in Lean (numeric
oracle of harness/c08.cpp only): hyperbolic/erf parity rewrites beyond `handle_minus_sound`, the six remaining
`inverse_tct` rows, zeta, dirichlet_eta, erf, erfc, lambertw, beta, polygamma, lowergamma, uppergamma, loggamma,
atan2, max/min, kronecker_delta, levi_civita, primepi, primorial, floating arguments. -/
def C08_full : Prop :=
  (∀ i, i < 12 → arcsin (cstKey i) = π / cstVal i) ∧ (∀ i, i < 14 → arctan (tctKey i) = π / tctVal i)

/-- the full table statement is *false* for the code as it is (rows 4-7 of `inverse_cst`) -/
theorem C08_full_false : ¬ C08_full := fun h => inverseCst_row4_wrong.2 (h.1 4 (by norm_num))

end SymVerif.C08
