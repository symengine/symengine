/-
C03 — every expression the arithmetic API returns is in canonical form.

Model: SymVerif/Model/Arith.lean (+ ArithNum.lean); `canon` mirrors the library's `is_canonical`
functions, `inv = canon ∧ strong` is its inductive strengthening (see the comment "the inductive
strengthening of `canon`" in the model: the library's own invariant is not inductive).

Here: the induction on the fuel (`spec_all`, `spec`) over the steps of Lemmas/C03Dom, C03MulB, C03MulE, the
ten entry points (`…_inv`, `…_canon`) and programs over them (`api_canon`), for all inputs, both
dictionary iteration orders and all recursion fuel. `spec_all` and `api_canon_partial` carry `RadShape` and
`PowerExpOK` as hypotheses; both are theorems (`radShape`, Lemmas/C03Shape; `powerExpOK`, Lemmas/C03MulH)
and `spec`, `api_canon` are unconditional. The Add side stands in Lemmas/C03Add.
Not proved: that the model never returns `Err.badCast` / `Err.assert` (correspondence only); inputs that
pass `is_canonical` but not `strong` are outside the theorems (witness at the end of the file).
-/
import SymVerif.Lemmas.C03Shape
import SymVerif.Lemmas.C03MulH

namespace SymVerif.C03
open SymVerif SymVerif.Arith

theorem spec_all (hshape : RadShape) (hexp : PowerExpOK) : ∀ n, Spec n
  -- at fuel 0 every function returns `.error .fuel`
  | 0 => by constructor <;> intros <;> rename_i h <;> cases h
  | n + 1 =>
    have ih := spec_all hshape hexp n
    { mulF := fun rv => invDom.step_mulF (ih.mulOnto rv) (ih.mulStep rv) (ih.datLoop rv)
      mulOnto := fun rv => invDom.step_mulOnto (ih.mulStep rv)
      mulStep := fun rv => invDom.step_mulStep (ih.datNew rv)
      datLoop := fun rv => invDom.step_datLoop (ih.datNew rv) (ih.datLoop rv)
      absorb := fun rv => invDom.step_absorb (ih.datLoop rv)
      mulInto := fun rv => invDom.step_mulInto (ih.absorb rv) (ih.datNew rv)
      datNew := step_datNew hshape ih
      datFound := step_datFound hshape ih
      powNumRat := step_powNumRat ih
      powrat := step_powrat ih
      rpowrat := step_rpowrat ih
      powerNum := step_powerNum ih
      powerNumLoop := step_powerNumLoop hexp ih
      powF := step_powF ih
      powGeneric := step_powGeneric ih }

theorem spec (n : Nat) : Spec n := spec_all radShape powerExpOK n

theorem guard2_ok {a b r : Expr} {k : R Expr} (h : guard2 a b k = .ok r) :
    (exact a = true ∧ exact b = true) ∧ k = .ok r := by
  unfold guard2 at h
  split at h
  · rename_i hx
    exact ⟨Bool.and_eq_true _ _ ▸ hx, h⟩
  · cases h

theorem addE_inv {a b r : Expr} (ha : inv a = true) (hb : inv b = true)
    (h : addE a b = .ok r) : inv r = true :=
  addCore_inv ha hb (guard2_ok h).2

/-- C03 for `add`: the result is canonical (`Add/Mul/Pow/Rational/Complex::is_canonical` hold on
every node) -/
theorem addE_canon {a b r : Expr} (ha : inv a = true) (hb : inv b = true)
    (h : addE a b = .ok r) : canon r = true := inv_canon (addE_inv ha hb h)

theorem exactList_iff : ∀ l : List Expr, exactList l = true ↔ ∀ a ∈ l, exact a = true :=
  Arith.exactList_iff

theorem addN_inv {l : List Expr} {r : Expr} (hl : ∀ a ∈ l, inv a = true)
    (h : addN l = .ok r) : inv r = true := by
  unfold addN at h
  split at h
  · obtain ⟨⟨c, d⟩, hs, h⟩ := bind_eq_ok h
    obtain ⟨hc, hd, h1⟩ := addNLoop_ok numOK_zero AddDictOK.nil (fun p hp => nomatch hp) hl hs
    exact addFromDict_inv hc hd h1 h
  · cases h

theorem addN_canon {l : List Expr} {r : Expr} (hl : ∀ a ∈ l, inv a = true)
    (h : addN l = .ok r) : canon r = true := inv_canon (addN_inv hl h)

theorem okBase_of_exact_inv {a : Expr} (ha : inv a = true) (hx : exact a = true) :
    okBase a = true := by
  cases a with
  | dbl _ | cdbl _ _ | infty _ | nan => cases hx
  | mul c fs => ?_
  | _ => rfl
  have hc := (inv_mul_coef ha).1
  have hxc : exact c = true := by
    simp only [exact, Bool.and_eq_true] at hx
    exact hx.1
  show isExactNum c = true
  -- a Number constructor is exact (`rfl`) or not (`hxc`); the other constructors are not Numbers (`hc`)
  cases c <;> first | rfl | (cases hc; done) | (cases hxc; done)

theorem mulEO_inv {rv : Bool} {a b r : Expr}
    (ha : inv a = true) (hb : inv b = true) (h : mulEO rv a b = .ok r) : inv r = true :=
  (spec _).mulF rv a b r ha hb (guard2_ok h).2

theorem negEO_inv {rv : Bool} {a r : Expr}
    (ha : inv a = true) (h : negEO rv a = .ok r) : inv r = true :=
  mulEO_inv numOK_minusOne.inv ha h

theorem subEO_inv {rv : Bool} {a b r : Expr}
    (ha : inv a = true) (hb : inv b = true) (h : subEO rv a b = .ok r) : inv r = true := by
  obtain ⟨nb, hm, h⟩ := bind_eq_ok h
  exact addE_inv ha (mulEO_inv numOK_minusOne.inv hb hm) h

theorem powEO_inv {rv : Bool} {a b r : Expr}
    (ha : inv a = true) (hb : inv b = true) (h : powEO rv a b = .ok r) : inv r = true :=
  (spec _).powF rv a b r ha hb (okBase_of_exact_inv ha (guard2_ok h).1.1) (guard2_ok h).2

theorem divEO_inv {rv : Bool} {a b r : Expr}
    (ha : inv a = true) (hb : inv b = true) (h : divEO rv a b = .ok r) : inv r = true := by
  obtain ⟨hx, h⟩ := guard2_ok h
  split at h
  · split at h
    · exact Except.ok.inj h ▸ numOK_nan.inv
    · exact Except.ok.inj h ▸ inv_infty0
  · obtain ⟨ib, hp, h⟩ := bind_eq_ok h
    have hib := (spec _).powF rv b minusOne ib hb numOK_minusOne.inv
      (okBase_of_exact_inv hb hx.2) hp
    split at h
    · exact (spec _).mulF rv a ib r ha hib h
    · cases h

/-- `sqrtEO` and `cbrtEO` are this block at `k = 2`, `3` by unfolding -/
theorem rootEO_inv {rv : Bool} {x r : Expr} (k : Int) (hx : inv x = true)
    (h : (do let e ← divEO rv one (.int k); powEO rv x e) = .ok r) : inv r = true := by
  obtain ⟨e, hd, h⟩ := bind_eq_ok h
  exact powEO_inv hx (divEO_inv numOK_one.inv (exOK_int k).numOK.inv hd) h

theorem sqrtEO_inv {rv : Bool} {x r : Expr}
    (hx : inv x = true) (h : sqrtEO rv x = .ok r) : inv r = true := rootEO_inv 2 hx h

theorem cbrtEO_inv {rv : Bool} {x r : Expr}
    (hx : inv x = true) (h : cbrtEO rv x = .ok r) : inv r = true := rootEO_inv 3 hx h

theorem mulNLoop_ok (fuel : Nat) (rv : Bool) :
    ∀ (l : List Expr) (coef : Expr) (d : Dict) (c' : Expr) (d' : Dict), St coef d →
    (∀ a ∈ l, inv a = true) → mulNLoop fuel rv coef d l = .ok (c', d') → St c' d'
  | [], coef, d, c', d', hs, _, h => by
    simp [mulNLoop] at h
    obtain ⟨rfl, rfl⟩ := h
    exact hs
  | a :: r, coef, d, c', d', hs, hl, h => by
    have ha := hl a (by simp)
    have S := spec fuel
    have hr : ∀ x ∈ r, inv x = true := fun x hx => hl x (List.mem_cons_of_mem _ hx)
    unfold mulNLoop at h
    split at h
    · rename_i ac ad
      obtain ⟨c1, hm, h⟩ := bind_eq_ok h
      obtain ⟨⟨c2, d2⟩, hdl, h⟩ := bind_eq_ok h
      have s2 := S.datLoop rv c1 d (iterOrder rv ad) c2 d2
        ⟨numMul_ok hs.1.2 (inv_mul_coef ha).2 hm, hs.2⟩
        (invDom.iterParts ha rv) hdl
      exact mulNLoop_ok fuel rv r c2 d2 c' d' s2 hr h
    · obtain ⟨⟨c2, d2⟩, hm, h⟩ := bind_eq_ok h
      exact mulNLoop_ok fuel rv r c2 d2 c' d' (S.mulStep rv coef d a c2 d2 hs ha hm) hr h

theorem mulNO_inv {rv : Bool} {l : List Expr}
    {r : Expr} (hl : ∀ a ∈ l, inv a = true) (h : mulNO rv l = .ok r) : inv r = true := by
  unfold mulNO at h
  split at h
  · obtain ⟨⟨c, d⟩, hs, h⟩ := bind_eq_ok h
    have := mulNLoop_ok defaultFuel rv l one [] c d ⟨numOK_one, MulDictOK.nil⟩ hl hs
    exact Except.ok.inj h ▸ mulFromDict_inv this.1 this.2
  · cases h

/-- one call of the modelled API; operands are earlier values, addressed by index -/
inductive Op where
  | add (i j : Nat) | sub (i j : Nat) | mul (i j : Nat) | div (i j : Nat) | pow (i j : Nat)
  | neg (i : Nat) | sqrt (i : Nat) | cbrt (i : Nat)
  | addn (is : List Nat) | muln (is : List Nat)

def getE (env : List Expr) (i : Nat) : R Expr :=
  match env[i]? with
  | some e => .ok e
  | none => .error .unsupported

def getEs (env : List Expr) : List Nat → R (List Expr)
  | [] => .ok []
  | i :: is => do
    let e ← getE env i
    let es ← getEs env is
    pure (e :: es)

def stepOp (rv : Bool) (env : List Expr) : Op → R Expr
  | .add i j => do let a ← getE env i; let b ← getE env j; addE a b
  | .sub i j => do let a ← getE env i; let b ← getE env j; subEO rv a b
  | .mul i j => do let a ← getE env i; let b ← getE env j; mulEO rv a b
  | .div i j => do let a ← getE env i; let b ← getE env j; divEO rv a b
  | .pow i j => do let a ← getE env i; let b ← getE env j; powEO rv a b
  | .neg i => do let a ← getE env i; negEO rv a
  | .sqrt i => do let a ← getE env i; sqrtEO rv a
  | .cbrt i => do let a ← getE env i; cbrtEO rv a
  | .addn is => do let l ← getEs env is; addN l
  | .muln is => do let l ← getEs env is; mulNO rv l

/-- run a program; every result is appended to the environment and may be used by later ops -/
def runProg (rv : Bool) : List Expr → List Op → R (List Expr)
  | env, [] => .ok env
  | env, o :: os => do
    let r ← stepOp rv env o
    runProg rv (env ++ [r]) os

theorem getE_inv {env : List Expr} {i : Nat} {e : Expr} (henv : ∀ x ∈ env, inv x = true)
    (h : getE env i = .ok e) : inv e = true := by
  unfold getE at h
  split at h
  · rename_i x hx
    simp at h; subst h
    exact henv _ (List.mem_of_getElem? hx)
  · simp at h

theorem getEs_inv {env : List Expr} (henv : ∀ x ∈ env, inv x = true) :
    ∀ (is : List Nat) (l : List Expr), getEs env is = .ok l → ∀ a ∈ l, inv a = true
  | [], l, h => by simp [getEs] at h; subst h; simp
  | i :: is, l, h => by
    obtain ⟨e, h1, h⟩ := bind_eq_ok h
    obtain ⟨es, h2, h⟩ := bind_eq_ok h
    cases h
    intro a ha
    rcases List.mem_cons.mp ha with rfl | ha
    · exact getE_inv henv h1
    · exact getEs_inv henv is es h2 a ha

theorem stepOp_inv {rv : Bool} {env : List Expr}
    {o : Op} {r : Expr} (henv : ∀ x ∈ env, inv x = true) (h : stepOp rv env o = .ok r) :
    inv r = true := by
  have two : ∀ (i j : Nat) (f : Expr → Expr → R Expr),
      (∀ a b r, inv a = true → inv b = true → f a b = .ok r → inv r = true) →
      (do let a ← getE env i; let b ← getE env j; f a b) = .ok r → inv r = true := by
    intro i j f hf h
    obtain ⟨a, h1, h⟩ := bind_eq_ok h
    obtain ⟨b, h2, h⟩ := bind_eq_ok h
    exact hf a b r (getE_inv henv h1) (getE_inv henv h2) h
  have onearg : ∀ (i : Nat) (f : Expr → R Expr),
      (∀ a r, inv a = true → f a = .ok r → inv r = true) →
      (do let a ← getE env i; f a) = .ok r → inv r = true := by
    intro i f hf h
    obtain ⟨a, h1, h⟩ := bind_eq_ok h
    exact hf a r (getE_inv henv h1) h
  cases o with
  | add i j => exact two i j addE @addE_inv h
  | sub i j => exact two i j (subEO rv) (@subEO_inv rv) h
  | mul i j => exact two i j (mulEO rv) (@mulEO_inv rv) h
  | div i j => exact two i j (divEO rv) (@divEO_inv rv) h
  | pow i j => exact two i j (powEO rv) (@powEO_inv rv) h
  | neg i => exact onearg i (negEO rv) (@negEO_inv rv) h
  | sqrt i => exact onearg i (sqrtEO rv) (@sqrtEO_inv rv) h
  | cbrt i => exact onearg i (cbrtEO rv) (@cbrtEO_inv rv) h
  | addn is =>
    obtain ⟨l, h1, h⟩ := bind_eq_ok h
    exact addN_inv (getEs_inv henv is l h1) h
  | muln is =>
    obtain ⟨l, h1, h⟩ := bind_eq_ok h
    exact mulNO_inv (getEs_inv henv is l h1) h

def C03_full : Prop :=
  ∀ (rv : Bool) (ops : List Op) (env env' : List Expr), (∀ x ∈ env, inv x = true) →
    runProg rv env ops = .ok env' → ∀ x ∈ env', inv x = true ∧ canon x = true

/-- C03 at program level, unconditionally: every intermediate and final value of every program over
add/sub/neg/mul/div/pow/sqrt/cbrt/add(vec)/mul(vec) satisfies the invariant and is canonical -/
theorem api_canon : C03_full := by
  intro rv ops
  induction ops with
  | nil =>
    intro env env' henv h
    obtain rfl := Except.ok.inj h
    exact fun x hx => ⟨henv x hx, inv_canon (henv x hx)⟩
  | cons o os ih =>
    intro env env' henv h
    obtain ⟨r, h1, h⟩ := bind_eq_ok h
    refine ih (env ++ [r]) env' (fun x hx => ?_) h
    rcases List.mem_append.mp hx with hx | hx
    · exact henv x hx
    · exact List.mem_singleton.mp hx ▸ stepOp_inv henv h1

theorem api_canon_partial (hshape : RadShape) (hexp : PowerExpOK) (rv : Bool) :
    ∀ (ops : List Op) (env env' : List Expr), (∀ x ∈ env, inv x = true) →
      runProg rv env ops = .ok env' → ∀ x ∈ env', inv x = true ∧ canon x = true :=
  api_canon rv

def addOnly : Op → Bool
  | .add _ _ | .addn _ => true
  | _ => false

theorem api_canon_add (rv : Bool) :
    ∀ (ops : List Op) (env env' : List Expr), (∀ o ∈ ops, addOnly o = true) →
      (∀ x ∈ env, inv x = true) → runProg rv env ops = .ok env' →
      ∀ x ∈ env', inv x = true ∧ canon x = true :=
  fun ops env env' _ => api_canon rv ops env env'

/-- C03 for `mul`, `pow`, … (ascending dictionary order, the one the driver prints): canonical results -/
theorem mulE_canon {a b r : Expr} (ha : inv a = true) (hb : inv b = true) (h : mulE a b = .ok r) :
    canon r = true := inv_canon (mulEO_inv ha hb h)

theorem powE_canon {a b r : Expr} (ha : inv a = true) (hb : inv b = true) (h : powE a b = .ok r) :
    canon r = true := inv_canon (powEO_inv ha hb h)

theorem divE_canon {a b r : Expr} (ha : inv a = true) (hb : inv b = true) (h : divE a b = .ok r) :
    canon r = true := inv_canon (divEO_inv ha hb h)

theorem subE_canon {a b r : Expr} (ha : inv a = true) (hb : inv b = true) (h : subE a b = .ok r) :
    canon r = true := inv_canon (subEO_inv ha hb h)

theorem negE_canon {a r : Expr} (ha : inv a = true) (h : negE a = .ok r) : canon r = true :=
  inv_canon (negEO_inv ha h)

theorem sqrtE_canon {x r : Expr} (hx : inv x = true) (h : sqrtE x = .ok r) : canon r = true :=
  inv_canon (sqrtEO_inv hx h)

theorem mulN_canon {l : List Expr} {r : Expr} (hl : ∀ a ∈ l, inv a = true) (h : mulN l = .ok r) :
    canon r = true := inv_canon (mulNO_inv hl h)

/-! Non-vacuity: the hypotheses hold and the functions succeed on concrete values. -/

section Examples
private def x : Expr := .sym "x"
private def y : Expr := .sym "y"
private def twoX : Expr := .mul (.int 2) [(x, .int 1)]
private def sqrt2 : Expr := .pow (.int 2) (.rat 1 2)
private def xPlusY : Expr := .add (.int 0) [(x, .int 1), (y, .int 1)]

-- addE_inv / addE_canon: x + x = 2*x, (x + y) + 2*x = 3*x + y
example : inv x = true ∧ inv twoX = true ∧ inv xPlusY = true ∧ inv sqrt2 = true := by decide
example : (addE x x).toOption.map key = some (key twoX) := by decide
example : (addE xPlusY twoX).toOption.map key
    = some (key (.add (.int 0) [(x, .int 3), (y, .int 1)])) := by decide
example : (addN [x, y, x, .int 5]).toOption.map key
    = some (key (.add (.int 5) [(x, .int 2), (y, .int 1)])) := by decide
-- the Mul / Pow conclusions on concrete radicals: 2**(1/2) * 2**(1/2) = 2, (2*x)**(1/2), 8**(2/3) = 4
example : (mulE sqrt2 sqrt2).toOption.map key = some (key (.int 2)) := by decide
example : ((powE twoX (.rat 1 2)).toOption.map inv) = some true := by decide
example : (powE (.int 8) (.rat 2 3)).toOption.map key = some (key (.int 4)) := by decide
example : ((sqrtE (.int (-8))).toOption.map inv) = some true := by decide
-- a program: v2 = x + y, v3 = v2 * v2, v4 = sqrt v3, v5 = v4 / x
example : ((runProg false [x, y] [.add 0 1, .mul 2 2, .sqrt 3, .div 4 0]).toOption.map
    (fun env => env.all inv)) = some true := by decide

/-- `Mul::is_canonical` / `Pow::is_canonical` are not inductive: a Mul that passes the library's
check is turned into a Pow that fails it (it never arises from the constructors; `strong` excludes
it) -/
example : canon (.mul (.int 3) [(.int 2, .rat 3 2)]) = true
    ∧ strong (.mul (.int 3) [(.int 2, .rat 3 2)]) = false
    ∧ (mulE (.rat 1 3) (.mul (.int 3) [(.int 2, .rat 3 2)])).toOption.map key
        = some (key (.pow (.int 2) (.rat 3 2)))
    ∧ canon (.pow (.int 2) (.rat 3 2)) = false := by decide
end Examples

end SymVerif.C03
