/-
C14 — LLVM-compiled functions (LLVMVisitor::init / call, symengine/llvm_double.cpp).

Claimed theorems, for every number structure (`LOps α`), about the functions the driver runs (`LLVMD.lower`,
`compileT`, `initV`, `run`) over the table translated from llvm_double.cpp on this run
(Gen/LLVMFormulas.lean).  `compileT_wellformed` stands in Lemmas/C14WF.lean.  The two source facts
`symbol_cse_first`, `init_clears_state` are false in the unpatched source (defects).  The value theorem
covers the plain path only (`initV_correct_plain`); SSA form and re-initialisation cover the CSE path too.

LLVM's optimiser, instruction selection, JIT and the dumps/loads round trip are outside the kernel
(partial); they are exercised by the harness at every optimisation level.
-/
import SymVerif.Lemmas.C14WF
import SymVerif.Gen.LLVMFormulas
import SymVerif.Gen.EvalFormulas

namespace SymVerif.C14
open SymVerif SymVerif.EvalG SymVerif.LLVMD

variable {α : Type}

/-- translated from LLVMVisitor::bvisit(const Symbol&): replacement symbols shadow inputs -/
theorem symbol_cse_first : LLVMD.Gen.symbolInputsFirst = false := by decide

/-- translated from LLVMVisitor::init: symbol_ptrs / replacement_symbol_ptrs are cleared on entry -/
theorem init_clears_state : LLVMD.Gen.initClearsState = true := by decide

/-- comparison a predicate computes on ordered (non-NaN) operands -/
def cmpOf : FPred → Option Cmp
  | .oeq => some .eq | .ueq => some .eq
  | .one => some .ne | .une => some .ne
  | .ole => some .le | .olt => some .lt
  | _ => none

/-- the M-Eval formula a node kind denotes when it is a plain function of its operands -/
def ldefFormula : LDef → Option Formula
  | .intrinsic n => (calleeFn1 n).map fun f => .call1 f (.arg 0)
  | .external n =>
    match calleeFn1 n with
    | some f => some (.call1 f (.arg 0))
    | none => (calleeFn2 n).map fun f => .call2 f (.arg 0) (.arg 1)
  | .relational p => (cmpOf p).map fun c => .cmp c (.arg 0) (.arg 1)
  | _ => none

def agreeL (p : String × LDef) : Bool :=
  match ldefFormula p.2, EvalG.Gen.lambdaReal.find p.1 with
  | some f, some (.fn g) => decide (f = g)
  | some _, some _ => false
  | _, _ => true

/-- **Same function, same operand order as lambda_double**, for every kind that is a plain call. -/
theorem llvm_table_agree : ∀ p ∈ LLVMD.Gen.llvmDefs, agreeL p = true := by
  decide +kernel

/-- kinds both evaluators define for which LLVMVisitor generates code structurally (modelled in `lower`) -/
def structural : List String :=
  (LLVMD.Gen.llvmDefs.filter fun p => (ldefFormula p.2).isNone && (EvalG.Gen.lambdaReal.find p.1).isSome).map (·.1)

theorem llvm_differs_by_design :
    structural = ["Integer", "Rational", "RealDouble", "BooleanAtom", "Infty", "NaN", "Constant", "Symbol", "Add", "Mul",
                  "Pow", "Piecewise", "Sign", "Contains", "Not", "UnevaluatedExpr", "Max", "Min", "And", "Or", "Xor"] := by
  decide +kernel

/-- the predicates emitted for the four relational kinds; the ordered `!=` (`fcmp one`) is the only one
whose NaN behaviour differs from C's operator -/
theorem relational_predicates :
    (LLVMD.Gen.llvmDefs.filterMap fun p => match p.2 with
      | .relational q => some (p.1, q)
      | _ => none)
    = [("Equality", .oeq), ("Unequality", .one), ("LessThan", .ole), ("StrictLessThan", .olt)] := by
  decide +kernel

/-- the formula lambda_double uses for a rewritten kind -/
def rewriteFormula (recipOutside : Bool) (fn : String) : Option Formula :=
  match EvalG.Gen.lambdaReal.find fn with
  | some (.fn (.call1 f (.arg 0))) =>
    some (if recipOutside then .div (.lit 1 1) (.call1 f (.arg 0)) else .call1 f (.div (.lit 1 1) (.arg 0)))
  | _ => none

/-- RewriteTrigVisitor's rewrites (`Cot x ↦ 1/Tan x`, `ASec x ↦ ACos (1/x)`, …) are exactly the
formulas lambda_double evaluates for those kinds -/
theorem rewrites_agree :
    ∀ r ∈ LLVMD.Gen.rewrites,
      (match rewriteFormula r.2.1 r.2.2, EvalG.Gen.lambdaReal.find r.1 with
        | some f, some (.fn g) => decide (f = g)
        | _, _ => false) = true := by
  decide +kernel

/-- every node kind lambda_double evaluates is compiled: directly or through a rewrite -/
theorem llvm_kinds_cover_lambda :
    ∀ p ∈ EvalG.Gen.lambdaReal,
      ((LLVMD.Gen.llvmDefs.find p.1).isSome || (LLVMD.Gen.rewrites.map (·.1)).contains p.1) = true := by
  decide +kernel

/-- **Code generation is correct** for every operator tree, program prefix, environment and input
vector: the appended instructions compute `evalT`, and the result operand is defined. -/
theorem compileT_correct (L : LOps α) (xs : List α) (env : String → Option (Val α)) (venv : String → Option α)
    (t : T α) (P : Prog α) (v : Val α) (P' : Prog α) (h : compileT L env t P = .ok (v, P')) :
    ∃ ext, P' = P ++ ext ∧ ∀ regs, regs.length = P.length → EnvOK env venv regs →
      (v.lt (exec L xs regs ext).length ∧ valOf (exec L xs regs ext) v = evalT L venv t) :=
  compileT_sim L xs env venv t P v P' h

/-- the configuration the driver runs, for any number structure -/
def cfgOf (L : LOps α) : Cfg α :=
  { L := L, defs := LLVMD.Gen.llvmDefs, consts := EvalG.Gen.visitorReal,
    inputsFirst := LLVMD.Gen.symbolInputsFirst, clearsState := LLVMD.Gen.initClearsState }

/-- **Headline (plain path).**  For ANY prior state of the visitor: after a successful
`init(inputs, outputs, cse = false)`, `call xs` returns, for every output expression, the reference
value of the operator tree the visitor generated code for. -/
theorem initV_correct_plain (L : LOps α) (S S' : VState) (ins : List String) (outs : List Expr) (C : Compiled α)
    (hinit : initV (cfgOf L) S ins outs none = (S', .ok C)) (xs : List α) (hxs : xs.length = ins.length) :
    run L C xs = outs.map (evalL (cfgOf L) (tab0 ins) (bindEnv ins xs)) :=
  initV_plain (cfgOf L) S S' ins outs C init_clears_state hinit xs (Nat.le_of_eq hxs.symm)

/-- **Re-initialised = fresh**, with or without CSE: what an earlier (failed) init left behind is irrelevant. -/
theorem reinit_fresh (L : LOps α) (S : VState) (ins : List String) (outs : List Expr)
    (cse : Option (List (String × Expr) × List Expr)) :
    initV (cfgOf L) S ins outs cse = initV (cfgOf L) {} ins outs cse :=
  initV_state_irrelevant (cfgOf L) init_clears_state S ins outs cse

/-- **SSA well-formedness** of everything `init` generates (plain and CSE path, any prior state): every
operand of every instruction is a constant or the result of an *earlier* instruction, and every stored
output is defined. -/
theorem initV_wellformed (L : LOps α) (S S' : VState) (ins : List String) (outs : List Expr)
    (cse : Option (List (String × Expr) × List Expr)) (C : Compiled α)
    (hinit : initV (cfgOf L) S ins outs cse = (S', .ok C)) :
    WF C.body ∧ ∀ v ∈ C.outs, v.lt C.body.length :=
  initV_wf (cfgOf L) S S' ins outs cse C hinit

theorem init_ok_state_clean (cfg : Cfg α) (S S' : VState) (ins : List String) (outs : List Expr)
    (cse : Option (List (String × Expr) × List Expr)) (C : Compiled α)
    (h : initV cfg S ins outs cse = (S', .ok C)) : S' = {} :=
  (initV_ok h).1

theorem evalOp_fadd (L : LOps α) (a b : α) : evalOp L .fadd [.f a, .f b] = .f (L.O.add a b) := rfl
theorem evalOp_fmul (L : LOps α) (a b : α) : evalOp L .fmul [.f a, .f b] = .f (L.O.mul a b) := rfl

/-- Pow with the integer exponent 2 is the product `x * x` -/
theorem evalOp_square_eq_mul (L : LOps α) (a : α) : evalOp L .square [.f a] = evalOp L .fmul [.f a, .f a] := rfl

/-- a unary intrinsic / libm call returns the number structure's function of that name -/
theorem evalOp_call1 (L : LOps α) (intr : Bool) (name : String) (f : Fn) (x y : α)
    (hn : name ≠ "exp2") (hf : calleeFn1 name = some f) (hy : L.O.call1 f x = some y) :
    evalOp L (.call intr name) [.f x] = .f y := by
  simp [evalOp, rvCall, asFs, asF, callSem, hn, hf, hy, optErr, ofExceptF]

/-- a binary call passes the operands in order: `pow(base, exp)`, `atan2(y, x)` -/
theorem evalOp_call2 (L : LOps α) (intr : Bool) (name : String) (f : Fn) (x y z : α)
    (hf : calleeFn2 name = some f) (hz : L.O.call2 f x y = some z) :
    evalOp L (.call intr name) [.f x, .f y] = .f z := by
  simp [evalOp, rvCall, asFs, asF, callSem, hf, hz, optErr, ofExceptF]

theorem evalOp_exp2 (L : LOps α) (x y : α) (hy : L.exp2 x = some y) :
    evalOp L (.call true "exp2") [.f x] = .f y := by
  simp [evalOp, rvCall, asFs, asF, callSem, hy, optErr, ofExceptF]

theorem evalOp_powi (L : LOps α) (x y : α) (n : Int) (hy : L.powi x n = some y) :
    evalOp L (.powi n) [.f x] = .f y := by
  simp [evalOp, rvPowi, asF, hy, optErr, ofExceptF]

/-- a relational node is the indicator (1/0) of the predicate on its operands, in order -/
theorem evalOp_relational (L : LOps α) (p : FPred) (a b : α) :
    evalOp L (.cmpU p) [.f a, .f b] = .f (L.O.ofBool (fcmpSem L.O p a b)) := rfl

/-- Piecewise: the first arm when the predicate value is (ordered and) non-zero, else the second -/
theorem evalT_pw (L : LOps α) (venv : String → Option α) (c a b : T α) (vc va vb : α)
    (hc : evalT L venv c = .f vc) (ha : evalT L venv a = .f va) (hb : evalT L venv b = .f vb) :
    evalT L venv (.pw c a b) = .f (if fcmpSem L.O .one vc (zeroF L) then va else vb) := by
  simp [evalT, hc, ha, hb, rvPhi, rvFCmp, asF, asB]

/-- an Add with zero coefficient starts from its first term; a unit coefficient is not multiplied -/
theorem lower_add_shape (C : LowCtx α) (rec : Expr → Except Err (T α)) (k1 k2 : Expr) (t1 t2 tc : T α)
    (hneed : C.defs.find "Add" = some .add) (h1 : rec k1 = .ok t1) (h2 : rec k2 = .ok t2) (hc : rec (.int 3) = .ok tc) :
    lowerStep C rec (.add (.int 0) [(k1, .int 1), (k2, .int 3)]) = .ok (.op .fadd [t1, .op .fmul [t2, tc]]) := by
  simp [lowerStep, need, hneed, isZero, lowerTermWith, lowerTermsWith, isOne, h1, h2, hc]

/-- a toy number structure (integers; every libm function is the identity) -/
def toyOps : NumOps Int :=
  { ofQTrunc := fun n _ => n, ofQNear := fun n _ => n, ofBits := fun b => b.toNat, inf := fun _ => 0, nan := 0,
    add := (· + ·), sub := (· - ·), mul := (· * ·), div := (· / ·), neg := fun x => -x,
    call1 := fun _ x => some x, call2 := fun _ x _ => some x,
    eq := fun a b => a == b, lt := fun a b => a < b, le := fun a b => a ≤ b }

def toyL : LOps Int := { O := toyOps, exp2 := fun x => some x, powi := fun x _ => some x }

/-- `sin(x) + 2*y` compiles, and the compiled program returns the reference value on [3, 4] -/
example : ∃ S C, initV (cfgOf toyL) {} ["x", "y"] [.add (.int 0) [(.app "Sin" [.sym "x"], .int 1), (.sym "y", .int 2)]] none = (S, .ok C)
    ∧ run toyL C [3, 4] = [.ok 11] := by
  exact ⟨_, _, rfl, rfl⟩

/-- the same program (it exists by the previous example) is well formed -/
example : ∀ S C, initV (cfgOf toyL) {} ["x", "y"] [.add (.int 0) [(.app "Sin" [.sym "x"], .int 1), (.sym "y", .int 2)]] none = (S, .ok C)
    → WF C.body :=
  fun S C h => (initV_wellformed toyL {} S _ _ none C h).1

example : agreeL ("ATan2", .external "atan2") = true := by decide +kernel
example : agreeL ("Tan", .external "sin") = false := by decide +kernel

/-- The full property, not asserted: the machine code LLVM produces (any optimisation level, after a
dumps/loads round trip, for each float type) computes the program's value up to floating-point rounding.
`jit` abstracts LLVM's optimiser, instruction selection and MCJIT; `approx` is "within rounding error". -/
def C14_full (jit : Nat → Compiled Float → List Float → List Float) (approx : Float → Except Err Float → Prop)
    (sp : SpecTable) : Prop :=
  ∀ (S S' : VState) (ins : List String) (outs : List Expr) (cse : Option (List (String × Expr) × List Expr))
    (C : Compiled Float) (lvl : Nat) (xs : List Float),
    initV (cfgOf (floatL sp)) S ins outs cse = (S', .ok C) → xs.length = ins.length →
    All2 approx (jit lvl C xs) (run (floatL sp) C xs)

end SymVerif.C14
