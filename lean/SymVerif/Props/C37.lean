/-
C37 — Common-subexpression elimination is a faithful factoring (symengine/cse.cpp).

Certificate checking: the harness runs the real `cse` and hands inputs, replacement pairs and
reduced expressions to `CSE.check` (Model/CSE.lean).  The theorems below say what an accepted
certificate guarantees, for every field `K` of characteristic 0 and every lawful interpretation
`M` of symbols, constants, functions and non-literal powers (functions are interpreted
*functionally*: the value of `f(a₁,…,aₙ)` depends on the values of the arguments only).
-/
import SymVerif.Lemmas.Basic
import SymVerif.Lemmas.C37Complex
import SymVerif.Lemmas.C37Tree

namespace SymVerif
namespace C37

open NF CSE

/-- no replacement symbol occurs in the inputs; the replacement symbols are pairwise distinct -/
def Fresh (inputs : List Expr) (reps : List (String × Expr)) : Prop :=
  (∀ p ∈ reps, p.1 ∉ symNamesList inputs) ∧ (reps.map (·.1)).Nodup

/-- the right-hand side of replacement `i` mentions no replacement symbol with index `k ≥ i` -/
def Ordered (reps : List (String × Expr)) : Prop :=
  ∀ (i k : Nat) si ri sk rk, reps[i]? = some (si, ri) → reps[k]? = some (sk, rk) → i ≤ k → sk ∉ symNames ri

theorem freshB_sound (inputs : List Expr) :
    ∀ reps : List (String × Expr), freshB inputs reps = true → Fresh inputs reps
  | [], _ => ⟨by simp, by simp⟩
  | (s, r) :: rest, h => by
    simp only [freshB, Bool.and_eq_true, Bool.not_eq_true', List.contains_eq_mem,
      decide_eq_false_iff_not] at h
    obtain ⟨⟨h1, h2⟩, h3⟩ := h
    obtain ⟨ih1, ih2⟩ := freshB_sound inputs rest h3
    exact ⟨List.forall_mem_cons.mpr ⟨h1, ih1⟩, List.nodup_cons.mpr ⟨h2, ih2⟩⟩

theorem orderedB_sound : ∀ reps : List (String × Expr), orderedB reps = true → Ordered reps
  | [], _ => by unfold Ordered; intro i k si ri sk rk hi; simp at hi
  | (s, r) :: rest, h => by
    simp only [orderedB, Bool.and_eq_true, List.all_eq_true, Bool.not_eq_true', List.contains_eq_mem,
      decide_eq_false_iff_not] at h
    obtain ⟨h1, h2⟩ := h
    have ih := orderedB_sound rest h2
    unfold Ordered at ih ⊢
    intro i k si ri sk rk hi hk hik
    cases i with
    | zero =>
      simp only [List.getElem?_cons_zero, Option.some.injEq, Prod.mk.injEq] at hi
      obtain ⟨rfl, rfl⟩ := hi
      exact fun hmem => h1 sk hmem (List.mem_map_of_mem (f := (·.1)) (List.mem_of_getElem? hk))
    | succ i =>
      cases k with
      | zero => omega
      | succ k =>
        simp only [List.getElem?_cons_succ] at hi hk
        exact ih i k si ri sk rk hi hk (by omega)

section
variable {K : Type} [Field K]

-- the recursion of `evalS_substSym` (Lemmas/C37Sem) once more; it stands here because the list-level statements are results
-- of this file
mutual
  theorem evalS_setSym_fresh (M : Interp K) (s : String) (v : K) :
      ∀ e : Expr, s ∉ symNames e → evalS (M.setSym s v) e = evalS M e
    | .int n, _ | .rat n d, _ | .cplx re im, _ | .dbl _, _ | .cdbl _ _, _
    | .infty _, _ | .nan, _ | .bool _, _ | .dummy n i, _ | .const n, _ => by simp [evalS]
    | .add c ts, h => by
      simp only [symNames, List.mem_append, not_or] at h
      simp only [evalS, evalS_setSym_fresh M s v c h.1, evalSTerms_setSym_fresh M s v ts h.2]
    | .mul c fs, h => by
      simp only [symNames, List.mem_append, not_or] at h
      simp only [evalS, evalS_setSym_fresh M s v c h.1, evalSFacs_setSym_fresh M s v fs h.2]
    | .pow b e, h => by
      simp only [symNames, List.mem_append, not_or] at h
      simp only [evalS, evalS_setSym_fresh M s v b h.1, evalS_setSym_fresh M s v e h.2, pwVal_setSym]
    | .sym n, h => by
      simp only [symNames, List.mem_singleton] at h
      have : ¬ n = s := fun hn => h hn.symm
      simp [evalS, Interp.setSym, this]
    | .fsym n args, h => by
      simp only [symNames] at h
      simp only [evalS, evalSList_setSym_fresh M s v args h, setSym_fsym]
    | .app hd args, h => by
      simp only [symNames] at h
      simp only [evalS, evalSList_setSym_fresh M s v args h, setSym_app]
  theorem evalSList_setSym_fresh (M : Interp K) (s : String) (v : K) :
      ∀ l : List Expr, s ∉ symNamesList l → evalSList (M.setSym s v) l = evalSList M l
    | [], _ => by simp [evalSList]
    | a :: t, h => by
      simp only [symNamesList, List.mem_append, not_or] at h
      simp only [evalSList, evalS_setSym_fresh M s v a h.1, evalSList_setSym_fresh M s v t h.2]
  theorem evalSTerms_setSym_fresh (M : Interp K) (s : String) (v : K) :
      ∀ l : List (Expr × Expr), s ∉ symNamesPairs l → evalSTerms (M.setSym s v) l = evalSTerms M l
    | [], _ => by simp [evalSTerms]
    | (k, c) :: t, h => by
      simp only [symNamesPairs, List.mem_append, not_or] at h
      simp only [evalSTerms, evalS_setSym_fresh M s v k h.1, evalS_setSym_fresh M s v c h.2.1,
        evalSTerms_setSym_fresh M s v t h.2.2]
  theorem evalSFacs_setSym_fresh (M : Interp K) (s : String) (v : K) :
      ∀ l : List (Expr × Expr), s ∉ symNamesPairs l → evalSFacs (M.setSym s v) l = evalSFacs M l
    | [], _ => by simp [evalSFacs]
    | (b, e) :: t, h => by
      simp only [symNamesPairs, List.mem_append, not_or] at h
      simp only [evalSFacs, evalS_setSym_fresh M s v b h.1, evalS_setSym_fresh M s v e h.2.1,
        evalSFacs_setSym_fresh M s v t h.2.2, pwVal_setSym]
end

theorem mem_symNamesList {e : Expr} {l : List Expr} (he : e ∈ l) {s : String} (hs : s ∈ symNames e) :
    s ∈ symNamesList l := by
  induction l with
  | nil => cases he
  | cons a t ih =>
    simp only [symNamesList, List.mem_append]
    rcases List.mem_cons.mp he with rfl | he
    · exact Or.inl hs
    · exact Or.inr (ih he)

/-- evaluating the replacements does not change the value of an expression in which no replacement
symbol occurs -/
theorem evalS_envAfter_fresh (e : Expr) :
    ∀ (reps : List (String × Expr)) (M M' : Interp K), (∀ p ∈ reps, p.1 ∉ symNames e) →
      envAfter M reps = some M' → evalS M' e = evalS M e
  | [], M, M', _, h => by
    simp only [envAfter, Option.some.injEq] at h; rw [h]
  | (s, r) :: rest, M, M', hf, h => by
    simp only [envAfter] at h
    split at h
    · rename_i v _
      rw [evalS_envAfter_fresh e rest (M.setSym s v) M'
        (fun p hp => hf p (List.mem_cons_of_mem _ hp)) h]
      exact evalS_setSym_fresh M s v e (hf (s, r) List.mem_cons_self)
    · cases h

end

theorem check_parts {inputs reduced : List Expr} {reps : List (String × Expr)}
    (h : check inputs reps reduced = true) :
    freshB inputs reps = true ∧ orderedB reps = true ∧ rhsOkB reps = true ∧
      faithfulB reps inputs reduced = true := by
  simp only [check, Bool.and_eq_true] at h
  exact ⟨h.1.1.1, h.1.1.2, h.1.2, h.2⟩

/-- **C37, faithfulness.**  If the checker accepts the certificate `(reps, reduced)` for `inputs`,
then for every lawful interpretation `M`: evaluate the replacements in order (`envAfter`, each
right-hand side in the environment extended by the earlier replacement symbols), then the reduced
expressions in the resulting environment `M'` — the values are the values of the inputs in `M`,
wherever both are defined. -/
theorem cse_certificate_sound {K : Type} [Field K] [CharZero K] (M : Interp K) (hM : Lawful M)
    (inputs reduced : List Expr) (reps : List (String × Expr))
    (hc : check inputs reps reduced = true) (M' : Interp K) (hEnv : envAfter M reps = some M') :
    inputs.length = reduced.length ∧
    ∀ (j : Nat) inp red, inputs[j]? = some inp → reduced[j]? = some red →
      ∀ r w, evalS M' red = some r → evalS M inp = some w → r = w := by
  obtain ⟨_, _, hok, hf⟩ := check_parts hc
  obtain ⟨hlen, hall⟩ := listAll2_get inputs reduced hf
  refine ⟨hlen, ?_⟩
  intro j inp red hi hr r w hr' hw
  have ht := hall j inp red hi hr
  have hs := treeEquiv_sound hM ht
  have hb := evalS_backSubst reps M M' red hok hEnv
  exact hs r w (by rw [hb]; exact hr') hw

/-- **C37, freshness**: an accepted certificate has fresh, pairwise distinct replacement symbols. -/
theorem cse_fresh {inputs reduced : List Expr} {reps : List (String × Expr)}
    (hc : check inputs reps reduced = true) : Fresh inputs reps :=
  freshB_sound inputs reps (check_parts hc).1

/-- **C37, orderedness**: each replacement refers only to earlier replacement symbols. -/
theorem cse_ordered {inputs reduced : List Expr} {reps : List (String × Expr)}
    (hc : check inputs reps reduced = true) : Ordered reps :=
  orderedB_sound reps (check_parts hc).2.1

/-- Because the replacement symbols are fresh, the inputs have the same value in the environment
`M'` in which the reduced expressions are evaluated: faithfulness can be read in one environment. -/
theorem cse_faithful_same_env {K : Type} [Field K] [CharZero K] (M : Interp K) (hM : Lawful M)
    (inputs reduced : List Expr) (reps : List (String × Expr))
    (hc : check inputs reps reduced = true) (M' : Interp K) (hEnv : envAfter M reps = some M') :
    ∀ (j : Nat) inp red, inputs[j]? = some inp → reduced[j]? = some red →
      ∀ r w, evalS M' red = some r → evalS M' inp = some w → r = w := by
  intro j inp red hi hr r w hr' hw
  have hfr := (cse_fresh hc).1
  have hsame : evalS M' inp = evalS M inp :=
    evalS_envAfter_fresh inp reps M M'
      (fun p hp hs => hfr p hp (mem_symNamesList (List.mem_of_getElem? hi) hs)) hEnv
  exact (cse_certificate_sound M hM inputs reduced reps hc M' hEnv).2 j inp red hi hr r w hr'
    (by rw [← hsame]; exact hw)

/-- what the driver's `ok` means: every other verdict is a different string, so each test was passed -/
theorem judge_ok {inputs : List Expr} {cert : String} (h : judge inputs cert = "ok") :
    ∃ reps reduced, parseCert cert = some (reps, reduced) ∧ check inputs reps reduced = true := by
  unfold judge at h
  split at h
  · exact absurd h (by decide)
  · rename_i reps reduced hp
    refine ⟨reps, reduced, hp, ?_⟩
    have h := else_of_ite_eq (by decide) h
    have h := else_of_ite_eq (by decide) h
    have h := else_of_ite_eq (by decide) h
    have h := else_of_ite_eq (by decide) h
    have h := else_of_ite_eq (by split <;> decide) h
    by_contra hc
    rw [if_neg hc] at h
    exact absurd h (by decide)

/-- the statement from "the driver printed `ok`" -/
theorem cse_driver_ok_sound {K : Type} [Field K] [CharZero K] (M : Interp K) (hM : Lawful M)
    (inputs : List Expr) (cert : String) (h : judge inputs cert = "ok") :
    ∃ reps reduced, parseCert cert = some (reps, reduced) ∧ Fresh inputs reps ∧ Ordered reps ∧
      ∀ M', envAfter M reps = some M' →
        ∀ (j : Nat) inp red, inputs[j]? = some inp → reduced[j]? = some red →
          ∀ r w, evalS M' red = some r → evalS M inp = some w → r = w := by
  obtain ⟨reps, reduced, hp, hc⟩ := judge_ok h
  exact ⟨reps, reduced, hp, cse_fresh hc, cse_ordered hc,
    fun M' hE => (cse_certificate_sound M hM inputs reduced reps hc M' hE).2⟩

/-- ℂ with the principal power, `Sin ↦ Complex.sin`, `Cos ↦ Complex.cos` -/
noncomputable def MC (σ : String → ℂ) : Interp ℂ where
  I := Complex.I
  sym := σ
  dummy := fun _ _ => 0
  const := fun _ => 0
  fsym := fun _ _ => 0
  app := fun h args =>
    match args with
    | [v] => if h = "Sin" then Complex.sin v else if h = "Cos" then Complex.cos v else 0
    | _ => 0
  pw := fun b e => b ^ e

theorem MC_lawful (σ : String → ℂ) : Lawful (MC σ) where
  I_sq := Complex.I_mul_I
  __ := lawful_of_cpow (M := MC σ) rfl rfl
    (by
      intro h hh v
      simp only [oddHeads, List.mem_cons, List.not_mem_nil, or_false] at hh
      -- "Sin" by `sin_neg` ("Cos" by `cos_neg` below); every other head is `0 = -0`: `MC` interprets these two only
      rcases hh with rfl | rfl | rfl | rfl | rfl | rfl | rfl | rfl | rfl | rfl | rfl | rfl <;>
        simp only [MC, String.reduceEq, ↓reduceIte, Complex.sin_neg, neg_zero])
    (by
      intro h hh v
      simp only [evenHeads, List.mem_cons, List.not_mem_nil, or_false] at hh
      rcases hh with rfl | rfl | rfl | rfl | rfl <;> simp only [MC, String.reduceEq, ↓reduceIte, Complex.cos_neg])

def exX : Expr := .sym "x"
def exY : Expr := .sym "y"
def exZ : Expr := .sym "z"
def exXY : Expr := .add (.int 0) [(exX, .int 1), (exY, .int 1)]

/-- `cse([x + y + z, sin(x + y)]) = ([(x0, x + y)], [x0 + z, sin(x0)])` -/
def exInputs : List Expr := [.add (.int 0) [(exX, .int 1), (exY, .int 1), (exZ, .int 1)], .app "Sin" [exXY]]
def exReps : List (String × Expr) := [("x0", exXY)]
def exReduced : List Expr := [.add (.int 0) [(.sym "x0", .int 1), (exZ, .int 1)], .app "Sin" [.sym "x0"]]

set_option maxRecDepth 100000 in
/-- the certificate is accepted (the first reduced expression needs the normaliser: the
back-substituted tree is `(x + y) + z`, the input is the flat `x + y + z`) -/
theorem ex_check : check exInputs exReps exReduced = true := by decide +kernel

set_option maxRecDepth 100000 in
/-- a certificate with a wrong reduced expression (`x0 + 2z`) is rejected -/
theorem ex_check_rejects :
    check exInputs exReps [.add (.int 0) [(.sym "x0", .int 1), (exZ, .int 2)], .app "Sin" [.sym "x0"]] = false := by
  decide +kernel

set_option maxRecDepth 100000 in
/-- a replacement symbol that occurs in the inputs is rejected -/
theorem ex_check_rejects_not_fresh :
    check exInputs [("x", exXY)] [.add (.int 0) [(.sym "x", .int 1), (exZ, .int 1)], .app "Sin" [.sym "x"]] = false := by
  decide +kernel

/-- all hypotheses of `cse_certificate_sound` hold together on the example over ℂ (lawful
interpretation, accepted certificate, defined replacement, defined reduced expression and input),
and the theorem yields the equality of the two values -/
example (σ : String → ℂ) :
    ∃ M' r w, envAfter (MC σ) exReps = some M' ∧
      evalS M' (.add (.int 0) [(.sym "x0", .int 1), (exZ, .int 1)]) = some r ∧
      evalS (MC σ) (.add (.int 0) [(exX, .int 1), (exY, .int 1), (exZ, .int 1)]) = some w ∧ r = w := by
  have hE : envAfter (MC σ) exReps = some ((MC σ).setSym "x0" (σ "x" + σ "y")) := by
    simp [envAfter, exReps, exXY, exX, exY, evalS, evalSTerms, MC, add2, mul2]
  have h1 : evalS ((MC σ).setSym "x0" (σ "x" + σ "y"))
      (.add (.int 0) [(.sym "x0", .int 1), (exZ, .int 1)]) = some (σ "x" + σ "y" + σ "z") := by
    simp [evalS, evalSTerms, Interp.setSym, MC, exZ, add2, mul2]
  have h2 : evalS (MC σ) (.add (.int 0) [(exX, .int 1), (exY, .int 1), (exZ, .int 1)])
      = some (σ "x" + (σ "y" + σ "z")) := by
    simp [evalS, evalSTerms, MC, exX, exY, exZ, add2, mul2]
  have h := (cse_certificate_sound (MC σ) (MC_lawful σ) exInputs exReduced exReps ex_check _ hE).2
  exact ⟨_, _, _, hE, h1, h2, h 0 _ _ rfl rfl _ _ h1 h2⟩

example : Fresh exInputs exReps := cse_fresh ex_check
example : Ordered exReps := cse_ordered ex_check

end C37
end SymVerif
