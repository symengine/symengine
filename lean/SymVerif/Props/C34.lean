/-
C34  Property queries under assumptions are sound.

Model: SymVerif/Model/Queries.lean (tribool algebra, Assumptions constructor, the visitors of
test_visitors.cpp) and Queries2.lean (is_even / is_odd).  Semantics: `evalR ρ e : Option ℝ` on the real arithmetic fragment (integers, rationals,
symbols, pi/E/GoldenRatio/EulerGamma, Add, Mul, integer powers, real powers of positive bases, abs, sign,
conjugate, floor, ceiling, sin, cos, tan, cot, csc, sec away from their poles, log of positives, max, min) and
`Sat ρ statements`.

The theorems are about `query` (is_even / is_odd: `queryParity`), the functions the driver `drv_c34` runs.  Those for
the sign queries, is_integer, is_even and is_odd have the shape

   build stmts = ok A → Sat ρ stmts → (wf e →) evalR ρ e = some v → query "<q>" A e = ok T/F → ⟦q⟧ v  /  ¬⟦q⟧ v

with `assumptions_sound` (Lemmas/C34Build.lean: the fact tables built from statements an assignment satisfies are
satisfied by it) for the first two hypotheses and the soundness lemma of the visitor, which concludes
`Sound (isX A e) (⟦q⟧ v)` (Lemmas/C34Sem.lean), for the rest.  `indeterminate` answers are unconstrained.
For is_real / is_complex / is_finite a `true` answer says nothing on real-valued semantics; their content is the
`false` direction: such an expression has no real value (four theorems without an assignment or statements).
-/
import SymVerif.Lemmas.C34Dom
import SymVerif.Lemmas.C34Build
import SymVerif.Lemmas.C34Parity

namespace SymVerif.C34
open SymVerif SymVerif.Queries

/-- Callers pass `rfl` for `hc`: it evaluates the string tests of `queryCore` on the literal query name; the fuel of the
    visitor lemma is then found by unfolding the wrapper. -/
theorem query_eq {q : String} {A : Assumptions} {e : Expr} {r x : Tri} (hc : queryCore q A e = some x)
    (h : query q A e = .ok r) : x = r := by
  unfold query at h
  split at h
  · cases h
  · simp only [hc, Except.ok.injEq] at h
    exact h

theorem isLogic_none {ρ : String → ℝ} {e : Expr} (h : isLogic e = true) : evalR ρ e = none := by
  cases e with
  | app hd args => exact isLogic_app_none h
  | bool b => simp [evalR]
  | _ => simp [isLogic] at h

section
variable {ρ : String → ℝ} {stmts : List Expr} {A : Assumptions} {e : Expr} {v : ℝ}

theorem is_zero_sound_true (hb : build stmts = .ok A) (hs : Sat ρ stmts) (hv : evalR ρ e = some v)
    (hq : query "zero" A e = .ok .t) : v = 0 :=
  (isZeroF_sound (assumptions_sound hb hs) _ e v hv).of_t (query_eq rfl hq)

theorem is_zero_sound_false (hb : build stmts = .ok A) (hs : Sat ρ stmts) (hv : evalR ρ e = some v)
    (hq : query "zero" A e = .ok .f) : v ≠ 0 :=
  (isZeroF_sound (assumptions_sound hb hs) _ e v hv).of_f (query_eq rfl hq)

theorem is_nonzero_sound_true (hb : build stmts = .ok A) (hs : Sat ρ stmts) (hv : evalR ρ e = some v)
    (hq : query "nonzero" A e = .ok .t) : v ≠ 0 :=
  (isZeroF_sound (assumptions_sound hb hs) _ e v hv).not.of_t (query_eq rfl hq)

theorem is_nonzero_sound_false (hb : build stmts = .ok A) (hs : Sat ρ stmts) (hv : evalR ρ e = some v)
    (hq : query "nonzero" A e = .ok .f) : v = 0 :=
  of_not_not ((isZeroF_sound (assumptions_sound hb hs) _ e v hv).not.of_f (query_eq rfl hq))

theorem is_positive_sound_true (hb : build stmts = .ok A) (hs : Sat ρ stmts) (hw : wf e = true)
    (hv : evalR ρ e = some v) (hq : query "positive" A e = .ok .t) : 0 < v :=
  (isPositiveF_sound (assumptions_sound hb hs) _ e v hw hv).of_t (query_eq rfl hq)

theorem is_positive_sound_false (hb : build stmts = .ok A) (hs : Sat ρ stmts) (hw : wf e = true)
    (hv : evalR ρ e = some v) (hq : query "positive" A e = .ok .f) : ¬ 0 < v :=
  (isPositiveF_sound (assumptions_sound hb hs) _ e v hw hv).of_f (query_eq rfl hq)

theorem is_negative_sound_true (hb : build stmts = .ok A) (hs : Sat ρ stmts)
    (hv : evalR ρ e = some v) (hq : query "negative" A e = .ok .t) : v < 0 :=
  (isNegative_sound (assumptions_sound hb hs) hv).of_t (query_eq rfl hq)

theorem is_negative_sound_false (hb : build stmts = .ok A) (hs : Sat ρ stmts)
    (hv : evalR ρ e = some v) (hq : query "negative" A e = .ok .f) : ¬ v < 0 :=
  (isNegative_sound (assumptions_sound hb hs) hv).of_f (query_eq rfl hq)

theorem is_nonnegative_sound_true (hb : build stmts = .ok A) (hs : Sat ρ stmts)
    (hv : evalR ρ e = some v) (hq : query "nonnegative" A e = .ok .t) : 0 ≤ v :=
  (isNonnegative_sound (assumptions_sound hb hs) hv).of_t (query_eq rfl hq)

theorem is_nonnegative_sound_false (hb : build stmts = .ok A) (hs : Sat ρ stmts)
    (hv : evalR ρ e = some v) (hq : query "nonnegative" A e = .ok .f) : ¬ 0 ≤ v :=
  (isNonnegative_sound (assumptions_sound hb hs) hv).of_f (query_eq rfl hq)

theorem is_nonpositive_sound_true (hb : build stmts = .ok A) (hs : Sat ρ stmts)
    (hv : evalR ρ e = some v) (hq : query "nonpositive" A e = .ok .t) : v ≤ 0 :=
  (isNonpositive_sound (assumptions_sound hb hs) hv).of_t (query_eq rfl hq)

theorem is_nonpositive_sound_false (hb : build stmts = .ok A) (hs : Sat ρ stmts)
    (hv : evalR ρ e = some v) (hq : query "nonpositive" A e = .ok .f) : ¬ v ≤ 0 :=
  (isNonpositive_sound (assumptions_sound hb hs) hv).of_f (query_eq rfl hq)

theorem is_integer_sound_true (hb : build stmts = .ok A) (hs : Sat ρ stmts) (hw : wf e = true)
    (hv : evalR ρ e = some v) (hq : query "integer" A e = .ok .t) : ∃ n : ℤ, v = (n : ℝ) :=
  (isIntegerF_sound (assumptions_sound hb hs) _ e v hw hv).of_t (query_eq rfl hq)

theorem is_integer_sound_false (hb : build stmts = .ok A) (hs : Sat ρ stmts) (hw : wf e = true)
    (hv : evalR ρ e = some v) (hq : query "integer" A e = .ok .f) : ¬ ∃ n : ℤ, v = (n : ℝ) :=
  (isIntegerF_sound (assumptions_sound hb hs) _ e v hw hv).of_f (query_eq rfl hq)

theorem queryParity_even {A : Assumptions} {e : Expr} {r : Tri} (h : queryParity "even" A e = .ok r) : isEven A e = r := by
  unfold queryParity at h
  split at h
  · cases h
  · exact Except.ok.inj h

theorem queryParity_odd {A : Assumptions} {e : Expr} {r : Tri} (h : queryParity "odd" A e = .ok r) : isOdd A e = r := by
  unfold queryParity at h
  split at h
  · cases h
  · exact Except.ok.inj h

theorem is_even_sound_true (hb : build stmts = .ok A) (hs : Sat ρ stmts) (hw : wf e = true)
    (hv : evalR ρ e = some v) (hq : queryParity "even" A e = .ok .t) : ∃ n : ℤ, v = 2 * (n : ℝ) :=
  (isEven_sound (assumptions_sound hb hs) hw hv).of_t (queryParity_even hq)

theorem is_even_sound_false (hb : build stmts = .ok A) (hs : Sat ρ stmts) (hw : wf e = true)
    (hv : evalR ρ e = some v) (hq : queryParity "even" A e = .ok .f) : ¬ ∃ n : ℤ, v = 2 * (n : ℝ) :=
  (isEven_sound (assumptions_sound hb hs) hw hv).of_f (queryParity_even hq)

theorem is_odd_sound_true (hb : build stmts = .ok A) (hs : Sat ρ stmts) (hw : wf e = true)
    (hv : evalR ρ e = some v) (hq : queryParity "odd" A e = .ok .t) : ∃ n : ℤ, v + 1 = 2 * (n : ℝ) :=
  (isOdd_sound (assumptions_sound hb hs) hw hv).of_t (queryParity_odd hq)

theorem is_odd_sound_false (hb : build stmts = .ok A) (hs : Sat ρ stmts) (hw : wf e = true)
    (hv : evalR ρ e = some v) (hq : queryParity "odd" A e = .ok .f) : ¬ ∃ n : ℤ, v + 1 = 2 * (n : ℝ) :=
  (isOdd_sound (assumptions_sound hb hs) hw hv).of_f (queryParity_odd hq)

theorem is_real_sound_false (hw : wf e = true) (hq : query "real" A e = .ok .f) : evalR ρ e = none :=
  isRealF_f_none _ e hw (query_eq rfl hq)

theorem is_complex_sound_false (hw : wf e = true) (hq : query "complex" A e = .ok .f) : evalR ρ e = none :=
  isComplexF_f_none _ e hw (query_eq rfl hq)

theorem is_finite_sound_false (hq : query "finite" A e = .ok .f) : evalR ρ e = none :=
  isFinite_f_none (query_eq rfl hq)

theorem is_infinite_sound_true (hq : query "infinite" A e = .ok .t) : evalR ρ e = none :=
  isFinite_f_none (tri_not_eq (query_eq rfl hq))

end

/-- `x > 0`, `y ∈ ℤ` -/
def exStmts : List Expr :=
  [.app "StrictLessThan" [.int 0, .sym "x"], .app "Contains" [.sym "y", .app "Integers" []]]
def exRho : String → ℝ := fun s => if s = "x" then 3 else 2
/-- `1 + 2*x` -/
def exE1 : Expr := .add (.int 1) [(.sym "x", .int 2)]
/-- `3*y` -/
def exE2 : Expr := .mul (.int 3) [(.sym "y", .int 1)]
/-- `I*x` -/
def exE3 : Expr := .mul (.cplx ⟨0, 1⟩ ⟨1, 1⟩) [(.sym "x", .int 1)]

theorem exSat : Sat exRho exStmts := by
  intro s hs
  simp only [exStmts, List.mem_cons, List.mem_nil_iff, or_false] at hs
  rcases hs with rfl | rfl
  · exact holds_lt.mpr ⟨0, 3, by simp [evalR], by simp [evalR, exRho], by norm_num⟩
  · simp only [holds, if_true, String.reduceEq, if_false]
    exact ⟨2, by simp [exRho]⟩

example : ∃ A, build exStmts = .ok A ∧ wf exE1 = true ∧ evalR exRho exE1 = some 7
    ∧ query "positive" A exE1 = .ok .t ∧ query "zero" A (.sym "x") = .ok .f
    ∧ query "nonnegative" A (.sym "x") = .ok .t ∧ query "negative" A (.sym "x") = .ok .f
    ∧ query "nonpositive" A (.sym "x") = .ok .f ∧ query "nonzero" A (.sym "x") = .ok .t := by
  refine ⟨_, rfl, by decide, ?_, by decide, by decide, by decide, by decide, by decide, by decide⟩
  simp [exE1, evalR, evalTerms, exRho]
  norm_num

example : ∃ A, build exStmts = .ok A ∧ wf exE2 = true ∧ evalR exRho exE2 = some 6
    ∧ query "integer" A exE2 = .ok .t ∧ query "integer" A (.rat 1 2) = .ok .f
    ∧ query "real" A exE3 = .ok .f ∧ query "complex" A (.infty 1) = .ok .f
    ∧ query "finite" A (.infty 1) = .ok .f ∧ query "infinite" A (.infty 1) = .ok .t := by
  refine ⟨_, rfl, by decide, ?_, by decide, by decide, by decide, by decide, by decide, by decide⟩
  simp [exE2, evalR, evalFacs, powSem, exRho]
  norm_num

/-- `y ∈ ℤ`: `4*y` is even, `2*y - 1` is odd, `3` is not even -/
example : ∃ A, build exStmts = .ok A
    ∧ queryParity "even" A (.mul (.int 4) [(.sym "y", .int 1)]) = .ok .t
    ∧ queryParity "odd" A (.add (.int (-1)) [(.sym "y", .int 2)]) = .ok .t
    ∧ queryParity "even" A (.int 3) = .ok .f ∧ queryParity "odd" A (.int 4) = .ok .f :=
  ⟨_, rfl, by decide, by decide, by decide, by decide⟩

end SymVerif.C34
