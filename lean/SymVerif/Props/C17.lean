/-
C17  The parser implements conventional mathematical syntax.

Model: `Model/Parser.lean` (tokenizer specification, precedence-climbing grammar driven by the translated
`%left/%right` table, `parse_numeric`, `parse_implicit_mul`), `Model/ParserSem.lean` (meaning of a syntax tree and the
certificate checks the driver runs on the library's canonical result).

In this file: the facts about the translated tables (`decide`/`rfl` over the tables the translator regenerates from
parser.yy, parser.cpp and tokenizer.re on every run - they fail to check as soon as the source says something else),
integer and float literals, the round trip on strings `parse_pretty` (its parts: the grammar's `parseTokens_doc` in
Lemmas/C17Pratt.lean, the tokenizer's `lexAll_renderInput` in Lemmas/C17Lex.lean, `sepOK_tight` in Lemmas/C17Tight.lean),
the nearest-double test for float literals, and the soundness of the value certificate (`certificate_sound`, over
Lemmas/NFSound.lean).  docs/C17.md has the list.
-/
import Mathlib.Data.Nat.Digits.Defs
import Mathlib.Tactic.Ring
import SymVerif.Lemmas.NFSound
import SymVerif.Lemmas.C17Pratt
import SymVerif.Lemmas.C17Lex
import SymVerif.Lemmas.C17Tight
import SymVerif.Model.ParserSem

namespace SymVerif
namespace C17

open Parser Gen.Syntax

/-- `Parser::parse_numeric` converts integer literals in base 10 (D6: the original code passed base 0 to
`strtol`, reading a leading zero as octal). -/
theorem numeric_base_decimal : numericBase = 10 := by decide

abbrev lvl (k : String) : Nat := levelIn precTable k

/-- **The precedence declarations of parser.yy are the conventional ones**: `+ -` share a left-associative level
below the left-associative level of `* /`, unary minus and unary plus bind tighter than both and looser than the
right-associative power operator; every relational and logical operator binds looser than `+`; all operators are
declared. -/
theorem table_conventional :
    lvl "'+'" = lvl "'-'" ∧ lvl "'*'" = lvl "'/'" ∧
    0 < lvl "'|'" ∧ lvl "'|'" < lvl "'^'" ∧ lvl "'^'" < lvl "'&'" ∧ lvl "'&'" < lvl "EQ" ∧
    lvl "EQ" < lvl "'+'" ∧ lvl "'>'" < lvl "'+'" ∧ lvl "'<'" < lvl "'+'" ∧ lvl "NE" < lvl "'+'" ∧
    lvl "LE" < lvl "'+'" ∧ lvl "GE" < lvl "'+'" ∧
    lvl "'+'" < lvl "'*'" ∧ lvl "'*'" < lvl "UMINUS" ∧ lvl "'*'" < lvl "UPLUS" ∧
    lvl "UMINUS" < lvl "POW" ∧ lvl "UPLUS" < lvl "POW" ∧ lvl "POW" < lvl "NOT" ∧
    assocIn precTable "'+'" = .left ∧ assocIn precTable "'-'" = .left ∧
    assocIn precTable "'*'" = .left ∧ assocIn precTable "'/'" = .left ∧
    assocIn precTable "POW" = .right := by decide +kernel

/-- every operator is declared: `levelIn` counts the `%left`/`%right` lines from 1 and answers 0 for an absent key -/
theorem genBP_pos (o : BinOp) : 0 < genBP.lbp o := by cases o <;> decide +kernel

/-- the arithmetic part of the same in terms of the binding powers the model parser uses, and every operator declared -/
theorem genBP_conventional :
    genBP.lbp .add = genBP.lbp .sub ∧ genBP.rbp .add = genBP.lbp .add ∧ genBP.rbp .sub = genBP.lbp .sub ∧
    genBP.lbp .mul = genBP.lbp .div ∧ genBP.rbp .mul = genBP.lbp .mul ∧ genBP.rbp .div = genBP.lbp .div ∧
    genBP.lbp .add < genBP.lbp .mul ∧ genBP.lbp .mul < genBP.ubp .neg ∧ genBP.ubp .neg < genBP.lbp .pow ∧
    genBP.rbp .pow < genBP.lbp .pow ∧ genBP.ubp .pos < genBP.lbp .pow ∧ (∀ o, 0 < genBP.lbp o) := by
  refine ⟨by decide, by decide, by decide, by decide, by decide, by decide, by decide, by decide, by decide,
    by decide, by decide, genBP_pos⟩

/-- the grammar the model parser was written against, alternative by alternative (lhs, rhs, action) -/
def expectedRules : List (String × String × String) := [
  ("st_expr", "expr", "$$ = $1; p.res = $$;"),
  ("expr", "expr '+' expr", "$$ = add($1, $3);"),
  ("expr", "expr '-' expr", "$$ = sub($1, $3);"),
  ("expr", "expr '*' expr", "$$ = mul($1, $3);"),
  ("expr", "expr '/' expr", "$$ = div($1, $3);"),
  ("expr", "IMPLICIT_MUL POW expr", "auto tup = p.parse_implicit_mul($1); if (neq(*std::get<1>(tup), *one)) { $$ = mul(std::get<0>(tup), pow(std::get<1>(tup), $3)); } else { $$ = pow(std::get<0>(tup), $3); }"),
  ("expr", "expr POW expr", "$$ = pow($1, $3);"),
  ("expr", "expr '<' expr", "$$ = rcp_static_cast<const Basic>(Lt($1, $3));"),
  ("expr", "expr '>' expr", "$$ = rcp_static_cast<const Basic>(Gt($1, $3));"),
  ("expr", "expr NE expr", "$$ = rcp_static_cast<const Basic>(Ne($1, $3));"),
  ("expr", "expr LE expr", "$$ = rcp_static_cast<const Basic>(Le($1, $3));"),
  ("expr", "expr GE expr", "$$ = rcp_static_cast<const Basic>(Ge($1, $3));"),
  ("expr", "expr EQ expr", "$$ = rcp_static_cast<const Basic>(Eq($1, $3));"),
  ("expr", "expr '|' expr", "set_boolean s; s.insert(as_boolean($1)); s.insert(as_boolean($3)); $$ = rcp_static_cast<const Basic>(logical_or(s));"),
  ("expr", "expr '&' expr", "set_boolean s; s.insert(as_boolean($1)); s.insert(as_boolean($3)); $$ = rcp_static_cast<const Basic>(logical_and(s));"),
  ("expr", "expr '^' expr", "vec_boolean s; s.push_back(as_boolean($1)); s.push_back(as_boolean($3)); $$ = rcp_static_cast<const Basic>(logical_xor(s));"),
  ("expr", "'(' expr ')'", "$$ = $2;"),
  ("expr", "'-' expr %prec UMINUS", "$$ = neg($2);"),
  ("expr", "'+' expr %prec UPLUS", "$$ = $2;"),
  ("expr", "'~' expr %prec NOT", "$$ = rcp_static_cast<const Basic>(logical_not(as_boolean($2)));"),
  ("expr", "leaf", "$$ = rcp_static_cast<const Basic>($1);"),
  ("leaf", "IDENTIFIER", "$$ = p.parse_identifier($1);"),
  ("leaf", "IMPLICIT_MUL", "auto tup = p.parse_implicit_mul($1); $$ = mul(std::get<0>(tup), std::get<1>(tup));"),
  ("leaf", "NUMERIC", "$$ = p.parse_numeric($1);"),
  ("leaf", "func", "$$ = $1;"),
  ("leaf", "pwise", "$$ = $1;"),
  ("func", "IDENTIFIER '(' expr_list ')'", "$$ = p.functionify($1, $3);"),
  ("epair", "'(' expr ',' expr ')'", "auto logical_expr = $4; if (!SymEngine::is_a_Boolean(*logical_expr)) { throw SymEngine::ParseError(SymEngine::StreamFmt() << \"Not of Boolean type in Piecewise arguments: \" << logical_expr->__str__()); } $$ = std::make_pair($2, rcp_static_cast<const Boolean>(logical_expr));"),
  ("piecewise_list", "piecewise_list ',' epair", "$$ = $1; $$ .push_back($3);"),
  ("piecewise_list", "epair", "$$ = SymEngine::PiecewiseVec(1, $1);"),
  ("pwise", "PIECEWISE '(' piecewise_list ')'", "assert($1 == \"Piecewise\"); $$ = piecewise(std::move($3));"),
  ("expr_list", "expr_list ',' expr", "$$ = $1; $$ .push_back($3);"),
  ("expr_list", "expr", "$$ = vec_basic(1, $1);")]

/-- **parser.yy still has exactly the alternatives and semantic actions the model mirrors.** -/
theorem grammar_shape : grammarRules = expectedRules := by rfl

/-- the named regular expressions and the rule order of tokenizer.re the model tokenizer was written against -/
theorem tokenizer_shape :
    tokDefs = [
      ("end", "\"\\x00\""),
      ("whitespace", "[ \\t\\v\\n\\r]+"),
      ("dig", "[0-9]"),
      ("char", "[\\x80-\\xff] | [a-zA-Z_]"),
      ("operators", "\"-\"|\"+\"|\"/\"|\"(\"|\")\"|\"*\"|\",\"|\"^\"|\"~\"|\"<\"|\">\"|\"&\"|\"|\""),
      ("pows", "\"**\"|\"@\""),
      ("le", "\"<=\""),
      ("ge", "\">=\""),
      ("ne", "\"!=\""),
      ("eqs", "\"==\""),
      ("ident", "char (char | dig)*"),
      ("pwise", "\"Piecewise\""),
      ("numeric", "(dig*\".\"?dig+([eE][-+]?dig+)?) | (dig+\".\")"),
      ("implicitmul", "numeric ident")] ∧
    tokRules.map (·.1) = ["*", "end", "whitespace", "operators", "pows", "le", "ge", "ne", "eqs", "pwise", "ident",
      "numeric", "implicitmul"] := by decide +kernel

/-- alternative spellings: SymPy's `arc…` names, `ln`, the long relational class names, the logical connectives -/
def aliases : List (String × String) :=
  [("arcsin", "asin"), ("arccos", "acos"), ("arctan", "atan"), ("arcsec", "asec"), ("arccsc", "acsc"),
   ("arccot", "acot"), ("arcsinh", "asinh"), ("arccosh", "acosh"), ("arctanh", "atanh"), ("arcsech", "asech"),
   ("arccoth", "acoth"), ("arccsch", "acsch"), ("ln", "log"),
   -- the spellings the string printer writes
   ("kroneckerdelta", "kronecker_delta"), ("levicivita", "levi_civita"),
   ("Equality", "Eq"), ("Unequality", "Ne"), ("GreaterThan", "Ge"), ("StrictGreaterThan", "Gt"),
   ("LessThan", "Le"), ("StrictLessThan", "Lt"),
   ("Not", "logical_not"), ("And", "logical_and"), ("Or", "logical_or"), ("Nand", "logical_nand"),
   ("Nor", "logical_nor"), ("Xor", "logical_xor"), ("Xnor", "logical_xnor")]

/-- the conventional meaning of a function name: the library function of the same name, up to `aliases` -/
def convName (n : String) : String := (lookup aliases n).getD n

def allConv (t : List (String × String)) : Bool := t.all fun p => convName p.1 == p.2

/-- **Function names are mapped to the corresponding library functions**: in every table of
`Parser::functionify` the registered C++ function is the one the name conventionally denotes, the elementary
functions are all present, and `log`/`zeta` are the only names in both the one- and the two-argument table. -/
theorem funcs_conventional :
    allConv singleArgFuncs = true ∧ allConv doubleArgFuncs = true ∧ allConv multiArgFuncs = true ∧
    allConv singleArgBoolFuncs = true ∧ allConv singleArgBoolBoolFuncs = true ∧ allConv doubleArgBoolFuncs = true ∧
    allConv multiArgVecBoolFuncs = true ∧ allConv multiArgSetBoolFuncs = true ∧
    (["sin", "cos", "tan", "cot", "sec", "csc", "asin", "acos", "atan", "sinh", "cosh", "tanh", "asinh", "acosh",
      "atanh", "exp", "log", "ln", "sqrt", "abs", "gamma", "floor", "ceiling", "sign", "erf"].all
        fun n => (lookup singleArgFuncs n).isSome) = true ∧
    (singleArgFuncs.map (·.1)).filter (fun n => (lookup doubleArgFuncs n).isSome) = ["log", "zeta"] := by decide +kernel

theorem constants_conventional :
    constants = [("e", "E"), ("E", "E"), ("EulerGamma", "EulerGamma"), ("Catalan", "Catalan"),
      ("GoldenRatio", "GoldenRatio"), ("pi", "pi"), ("I", "I"), ("oo", "Inf"), ("inf", "Inf"),
      ("zoo", "ComplexInf"), ("nan", "Nan"), ("True", "boolTrue"), ("False", "boolFalse")] := by decide +kernel

theorem no_dot (ds : Bytes) (hd : AllDig ds) : ds.contains 46 = false := by
  rw [Bool.eq_false_iff]
  intro h
  have := hd 46 (by simpa using h)
  revert this; decide

/-- the model's `strtol` looks at the base only to ask whether it is 0 (auto-detection, where a leading zero means
octal): with any other base every digit string is read in base 10 -/
theorem numericB_decimal {b : Nat} (hb : (b == 0) = false) (ds : Bytes) (hd : AllDig ds) :
    parseNumericB b ds = .int (ofDigits 10 ds) := by
  unfold parseNumericB strtol
  simp only [hb, Bool.false_eq_true, if_false, takeWhile_all isDig ds hd, no_dot ds hd, Bool.not_false,
    beq_self_eq_true, Bool.and_self, if_true]
  split <;> rfl

/-- **Decimal integer literals are read in base 10 regardless of leading zeros**: `Parser::parse_numeric` (as
translated: `strtol(…, numericBase)`) maps *every* digit string to the integer with that decimal expansion. -/
theorem numeric_decimal (ds : Bytes) (hd : ∀ c ∈ ds, isDig c = true) :
    parseNumeric ds = .int (ofDigits 10 ds) :=
  numericB_decimal (by decide) ds hd

/-- the model's digit-string value is Mathlib's `Nat.ofDigits 10` (which lists the least significant digit first) -/
theorem ofDigits_eq (ds : Bytes) : Parser.ofDigits 10 ds = Nat.ofDigits 10 ((ds.map digitVal).reverse) := by
  rw [Nat.ofDigits_eq_foldr, List.foldr_reverse, List.foldl_map]
  exact congrArg (fun f => List.foldl f 0 ds) (funext fun a => funext fun c => by
    rw [Nat.cast_id, Nat.mul_comm, Nat.add_comm])

theorem numeric_decimal' (ds : Bytes) (hd : ∀ c ∈ ds, isDig c = true) :
    parseNumeric ds = .int (Nat.ofDigits 10 ((ds.map digitVal).reverse)) := by
  rw [numeric_decimal ds hd, ofDigits_eq]

-- "010" is ten, "08" is eight, "0777" is seven hundred seventy-seven
example : parseNumeric [48, 49, 48] = .int 10 := by rw [numeric_decimal _ (by decide)]; rfl
example : parseNumeric [48, 56] = .int 8 := by rw [numeric_decimal _ (by decide)]; rfl
example : parseNumeric [48, 55, 55, 55] = .int 777 := by rw [numeric_decimal _ (by decide)]; rfl

/-- **Literals with a decimal point are floats** (never re-read as integers) -/
theorem float_is_float (t : Bytes) (h : t.contains 46 = true) : parseNumeric t = .float t := by
  have h' : (46 : UInt8) ∈ t := by simpa using h
  simp [parseNumeric, parseNumericB, h']

example : parseNumeric [49, 46, 53] = .float [49, 46, 53] := float_is_float _ (by decide)   -- 1.5
example : parseNumeric [49, 101, 53] = .float [49, 101, 53] := by rfl                        -- 1e5

/-- **Usual precedence and associativity, for every printed form.**  `d` ranges over all printed forms (`Doc`):
trees with numbers, identifiers, the prefix operators, all binary operators, calls, explicit parentheses and the two
implicit-multiplication forms `2x`, `2x**e`.  If the parentheses of `d` are sufficient w.r.t. the binding powers
translated from parser.yy (`OK genBP d`: an operand is parenthesised whenever it would otherwise be cut short or
capture its right neighbour; any number of further, redundant pairs is allowed) then the model parser, applied to the
tokens of `d`, returns exactly the tree `d` stands for.  (`hl` holds of every `d`, `leftOK_zero`; `parse_pretty_tokens'`
is the statement without it.) -/
theorem parse_pretty_tokens (d : Doc) (hok : OK genBP d) (hl : LeftOK genBP 0 d) :
    parseTokens genBP (d.toks ++ [.eof]) = .ok d.ast :=
  parseTokens_doc genBP d hok hl

/-- at top level nothing can cut a form short when all binding powers are positive -/
theorem leftOK_zero {bp : BP} (hpos : ∀ o, 0 < bp.lbp o) : ∀ d : Doc, LeftOK bp 0 d
  | .bin o l _ => ⟨hpos o, leftOK_zero hpos l⟩
  | .num _ => trivial
  | .ident _ => trivial
  | .imul _ => trivial
  | .imulPow _ _ => trivial
  | .paren _ => trivial
  | .un _ _ => trivial
  | .call _ _ => trivial

theorem parse_pretty_tokens' (d : Doc) (hok : OK genBP d) : parseTokens genBP (d.toks ++ [.eof]) = .ok d.ast :=
  parse_pretty_tokens d hok (leftOK_zero genBP_pos d)


theorem convertXor_id (l : Bytes) (h : (94 : UInt8) ∉ l) : convertXor l = l :=
  (List.map_congr_left fun c hc => if_neg (by simpa using fun e : c = 94 => h (e ▸ hc))).trans (List.map_id' l)

/-- the string round trip for any binding powers and either setting of `convert_xor`: tokenizer round trip, then
the grammar's; with `convert_xor` the string must not contain `^` -/
theorem parseBytesWith_pretty {bp : BP} (hpos : ∀ o, 0 < bp.lbp o) (d : Doc) (ws : Nat → Bytes)
    (hws : ∀ i, AllWs (ws i)) (hv : ∀ t ∈ d.toks, ValidTok t) (hsep : SepOK ws 0 (d.toks ++ [.eof]))
    (hok : OK bp d) (cx : Bool) (hx : cx = true → (94 : UInt8) ∉ renderInput ws d.toks) :
    parseBytesWith bp (renderInput ws d.toks) cx = .ok d.ast := by
  have hin : (if cx = true then convertXor (renderInput ws d.toks) else renderInput ws d.toks)
      = renderInput ws d.toks := by
    split
    · exact convertXor_id _ (hx ‹_›)
    · rfl
  unfold parseBytesWith
  simp only [hin]
  rw [lexAll_renderInput ws hws d.toks hv hsep]
  exact parseTokens_doc bp d hok (leftOK_zero hpos d)

/-- **`parse (pp ast) = ast`, on strings.**  Let `d` be any printed form whose parentheses are sufficient
(`OK genBP d`) and whose leaf tokens are well-formed (`ValidTok`: identifiers `char (char|dig)*` other than the
keyword, numerals of the `numeric` rule, implicit-multiplication tokens `numeral identifier` whose identifier does not
start with `e`/`E`, operator characters).  Render its tokens with ANY amount of whitespace `ws i` in front of the
i-th token and after the last one - none at all wherever the next byte cannot extend the previous token (`SepOK`).
Then the model of `Parser::parse` (tokenizer specification + grammar) applied to that byte string returns exactly the
tree `d` stands for. -/
theorem parse_pretty (d : Doc) (ws : Nat → Bytes) (hws : ∀ i, AllWs (ws i))
    (hv : ∀ t ∈ d.toks, ValidTok t) (hsep : SepOK ws 0 (d.toks ++ [.eof])) (hok : OK genBP d) :
    parseBytes (renderInput ws d.toks) false = .ok d.ast :=
  parseBytesWith_pretty genBP_pos d ws hws hv hsep hok false (fun h => Bool.noConfusion h)

/-- **Whitespace is never required**: written tightly (the token texts concatenated, nothing in between), every
well-formed printed form with sufficient parentheses parses to its tree - adjacent tokens of a printed form never
run into each other (`sepOK_tight`). -/
theorem parse_pretty_tight (d : Doc) (hv : ∀ t ∈ d.toks, ValidTok t) (hok : OK genBP d) :
    parseBytes (renderInput (fun _ => []) d.toks) false = .ok d.ast :=
  parse_pretty d (fun _ => []) (fun _ x hx => by cases hx) hv (sepOK_tight genBP d hok hv) hok

/-- the same for the default `convert_xor = true`, for strings without the character `^` -/
theorem parse_pretty_cx (d : Doc) (ws : Nat → Bytes) (hws : ∀ i, AllWs (ws i))
    (hv : ∀ t ∈ d.toks, ValidTok t) (hsep : SepOK ws 0 (d.toks ++ [.eof])) (hok : OK genBP d)
    (hx : (94 : UInt8) ∉ renderInput ws d.toks) :
    parseBytes (renderInput ws d.toks) true = .ok d.ast :=
  parseBytesWith_pretty genBP_pos d ws hws hv hsep hok true (fun _ => hx)

section Examples
set_option linter.unusedSimpArgs false
private def x : Doc := .ident [120]
private def y : Doc := .ident [121]
private def z : Doc := .ident [122]
private def two : Doc := .num [50]

theorem idText1 (c : UInt8) (h : isAlpha c = true) : IsIdText [c] := ⟨c, [], rfl, h, by simp⟩

/-- the hypotheses of `parse_pretty` are satisfiable: the string `x -y-z` (one blank, otherwise tight) -/
example :
    let d : Doc := .bin .sub (.bin .sub x y) z
    let ws : Nat → Bytes := fun i => if i = 1 then [32] else []
    (∀ i, AllWs (ws i)) ∧ (∀ t ∈ d.toks, ValidTok t) ∧ SepOK ws 0 (d.toks ++ [.eof]) ∧ OK genBP d
      ∧ renderInput ws d.toks = [120, 32, 45, 121, 45, 122] := by
  refine ⟨?_, ?_, ?_, ?_, ?_⟩
  · intro i; by_cases h : i = 1 <;> simp [AllWs, h, isWs]
  · intro t ht
    simp only [Doc.toks, x, y, z, tokOfBin, List.mem_append, List.mem_cons, List.mem_singleton, List.not_mem_nil,
      or_false] at ht
    rcases ht with ((rfl | rfl | rfl) | rfl | rfl)
    · exact ⟨idText1 120 (by decide), by decide⟩
    · exact Or.inl (by decide)
    · exact ⟨idText1 121 (by decide), by decide⟩
    · exact Or.inl (by decide)
    · exact ⟨idText1 122 (by decide), by decide⟩
  · simp [SepOK, Doc.toks, x, y, z, tokOfBin, Follow, firstByte, tokText, isIdCont, isAlpha, isDig]
  · simp only [OK, LeftOK, NoCapture, x, y, z, tokOfBin]; decide
  · rfl

/-- `x - y - z` is `(x - y) - z`, and needs no parentheses -/
example : OK genBP (.bin .sub (.bin .sub x y) z) := (by simp only [OK, LeftOK, NoCapture, x, y, z, two, tokOfBin]; decide)
/-- `x - (y - z)` needs them: the bare form is rejected -/
example : ¬ OK genBP (.bin .sub x (.bin .sub y z)) := (by simp only [OK, LeftOK, NoCapture, x, y, z, two, tokOfBin]; decide)
example : OK genBP (.bin .sub x (.paren (.bin .sub y z))) := (by simp only [OK, LeftOK, NoCapture, x, y, z, two, tokOfBin]; decide)
/-- `x ** y ** z` is `x ** (y ** z)` -/
example : OK genBP (.bin .pow x (.bin .pow y z)) ∧ ¬ OK genBP (.bin .pow (.bin .pow x y) z) := (by simp only [OK, LeftOK, NoCapture, x, y, z, two, tokOfBin]; decide)
/-- `-x ** 2` is `-(x ** 2)`; `(-x) ** 2` needs parentheses; `2 ** -x` does not -/
example : OK genBP (.un .neg (.bin .pow x two)) ∧ ¬ OK genBP (.bin .pow (.un .neg x) two)
    ∧ OK genBP (.bin .pow two (.un .neg x)) := (by simp only [OK, LeftOK, NoCapture, x, y, z, two, tokOfBin]; decide)
/-- `x + y * z`, `x * y + z` need none; `(x + y) * z` does -/
example : OK genBP (.bin .add x (.bin .mul y z)) ∧ OK genBP (.bin .add (.bin .mul x y) z)
    ∧ ¬ OK genBP (.bin .mul (.bin .add x y) z) := (by simp only [OK, LeftOK, NoCapture, x, y, z, two, tokOfBin]; decide)
/-- `2 ** -x * y` is `(2 ** (-x)) * y` -/
example : parseTokens genBP ((Doc.bin .mul (.bin .pow two (.un .neg x)) y).toks ++ [.eof])
    = .ok (.bin .mul (.bin .pow (.int 2) (.un .neg (.ident [120]))) (.ident [121])) :=
  parse_pretty_tokens' _ (by simp only [OK, LeftOK, NoCapture, x, y, z, two, tokOfBin]; decide)
/-- implicit multiplication: the token `2x` is `2 * x`; `2x ** y` is `2 * x ** y` -/
example : (Doc.imul [50, 120]).ast = .bin .mul (.int 2) (.ident [120]) := by rfl
example : (Doc.imulPow [50, 120] y).ast = .bin .mul (.int 2) (.bin .pow (.ident [120]) (.ident [121])) := by rfl
end Examples

section Floats

/-- the step of `scaledVal` for any significand width `P`: within a binade the significand grows by one,
at its end the next binade starts at `P · 2^E`, above `(2P - 1) · 2^(E-1)` -/
theorem scaled_step (P : Nat) (hP : 0 < P) (b : Nat) :
    (if b / P = 0 then b % P else (P + b % P) * 2 ^ (b / P - 1))
      < (if (b + 1) / P = 0 then (b + 1) % P else (P + (b + 1) % P) * 2 ^ ((b + 1) / P - 1)) := by
  have hm := Nat.mod_lt b hP
  have hd := Nat.div_add_mod b P
  generalize b / P = E at *
  generalize b % P = M at *
  by_cases hM : M + 1 < P
  · obtain ⟨h1, h2⟩ := (Nat.div_mod_unique hP).mpr ⟨(by omega : M + 1 + P * E = b + 1), hM⟩
    rw [h1, h2]
    split
    · exact Nat.lt_succ_self M
    · exact Nat.mul_lt_mul_of_pos_right (Nat.lt_succ_self _) (Nat.two_pow_pos _)
  · have hs : P * (E + 1) = P * E + P := Nat.mul_succ P E
    obtain ⟨h1, h2⟩ := (Nat.div_mod_unique hP).mpr ⟨(by omega : 0 + P * (E + 1) = b + 1), hP⟩
    rw [h1, h2, if_neg (Nat.succ_ne_zero E), Nat.add_sub_cancel, Nat.add_zero]
    -- `E = 0`: from the subnormals (value `M`) into the first binade (value `P`); `E = k + 1`: `P·2^(k+1) = (P+P)·2^k`
    rcases E with _ | k
    · rw [if_pos rfl, Nat.pow_zero, Nat.mul_one]; omega
    · have e : P * (2 ^ k * 2) = (P + P) * 2 ^ k := by rw [Nat.mul_comm (2 ^ k) 2, ← Nat.mul_assoc, Nat.mul_two]
      rw [if_neg (Nat.succ_ne_zero k), Nat.add_sub_cancel, Nat.pow_succ, e]
      exact Nat.mul_lt_mul_of_pos_right (Nat.add_lt_add_left hm P) (Nat.two_pow_pos k)

theorem scaledVal_lt_succ (b : Nat) : scaledVal b < scaledVal (b + 1) :=
  scaled_step (2 ^ 52) (Nat.two_pow_pos 52) b

theorem scaledVal_strictMono {a b : Nat} (hab : a < b) : scaledVal a < scaledVal b :=
  strictMono_nat_of_lt_succ scaledVal_lt_succ hab

theorem scaledVal_mono {a b : Nat} (hab : a ≤ b) : scaledVal a ≤ scaledVal b :=
  (show StrictMono scaledVal from fun _ _ => scaledVal_strictMono).monotone hab

/-- what an accepted double satisfies: it lies between the midpoints to its two neighbours -/
theorem nearestOk_bracket {N D b : Nat} (h : nearestOk N D b = true) :
    b ≤ infBits ∧
    (b ≠ 0 → (scaledVal (b - 1) + scaledVal b) * D ≤ N * 2 ^ 1075) ∧
    (b ≠ infBits → N * 2 ^ 1075 ≤ (scaledVal b + scaledVal (b + 1)) * D) := by
  unfold nearestOk at h
  simp only [Bool.and_eq_true, Bool.or_eq_true, decide_eq_true_eq, beq_iff_eq] at h
  obtain ⟨⟨h1, h2⟩, h3⟩ := h
  refine ⟨h1, ?_, ?_⟩
  · intro hb
    rcases h2 with h2 | h2 | h2
    · exact absurd h2 hb
    · exact Nat.le_of_lt h2
    · exact Nat.le_of_eq h2.1
  · intro hb
    rcases h3 with h3 | h3 | h3
    · exact absurd h3 hb
    · exact Nat.le_of_lt h3
    · exact Nat.le_of_eq h3.1.symm

theorem abs_sub_le_of_mid {q x x' : Int} (h : (x' ≤ x ∧ x' + x ≤ 2 * q) ∨ (x ≤ x' ∧ 2 * q ≤ x + x')) :
    |q - x| ≤ |q - x'| := by
  have h1 := neg_abs_le (q - x')
  have h2 := le_abs_self (q - x')
  rw [abs_le]
  constructor <;> omega

/-- **Float literals are read as a nearest double.**  If the exact check accepts the bit pattern `b` for the decimal
value `N / D`, then no double (bit pattern `b' ≤ infBits`; the pattern of `+inf` stands for `2^1024`) is closer to
`N / D` than `b`: with everything scaled by `D · 2^1074`,
`|N·2^1074 − val(b)·D| ≤ |N·2^1074 − val(b')·D|`.  (On a tie either neighbour passes here; evenness is the driver's
test and is not used.) -/
theorem float_literal {N D b : Nat} (h : nearestOk N D b = true) (b' : Nat) (hb' : b' ≤ infBits) :
    |((N * 2 ^ 1074 : Nat) : Int) - ((scaledVal b * D : Nat) : Int)|
      ≤ |((N * 2 ^ 1074 : Nat) : Int) - ((scaledVal b' * D : Nat) : Int)| := by
  obtain ⟨_, hlo, hhi⟩ := nearestOk_bracket h
  have hpow : N * 2 ^ 1075 = 2 * (N * 2 ^ 1074) := by
    rw [show 1075 = 1074 + 1 from rfl, Nat.pow_succ]; ring
  rw [hpow, Nat.add_mul] at hlo hhi
  generalize N * 2 ^ 1074 = q at *
  rcases Nat.lt_trichotomy b' b with hlt | heq | hgt
  · have h1 := hlo (by omega)
    have hm : scaledVal b' * D ≤ scaledVal (b - 1) * D := Nat.mul_le_mul_right D (scaledVal_mono (by omega))
    have hm2 : scaledVal (b - 1) * D ≤ scaledVal b * D := Nat.mul_le_mul_right D (scaledVal_mono (by omega))
    exact abs_sub_le_of_mid (Or.inl (by omega))
  · subst heq; exact le_refl _
  · have h1 := hhi (by omega)
    have hm : scaledVal (b + 1) * D ≤ scaledVal b' * D := Nat.mul_le_mul_right D (scaledVal_mono (by omega))
    have hm2 : scaledVal b * D ≤ scaledVal (b + 1) * D := Nat.mul_le_mul_right D (scaledVal_mono (by omega))
    exact abs_sub_le_of_mid (Or.inr (by omega))

/-- what the driver's float check accepts: the literal has a decimal value `m · 10^e` and the bit pattern passes
`nearestOk` for it (so `float_literal` applies) -/
theorem floatOk_nearest {text : Bytes} {bits : Nat} (h : floatOk text bits = some true) :
    ∃ m e, decimalOf text = some (m, e) ∧
      (if e ≥ 0 then nearestOk (m * 10 ^ e.toNat) 1 bits else nearestOk m (10 ^ e.natAbs) bits) = true := by
  unfold floatOk at h
  split at h
  · cases h
  · rename_i m e hd
    refine ⟨m, e, hd, ?_⟩
    split at h
    · cases h
    · split at h
      · rename_i he; rw [if_pos he]; exact Option.some.inj h
      · rename_i he; rw [if_neg he]; exact Option.some.inj h

-- 0.1 is 0x3fb999999999999a, not its neighbours
set_option exponentiation.threshold 2000 in
example : floatOk [48, 46, 49] 0x3fb999999999999a = some true ∧ floatOk [48, 46, 49] 0x3fb9999999999999 = some false
    ∧ floatOk [48, 46, 49] 0x3fb999999999999b = some false := by decide
end Floats

section Meaning
open NF
open Classical
variable {K : Type*} [Field K] (I : K) (ρ : String → K)

noncomputable def neg1 : Option K → Option K
  | some a => some (-a)
  | none => none

/-- `a / b`, undefined for `b = 0` -/
noncomputable def div2 : Option K → Option K → Option K
  | some a, some b => if b = 0 then none else some (a / b)
  | _, _ => none

/-- **The conventional value of a syntax tree** in a field `K`: literals are themselves, `+ - * /` are the field
operations, unary minus is negation, `**` with an integer-constant exponent is the (integer) power; identifiers and
applications of (un-evaluated) functions to symbols are atoms whose value is given by the assignment `ρ` (named
constants included: the statement below holds for *every* `ρ`, in particular for the true values of `pi`, `E`), `I` is
the chosen square root of -1.  `none`: floats, Boolean operators, Piecewise, non-constant exponents (outside the
exact fragment), division by zero, `0 ** negative`. -/
noncomputable def evalAst : PExpr → Option K
  | .int n => some (n : K)
  | .float _ => none
  | .ident s => (identExpr (bytesToString s)).bind (evalK I ρ)
  | .un .neg e => neg1 (evalAst e)
  | .un .pos e => evalAst e
  | .un .not _ => none
  | .bin .add a b => add2 (evalAst a) (evalAst b)
  | .bin .sub a b => add2 (evalAst a) (neg1 (evalAst b))
  | .bin .mul a b => mul2 (evalAst a) (evalAst b)
  | .bin .div a b => div2 (evalAst a) (evalAst b)
  | .bin .pow a b =>
    match constInt? b with
    | some n => (evalAst a).bind (fun v => powVal v n)
    | none => none
  | .bin .lt _ _ => none
  | .bin .gt _ _ => none
  | .bin .ne _ _ => none
  | .bin .le _ _ => none
  | .bin .ge _ _ => none
  | .bin .eq _ _ => none
  | .bin .or _ _ => none
  | .bin .and _ _ => none
  | .bin .xor _ _ => none
  | .call f args => (denoteA (.call f args)).bind (evalK I ρ)
  | .pwise _ => none

variable {I ρ}

theorem powVal_neg_one (q : K) : powVal q (-1) = if q = 0 then none else some q⁻¹ := by
  rw [powVal, zpow_neg_one]
  simp only [Int.reduceNeg, Int.reduceLT, true_and]

theorem evalK_neg (x : Expr) : evalK I ρ (.mul (.int (-1)) [(x, .int 1)]) = neg1 (evalK I ρ x) := by
  simp only [evalK, evalFacs, intLit?, bind_powVal_one, mul2_one_right]
  cases evalK I ρ x <;> simp [mul2, neg1]

theorem evalK_add (x y : Expr) :
    evalK I ρ (.add (.int 0) [(x, .int 1), (y, .int 1)]) = add2 (evalK I ρ x) (evalK I ρ y) := by
  simp only [evalK, evalTerms, Int.cast_zero, Int.cast_one, mul2_one_right, add2_zero_left, add2_zero_right]

theorem evalK_sub (x y : Expr) :
    evalK I ρ (.add (.int 0) [(x, .int 1), (y, .int (-1))]) = add2 (evalK I ρ x) (neg1 (evalK I ρ y)) := by
  simp only [evalK, evalTerms, Int.cast_zero, Int.cast_one, mul2_one_right, add2_zero_left, add2_zero_right]
  cases evalK I ρ y <;> simp [mul2, neg1]

theorem evalK_mul (x y : Expr) :
    evalK I ρ (.mul (.int 1) [(x, .int 1), (y, .int 1)]) = mul2 (evalK I ρ x) (evalK I ρ y) := by
  simp only [evalK, evalFacs, intLit?, bind_powVal_one, Int.cast_one, mul2_one_left, mul2_one_right]

theorem evalK_div (x y : Expr) :
    evalK I ρ (.mul (.int 1) [(x, .int 1), (y, .int (-1))]) = div2 (evalK I ρ x) (evalK I ρ y) := by
  simp only [evalK, evalFacs, intLit?, bind_powVal_one, Int.cast_one, mul2_one_left, mul2_one_right]
  cases evalK I ρ x with
  | none => rfl
  | some p =>
    cases evalK I ρ y with
    | none => rfl
    | some q =>
      simp only [Option.bind_some, powVal_neg_one, div2]
      split
      · rfl
      · simp only [mul2, div_eq_mul_inv]

/-- the `Expr` handed to the normaliser has the conventional value of the tree, defined or not -/
theorem evalAst_eq : ∀ (e : PExpr) (d : Expr), denoteA e = some d → evalAst I ρ e = evalK I ρ d
  | .int n, d, hd => by
    cases hd
    simp [evalAst, evalK]
  | .float _, d, hd => by cases hd
  | .ident s, d, hd => by
    simp only [denoteA] at hd
    simp only [evalAst, hd, Option.bind_some]
  | .un .neg e, d, hd => by
    simp only [denoteA, Option.map_eq_some_iff] at hd
    obtain ⟨x, hx, rfl⟩ := hd
    rw [evalAst, evalAst_eq e x hx, evalK_neg]
  | .un .pos e, d, hd => by
    simp only [denoteA] at hd
    rw [evalAst, evalAst_eq e d hd]
  | .un .not _, d, hd => by cases hd
  | .bin .add a b, d, hd => by
    simp only [denoteA, Option.bind_eq_bind, Option.bind_eq_some_iff, Option.pure_def, Option.some.injEq] at hd
    obtain ⟨x, hx, y, hy, rfl⟩ := hd
    rw [evalAst, evalAst_eq a x hx, evalAst_eq b y hy, evalK_add]
  | .bin .sub a b, d, hd => by
    simp only [denoteA, Option.bind_eq_bind, Option.bind_eq_some_iff, Option.pure_def, Option.some.injEq] at hd
    obtain ⟨x, hx, y, hy, rfl⟩ := hd
    rw [evalAst, evalAst_eq a x hx, evalAst_eq b y hy, evalK_sub]
  | .bin .mul a b, d, hd => by
    simp only [denoteA, Option.bind_eq_bind, Option.bind_eq_some_iff, Option.pure_def, Option.some.injEq] at hd
    obtain ⟨x, hx, y, hy, rfl⟩ := hd
    rw [evalAst, evalAst_eq a x hx, evalAst_eq b y hy, evalK_mul]
  | .bin .div a b, d, hd => by
    simp only [denoteA, Option.bind_eq_bind, Option.bind_eq_some_iff, Option.pure_def, Option.some.injEq] at hd
    obtain ⟨x, hx, y, hy, rfl⟩ := hd
    rw [evalAst, evalAst_eq a x hx, evalAst_eq b y hy, evalK_div]
  | .bin .pow a b, d, hd => by
    simp only [denoteA, Option.bind_eq_bind, Option.bind_eq_some_iff, Option.pure_def, Option.some.injEq] at hd
    obtain ⟨x, hx, n, hn, rfl⟩ := hd
    simp only [evalAst, hn, evalAst_eq a x hx, evalK, intLit?]
  | .bin .lt _ _, d, hd => by cases hd
  | .bin .gt _ _, d, hd => by cases hd
  | .bin .ne _ _, d, hd => by cases hd
  | .bin .le _ _, d, hd => by cases hd
  | .bin .ge _ _, d, hd => by cases hd
  | .bin .eq _ _, d, hd => by cases hd
  | .bin .or _ _, d, hd => by cases hd
  | .bin .and _ _, d, hd => by cases hd
  | .bin .xor _ _, d, hd => by cases hd
  | .call f args, d, hd => by
    simp only [evalAst, hd, Option.bind_some]
  | .pwise _, d, hd => by cases hd

theorem denote_sound : ∀ (e : PExpr) (d : Expr) (v : K),
    denoteA e = some d → evalAst I ρ e = some v → evalK I ρ d = some v :=
  fun e d _ hd hv => (evalAst_eq e d hd).symm.trans hv

theorem acceptsValue_eq (d r : Expr) : acceptsValue d r = NF.equiv d r := by
  unfold acceptsValue NF.equiv NF.norm
  cases NF.firstErr d <;> cases NF.firstErr r <;> simp

variable [CharZero K]

theorem judgeValue_ok {t : PExpr} {R : Expr} (h : judgeValue t R = .ok) :
    ∃ d, denoteA t = some d ∧ acceptsValue d R = true := by
  unfold judgeValue at h
  split at h
  · cases h
  · rename_i d hd
    refine ⟨d, hd, ?_⟩
    split at h
    · cases h
    · split at h
      · cases h
      · cases h
      · split at h
        · assumption
        · cases h

/-- **Soundness of the value certificate.**  If the driver's check accepts the library's result `R` for the tree `t`
(`judgeValue t R = ok`), then in every field `K` of characteristic 0, for every `I` with `I*I = -1` and every
assignment `ρ` of the atoms, wherever the tree has a conventional value `v` and `R` has a value `w`: `v = w`.
So `parse(s)` returned an expression denoting what `s` denotes under the conventional rules. -/
theorem certificate_sound (hI : I * I = -1) {t : PExpr} {R : Expr} {v w : K}
    (h : judgeValue t R = .ok) (hv : evalAst I ρ t = some v) (hw : evalK I ρ R = some w) : v = w := by
  obtain ⟨d, hd, hacc⟩ := judgeValue_ok h
  exact equiv_sound hI (acceptsValue_eq d R ▸ hacc) (denote_sound t d v hd hv) hw

/-- the acceptance test is not vacuous: `2*x` (tree of the token `2x`) against the library's `Mul{2; x^1}`,
accepted; against `Mul{3; x^1}`, rejected -/
example : acceptsValue (.mul (.int 1) [(.int 2, .int 1), (.sym "x", .int 1)]) (.mul (.int 2) [(.sym "x", .int 1)]) = true
    ∧ acceptsValue (.mul (.int 1) [(.int 2, .int 1), (.sym "x", .int 1)]) (.mul (.int 3) [(.sym "x", .int 1)]) = false := by
  decide +kernel

end Meaning

end C17
end SymVerif
