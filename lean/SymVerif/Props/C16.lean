/-
C16 — printing is a function of the value, and parse(str(e)) == e.

Model: `StrP.render` (`Model/StrPrinter.lean`), the model of `StrPrinter` / `Basic::__str__`; the driver
`Drv/C16.lean` runs exactly this function (after `Expr.norm`, the model of building the ordered containers) and is
compared character by character with the real `str(e)`.  `render` is `layout` (all decisions of the C++ printer,
parentheses explicit) followed by the decision-free `flat` and `Tok.text`.

Two claimed theorems of the property stand (in this namespace) where they are proved: `paren_sound` in
`Lemmas/C16LayoutInd.lean`, `parse_flat` in `Lemmas/C16Parse.lean`; `roundtrip_syntactic` below composes them.
What is NOT proved: that the smart constructors applied along the parsed tree rebuild an `eq` expression (this is
C04/C07 territory and is checked by the harness oracle on the real library), and the tokenizer (the theorems start
from tokens; `Tok.text` of the printed tokens is what is compared with the real string).
-/
import SymVerif.Lemmas.C16LayoutInd
import SymVerif.Props.C01

namespace SymVerif.C16
open SymVerif SymVerif.Expr SymVerif.StrP
open SymVerif.Gen.PrintNames

/-- the parser table that `Parser::functionify` consults for a class of the given argument kind -/
def parserTable : TC.Kind → List (String × String)
  | .one => parserSingle
  | .two => parserDouble
  | _ => parserMulti

/-- the class the parser builds for the printed name `nm` of class `cls` -/
def parsedClass (cls nm : String) : Option String :=
  match arityOf cls with
  | some k => (parserTable k).lookup nm
  | none => none

/-- classes the parser can build at all (under some name) -/
def parserKnown (cls : String) : Bool :=
  (parserSingle ++ parserDouble ++ parserMulti).any fun p => p.2 == cls

/-- every printed function name of a parser-known class is read back as that class -/
theorem names_roundtrip :
    ∀ p ∈ printNames, parserKnown p.1 = true → parsedClass p.1 p.2 = some p.1 := by decide +kernel

/-- the printed classes the parser has no name for (outside the property's fragment) -/
theorem names_not_parser_known :
    (printNames.filter fun p => !parserKnown p.1).map Prod.fst = ["Truncate", "Conjugate"] := by decide +kernel

/-- the C++ `PrecedenceEnum` is what `cprec` numbers 0 … 4 -/
theorem precEnum_expected : precEnum = ["Relational", "Add", "Mul", "Pow", "Atom"] := by decide +kernel

/-- the string constants of the printer the model reads from the translated file -/
theorem printer_constants : printMul = "*" ∧ powOp = "**" ∧ imagSym = "I" ∧ doubleDigits = 15 := by decide +kernel

theorem render_eq (e : Expr) : render e = toksText (flat (layout e)) := rfl

/-- parsing the tokens printed for `e` gives back exactly the tree the printer laid out. -/
theorem roundtrip_syntactic (e : Expr) (h : printable e = true) :
    ∃ f0, ∀ f, f0 ≤ f → parseToks f (toks e) = .ok (layout e) :=
  parse_flat (layout e) (paren_sound e h)

/-- non-vacuity: a sum with a negative coefficient, a power, a quotient (its text is evaluated below) -/
def ex1 : Expr :=
  add (int 1) [(sym "x", int (-2)),
               (mul (int 1) [(pow (sym "y") (int 2), int 1), (sym "z", int (-1)), (sym "w", rat (-1) 2)], rat 2 3),
               (pow (add (int 0) [(sym "x", int 1), (sym "y", int 1)]) (sym "n"), int (-1))]

example : printable ex1 = true := by decide +kernel
example : ∃ f0, ∀ f, f0 ≤ f → parseToks f (toks ex1) = .ok (layout ex1) :=
  roundtrip_syntactic ex1 (by decide +kernel)
example : render ex1 = "1 - 2*x + (2/3)*y**2/(z*sqrt(w)) - (x + y)**n" := by decide +kernel
example : (match parseToks 64 (toks ex1) with
    | .ok t => decide (flat t = toks ex1)
    | .error _ => false) = true := by decide +kernel

/-- what the code printed for `Pow(-oo, x)` before the fix: base unparenthesised -/
def negInfPowOld : PExpr := .bin .pow (.neg (.id "oo")) (.id "x")

/-- `-oo**x` is not well-parenthesised and re-parses as `-(oo**x)`, a different tree -/
theorem neg_infty_pow_witness :
    WP negInfPowOld = false ∧
    (match parseToks 16 (flat negInfPowOld) with
      | .ok (.neg (.bin .pow (.id a) (.id b))) => a == "oo" && b == "x"
      | _ => false) = true ∧
    toksText (flat negInfPowOld) = "-oo**x" := by decide +kernel

/-- with `Precedence::bvisit(const Infty &)` the base is parenthesised -/
example : render (pow (infty (-1)) (sym "x")) = "(-oo)**x" := by decide +kernel

/-- `str_congr` on the model: `eq` expressions (well-formed, no NaN double, no `-0.0`) print identically. -/
theorem str_congr_partial {a b : Expr} (wa : WF a = true) (wb : WF b = true)
    (na : noNaN a = true) (nb : noNaN b = true) (za : noSignedZero a = true) (zb : noSignedZero b = true)
    (h : beq' a b = true) : render a = render b := by
  rw [C01.eq_imp_identical wa wb na nb za zb h]

example : render (add (int 1) [(sym "x", rat 1 2)]) = render (add (int 1) [(sym "x", rat 1 2)]) :=
  str_congr_partial (by decide +kernel) (by decide +kernel) (by decide +kernel) (by decide +kernel)
    (by decide +kernel) (by decide +kernel) (by decide +kernel)

def C16_congr_full : Prop :=
  ∀ a b : Expr, WF a = true → WF b = true → beq' a b = true → render a = render b

/-- the exclusion of `-0.0` is necessary: `eq(0.0, -0.0)` holds (defect D1) and the texts differ -/
theorem signed_zero_witness :
    WF (dbl 0) = true ∧ WF (dbl negZeroBits) = true ∧ beq' (dbl 0) (dbl negZeroBits) = true ∧
    render (dbl 0) = "0.0" ∧ render (dbl negZeroBits) = "-0.0" := by decide +kernel

theorem C16_congr_full_false : ¬ C16_congr_full := fun h => by
  have := h (dbl 0) (dbl negZeroBits) signed_zero_witness.1 signed_zero_witness.2.1 signed_zero_witness.2.2.1
  rw [signed_zero_witness.2.2.2.1, signed_zero_witness.2.2.2.2] at this
  exact absurd this (by decide)

end SymVerif.C16
