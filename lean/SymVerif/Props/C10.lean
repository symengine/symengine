import SymVerif.Lemmas.C10Fn
import SymVerif.Lemmas.C10Cache
import SymVerif.Lemmas.C10Absent
import SymVerif.Lemmas.NFSound
import SymVerif.Lemmas.C10Bridge
/-!
# C10 — differentiation is correct

Model: `Model/Diff.lean` (`diffE`: the rules of `DiffVisitor`, unsimplified; `diffC`: the same traversal with the
`visited` memo table; `judge`: the certificate check the driver runs on the library's result).

Proved over ℝ, on the fragment `Ok ρ e` (numeric coefficients; integer, rational and symbolic powers; sin cos tan cot sec
csc asin acos atan sinh cosh tanh coth sech csch asinh acosh log, exp and sqrt as powers) at points regular for it:
`diff_correct_partial`.  `C10_full` (all supported heads, complex points) is stated, not proved.
`diff_absent` (x absent ⇒ the numerator of the normal form of `diffE x e` is zero, any tree) stands in
`Lemmas/C10Absent.lean`, the proof of `diff_cache` in `Lemmas/C10Cache.lean`.
`certificate_real` and `library_result_is_derivative` assume `DumpFaithful ρ`; see the trap in `Lemmas/C10Bridge.lean`.
-/
namespace SymVerif
namespace C10
open SymVerif Expr Diff

/-- derivative of `Π bᵢ^eᵢ` at `ρ` (specification used by the induction) -/
noncomputable def dFacsR (x : String) (ρ : String → ℝ) : List (Expr × Expr) → ℝ
  | [] => 0
  | (b, e) :: t =>
    evalR ρ (powRule b e (diffE x b) (diffE x e)) * evalFacsR ρ t
      + powV (evalR ρ b) e (evalR ρ e) * dFacsR x ρ t

/-- the list of summands produced by `diffFacs` adds up to `c · Π pre · (Π fs)'` -/
theorem diffFacs_eval (x : String) (ρ : String → ℝ) (c : Expr) : ∀ (fs pre : List (Expr × Expr)),
    evalTermsR ρ (diffFacs x c pre fs) = evalR ρ c * evalFacsR ρ pre * dFacsR x ρ fs
  | [], pre => by simp [diffFacs, evalTermsR, dFacsR]
  | (b, e) :: t, pre => by
    simp only [diffFacs, evalTermsR, dFacsR, evalR]
    rw [diffFacs_eval x ρ c t (pre ++ [(b, e)])]
    simp only [evalFacsR_append, evalFacsR, powV_int, zpow_one, Int.cast_one, mul_one]
    ring

section Main
variable (x : String) (ρ : String → ℝ)

theorem evalR_diffE_mul (c : Expr) (fs : List (Expr × Expr)) :
    evalR ρ (diffE x (.mul c fs)) = evalR ρ c * dFacsR x ρ fs := by
  simp only [evalR, diffE, diffFacs_eval, evalFacsR, Int.cast_zero, zero_add, mul_one]

theorem sym_correct (s : String) :
    HasDerivAt (fun t => evalR (upd ρ x t) (.sym s)) (evalR ρ (diffE x (.sym s))) (ρ x) := by
  simp only [evalR, diffE]
  by_cases h : s = x
  · subst h
    have hf : (fun t => upd ρ s t s) = fun t => t := by funext t; simp [upd]
    rw [hf]
    have hv : evalR ρ (if (s == s) = true then Expr.int 1 else Expr.int 0) = 1 := by simp [evalR]
    rw [hv]
    exact hasDerivAt_id' (ρ s)
  · have hf : (fun t => upd ρ x t s) = fun _ => ρ s := by
      funext t; simp [upd, Function.update, h]
    rw [hf]
    have hv : evalR ρ (if (s == x) = true then Expr.int 1 else Expr.int 0) = 0 := by simp [evalR, h]
    rw [hv]
    exact hasDerivAt_const (ρ x) (ρ s)

/-- a numeric coefficient does not depend on the assignment: it is one more sub-expression, with derivative 0 -/
theorem realNum_correct {c : Expr} (h : isRealNum c = true) :
    HasDerivAt (fun t => evalR (upd ρ x t) c) 0 (ρ x) := by
  rw [show (fun t => evalR (upd ρ x t) c) = fun _ => evalR ρ c from funext fun t => evalR_realNum h]
  exact hasDerivAt_const _ _

mutual
  theorem diffE_correct : ∀ (e : Expr), Ok ρ e →
      HasDerivAt (fun t => evalR (upd ρ x t) e) (evalR ρ (diffE x e)) (ρ x)
    | .int n, _ => by simpa [evalR, diffE] using hasDerivAt_const (ρ x) (n : ℝ)
    | .rat n d, _ => by simpa [evalR, diffE] using hasDerivAt_const (ρ x) ((n : ℝ) / (d : ℝ))
    | .sym s, _ => sym_correct x ρ s
    | .const c, _ => by simpa [evalR, diffE] using hasDerivAt_const (ρ x) (constR c)
    | .add c ts, h => by
      simp only [Ok] at h
      simpa only [evalR, diffE, Int.cast_zero] using (realNum_correct x ρ h.1).fun_add (diffTerms_correct ts h.2)
    | .mul c fs, h => by
      simp only [Ok] at h
      rw [evalR_diffE_mul]
      simpa only [evalR, upd_self, zero_mul, zero_add] using (realNum_correct x ρ h.1).fun_mul (diffFacs_correct fs h.2)
    | .pow b e, h => by
      simp only [Ok] at h
      simp only [evalR, diffE]
      exact powRule_correct x ρ b e (diffE_correct b h.1) (diffE_correct e h.2.1) h.2.1 h.2.2
    | .app hd [a], h => by
      simp only [Ok] at h
      simp only [evalR, diffE, diffList]
      exact fn_correct x ρ hd a (diffE_correct a h.1) h.2
    | .app _ [], h => by simp [Ok] at h
    | .app _ (_ :: _ :: _), h => by simp [Ok] at h
    | .cplx _ _, h | .dbl _, h | .cdbl _ _, h | .infty _, h | .nan, h | .dummy _ _, h | .fsym _ _, h | .bool _, h =>
        by simp [Ok] at h
  theorem diffTerms_correct : ∀ (ts : List (Expr × Expr)), OkTerms ρ ts →
      HasDerivAt (fun t => evalTermsR (upd ρ x t) ts) (evalTermsR ρ (diffTerms x ts)) (ρ x)
    | [], _ => by simpa [evalTermsR, diffTerms] using hasDerivAt_const (ρ x) (0 : ℝ)
    | (k, c) :: t, h => by
      simp only [OkTerms] at h
      simpa only [evalTermsR, diffTerms, upd_self, mul_zero, add_zero] using
        ((diffE_correct k h.1).fun_mul (realNum_correct x ρ h.2.1)).fun_add (diffTerms_correct t h.2.2)
  theorem diffFacs_correct : ∀ (fs : List (Expr × Expr)), OkFacs ρ fs →
      HasDerivAt (fun t => evalFacsR (upd ρ x t) fs) (dFacsR x ρ fs) (ρ x)
    | [], _ => by simpa [evalFacsR, dFacsR] using hasDerivAt_const (ρ x) (1 : ℝ)
    | (b, e) :: t, h => by
      simp only [OkFacs] at h
      have hp := powRule_correct x ρ b e (diffE_correct b h.1) (diffE_correct e h.2.1) h.2.1 h.2.2.1
      simpa only [evalFacsR, dFacsR, upd_self] using hp.fun_mul (diffFacs_correct t h.2.2.2)
end

end Main

/-- **Differentiation is correct (model, over ℝ).**  For every tree `e` of the fragment that is regular at the
assignment `ρ`, the real function `t ↦ ⟦e⟧(ρ[x ↦ t])` is differentiable at `ρ x` and its derivative is the value of
the model's symbolic derivative `diffE x e` at `ρ`. -/
theorem diff_correct_partial (x : String) (ρ : String → ℝ) (e : Expr) (h : Ok ρ e) :
    HasDerivAt (fun t => evalR (Function.update ρ x t) e) (evalR ρ (diffE x e)) (ρ x) :=
  diffE_correct x ρ e h

/-- non-vacuity: `d/dx (x² · sin x + 1/x)` at `x = 2` -/
example : HasDerivAt
    (fun t : ℝ => t ^ (2 : ℤ) * Real.sin t + t ^ (-1 : ℤ))
    (evalR (fun _ => 2) (diffE "x"
      (.add (.int 0) [(.mul (.int 1) [(.sym "x", .int 2), (.app "Sin" [.sym "x"], .int 1)], .int 1),
                      (.pow (.sym "x") (.int (-1)), .int 1)]))) 2 := by
  convert diff_correct_partial "x" (fun _ => (2 : ℝ))
    (.add (.int 0) [(.mul (.int 1) [(.sym "x", .int 2), (.app "Sin" [.sym "x"], .int 1)], .int 1),
                    (.pow (.sym "x") (.int (-1)), .int 1)])
    (by simp [Ok, OkTerms, OkFacs, PowOk, FnOk, isRealNum, evalR]) using 1
  funext t
  simp [evalR, evalTermsR, evalFacsR, fnR]

/-- **Cache independence (model)**: `Diff.diff_cache` (`Lemmas/C10Cache.lean`) under the name the property registers. -/
theorem diff_cache (x : String) (e : Expr) : diffCached x e = diffE x e := Diff.diff_cache x e

example : NF.equivF (NF.normT (diffE "y" (.mul (.int 3) [(.app "Sin" [.sym "x"], .int 2), (.fsym "f" [.sym "x"], .int 1)])))
    NF.zeroF = true := diff_absent "y" _ (by decide)

theorem judgeNF_ok {e r d : Expr} (h : judgeNF e r d = .ok) : NF.equiv r d = true := by
  unfold judgeNF at h
  split at h
  · cases h
  split at h
  · cases h
  · cases h
  · rename_i h1 h2
    by_cases heq : NF.equivF (NF.normT r) (NF.normT d) = true
    · exact NF.equiv_of_equivF h1 h2 heq
    · rw [if_neg heq] at h
      split at h
      · cases h
      · split at h <;> cases h

theorem judge_ok_parts {c : Bool} {x : String} {e r : Expr} (h : judge c x e r = .ok) :
    absentBad x e r = false ∧ judgeNF e r (if c then diffCached x e else diffE x e) = .ok := by
  unfold judge at h
  split at h
  · cases h
  · cases hb : absentBad x e r
    · exact ⟨rfl, by simpa [hb] using h⟩
    · simp [hb] at h

/-- what `ok` from the driver means: the normal forms of the library's result and of `diffE x e` agree
(with or without the memo table) -/
theorem judge_ok {c : Bool} {x : String} {e r : Expr} (h : judge c x e r = .ok) :
    NF.equiv r (diffE x e) = true := by
  have h2 := (judge_ok_parts h).2
  rw [show (if c = true then diffCached x e else diffE x e) = diffE x e by simp [Diff.diff_cache]] at h2
  exact judgeNF_ok h2

/-- when `x` does not occur, `ok` is only printed for the integer 0 itself -/
theorem judge_absent_zero {c : Bool} {x : String} {e r : Expr} (h : judge c x e r = .ok)
    (hx : occurs x e = false) : r = .int 0 := by
  have h1 := (judge_ok_parts h).1
  simp only [absentBad, hx, Bool.not_false, Bool.true_and, Bool.not_eq_false'] at h1
  exact Expr.eqb_eq r (.int 0) h1

/-- **Certificate soundness.**  If the driver prints `ok` for the library's result `r`, then in every field of
characteristic 0 with a square root `I` of -1 and under every assignment `ρ` of the atoms (symbols, constants,
function applications, non-integer powers — keyed by their canonical dump), `r` and the model's derivative
`diffE x e` have the same value wherever both are defined. -/
theorem certificate_sound {K : Type*} [Field K] [CharZero K] {I : K} (hI : I * I = -1) (ρ : String → K)
    {c : Bool} {x : String} {e r : Expr} (h : judge c x e r = .ok) {vr vd : K}
    (hr : NF.evalK I ρ r = some vr) (hd : NF.evalK I ρ (diffE x e) = some vd) : vr = vd :=
  NF.equiv_sound hI (judge_ok h) hr hd

/-- non-vacuity: the library's `3*x**2` is accepted for `d/dx x**3` (traversal without the memo table) -/
theorem ex_judge_ok : judge false "x" (.pow (.sym "x") (.int 3)) (.mul (.int 3) [(.sym "x", .int 2)]) = .ok := by
  decide +kernel

/-- `certificate_sound` on it: the library's `3*x**2` against `diffE "x" (x**3)`, whose factor `1 ^ 1` is the inner
derivative `dx/dx` that `diffE` leaves unsimplified -/
example (ρ : String → ℂ) :
    (3 : ℂ) * (ρ (Expr.dumpCanon (.sym "x")) ^ (2 : ℤ) * 1)
      = 3 * (ρ (Expr.dumpCanon (.sym "x")) ^ (2 : ℤ) * ((1 : ℂ) ^ (1 : ℤ) * 1)) := by
  exact certificate_sound (I := Complex.I) Complex.I_mul_I ρ ex_judge_ok
    (by simp [NF.evalK, NF.evalFacs, NF.intLit?, NF.powVal, NF.mul2])
    (by simp [diffE, powRule, isNumLit, decExp, NF.evalK, NF.evalFacs, NF.intLit?, NF.powVal, NF.mul2])

/-- the accepted result has the same *real* value as the model's derivative (`DumpFaithful`: no `ρ` satisfies it, see the Trap in
`Lemmas/C10Bridge.lean`; `RealDef`: number leaves well formed and no `0 ^ negative`) -/
theorem certificate_real {ρ : String → ℝ} (hf : DumpFaithful ρ) {c : Bool} {x : String} {e r : Expr}
    (h : judge c x e r = .ok) (hr : RealDef ρ r) (hd : RealDef ρ (diffE x e)) :
    evalR ρ r = evalR ρ (diffE x e) := equiv_real hf (judge_ok h) hr hd

/-- **The library's result is the derivative.**  If the driver printed `ok` for the library's result `r` of
`diff(e, x)`, then at every regular point of the real fragment `r` evaluates to the derivative of `e` — under
`hf : DumpFaithful ρ`, which no `ρ` satisfies (Trap in `Lemmas/C10Bridge.lean`). -/
theorem library_result_is_derivative {ρ : String → ℝ} (hf : DumpFaithful ρ) {c : Bool} {x : String} {e r : Expr}
    (h : judge c x e r = .ok) (hr : RealDef ρ r) (hd : RealDef ρ (diffE x e)) (hok : Ok ρ e) :
    HasDerivAt (fun t => evalR (Function.update ρ x t) e) (evalR ρ r) (ρ x) := by
  rw [certificate_real hf h hr hd]
  exact diff_correct_partial x ρ e hok

/-- complex value of the function heads (principal branches) -/
noncomputable def fnC (h : String) (v : ℂ) : ℂ :=
  match h with
  | "Sin" => Complex.sin v
  | "Cos" => Complex.cos v
  | "Tan" => Complex.tan v
  | "Sinh" => Complex.sinh v
  | "Cosh" => Complex.cosh v
  | "Tanh" => Complex.tanh v
  | "Log" => Complex.log v
  | "ACosh" => Complex.log (v + Complex.exp (Complex.log (v - 1) / 2) * Complex.exp (Complex.log (v + 1) / 2))
  | _ => 0

mutual
  /-- complex semantics: integer literal exponents are integer powers, all other powers are `Complex.cpow` -/
  noncomputable def evalC (ρ : String → ℂ) : Expr → ℂ
    | .int n => (n : ℂ)
    | .rat n d => (n : ℂ) / (d : ℂ)
    | .cplx re im => ((re.num : ℂ) / (re.den : ℂ)) + Complex.I * ((im.num : ℂ) / (im.den : ℂ))
    | .sym s => ρ s
    | .const c => (constR c : ℂ)
    | .add c ts => evalC ρ c + evalTermsC ρ ts
    | .mul c fs => evalC ρ c * evalFacsC ρ fs
    | .pow b (.int n) => evalC ρ b ^ n
    | .pow b e => evalC ρ b ^ evalC ρ e
    | .app h [a] => fnC h (evalC ρ a)
    | _ => 0
  noncomputable def evalTermsC (ρ : String → ℂ) : List (Expr × Expr) → ℂ
    | [] => 0
    | (k, c) :: t => evalC ρ k * evalC ρ c + evalTermsC ρ t
  noncomputable def evalFacsC (ρ : String → ℂ) : List (Expr × Expr) → ℂ
    | [] => 1
    | (b, .int n) :: t => evalC ρ b ^ n * evalFacsC ρ t
    | (b, e) :: t => evalC ρ b ^ evalC ρ e * evalFacsC ρ t
end

/-- The full property on every tree of supported node kinds (`Diff.unsupported e = none`) at complex points (**not proved**; `diff_correct_partial`
covers the real points).  As stated it is *false*: `fnC` interprets eight heads and sends every other supported head
(`Cot`, `Sec`, …) to 0, so that `evalC` of `Cot x` is constant while `evalC` of its `diffE` is −1; and for `"ACosh"`,
which `fnC` does interpret, the rule coded in derivative.cpp (`1/sqrt(x²-1)`) has the wrong sign for `Re x < 0`
(docs/C10.md; the harness oracle reports that). -/
def C10_full : Prop :=
  ∀ (x : String) (ρ : String → ℂ) (e : Expr), Diff.unsupported e = none →
    DifferentiableAt ℂ (fun t => evalC (Function.update ρ x t) e) (ρ x) →
    HasDerivAt (fun t => evalC (Function.update ρ x t) e) (evalC ρ (diffE x e)) (ρ x)

end C10
end SymVerif
