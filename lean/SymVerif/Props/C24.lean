import Mathlib.Data.Matrix.Mul
import Mathlib.LinearAlgebra.Matrix.Determinant.Basic
import Mathlib.Algebra.BigOperators.Fin
import SymVerif.Lemmas.C24LUMath
/-!
C24 — dense matrix algebra over exact numbers is correct.

The theorems are about the functions of `SymVerif/Model/Dense.lean` that the driver `Drv/C24.lean`
runs.  Entries live in `X = fin q | zoo | nan | unk`; `allFin` says that every entry of a matrix is
an exact rational (what the harness feeds), `toMat` is the Mathlib matrix over `ℚ` it denotes.
Every `…_correct` theorem states (1) the operation returns `ok` — hence no checked index is out of
range (`index_inbounds`), (2) the result has the right shape and only rational entries, and
(3) it equals the mathematical operation on `Matrix _ _ ℚ`.
-/
namespace SymVerif.C24
open SymVerif.Dense

def allFin (A : DM) : Prop := ∀ i, i < A.row → ∀ j, j < A.col → (A.at i j).isFin = true

/-- the matrix over `ℚ` denoted by the storage.  The dimensions are arguments so that `toMat C A.row A.col`
    needs no cast when `C.row = A.row` is only a theorem; cells outside the storage and non-rational cells
    read as 0, so it says something only beside `allFin` and the shape. -/
def toMat (A : DM) (n m : Nat) : Matrix (Fin n) (Fin m) ℚ := fun i j => (A.at i j).toRat

theorem of_returns {x : M DM} {n m : Nat} {v : Nat → Nat → X} (h : Returns x n m v)
    (R : Matrix (Fin n) (Fin m) ℚ) (hv : ∀ (i : Fin n) (j : Fin m), v i j = X.fin (R i j)) :
    ∃ C, x = .ok C ∧ C.row = n ∧ C.col = m ∧ C.wf ∧ allFin C ∧ toMat C n m = R := by
  obtain ⟨C, hok, hr, hc, hw, he⟩ := h
  refine ⟨C, hok, hr, hc, hw, fun i hi j hj => ?_, ?_⟩
  · rw [he i (hr ▸ hi) j (hc ▸ hj), hv ⟨i, hr ▸ hi⟩ ⟨j, hc ▸ hj⟩]; rfl
  · funext i j
    simp only [toMat, he i i.2 j j.2, hv i j, X.toRat]

theorem add_correct (A B : DM) (hA : A.wf) (hB : B.wf) (hr : A.row = B.row) (hc : A.col = B.col)
    (fA : allFin A) (fB : allFin B) :
    ∃ C, addDense A B = .ok C ∧ C.row = A.row ∧ C.col = A.col ∧ C.wf ∧ allFin C ∧
      toMat C A.row A.col = toMat A A.row A.col + toMat B A.row A.col :=
  of_returns (addDense_spec A B hA hB hr hc) _ fun i j => by
    rw [fin_of_isFin (fA i i.2 j j.2), fin_of_isFin (fB i (hr ▸ i.2) j (hc ▸ j.2))]; rfl

theorem emul_correct (A B : DM) (hA : A.wf) (hB : B.wf) (hr : A.row = B.row) (hc : A.col = B.col)
    (fA : allFin A) (fB : allFin B) :
    ∃ C, emulDense A B = .ok C ∧ C.row = A.row ∧ C.col = A.col ∧ C.wf ∧ allFin C ∧
      ∀ (i : Fin A.row) (j : Fin A.col),
        toMat C A.row A.col i j = toMat A A.row A.col i j * toMat B A.row A.col i j := by
  obtain ⟨C, hok, h1, h2, h3, f1, f2⟩ := of_returns (emulDense_spec A B hA hB hr hc)
    (Matrix.of fun i j => toMat A A.row A.col i j * toMat B A.row A.col i j) (fun i j => by
      rw [fin_of_isFin (fA i i.2 j j.2), fin_of_isFin (fB i (hr ▸ i.2) j (hc ▸ j.2))]; rfl)
  exact ⟨C, hok, h1, h2, h3, f1, fun i j => congrFun (congrFun f2 i) j⟩

theorem addScalar_correct (A : DM) (k : ℚ) (hA : A.wf) (fA : allFin A) :
    ∃ C, addScalar A (X.fin k) = .ok C ∧ C.row = A.row ∧ C.col = A.col ∧ C.wf ∧ allFin C ∧
      ∀ (i : Fin A.row) (j : Fin A.col), toMat C A.row A.col i j = toMat A A.row A.col i j + k := by
  obtain ⟨C, hok, h1, h2, h3, f1, f2⟩ := of_returns (addScalar_spec A (X.fin k) hA)
    (Matrix.of fun i j => toMat A A.row A.col i j + k) (fun i j => by
      rw [fin_of_isFin (fA i i.2 j j.2)]; rfl)
  exact ⟨C, hok, h1, h2, h3, f1, fun i j => congrFun (congrFun f2 i) j⟩

theorem mulScalar_correct (A : DM) (k : ℚ) (hA : A.wf) (fA : allFin A) :
    ∃ C, mulScalar A (X.fin k) = .ok C ∧ C.row = A.row ∧ C.col = A.col ∧ C.wf ∧ allFin C ∧
      toMat C A.row A.col = k • toMat A A.row A.col :=
  of_returns (mulScalar_spec A (X.fin k) hA) _ fun i j => by
    -- the code computes `A[i][j] * k`, `k • A` is `k * A i j` (the order of the factors follows the C++
    -- `mul(…)` in every operation: `row_mul_scalar` has the scalar on the left)
    rw [fin_of_isFin (fA i i.2 j j.2), Matrix.smul_apply, smul_eq_mul, mul_comm]; rfl

theorem transpose_correct (A : DM) (hA : A.wf) (fA : allFin A) :
    ∃ C, transposeDense A = .ok C ∧ C.row = A.col ∧ C.col = A.row ∧ C.wf ∧ allFin C ∧
      toMat C A.col A.row = (toMat A A.row A.col).transpose :=
  of_returns (transposeDense_spec A hA) _ fun j i => fin_of_isFin (fA i i.2 j j.2)

/-- the accumulated dot product of rational rows and columns is the finite sum -/
theorem dotX_fin (A B : DM) (r c : Nat) (hA : ∀ k, k < A.col → (A.at r k).isFin = true)
    (hB : ∀ k, k < A.col → (B.at k c).isFin = true) :
    dotX A B r c = X.fin (∑ k ∈ Finset.range A.col, (A.at r k).toRat * (B.at k c).toRat) := by
  -- `dotX` starts from `X.zero`, which is `X.fin 0` by definition
  rw [← zero_add (∑ k ∈ Finset.range A.col, _)]
  refine accF_add_fin (fun k => X.mul (A.at r k) (B.at k c)) _ 0 A.col fun k hk => ?_
  rw [fin_of_isFin (hA k hk), fin_of_isFin (hB k hk)]
  rfl

theorem mul_correct (A B : DM) (hA : A.wf) (hB : B.wf) (hk : A.col = B.row)
    (fA : allFin A) (fB : allFin B) :
    ∃ C, mulDense A B = .ok C ∧ C.row = A.row ∧ C.col = B.col ∧ C.wf ∧ allFin C ∧
      toMat C A.row B.col = toMat A A.row A.col * toMat B A.col B.col :=
  of_returns (mulDense_spec A B hA hB hk) _ fun i j => by
    rw [dotX_fin A B i j (fun k hk' => fA i i.2 k hk') (fun k hk' => fB k (hk ▸ hk') j j.2),
      Matrix.mul_apply]
    exact congrArg X.fin (Fin.sum_univ_eq_sum_range (fun k => (A.at i k).toRat * (B.at k j).toRat) A.col).symm

theorem rowExchange_correct (A : DM) (i j : Nat) (hA : A.wf) (hi : i < A.row) (hj : j < A.row)
    (hij : i ≠ j) (fA : allFin A) :
    ∃ C, rowExchange A i j = .ok C ∧ C.row = A.row ∧ C.col = A.col ∧ C.wf ∧ allFin C ∧
      toMat C A.row A.col =
        (toMat A A.row A.col).submatrix (Equiv.swap (⟨i, hi⟩ : Fin A.row) ⟨j, hj⟩) id :=
  of_returns (rowExchange_spec A i j hA hi hj hij) _ fun r k => by
    simp only [Matrix.submatrix_apply, id, toMat, Equiv.swap_apply_def, Fin.ext_iff]
    split_ifs
    · exact fin_of_isFin (fA j hj k k.2)
    · exact fin_of_isFin (fA i hi k k.2)
    · exact fin_of_isFin (fA r r.2 k k.2)

theorem toMat_updateRow {x : M DM} {A : DM} {i : Nat} (hi : i < A.row) {w : Nat → X}
    (h : Returns x A.row A.col fun r k => if r = i then w k else A.at r k) (fA : allFin A)
    (f : Nat → ℚ) (hw : ∀ k, k < A.col → w k = X.fin (f k)) :
    ∃ C, x = .ok C ∧ C.row = A.row ∧ C.col = A.col ∧ C.wf ∧ allFin C ∧ toMat C A.row A.col =
      (toMat A A.row A.col).updateRow ⟨i, hi⟩ (fun k : Fin A.col => f k) :=
  of_returns h _ fun r k => by
    simp only [Matrix.updateRow_apply, Fin.ext_iff]
    split_ifs
    · exact hw k k.2
    · exact fin_of_isFin (fA r r.2 k k.2)

theorem rowMulScalar_correct (A : DM) (i : Nat) (c : ℚ) (hA : A.wf) (hi : i < A.row) (fA : allFin A) :
    ∃ C, rowMulScalar A i (X.fin c) = .ok C ∧ C.row = A.row ∧ C.col = A.col ∧ C.wf ∧ allFin C ∧
      toMat C A.row A.col =
        (toMat A A.row A.col).updateRow ⟨i, hi⟩ (c • (toMat A A.row A.col) ⟨i, hi⟩) :=
  toMat_updateRow hi (rowMulScalar_spec A i (X.fin c) hA hi) fA (fun k => c * (A.at i k).toRat)
    (fun k hk => by rw [fin_of_isFin (fA i hi k hk)]; rfl)

theorem rowAddRow_correct (A : DM) (i j : Nat) (c : ℚ) (hA : A.wf) (hi : i < A.row) (hj : j < A.row)
    (hij : i ≠ j) (fA : allFin A) :
    ∃ C, rowAddRow A i j (X.fin c) = .ok C ∧ C.row = A.row ∧ C.col = A.col ∧ C.wf ∧ allFin C ∧
      toMat C A.row A.col =
        (toMat A A.row A.col).updateRow ⟨i, hi⟩
          ((toMat A A.row A.col) ⟨i, hi⟩ + c • (toMat A A.row A.col) ⟨j, hj⟩) :=
  toMat_updateRow hi (rowAddRow_spec A i j (X.fin c) hA hi hj hij) fA
    (fun k => (A.at i k).toRat + c * (A.at j k).toRat)
    (fun k hk => by rw [fin_of_isFin (fA i hi k hk), fin_of_isFin (fA j hj k hk)]; rfl)

theorem submatrix_correct (A : DM) (r0 c0 r1 c1 : Nat) (hA : A.wf)
    (h1 : r0 ≤ r1) (h2 : c0 ≤ c1) (h3 : r1 < A.row) (h4 : c1 < A.col) (fA : allFin A) :
    ∃ C, submatrixDense A r0 c0 r1 c1 1 1 = .ok C ∧ C.row = r1 - r0 + 1 ∧ C.col = c1 - c0 + 1 ∧ C.wf ∧
      allFin C ∧
      toMat C (r1 - r0 + 1) (c1 - c0 + 1) =
        Matrix.of (fun (i : Fin (r1 - r0 + 1)) (j : Fin (c1 - c0 + 1)) => (A.at (r0 + i) (c0 + j)).toRat) := by
  obtain ⟨C, hok, e1, e2, e3, e4, _⟩ :=
    submatrixDense_spec A r0 c0 r1 c1 1 1 hA h1 h2 h3 h4 (by omega) (by omega)
  refine of_returns (v := fun i j => A.at (r0 + i) (c0 + j)) ⟨C, hok, e1, e2, e3, fun i hi j hj => ?_⟩ _
    (fun i j => fin_of_isFin (fA _ (by omega) _ (by omega)))
  have := e4 i j (by rw [e1]; omega) (by rw [e2]; omega)
  simp only [Nat.mul_one] at this
  exact this

theorem rd_fin (A : DM) (hA : A.wf) (fA : allFin A) (i j : Nat) (hi : i < A.row) (hj : j < A.col) :
    rd A.m (i * A.col + j) = .ok (X.fin (A.at i j).toRat) := by
  rw [rd_cell hA hi hj]
  exact congrArg _ (fin_of_isFin (fA i hi j hj))

/-- the closed forms of `det_bareis` for n = 1 (here), 2 and 3 (the next two) equal the determinant -/
theorem det_bareis_one (A : DM) (hA : A.wf) (hr : A.row = 1) (hc : A.col = 1) (fA : allFin A) :
    ∃ d, detBareiss A = .ok (X.fin d) ∧ d = (toMat A 1 1).det := by
  have r00 := rd_fin A hA fA 0 0 (by omega) (by omega)
  simp only [hc] at r00
  refine ⟨_, ?_, (Matrix.det_fin_one _).symm⟩
  simp [detBareiss, hr, hc, req, bind, Except.bind, pure, Except.pure, r00, toMat]

theorem det_bareis_two (A : DM) (hA : A.wf) (hr : A.row = 2) (hc : A.col = 2) (fA : allFin A) :
    ∃ d, detBareiss A = .ok (X.fin d) ∧ d = (toMat A 2 2).det := by
  have r0 := rd_fin A hA fA 0 0 (by omega) (by omega)
  have r1 := rd_fin A hA fA 0 1 (by omega) (by omega)
  have r2 := rd_fin A hA fA 1 0 (by omega) (by omega)
  have r3 := rd_fin A hA fA 1 1 (by omega) (by omega)
  simp only [hc] at r0 r1 r2 r3
  refine ⟨_, ?_, (Matrix.det_fin_two _).symm⟩
  simp only [detBareiss, hr, hc, req, bind, Except.bind, pure, Except.pure, r0, r1, r2, r3, toMat]
  simp [X.sub, X.add, X.mul, X.minusOne]
  ring

theorem det_bareis_three (A : DM) (hA : A.wf) (hr : A.row = 3) (hc : A.col = 3) (fA : allFin A) :
    ∃ d, detBareiss A = .ok (X.fin d) ∧ d = (toMat A 3 3).det := by
  have r0 := rd_fin A hA fA 0 0 (by omega) (by omega)
  have r1 := rd_fin A hA fA 0 1 (by omega) (by omega)
  have r2 := rd_fin A hA fA 0 2 (by omega) (by omega)
  have r3 := rd_fin A hA fA 1 0 (by omega) (by omega)
  have r4 := rd_fin A hA fA 1 1 (by omega) (by omega)
  have r5 := rd_fin A hA fA 1 2 (by omega) (by omega)
  have r6 := rd_fin A hA fA 2 0 (by omega) (by omega)
  have r7 := rd_fin A hA fA 2 1 (by omega) (by omega)
  have r8 := rd_fin A hA fA 2 2 (by omega) (by omega)
  simp only [hc] at r0 r1 r2 r3 r4 r5 r6 r7 r8
  refine ⟨_, ?_, (Matrix.det_fin_three _).symm⟩
  simp only [detBareiss, hr, hc, req, bind, Except.bind, pure, Except.pure, r0, r1, r2, r3, r4, r5, r6, r7, r8,
    toMat]
  simp [X.sub, X.add, X.mul, X.minusOne]
  ring

/-- `LU(A, L, U)` on a well-formed square input with rational entries: (1) the call returns, i.e. no
    index leaves the storage (for arbitrary entries: `luDecomp_spec`, `index_inbounds`); (2) under the
    algorithm's own precondition — every pivot `U[j][j]`, `j < n-1`, whose reciprocal the code uses is a
    non-zero rational — `L` is unit lower triangular, `U` is upper triangular, all entries are rationals
    and `L * U = A`. -/
theorem LU_mul_back (A : DM) (hA : A.wf) (hsq : A.row = A.col) (fA : allFin A) :
    ∃ L U, luDecomp A = .ok (L, U) ∧ L.wf ∧ U.wf ∧
      L.row = A.row ∧ L.col = A.row ∧ U.row = A.row ∧ U.col = A.row ∧
      ((∀ j, j + 1 < A.row → (U.at j j).isFin = true ∧ (U.at j j).toRat ≠ 0) →
        allFin L ∧ allFin U ∧
        (∀ i, i < A.row → L.at i i = X.one ∧ ∀ j, j < A.row → (i < j → L.at i j = X.zero) ∧
          (j < i → U.at i j = X.zero)) ∧
        toMat L A.row A.row * toMat U A.row A.row = toMat A A.row A.row) := by
  obtain ⟨l, u, W, hok, hl, hu, _, hcol, hrows⟩ := luDecomp_spec A hA hsq
  -- `⟨n, n, l⟩.wf` is `l.size = n * n`
  refine ⟨_, _, hok, hl, hu, rfl, rfl, rfl, rfl, fun hpiv => ?_⟩
  have fA' : ∀ i, i < A.row → ∀ j, j < A.row → (A.at i j).isFin = true :=
    fun i hi j hj => fA i hi j (hsq ▸ hj)
  have diag : ∀ j, j < A.row → DM.at ⟨A.row, A.row, u⟩ j j = cell W A.row j j := fun j hj =>
    (hrows j hj j hj).2.trans (if_neg (Nat.lt_irrefl j))
  have hp : ∀ j, j + 1 < A.row → (cell W A.row j j).isFin = true ∧ (cell W A.row j j).toRat ≠ 0 :=
    fun j hj => diag j (by omega) ▸ hpiv j hj
  have hWf := lu_fin A.row A.at (cell W A.row) hcol fA' hp
  have hL : ∀ i, i < A.row → ∀ j, j < A.row →
      DM.at ⟨A.row, A.row, l⟩ i j = X.fin (loQ (cell W A.row) i j) :=
    fun i hi j hj => ((hrows i hi).fin hi hWf hj).1
  have hU : ∀ i, i < A.row → ∀ j, j < A.row →
      DM.at ⟨A.row, A.row, u⟩ i j = X.fin (upQ (cell W A.row) i j) :=
    fun i hi j hj => ((hrows i hi).fin hi hWf hj).2
  refine ⟨fun i hi j hj => by rw [hL i hi j hj]; rfl, fun i hi j hj => by rw [hU i hi j hj]; rfl,
    fun i hi => ⟨by rw [hL i hi i hi]; simp [loQ, X.one], fun j hj => ⟨fun h => ?_, fun h => ?_⟩⟩, ?_⟩
  · rw [hL i hi j hj]; simp [loQ, Nat.lt_asymm h, Nat.ne_of_gt h, X.zero]
  · rw [hU i hi j hj]; simp [upQ, h, X.zero]
  · funext i j
    rw [Matrix.mul_apply]
    simp only [toMat]
    rw [← lu_product A.row A.at (cell W A.row) hcol fA' hp i j i.2 j.2,
      ← Fin.sum_univ_eq_sum_range (fun k => loQ (cell W A.row) i k * upQ (cell W A.row) k j) A.row]
    refine Finset.sum_congr rfl fun k _ => ?_
    rw [hL i i.2 k k.2, hU k k.2 j j.2]
    rfl

/-- No access outside the vector (`Err.oob`) happens in these operations on well-formed inputs that
    satisfy the C++ assertion of the operation — for *all* entry values, rational or not. -/
theorem index_inbounds (A B : DM) (hA : A.wf) (hB : B.wf) :
    (A.row = B.row → A.col = B.col → addDense A B ≠ .error .oob ∧ emulDense A B ≠ .error .oob) ∧
    (A.col = B.row → mulDense A B ≠ .error .oob) ∧
    (∀ k, addScalar A k ≠ .error .oob ∧ mulScalar A k ≠ .error .oob) ∧
    transposeDense A ≠ .error .oob ∧
    (∀ r0 c0 r1 c1 rs cs, r0 ≤ r1 → c0 ≤ c1 → r1 < A.row → c1 < A.col → 0 < rs → 0 < cs →
      submatrixDense A r0 c0 r1 c1 rs cs ≠ .error .oob) ∧
    (∀ i j c, i < A.row → j < A.row → i ≠ j →
      rowExchange A i j ≠ .error .oob ∧ rowAddRow A i j c ≠ .error .oob ∧ rowMulScalar A i c ≠ .error .oob) ∧
    (A.row = A.col → luDecomp A ≠ .error .oob) := by
  have ok {α : Type} {x : M α} {P : α → Prop} (h : ∃ a, x = .ok a ∧ P a) : x ≠ .error .oob := by
    obtain ⟨a, h, _⟩ := h
    rw [h]; exact fun e => by cases e
  refine ⟨fun hr hc => ⟨ok (addDense_spec A B hA hB hr hc), ok (emulDense_spec A B hA hB hr hc)⟩,
    fun hk => ok (mulDense_spec A B hA hB hk), fun k => ⟨ok (addScalar_spec A k hA), ok (mulScalar_spec A k hA)⟩,
    ok (transposeDense_spec A hA),
    fun r0 c0 r1 c1 rs cs h1 h2 h3 h4 h5 h6 => ok (submatrixDense_spec A r0 c0 r1 c1 rs cs hA h1 h2 h3 h4 h5 h6),
    fun i j c hi hj hij => ⟨ok (rowExchange_spec A i j hA hi hj hij), ok (rowAddRow_spec A i j c hA hi hj hij),
      ok (rowMulScalar_spec A i c hA hi)⟩, fun hsq => ?_⟩
  obtain ⟨l, u, W, h, _⟩ := luDecomp_spec A hA hsq
  exact ok (P := fun _ => True) ⟨_, h, trivial⟩

def exA : DM := { row := 2, col := 3, m := #[.fin 1, .fin (1/2), .fin (-3), .fin 0, .fin 4, .fin 5] }
def exB : DM := { row := 2, col := 3, m := #[.fin 2, .fin 2, .fin 7, .fin (-1), .fin (3/4), .fin 0] }
def exC : DM := { row := 3, col := 2, m := #[.fin 1, .fin 0, .fin 2, .fin (-1), .fin 0, .fin 3] }
def exS : DM := { row := 3, col := 3, m := #[.fin 2, .fin 1, .fin 1, .fin 4, .fin 3, .fin 3, .fin 8, .fin 7, .fin 9] }

theorem exA_ok : exA.wf ∧ allFin exA := ⟨by decide, by unfold allFin; decide⟩
theorem exB_ok : exB.wf ∧ allFin exB := ⟨by decide, by unfold allFin; decide⟩
theorem exC_ok : exC.wf ∧ allFin exC := ⟨by decide, by unfold allFin; decide⟩
theorem exS_ok : exS.wf ∧ allFin exS := ⟨by decide, by unfold allFin; decide⟩

theorem luDecomp_exS : luDecomp exS = .ok (
    { row := 3, col := 3, m := #[.fin 1, .fin 0, .fin 0, .fin 2, .fin 1, .fin 0, .fin 4, .fin 3, .fin 1] },
    { row := 3, col := 3, m := #[.fin 2, .fin 1, .fin 1, .fin 0, .fin 1, .fin 1, .fin 0, .fin 0, .fin 2] }) := by
  decide +kernel

example :
    let A : DM := { row := 3, col := 3, m := #[.fin 2, .fin 1, .fin 1, .fin 4, .fin 3, .fin 3, .fin 8, .fin 7, .fin 9] }
    luDecomp A = .ok (
      { row := 3, col := 3, m := #[.fin 1, .fin 0, .fin 0, .fin 2, .fin 1, .fin 0, .fin 4, .fin 3, .fin 1] },
      { row := 3, col := 3, m := #[.fin 2, .fin 1, .fin 1, .fin 0, .fin 1, .fin 1, .fin 0, .fin 0, .fin 2] }) := by
  exact luDecomp_exS

example := add_correct exA exB exA_ok.1 exB_ok.1 rfl rfl exA_ok.2 exB_ok.2
example := emul_correct exA exB exA_ok.1 exB_ok.1 rfl rfl exA_ok.2 exB_ok.2
example := mul_correct exA exC exA_ok.1 exC_ok.1 rfl exA_ok.2 exC_ok.2
example := transpose_correct exA exA_ok.1 exA_ok.2
example := mulScalar_correct exA (2/3) exA_ok.1 exA_ok.2
example := addScalar_correct exA (2/3) exA_ok.1 exA_ok.2
example := submatrix_correct exS 1 0 2 1 exS_ok.1 (by decide) (by decide) (by decide) (by decide) exS_ok.2
example := rowExchange_correct exC 0 2 exC_ok.1 (by decide) (by decide) (by decide) exC_ok.2
example := rowMulScalar_correct exC 1 (5/7) exC_ok.1 (by decide) exC_ok.2
example := rowAddRow_correct exC 1 2 (-3) exC_ok.1 (by decide) (by decide) (by decide) exC_ok.2
example := det_bareis_three exS exS_ok.1 rfl rfl exS_ok.2
example := index_inbounds exA exB exA_ok.1 exB_ok.1
/-- the pivot precondition of `LU_mul_back` holds for `exS` (pivots 2, 1), so the conclusion applies -/
example : ∃ L U, luDecomp exS = .ok (L, U) ∧
    (∀ j, j + 1 < exS.row → (U.at j j).isFin = true ∧ (U.at j j).toRat ≠ 0) ∧
    toMat L 3 3 * toMat U 3 3 = toMat exS 3 3 := by
  obtain ⟨L, U, hok, _, _, _, _, _, _, h⟩ := LU_mul_back exS exS_ok.1 rfl exS_ok.2
  have hp : ∀ j, j + 1 < exS.row → (U.at j j).isFin = true ∧ (U.at j j).toRat ≠ 0 := by
    rw [luDecomp_exS] at hok
    injection hok with hok
    injection hok with _ hU
    subst hU
    intro j hj
    have : j = 0 ∨ j = 1 := by simp [exS] at hj; omega
    rcases this with rfl | rfl <;> simp [DM.at, X.isFin, X.toRat]
  exact ⟨L, U, hok, hp, (h hp).2.2.2⟩

/-! ### the two repaired defects, stated on their minimal witnesses

`x0` solves `A0 x = 0`.  Row operations preserve the solution set, so every correct elimination
result `B` satisfies `B x0 = 0`.  The original code (column counter used as pivot row) does not. -/
def A0 : DM := { row := 3, col := 4, m := #[.fin 0, .fin 1, .fin 1, .fin 0, .fin 0, .fin 2, .fin 0, .fin 1, .fin 0, .fin 1, .fin 1, .fin 0] }
def x0 : DM := { row := 4, col := 1, m := #[.fin 0, .fin 1, .fin (-1), .fin (-2)] }
def zero31 : DM := { row := 3, col := 1, m := #[.fin 0, .fin 0, .fin 0] }

theorem pge_witness :
    mulDense A0 x0 = .ok zero31 ∧
    (do let r ← pge A0; mulDense r.1 x0) = .ok zero31 ∧
    (do let r ← pffge A0; mulDense r.1 x0) = .ok zero31 ∧
    (do let r ← pgeOrig A0; mulDense r.1 x0) = .ok { row := 3, col := 1, m := #[.fin 0, .fin 1, .fin 0] } ∧
    (do let r ← pffgeOrig A0; pure r.1.m) =
      .ok #[.fin 0, .fin 1, .fin 1, .fin 0, .fin 0, .fin 0, .zoo, .zoo, .fin 0, .fin 2, .fin 0, .fin 1] := by
  refine ⟨?_, ?_, ?_, ?_, ?_⟩ <;> decide +kernel

/-- fraction_free_gauss_jordan_solve with pivoting on a singular matrix: the repaired code reports
    "Matrix is rank deficient" (the original asserted / read past the storage) -/
theorem ffgj_singular_witness :
    ffgjSolve { row := 1, col := 1, m := #[.fin 0] } { row := 1, col := 1, m := #[.fin 1] } (DM.fresh 1 1) true
      = .error .runtime := by
  decide +kernel

/-! ### statements that are *not* proved here (decided per sample by the harness oracle)

`invertible`-style statements are phrased with determinants and products only. -/
def Finite (A : DM) : Prop := A.wf ∧ allFin A

/-- det_bareis (all sizes, including the pivoting Bareiss branch) is the determinant -/
def det_bareis_full : Prop := ∀ A : DM, Finite A → A.row = A.col → 0 < A.row →
  ∃ d, detBareiss A = .ok (X.fin d) ∧ d = (toMat A A.row A.row).det
def det_berkowitz_full : Prop := ∀ A : DM, Finite A → A.row = A.col → 0 < A.row →
  ∃ d, detBerkowitz A = .ok (X.fin d) ∧ d = (toMat A A.row A.row).det
/-- char_poly returns the coefficients (decreasing powers) of `det (x I - A)` -/
def char_poly_full : Prop := ∀ A : DM, Finite A → A.row = A.col → 0 < A.row →
  ∃ P, charPoly A = .ok P ∧ P.row = A.row + 1 ∧ P.col = 1 ∧ allFin P ∧
    ∀ x : ℚ, ∑ k ∈ Finset.range (A.row + 1), (P.at k 0).toRat * x ^ (A.row - k) =
      (x • (1 : Matrix (Fin A.row) (Fin A.row) ℚ) - toMat A A.row A.row).det
/-- the pivoting inverse routines return the inverse of a non-singular matrix -/
def inverse_full : Prop := ∀ A : DM, Finite A → A.row = A.col → (toMat A A.row A.row).det ≠ 0 →
  ∀ inv ∈ [inversePivotedLU, inverseGaussJordan],
    ∃ B, inv A = .ok B ∧ allFin B ∧ toMat A A.row A.row * toMat B A.row A.row = 1
/-- the non-pivoting ones: under their leading-minor precondition, here subsumed by requiring the result
    to be rational -/
def inverse_nonpivot_full : Prop := ∀ A : DM, Finite A → A.row = A.col →
  ∀ inv ∈ [inverseLU, inverseFFLU], ∀ B, inv A = .ok B → allFin B →
    toMat A A.row A.row * toMat B A.row A.row = 1
/-- pivoted LU: `L * U = P * A` for the recorded row exchanges -/
def pivoted_LU_full : Prop := ∀ A : DM, Finite A → A.row = A.col → (toMat A A.row A.row).det ≠ 0 →
  ∃ L U pl PA, pivotedLU A = .ok (L, U, pl) ∧ permuteFwd A.m A.row A.col pl = .ok PA ∧ allFin L ∧ allFin U ∧
    toMat L A.row A.row * toMat U A.row A.row = toMat { A with m := PA } A.row A.row
/-- LDL: `L * D * Lᵀ = A` for symmetric input whenever the factors are rational -/
def ldl_full : Prop := ∀ A L D : DM, Finite A → A.row = A.col →
  toMat A A.row A.row = (toMat A A.row A.row).transpose → ldlDecomp A = .ok (L, D) → allFin L → allFin D →
    toMat L A.row A.row * toMat D A.row A.row * (toMat L A.row A.row).transpose = toMat A A.row A.row
/-- Cholesky: `L * Lᵀ = A` whenever the factor is rational -/
def cholesky_full : Prop := ∀ A L : DM, Finite A → A.row = A.col →
  toMat A A.row A.row = (toMat A A.row A.row).transpose → choleskyDecomp A = .ok L → allFin L →
    toMat L A.row A.row * (toMat L A.row A.row).transpose = toMat A A.row A.row
/-- QR: `Q * R = A` and `Qᵀ Q = 1` whenever the factors are rational -/
def qr_full : Prop := ∀ A Q R : DM, Finite A → qrDecomp A = .ok (Q, R) → allFin Q → allFin R →
  toMat Q A.row A.col * toMat R A.col A.col = toMat A A.row A.col ∧
  (toMat Q A.row A.col).transpose * toMat Q A.row A.col = 1
/-- every elimination routine returns `P * A` for an invertible `P` (row equivalence) -/
def elimination_full : Prop := ∀ A : DM, Finite A → 0 < A.col →
  ∀ elim ∈ [pge, pffge, pgje, pffgje], ∃ B pl, elim A = .ok (B, pl) ∧ allFin B ∧
    ∃ P : Matrix (Fin A.row) (Fin A.row) ℚ, P.det ≠ 0 ∧ toMat B A.row A.col = P * toMat A A.row A.col
/-- linear solvers: `A x = b` for non-singular `A` (pivoting solvers) -/
def solve_full : Prop := ∀ A b : DM, Finite A → Finite b → A.row = A.col → b.row = A.row →
  (toMat A A.row A.row).det ≠ 0 →
  ∃ x, pivotedLUSolve A b = .ok x ∧ allFin x ∧ toMat A A.row A.row * toMat x A.row b.col = toMat b A.row b.col

end SymVerif.C24
