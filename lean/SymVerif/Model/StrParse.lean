/-
Token-level model of the expression grammar of symengine/parser/parser.yy on the printer's output language (C16).
Core Lean only.

`pExpr / pLoop / pPrefix / pArgs` is a precedence-climbing parser over the tokens `StrP.Tok`; every binding power
comes from the translated `%left/%right` table (`Gen.PrintNames.precTable`): a pending rule of level `p` lets the
parser continue over an operator of level `q` exactly when bison shifts (`q > p`, or `q = p` and the level is
`%right`).  With doubled levels: `lbp o = 2·level o`, `rbp o = 2·level o` (`%left`) or `2·level o − 1` (`%right`),
`ubp = 2·level UMINUS − 1`.  The parser does not look at the spacing flag of a minus token.  Unlike the real
parser it keeps `'(' expr ')'` as a `paren` node, so that "the printed tree comes back" is a plain equality.

`WP t` (well-parenthesised) is the condition under which `flat t` parses back to `t`; it is stated through the
binding powers only.  `printable` is the decidable condition on expressions under which `layout` yields `WP`
trees (`C16.paren_sound`, Lemmas/C16LayoutInd.lean).
-/
import SymVerif.Model.StrPrinter

namespace SymVerif
namespace StrP
open Expr

inductive PErr where
  | fuel | syntax
  deriving DecidableEq, Repr, Inhabited

def binOfTok : Tok → Option BinOp
  | .plus => some .add
  | .minus _ => some .sub
  | .star => some .mul
  | .slash => some .div
  | .pow => some .pow
  | .rel o => some o
  | _ => none

def lbp (o : BinOp) : Nat := 2 * level o
def rbp (o : BinOp) : Nat := if isRightAssoc o then 2 * level o - 1 else 2 * level o
/-- `'-' expr %prec UMINUS`, `%right UMINUS` -/
def ubp : Nat := 2 * levelNeg - 1

mutual
  /-- `expr` in a context that tolerates operators binding tighter than `m` -/
  def pExpr : Nat → Nat → List Tok → Except PErr (PExpr × List Tok)
    | 0, _, _ => .error .fuel
    | f + 1, m, ts =>
      match pPrefix f ts with
      | .error e => .error e
      | .ok (lhs, r) => pLoop f m lhs r
  /-- `expr: expr OP expr` with the left operand already reduced -/
  def pLoop : Nat → Nat → PExpr → List Tok → Except PErr (PExpr × List Tok)
    | 0, _, _, _ => .error .fuel
    | f + 1, m, lhs, ts =>
      match ts with
      | [] => .ok (lhs, [])
      | t :: r =>
        match binOfTok t with
        | none => .ok (lhs, t :: r)
        | some o =>
          if lbp o > m then
            match pExpr f (rbp o) r with
            | .error e => .error e
            | .ok (rhs, r') => pLoop f m (.bin o lhs rhs) r'
          else .ok (lhs, t :: r)
  /-- `'(' expr ')'`, `'-' expr`, NUMERIC, IDENTIFIER, `IDENTIFIER '(' expr_list ')'` -/
  def pPrefix : Nat → List Tok → Except PErr (PExpr × List Tok)
    | 0, _ => .error .fuel
    | f + 1, ts =>
      match ts with
      | .lp :: r =>
        match pExpr f 0 r with
        | .error e => .error e
        | .ok (e, r') =>
          match r' with
          | .rp :: r'' => .ok (.paren e, r'')
          | _ => .error .syntax
      | .minus _ :: r =>
        match pExpr f ubp r with
        | .error e => .error e
        | .ok (e, r') => .ok (.neg e, r')
      | .num s :: r => .ok (.num s, r)
      | .id s :: .lp :: r =>
        match pArgs f r with
        | .error e => .error e
        | .ok (args, r') => .ok (.call s args, r')
      | .id s :: r => .ok (.id s, r)
      | _ => .error .syntax
  /-- `expr_list ')'` -/
  def pArgs : Nat → List Tok → Except PErr (List PExpr × List Tok)
    | 0, _ => .error .fuel
    | f + 1, ts =>
      match pExpr f 0 ts with
      | .error e => .error e
      | .ok (e, r) =>
        match r with
        | .comma :: r' =>
          match pArgs f r' with
          | .error e => .error e
          | .ok (es, r'') => .ok (e :: es, r'')
        | .rp :: r' => .ok ([e], r')
        | _ => .error .syntax
end

/-- `st_expr` followed by END_OF_FILE -/
def parseToks (fuel : Nat) (ts : List Tok) : Except PErr PExpr :=
  match pExpr fuel 0 ts with
  | .error e => .error e
  | .ok (e, r) => if r.isEmpty then .ok e else .error .syntax

/-! ### well-parenthesised trees -/

def edgeAtom : Nat := 2 * levelAtom

/-- the binding power with which the right edge of a tree captures a following operator -/
def edge : PExpr → Nat
  | .bin o _ _ => rbp o
  | .neg _ => ubp
  | _ => edgeAtom

mutual
  def WP : PExpr → Bool
    | .num _ => true
    | .id _ => true
    | .neg c => WP c && decide (ubp < 2 * lv c)
    | .bin o a b => WP a && WP b && decide (lbp o ≤ 2 * lv a) && decide (lbp o ≤ edge a) && decide (rbp o < 2 * lv b)
    | .call _ args => !args.isEmpty && WPs args
    | .paren c => WP c
  def WPs : List PExpr → Bool
    | [] => true
    | a :: t => WP a && WPs t
end

/-! ### the expressions for which `layout` is proved to be well-parenthesised -/

/-- a key with coefficient 1 is printed bare as an operand of `+`: it must not print as a sum itself -/
def addKeysOK (l : List (Expr × Expr)) : Bool := l.all fun kv => !(isInt kv.2 1) || cprec kv.1 != 1

/-- condition on a single node -/
def printableNode : Expr → Bool
  | dbl b => !dblSign b || dblIsNeg b                      -- not -0.0, not a NaN with the sign bit
  | add c ts => isNum c && !ts.isEmpty && addKeysOK ts
  | mul c fs => isNum c && fs.all fun be => !(isInt be.2 1 || isInt be.2 (-1)) || cprec be.1 != 2
  | fsym _ args => !args.isEmpty
  | app h args =>
    if (relOp? h).isSome then
      match args with
      | [a, b] => cprec a != 0 && cprec b != 0            -- no relational as operand of a relational
      | _ => false
    else !args.isEmpty
  | _ => true

def printable (e : Expr) : Bool := allNodes printableNode e

end StrP
end SymVerif
