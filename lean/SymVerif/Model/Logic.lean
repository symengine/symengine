/-
Model of the boolean simplifier in symengine/logic.cpp:

* `notB`      – `logical_not` with the per-class overrides (`BooleanAtom`, `Equality`/`Unequality`,
                `LessThan`/`StrictLessThan` flips, `And`/`Or` De Morgan via `make_rcp`, `Not` elimination,
                default `Boolean::logical_not` = `Not(this)` for `Contains` and `Xor`);
* `andOr`     – the `and_or<And/Or>` template (absorbing / identity constants, one-level flattening,
                complementary-literal detection through `logical_not`, 0/1/n result);
                the FiniteSet-domain rule of `and_or<And>` is modelled by `andD` for argument sets with exactly one
                `Contains(x, FiniteSet)` conjunct (with several, the C++ takes the first in hash order: `andD` answers
                `none` = not modelled); `substB` models `SubsVisitor` for `x := integer`;
* `xorE`      – `logical_xor` (constant parity, flattening of `Xor` arguments, duplicate cancellation,
                complementary cancellation with a parity flip, 0/1/n result, outer `Not` for odd parity);
* `nandE/norE/xnorE`, `piecewise`.

Atoms are opaque: `rel i neg` stands for a relational over its own symbols and its complementary relational
(`Lt(x,y)`/`Le(y,x)`, `Eq`/`Ne`) – exactly the objects `Relational::logical_not` maps onto each other;
`mem i` stands for a `Contains(expr,set)` object, negated only through a `Not` node.
Atoms over the distinguished symbol `x` carry arithmetic meaning, needed by the FiniteSet-domain rule:
`rel i _` with `i ≥ 8` encodes `x<c`/`x>=c`, `x<=c`/`x>c`, `x=c`/`x!=c` (`xrelSem`), `mem i` with `i ≥ 4` encodes
`Contains(x, Interval[lo,hi])` (`xmemSem`), and `fs l` is `Contains(x, FiniteSet l)` (integer elements, ascending).

The C++ containers are `std::set<RCP<const Boolean>, RCPBasicKeyLess>` (hash order).  The model keeps every
argument list strictly sorted by the structural key `enc` so that structural equality of model terms is set
equality, like `And::__eq__`; no modelled result depends on the iteration order (the absorbing-constant early
return and the complementary-pair return produce the same constant whatever element is met first; `logical_xor`
consumes its *vector* argument in the given order, which the op line fixes).

Core Lean only: this file is linked into the native driver.
-/
namespace SymVerif.Logic

inductive B where
  | tt | ff
  | rel (id : Nat) (neg : Bool)
  | mem (id : Nat)
  | fs (l : List Int)
  | and (l : List B)
  | or (l : List B)
  | xor (l : List B)
  | not (b : B)
  deriving Repr, Inhabited

namespace B

/-! ### decidable equality (`eq(*a, *b)` of the C++) -/
mutual
def beq : B → B → Bool
  | tt, tt => true
  | ff, ff => true
  | rel i n, rel j m => i == j && n == m
  | mem i, mem j => i == j
  | fs l, fs r => l == r
  | and l, and r => beqL l r
  | or l, or r => beqL l r
  | xor l, xor r => beqL l r
  | not a, not b => beq a b
  | _, _ => false
def beqL : List B → List B → Bool
  | [], [] => true
  | a :: l, b :: r => beq a b && beqL l r
  | _, _ => false
end

mutual
theorem beq_eq : ∀ (a b : B), beq a b = true → a = b
  | tt, b, h | ff, b, h => by cases b <;> first | rfl | cases h
  | rel i n, b, h => by
    cases b <;> try cases h
    simp only [beq, Bool.and_eq_true, beq_iff_eq] at h
    rw [h.1, h.2]
  | mem i, b, h => by
    cases b <;> try cases h
    exact congrArg _ (eq_of_beq h)
  | fs l, b, h => by
    cases b <;> try cases h
    exact congrArg _ (eq_of_beq h)
  | and l, b, h | or l, b, h | xor l, b, h => by
    cases b <;> try cases h
    exact congrArg _ (beqL_eq l _ h)
  | not a, b, h => by
    cases b <;> try cases h
    exact congrArg _ (beq_eq a _ h)
theorem beqL_eq : ∀ (l r : List B), beqL l r = true → l = r
  | [], r, h => by cases r <;> first | rfl | cases h
  | a :: l, r, h => by
    cases r <;> try cases h
    simp only [beqL, Bool.and_eq_true] at h
    rw [beq_eq a _ h.1, beqL_eq l _ h.2]
end

mutual
theorem beq_refl : ∀ (a : B), beq a a = true
  | tt | ff => rfl
  | rel i n => by simp only [beq, beq_self_eq_true, Bool.and_self]
  | mem i => by simp only [beq, beq_self_eq_true]
  | fs l => by simp only [beq, beq_self_eq_true]
  | and l | or l | xor l => by simp only [beq]; exact beqL_refl l
  | not a => by simp only [beq]; exact beq_refl a
theorem beqL_refl : ∀ (l : List B), beqL l l = true
  | [] => rfl
  | a :: l => by simp only [beqL, beq_refl a, beqL_refl l, Bool.and_self]
end

instance : DecidableEq B := fun a b =>
  if h : beq a b = true then isTrue (beq_eq a b h)
  else isFalse (fun e => h (e ▸ beq_refl a))

/-! ### the container order (stands for `RCPBasicKeyLess`; any strict total order gives the same results) -/
def encInt (a : Int) : Nat := 2 * a.natAbs + (if a < 0 then 1 else 0)
def encInts : List Int → List Nat
  | [] => [0]
  | a :: l => 1 :: encInt a :: encInts l

mutual
def enc : B → List Nat
  | tt => [0]
  | ff => [1]
  | rel i n => [2, i, if n then 1 else 0]
  | mem i => [3, i]
  | fs l => 8 :: encInts l
  | and l => 4 :: encL l
  | or l => 5 :: encL l
  | xor l => 6 :: encL l
  | not b => 7 :: enc b
def encL : List B → List Nat
  | [] => [0]
  | a :: l => 1 :: (enc a ++ encL l)
end

def lt (a b : B) : Bool := decide (enc a < enc b)

end B

open B

/-- `std::set::insert` position for an element known to be absent -/
def insSorted (a : B) : List B → List B
  | [] => [a]
  | b :: t => if B.lt a b then a :: b :: t else b :: insSorted a t

/-- `std::set::insert` -/
def ins (a : B) (l : List B) : List B := if a ∈ l then l else insSorted a l

/-- `set.insert(first, last)` -/
def insAll : List B → List B → List B
  | [], acc => acc
  | a :: s, acc => insAll s (ins a acc)

def const (b : Bool) : B := if b then .tt else .ff

/-! ### `logical_not` -/
mutual
def notB : B → B
  | .tt => .ff                       -- BooleanAtom::logical_not
  | .ff => .tt
  | .rel i n => .rel i (!n)          -- Equality<->Unequality, LessThan(a,b)<->StrictLessThan(b,a)
  | .mem i => .not (.mem i)          -- Boolean::logical_not (default): make_rcp<Not>(this)
  | .fs l => .not (.fs l)            -- default
  | .and l => .or (insAll (notL l) [])   -- And::logical_not: make_rcp<Or>({logical_not(a)…})
  | .or l => .and (insAll (notL l) [])   -- Or::logical_not
  | .xor l => .not (.xor l)          -- default
  | .not b => b                      -- Not::logical_not
def notL : List B → List B
  | [] => []
  | a :: l => notB a :: notL l
end

/-! ### `and_or<caller>(s, op_x_notx)`; `isOr = op_x_notx` -/

/-- first loop: `none` = an absorbing constant was met (`return boolean(op_x_notx)`) -/
def collect (isOr : Bool) : List B → List B → Option (List B)
  | [], args => some args
  | a :: s, args =>
    match a with
    | .tt => if isOr then none else collect isOr s args
    | .ff => if isOr then collect isOr s args else none
    | .and l => if isOr then collect isOr s (ins a args) else collect isOr s (insAll l args)
    | .or l => if isOr then collect isOr s (insAll l args) else collect isOr s (ins a args)
    | _ => collect isOr s (ins a args)

/-- second loop: `args.find(logical_not(a)) != args.end()` for some `a` -/
def hasCompl (args : List B) : Bool := args.any (fun a => decide (notB a ∈ args))

def andOr (isOr : Bool) (s : List B) : B :=
  match collect isOr s [] with
  | none => const isOr
  | some args =>
    if hasCompl args then const isOr
    else
      match args with
      | [] => const (!isOr)
      | [a] => a
      | _ => if isOr then .or args else .and args

def orE (s : List B) : B := andOr true s
def norE (s : List B) : B := notB (orE s)

/-! ### `logical_xor` -/

/-- the find / erase / insert step on `(args, nots % 2)` -/
def xorStep (st : List B × Bool) (a : B) : List B × Bool :=
  if a ∈ st.1 then (st.1.erase a, st.2)
  else if notB a ∈ st.1 then (st.1.erase (notB a), !st.2)
  else (insSorted a st.1, st.2)

def xorSteps : List B → List B × Bool → List B × Bool
  | [], st => st
  | a :: l, st => xorSteps l (xorStep st a)

def xorLoop : List B → List B × Bool → List B × Bool
  | [], st => st
  | a :: s, st =>
    match a with
    | .tt => xorLoop s (st.1, !st.2)
    | .ff => xorLoop s st
    | .xor l => xorLoop s (xorSteps l st)
    | _ => xorLoop s (xorStep st a)

def xorFinish (st : List B × Bool) : B :=
  if st.2 then
    match st.1 with
    | [] => .tt
    | [a] => notB a
    | args => .not (.xor args)
  else
    match st.1 with
    | [] => .ff
    | [a] => a
    | args => .xor args

def xorE (s : List B) : B := xorFinish (xorLoop s ([], false))
def xnorE (s : List B) : B := notB (xorE s)

/-! ### substitution `x := e` (SubsVisitor on Boolean classes) and the FiniteSet-domain rule of `and_or<And>` -/

/-- value at `x = e` of the positive form of the x-relational with code `j`:
`j % 3 = 0`: `x < c`, `1`: `x <= c`, `2`: `x = c`, with `c = j / 3 - 16` -/
def xrelSem (j : Nat) (e : Int) : Bool :=
  let c : Int := ((j / 3 : Nat) : Int) - 16
  if j % 3 = 0 then decide (e < c) else if j % 3 = 1 then decide (e ≤ c) else decide (e = c)

/-- value at `x = e` of `Contains(x, Interval[lo,hi])` with code `j`: `lo = j % 64 - 16`, `hi = j / 64 - 16` -/
def xmemSem (j : Nat) (e : Int) : Bool :=
  decide ((((j % 64 : Nat) : Int) - 16 ≤ e) ∧ (e ≤ ((j / 64 : Nat) : Int) - 16))

mutual
/-- `b->subs({x: e})`: atoms over `x` evaluate, every compound is rebuilt through its `logical_*` function -/
def substB (e : Int) : B → B
  | .tt => .tt
  | .ff => .ff
  | .rel i n => if 8 ≤ i then const (xrelSem (i - 8) e ^^ n) else .rel i n
  | .mem i => if 4 ≤ i then const (xmemSem (i - 4) e) else .mem i
  | .fs l => const (decide (e ∈ l))            -- FiniteSet::contains(number)
  | .and l => andOr false (substL e l)         -- after the substitution no FiniteSet conjunct is left
  | .or l => andOr true (substL e l)
  | .xor l => xorE (substL e l)
  | .not b => notB (substB e b)
def substL (e : Int) : List B → List B
  | [] => []
  | a :: l => substB e a :: substL e l
end

def isFS : B → Bool
  | .fs _ => true
  | _ => false

/-- `finiteset(present)->contains(sym)` for a symbol and integer elements -/
def fsContains (l : List Int) : B := if l.isEmpty then .ff else .fs l

/-- `eq(*contain, *boolean(true))` / `eq(*contain, *boolean(false))` / neither -/
inductive Cls where
  | t | f | other
  deriving DecidableEq, Repr

def classify (e : Int) (restCond : B) : Cls :=
  match substB e restCond with
  | .tt => .t
  | .ff => .f
  | _ => .other

/-- the tail of `and_or<And>`: 0 / 1 / n arguments -/
def finishAnd (args : List B) : B :=
  match args with
  | [] => .tt
  | [a] => a
  | _ => .and args

/-- `and_or<And>(s, false)` including the FiniteSet-domain rule.  `none`: fuel exhausted (never with fuel ≥ 3) or
several `Contains(x, FiniteSet)` conjuncts (result depends on the hash order; not modelled). -/
def andD : Nat → List B → Option B
  | 0, _ => none
  | fuel + 1, s =>
    match collect false s [] with
    | none => some .ff
    | some args =>
      if hasCompl args then some .ff
      else
        match args.filter isFS with
        | [] => some (finishAnd args)
        | [.fs fset] =>
          if fset.isEmpty then some (finishAnd args)      -- no Number element: `break`
          else
            let restCond := andOr false (args.erase (.fs fset))
            let present := fset.filter (fun e => classify e restCond != .f)
            let symexists := fset.any (fun e => classify e restCond == .other)
            if !symexists then some (fsContains present)
            else if present.length != fset.length then andD fuel [fsContains present, restCond]
            else some (finishAnd args)
        | _ => none

def andFuel : Nat := 4
def andE (s : List B) : Option B := andD andFuel s
def nandE (s : List B) : Option B := (andE s).map notB

/-! ### `piecewise(vec)`; expressions are opaque ids -/

inductive Err where
  | domain      -- DomainError("piecewise undefined for this domain.")
  deriving Repr, DecidableEq

def pwPrune : List (Nat × B) → List B → List (Nat × B)
  | [], _ => []
  | (e, c) :: t, seen =>
    if c = .ff then pwPrune t seen
    else if c = .tt then [(e, c)]
    else if c ∈ seen then pwPrune t seen
    else (e, c) :: pwPrune t (c :: seen)

inductive PW where
  | expr (e : Nat)                 -- a single `true` branch collapses to its expression
  | pw (l : List (Nat × B))        -- make_rcp<Piecewise>
  deriving Repr

def piecewise (vec : List (Nat × B)) : Except Err PW :=
  match pwPrune vec [] with
  | [] => .error .domain
  | [(e, .tt)] => .ok (.expr e)
  | l => .ok (.pw l)

/-! ### recipes: formulas built bottom-up through the API (what one `f` op line denotes) -/

inductive Op where
  | and | or | xor | not | nand | nor | xnor
  deriving Repr, DecidableEq

inductive R where
  | leaf (b : B)                    -- `T`, `F`, an atom in either polarity
  | node (op : Op) (ch : List R)
  deriving Repr

/-- one API call on already built arguments; `none` = malformed recipe (`not` with ≠ 1 argument) -/
def apply (op : Op) (args : List B) : Option B :=
  match op with
  | .and => andE args
  | .or => some (orE args)
  | .nand => nandE args
  | .nor => some (norE args)
  | .xor => some (xorE args)
  | .xnor => some (xnorE args)
  | .not => match args with
    | [a] => some (notB a)
    | _ => none

mutual
def build : R → Option B
  | .leaf b => some b
  | .node op ch =>
    match buildL ch with
    | none => none
    | some args => apply op args
def buildL : List R → Option (List B)
  | [] => some []
  | r :: rs =>
    match build r, buildL rs with
    | some b, some bs => some (b :: bs)
    | _, _ => none
end

end SymVerif.Logic
