/-
Model of `StrPrinter` (symengine/printers/strprinter.cpp) on the shared expression tree (C16).  Core Lean only.

  Precedence::bvisit(...)            ->  `cprec`
  StrPrinter::parenthesizeLT / LE    ->  `parLT`, `parLE`
  StrPrinter::bvisit(Integer, Rational, Complex, RealDouble, ComplexDouble, Infty, NaN, Symbol, Constant,
                     BooleanAtom, Add, Mul, Pow, Function, FunctionSymbol, Equality, Unequality, LessThan,
                     StrictLessThan, And, Or, Xor, Not)           ->  `layout`
  StrPrinter::_print_pow             ->  `powP`
  print_double                       ->  `printDouble` (exact decimal conversion, 15 significant digits, `%g`)
  PrinterBasicCmp + std::map         ->  `termLess`, `insertTerm`, `sortTerms`

The printer is factored into two stages:

  `layout : Expr → PExpr`   every *decision* of the C++ code (term order, numerator/denominator split, which
                            operands get parentheses, `exp(`/`sqrt(` forms, sign merging `a + -b ↦ a - b`) produces
                            a syntax tree in which parentheses are explicit nodes; the tree is shaped the way the
                            *parser* groups the emitted tokens (e.g. `-x*y` is `(-x)*y`, `2*x*y` is `(2*x)*y`);
  `flat : PExpr → List Tok` decision-free flattening, `Tok.text` the text of a token with the printer's spacing.

`render e = concat (map text (flat (layout e)))` is what the driver prints and what is compared with `str(e)`.
`Lemmas/C16Parse.lean` and `Lemmas/C16LayoutInd.lean` prove that `flat` followed by the precedence-climbing parser of
`Model/StrParse.lean` gives the tree back whenever the tree is well-parenthesised (`WP`), and that `layout` only produces such trees.

Container orders: the driver applies `Expr.norm` (Model/ExprHash.lean) first, so `Mul` dictionaries and the
`And/Or/Xor` containers are in `RCPBasicKeyLess` order (hash first), which is the iteration order the C++ printer
sees; `Add` terms are re-sorted here by `PrinterBasicCmp` (`__cmp__`).
-/
import SymVerif.Model.ExprHash
import SymVerif.Gen.PrintNames

namespace SymVerif
namespace StrP
open Expr

/-! ### print_double -/

/-- round-half-even of `num / den` (`den > 0`) -/
def divRoundEven (num den : Nat) : Nat :=
  let q := num / den
  let r := num % den
  if 2 * r < den then q else if 2 * r > den then q + 1 else if q % 2 == 0 then q else q + 1

/-- smallest `k ≥ start` with `num * 10^k ≥ den` (fuel-bounded; doubles need k ≤ 324) -/
def findK (num den : Nat) : Nat → Nat → Nat
  | 0, k => k
  | f + 1, k => if num * 10 ^ k ≥ den then k else findK num den f (k + 1)

/-- the decimal exponent `X` with `10^X ≤ num/den < 10^(X+1)` (`num, den > 0`) -/
def decExp (num den : Nat) : Int :=
  if num ≥ den then Int.ofNat ((toString (num / den)).length - 1)
  else - Int.ofNat (findK num den 400 1)

/-- `P` significant decimal digits of `num/den`, correctly rounded (nearest, ties to even):
the `P`-digit integer and the decimal exponent of its first digit -/
def sigDigits (num den P : Nat) : Nat × Int :=
  let X := decExp num den
  let sh : Int := (Int.ofNat P - 1) - X
  let q := if sh ≥ 0 then divRoundEven (num * 10 ^ sh.toNat) den else divRoundEven num (den * 10 ^ (-sh).toNat)
  if q ≥ 10 ^ P then (q / 10, X + 1) else (q, X)

def dropTrailingZeros (ds : List Char) : List Char := (ds.reverse.dropWhile (· == '0')).reverse

/-- `%g` layout of the digit string `ds` (no trailing zeros, first digit non-zero) with decimal exponent `X` -/
def fmtG (ds : List Char) (X : Int) (P : Nat) : String :=
  if X < -4 || X ≥ Int.ofNat P then
    let mant := match ds with
      | [] => "0"
      | d :: r => if r.isEmpty then String.singleton d else String.singleton d ++ "." ++ String.ofList r
    let ex := X.natAbs
    let exs := if ex < 10 then "0" ++ toString ex else toString ex
    mant ++ "e" ++ (if X < 0 then "-" else "+") ++ exs
  else if X ≥ 0 then
    let n := X.toNat + 1
    let ip := ds.take n ++ List.replicate (n - ds.length) '0'
    let fp := ds.drop n
    if fp.isEmpty then String.ofList ip else String.ofList ip ++ "." ++ String.ofList fp
  else
    "0." ++ String.ofList (List.replicate (X.natAbs - 1) '0' ++ ds)

/-- `ostream << d` with `precision(P)` and default float field (`%.Pg`), without the sign -/
def printGAbs (bits : UInt64) (P : Nat) : String :=
  let expo := ((bits >>> 52) &&& 0x7ff).toNat
  let frac := (bits &&& 0xfffffffffffff).toNat
  if expo == 2047 then (if frac == 0 then "inf" else "nan")
  else if expo == 0 && frac == 0 then "0"
  else
    let m := if expo == 0 then frac else frac + 2 ^ 52
    let e2 : Int := if expo == 0 then -1074 else Int.ofNat expo - 1075
    let num := if e2 ≥ 0 then m * 2 ^ e2.toNat else m
    let den := if e2 ≥ 0 then 1 else 2 ^ (-e2).toNat
    let (q, X) := sigDigits num den P
    fmtG (dropTrailingZeros (toString q).toList) X P

def dblSign (bits : UInt64) : Bool := bits >>> 63 == 1

/-- the tail `print_double` appends when the text has neither `.` nor `e`.  `digits10 - str_.size() > 0` is an
unsigned comparison in the C++: it is false only when the size is exactly `digits10`. -/
def doubleTail (s : String) (P : Nat) : String :=
  if s.toList.contains '.' || s.toList.contains 'e' then "" else if s.length == P then "." else ".0"

/-- `print_double(d)` split into sign and unsigned text -/
def printDoubleAbs (bits : UInt64) : String :=
  let P := Gen.PrintNames.doubleDigits
  let a := printGAbs bits P
  let full := (if dblSign bits then "-" else "") ++ a
  a ++ doubleTail full P

def printDouble (bits : UInt64) : String := (if dblSign bits then "-" else "") ++ printDoubleAbs bits

/-! ### syntax trees and tokens -/

inductive BinOp where
  | add | sub | mul | div | pow | eq | ne | le | lt | gt | ge
  deriving DecidableEq, Repr, Inhabited

inductive PExpr where
  | num (s : String)
  | id (s : String)
  | neg (e : PExpr)
  | bin (o : BinOp) (a b : PExpr)
  | call (f : String) (args : List PExpr)
  | paren (e : PExpr)
  deriving Repr, Inhabited, BEq

/-- `minus true` is the binary minus the printer writes as `" - "`, `minus false` the prefix `"-"`;
the tokenizer (and the model parser) cannot tell them apart -/
inductive Tok where
  | num (s : String)
  | id (s : String)
  | plus
  | minus (spaced : Bool)
  | star | slash | pow
  | rel (o : BinOp)
  | lp | rp | comma
  deriving DecidableEq, Repr, Inhabited

def relText : BinOp → String
  | .eq => " == " | .ne => " != " | .le => " <= " | .lt => " < " | .gt => " > " | .ge => " >= "
  | _ => "?"

def Tok.text : Tok → String
  | .num s => s
  | .id s => s
  | .plus => " + "
  | .minus true => " - "
  | .minus false => "-"
  | .star => Gen.PrintNames.printMul
  | .slash => "/"
  | .pow => Gen.PrintNames.powOp
  | .rel o => relText o
  | .lp => "("
  | .rp => ")"
  | .comma => ", "

def opTok : BinOp → Tok
  | .add => .plus | .sub => .minus true | .mul => .star | .div => .slash | .pow => .pow
  | o => .rel o

mutual
  def flat : PExpr → List Tok
    | .num s => [.num s]
    | .id s => [.id s]
    | .neg e => .minus false :: flat e
    | .bin o a b => flat a ++ opTok o :: flat b
    | .call f args => .id f :: .lp :: (flatArgs args ++ [.rp])
    | .paren e => .lp :: (flat e ++ [.rp])
  def flatArgs : List PExpr → List Tok
    | [] => []
    | a :: t => flat a ++ flatRest t
  def flatRest : List PExpr → List Tok
    | [] => []
    | a :: t => .comma :: (flat a ++ flatRest t)
end

def toksText (ts : List Tok) : String := String.join (ts.map Tok.text)

/-! ### binding levels of parser.yy (translated table) -/

/-- 1-based index of the `%left/%right` line that declares `key`; 0 if undeclared -/
def levelIn (tbl : List (String × List String)) (key : String) : Nat :=
  let rec go : List (String × List String) → Nat → Nat
    | [], _ => 0
    | (_, ks) :: t, i => if ks.contains key then i else go t (i + 1)
  go tbl 1

def BinOp.key : BinOp → String
  | .add => "'+'" | .sub => "'-'" | .mul => "'*'" | .div => "'/'" | .pow => "POW"
  | .eq => "EQ" | .ne => "NE" | .le => "LE" | .lt => "'<'" | .gt => "'>'" | .ge => "GE"

def level (o : BinOp) : Nat := levelIn Gen.PrintNames.precTable o.key
def levelNeg : Nat := levelIn Gen.PrintNames.precTable "UMINUS"
def levelAtom : Nat := Gen.PrintNames.precTable.length + 1

def isRightAssoc (o : BinOp) : Bool :=
  match Gen.PrintNames.precTable.find? (fun l => l.2.contains o.key) with
  | some (a, _) => a == "right"
  | none => false

/-- syntactic level of the root of a tree -/
def lv : PExpr → Nat
  | .bin o _ _ => level o
  | .neg _ => levelNeg
  | _ => levelAtom

/-! ### the decisions of the C++ printer -/

/-- the four printed relational classes -/
def relOp? (h : String) : Option BinOp :=
  if h == "Equality" then some .eq
  else if h == "Unequality" then some .ne
  else if h == "LessThan" then some .le
  else if h == "StrictLessThan" then some .lt
  else none

def qIsOne (q : Q) : Bool := q.num == 1 && q.den == 1

/-- `RealDouble::is_negative()` is `i < 0` -/
def dblIsNeg (b : UInt64) : Bool := dblLt b 0

/-- `Precedence::getPrecedence` as the index in `PrecedenceEnum` (Relational 0, Add 1, Mul 2, Pow 3, Atom 4) -/
def cprec : Expr → Nat
  | add _ _ => 1
  | mul _ _ => 2
  | pow _ _ => 3
  | rat _ _ => 1
  | cplx re im => if re.num == 0 then (if qIsOne im then 4 else 2) else 1
  | int n => if n < 0 then 2 else 4
  | dbl b => if dblIsNeg b then 2 else 4
  | cdbl _ _ => 1
  | infty d => if d < 0 then 2 else 4      -- Precedence::bvisit(const Infty &): "-oo" starts with a unary minus
  | app h _ => if (relOp? h).isSome then 0 else 4
  | _ => 4

def parLT (e : Expr) (t : PExpr) (p : Nat) : PExpr := if cprec e < p then .paren t else t
def parLE (e : Expr) (t : PExpr) (p : Nat) : PExpr := if cprec e ≤ p then .paren t else t

/-- unsigned text / sign of an `mpz`, `mpq` -/
def natP (n : Nat) : PExpr := .num (toString n)
def intP (n : Int) : PExpr := if n < 0 then .neg (natP n.natAbs) else natP n.natAbs
/-- `s << mpq`: `n/d`, or `n` when the denominator is 1 -/
def ratAbsP (n : Nat) (d : Nat) : PExpr := if d == 1 then natP n else .bin .div (natP n) (natP d)
def ratP (n : Int) (d : Nat) : PExpr :=
  if d == 1 then intP n else .bin .div (intP n) (natP d)

def imagP : PExpr := .id Gen.PrintNames.imagSym

/-- `StrPrinter::bvisit(const Complex &)` -/
def cplxP (re im : Q) : PExpr :=
  let unit := im.den == 1 && (im.num == 1 || im.num == -1)      -- imaginary_ == sign(imaginary_)
  if re.num != 0 then
    let r := ratP re.num re.den
    let i := if unit then imagP else .bin .mul (ratAbsP im.num.natAbs im.den) imagP
    if im.num > 0 then .bin .add r i else .bin .sub r i
  else
    if unit then (if im.num > 0 then imagP else .neg imagP)
    else .bin .mul (ratP im.num im.den) imagP

def dblP (b : UInt64) : PExpr :=
  if dblSign b then .neg (.num (printDoubleAbs b)) else .num (printDoubleAbs b)

/-- `StrPrinter::bvisit(const ComplexDouble &)`: `x.i.imag() < 0` decides the sign, `-imag` is printed -/
def cdblP (r i : UInt64) : PExpr :=
  if dblIsNeg i then .bin .sub (dblP r) (.bin .mul (dblP (i ^^^ negZeroBits)) imagP)
  else .bin .add (dblP r) (.bin .mul (dblP i) imagP)

def isInt (e : Expr) (k : Int) : Bool := match e with | int n => n == k | _ => false
def isE (e : Expr) : Bool := match e with | const n => n == "E" | _ => false
def isHalf (e : Expr) : Bool := match e with | rat n d => n == 1 && d == 2 | _ => false

/-- `(is_a<Integer>(e) or is_a<Rational>(e)) and e.is_negative()` -/
def isNegRat (e : Expr) : Bool := match e with | int n => n < 0 | rat n _ => n < 0 | _ => false
def negNum : Expr → Expr
  | int n => int (-n)
  | rat n d => rat (-n) d
  | e => e
def numP : Expr → PExpr
  | int n => intP n
  | rat n d => ratP n d
  | _ => .id "?"

/-- `StrPrinter::_print_pow` -/
def powP (b e : Expr) (tb te : PExpr) : PExpr :=
  if isE b then .call "exp" [te]
  else if isHalf e then .call "sqrt" [tb]
  else .bin .pow (parLE b tb 3) (parLE e te 3)

/-- the tree of `'-' tokens(t)` as the parser groups it: the prefix minus binds tighter than every binary
operator except POW, so it attaches below the `+ - * /` (and relational) nodes of the left spine -/
def negLeft : PExpr → PExpr
  | .bin o a b => if level o < levelNeg then .bin o (negLeft a) b else .neg (.bin o a b)
  | t => .neg t

/-- the tree of `tokens(c) '*' tokens(t)`: `*` is left associative, the product attaches at the bottom of the
left spine of `t` -/
def mulLeft (c : PExpr) : PExpr → PExpr
  | .bin o a b => if level o < levelNeg then .bin o (mulLeft c a) b else .bin .mul c (.bin o a b)
  | t => .bin .mul c t

/-- if the first token of `flat t` is a minus: the tree of the remaining tokens -/
def stripNeg : PExpr → Option PExpr
  | .neg e => some e
  | .bin o a b => (stripNeg a).map fun a' => .bin o a' b
  | _ => none

/-- one `Add` dictionary entry `key ↦ coef` -/
def termP (k v : Expr) (tk tv : PExpr) : PExpr :=
  if isInt v 1 then parLT k tk 1
  else if isInt v (-1) then negLeft (parLT k tk 2)
  else mulLeft (parLT v tv 2) (parLT k tk 2)

/-- `PrinterBasicCmp` -/
def termLess (a b : Expr) : Bool := !(beq' a b) && cmp a b == -1

abbrev Item := Expr × Expr × PExpr × PExpr

/-- insertion into `std::map<…, PrinterBasicCmp>` kept as a sorted list (an equivalent key is not inserted) -/
def insertTerm (x : Item) : List Item → List Item
  | [] => [x]
  | y :: t => if termLess x.1 y.1 then x :: y :: t else if termLess y.1 x.1 then y :: insertTerm x t else y :: t

def sortTerms (l : List Item) : List Item := l.foldl (fun acc x => insertTerm x acc) []

/-- the `" + "` / `" - "` chain of `StrPrinter::bvisit(const Add &)`; `t[0] == '-'` is `stripNeg` -/
def chainAdd : List PExpr → PExpr
  | [] => .id ""
  | t :: rest => rest.foldl (fun acc u => match stripNeg u with
      | some u' => .bin .sub acc u'
      | none => .bin .add acc u) t

def addP (c : Expr) (tc : PExpr) (items : List Item) : PExpr :=
  let ts := (sortTerms items).map fun (k, v, tk, tv) => termP k v tk tv
  chainAdd (if isInt c 0 then ts else tc :: ts)

def chainMul : List PExpr → PExpr
  | [] => .num "1"
  | t :: rest => rest.foldl (fun acc u => .bin .mul acc u) t

/-- `StrPrinter::bvisit(const Mul &)` (`split_mul_coef()` is false for the plain printer) -/
def mulP (c : Expr) (tc : PExpr) (fs : List Item) : PExpr :=
  let isDen (b e : Expr) : Bool := isNegRat e && !(isE b)
  let numFs := (fs.filter fun (b, e, _, _) => !(isDen b e)).map fun (b, e, tb, te) =>
    if isInt e 1 then parLT b tb 2 else powP b e tb te
  let denFs := (fs.filter fun (b, e, _, _) => isDen b e).map fun (b, e, tb, _) =>
    if isInt e (-1) then parLT b tb 2 else powP b (negNum e) tb (numP (negNum e))
  let minus := isInt c (-1)
  let coefItems := if minus || isInt c 1 then [] else [parLT c tc 2]
  let numT := chainMul (coefItems ++ numFs)
  let whole := match denFs with
    | [] => numT
    | [d] => .bin .div numT d
    | ds => .bin .div numT (.paren (chainMul ds))
  if minus then negLeft whole else whole

def boolHeads : List String := ["And", "Or", "Xor", "Not"]

def appP (h : String) (targs : List PExpr) : PExpr :=
  match relOp? h, targs with
  | some o, [a, b] => .bin o a b
  | _, _ =>
    if boolHeads.contains h then .call h targs
    else match Gen.PrintNames.printNames.lookup h with
      | some nm => .call nm targs
      | none => .id "?"

mutual
  def layout : Expr → PExpr
    | int n => intP n
    | rat n d => ratP n d
    | cplx re im => cplxP re im
    | dbl b => dblP b
    | cdbl r i => cdblP r i
    | infty d => if d < 0 then .neg (.id "oo") else if d > 0 then .id "oo" else .id "zoo"
    | nan => .id "nan"
    | sym n => .id n
    | dummy n _ => .id n
    | const n => .id n
    | add c ts => addP c (layout c) (layoutPairs ts)
    | mul c fs => mulP c (layout c) (layoutPairs fs)
    | pow b e => powP b e (layout b) (layout e)
    | fsym n args => .call n (layoutArgs args)
    | app h args => appP h (layoutArgs args)
    | Expr.bool b => .id (if b then "True" else "False")
  def layoutArgs : List Expr → List PExpr
    | [] => []
    | a :: t => layout a :: layoutArgs t
  def layoutPairs : List (Expr × Expr) → List Item
    | [] => []
    | (k, v) :: t => (k, v, layout k, layout v) :: layoutPairs t
end

def toks (e : Expr) : List Tok := flat (layout e)

/-- `str(e)` -/
def render (e : Expr) : String := toksText (toks e)

/-! ### the fragment the driver answers for -/

def isIdStart (c : Char) : Bool := c.isAlpha || c == '_' || c.toNat ≥ 128
def isIdCont (c : Char) : Bool := isIdStart c || c.isDigit

/-- `ident = char (char | dig)*` of tokenizer.re (on the UTF-8 text: every non-ASCII byte is a `char`) -/
def isIdent (s : String) : Bool :=
  match s.toList with
  | [] => false
  | c :: r => isIdStart c && r.all isIdCont

def arityOf (h : String) : Option TC.Kind := kindOfCode ((ofName h).getD TC.count)

/-- nodes whose printing is modelled -/
def printedNode : Expr → Bool
  | sym n => isIdent n
  | const n => isIdent n
  | fsym n args => isIdent n && !args.isEmpty
  | dummy _ _ => false
  | app h args =>
    if (relOp? h).isSome then args.length == 2
    else if h == "Not" then args.length == 1
    else if boolHeads.contains h then !args.isEmpty
    else (Gen.PrintNames.printNames.lookup h).isSome && !args.isEmpty
  | add _ ts => !ts.isEmpty
  | _ => true

def printed (e : Expr) : Bool := modelled e && allNodes printedNode e

end StrP
end SymVerif
