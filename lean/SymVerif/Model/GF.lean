/-
Model of symengine/fields.h + fields.cpp : `GaloisFieldDict` (dense polynomials over GF(p)).

A polynomial is the coefficient vector `dict_` (index = exponent, lowest first) as a
`List Nat`, the modulus `modulo_` is passed explicitly as `p : Nat`.  The class invariant
(`WF p l`): every coefficient `< p`, no trailing zero.

Every C++ member is mirrored by one function (same case splits, same loop bounds, same
index expressions).  Notes on the mirroring:

* `mp_fdiv_r(x, x, modulo_)` (floor remainder) is `% p` on `Nat`; where the C++ forms
  negative intermediate integers (`operator-=`, the division loops, `-=`/`+=` with an
  `integer_class`) the model computes in `Int` and uses `Int.emod`.
* `mp_invert(inv, x, modulo_)` is modelled by Fermat (`x^(p-2) mod p`): exact for prime `p`
  and `x` not divisible by `p` (the only case the harness generates; non-prime moduli are
  not covered).
* The in-place division loops (`operator/=`, `operator%=`, `gf_div`) all fill the same
  vector `dict_out`; the model has one loop `divLoop` over an `Array Nat` with the same index
  expressions (`lb`, `ub`, `dict_out[it - j + deg_divisor]`).
* `operator%=`/`operator/=`/`gf_div` throw `DivisionByZeroError` for an empty divisor.  The
  total functions `rem`/`quo` return the dividend / `[]` in that case; every internal call
  site has a non-empty divisor, and the public entry points (`opRem`, `opQuo`, `opDivmod`,
  `opPowMod`, `opComposeMod`, …) return `Err.divByZero` exactly where the C++ throws.
* `while (true)` loops (`gf_sqf_list`, `gf_edf_zassenhaus`, recursion of `gf_edf_shoup`)
  get fuel and fail with `Err.fuel` (never a silent default).
* `gf_random` draws from an explicit stream `rnd : Nat → Nat` (position threaded through).
* `operator+=(const integer_class&)` is modelled **as patched** (`addConst`): the original
  (`addConstOrig`) returns the zero polynomial unchanged when a non-zero constant is added
  to it, which makes `gf_compose_mod` wrong (see docs/C23.md).
* `_gf_trace_map` is modelled **as patched** too (`traceMapB`: `h = h.gf_frobenius_map(*this, b)`);
  the original swaps receiver and argument and `gf_edf_shoup` then recurses without progress.

Core Lean only: this file is linked into the native driver.
-/
namespace SymVerif.GF

inductive Err where
  | divByZero   -- DivisionByZeroError thrown by the C++
  | fuel        -- loop bound exhausted (a `while(true)` that did not terminate in the bound)
  | range       -- outside the modelled range (shift count ≥ 31 in gf_edf_zassenhaus, p = 2)
  | oob         -- index outside a vector (undefined behaviour in the C++)
  deriving Repr, DecidableEq

abbrev Poly := List Nat

/-- documentation-level view of the C++ object -/
structure GFPoly where
  coeffs : Poly
  p : Nat
  deriving Repr, DecidableEq

/-- `gf_istrip` : drop trailing zero coefficients -/
def strip : Poly → Poly
  | [] => []
  | a :: l =>
    let s := strip l
    if s.isEmpty && a == 0 then [] else a :: s

/-- class invariant of `GaloisFieldDict` -/
def WF (p : Nat) (l : Poly) : Prop := (∀ x ∈ l, x < p) ∧ l.getLast? ≠ some 0

instance (p : Nat) (l : Poly) : Decidable (WF p l) := by unfold WF; infer_instance

/-- `GaloisFieldDict::from_vec` -/
def fromVec (p : Nat) (v : List Int) : Poly :=
  strip (v.map (fun x => (x % (p : Int)).toNat))

/-- `degree()` -/
def degree (l : Poly) : Nat := l.length - 1

/-- `is_one()` -/
def isOne (l : Poly) : Bool := l == [1]

/-- `get_coeff(i)` / `dict_[i]` -/
def coeff (l : Poly) (i : Nat) : Nat := l.getD i 0

/-! ### additive structure -/

/-- the coefficient loop of `operator+=` followed by the `insert` of the longer tail -/
def addAux (p : Nat) : Poly → Poly → Poly
  | [], b => b
  | a, [] => a
  | x :: a, y :: b => ((x + y) % p) :: addAux p a b

/-- `operator+=(const GaloisFieldDict&)` -/
def add (p : Nat) (a b : Poly) : Poly :=
  if b.isEmpty then a
  else if a.isEmpty then b
  else if a.length == b.length then strip (addAux p a b)
  else addAux p a b

def negC (p : Nat) (x : Nat) : Nat := if x == 0 then 0 else p - x

/-- `operator-()` / `negate()` -/
def neg (p : Nat) (a : Poly) : Poly := a.map (negC p)

/-- coefficient loop of `operator-=` : `(x - y) fdiv_r p` -/
def subC (p : Nat) (x y : Nat) : Nat := (((x : Int) - (y : Int)) % (p : Int)).toNat

def subAux (p : Nat) : Poly → Poly → Poly
  | a, [] => a
  | [], b => neg p b
  | x :: a, y :: b => subC p x y :: subAux p a b

/-- `operator-=(const GaloisFieldDict&)` -/
def sub (p : Nat) (a b : Poly) : Poly :=
  if b.isEmpty then a
  else if a.isEmpty then neg p b
  else if a.length == b.length then strip (subAux p a b)
  else subAux p a b

/-- `operator+=(const integer_class&)` **as patched**: a constant added to the zero
    polynomial gives that constant. -/
def addConst (p : Nat) (a : Poly) (c : Int) : Poly :=
  if c == 0 then a
  else match a with
    | [] => let t := (c % (p : Int)).toNat; if t == 0 then [] else [t]
    | x :: l =>
      let t := (((x : Int) + c) % (p : Int)).toNat
      if l.isEmpty then strip [t] else t :: l

/-- `operator+=(const integer_class&)` as in the unpatched source (defective on `[]`). -/
def addConstOrig (p : Nat) (a : Poly) (c : Int) : Poly :=
  if a.isEmpty || c == 0 then a
  else match a with
    | [] => []
    | x :: l =>
      let t := (((x : Int) + c) % (p : Int)).toNat
      if l.isEmpty then strip [t] else t :: l

/-- `operator-=(const integer_class&)` : `*this += (-1 * other)` -/
def subConst (p : Nat) (a : Poly) (c : Int) : Poly := addConst p a (-c)

/-! ### multiplication -/

/-- `operator*=(const integer_class&)` for `0 ≤ c` -/
def scale (p : Nat) (a : Poly) (c : Nat) : Poly :=
  if a.isEmpty then a
  else if c == 0 then []
  else strip (a.map (fun x => x * c % p))

/-- the double loop of `GaloisFieldDict::mul` : `p[i+j] = (p[i+j] + a[i]*b[j]) mod p`;
    the outer loop is the recursion on `a`, the inner loop the row `x * b`. -/
def mulAux (p : Nat) : Poly → Poly → Poly
  | [], _ => []
  | x :: a, b => addAux p (b.map (fun y => (x * y) % p)) (0 :: mulAux p a b)

/-- `GaloisFieldDict::mul` (also `operator*`) -/
def mul (p : Nat) (a b : Poly) : Poly :=
  if a.isEmpty then a
  else if b.isEmpty then b
  else strip (mulAux p a b)

/-- `operator*=(const GaloisFieldDict&)` -/
def mulAssign (p : Nat) (a b : Poly) : Poly :=
  if a.isEmpty then a
  else match b with
    | [] => []
    | [c] => strip (a.map (fun x => x * c % p))
    | _ => mul p a b

/-- `gf_sqr` -/
def sqr (p : Nat) (a : Poly) : Poly := mul p a a

/-- `b^e mod m` by binary exponentiation (`fuel ≥ e` bounds the recursion; it halves `e`) -/
def npowModAux (b m : Nat) : Nat → Nat → Nat
  | 0, _ => 1 % m
  | fuel + 1, e =>
    if e = 0 then 1 % m
    else
      let t := npowModAux b m fuel (e / 2)
      let s := t * t % m
      if e % 2 == 1 then s * b % m else s

def npowMod (b e m : Nat) : Nat := npowModAux b m e e

/-- `mp_invert(inv, x, p)` for prime `p` (Fermat) -/
def invMod (p x : Nat) : Nat := npowMod x (p - 2) p

/-! ### division -/

/-- `Σ_{k < cnt} f (lb + k)` : the inner `for (j = lb; j < ub; ++j)` accumulation -/
def sumFrom (f : Nat → Int) (lb : Nat) : Nat → Int
  | 0 => 0
  | k + 1 => f lb + sumFrom f (lb + 1) k

/-- One pass of the common loop of `gf_div`/`operator%=`/`operator/=`:
    `for (it = n + 1; it-- != 0;)` on `dict_out` (`n = deg_dividend`, `m = deg_divisor`). -/
def divLoop (p : Nat) (d : Array Nat) (inv n m : Nat) : Nat → Array Nat → Array Nat
  | 0, out => out
  | it + 1, out =>
    let lb := m + it - n                       -- `deg_divisor + it > deg_dividend ? … : 0`
    let ub := min (it + 1) m
    let s := sumFrom (fun j => (out.getD (it - j + m) 0 : Int) * (d.getD j 0 : Int)) lb (ub - lb)
    let coeff : Int := (out.getD it 0 : Int) - s
    let coeff := if it ≥ m then coeff * (inv : Int) else coeff
    divLoop p d inv n m it (out.setIfInBounds it (coeff % (p : Int)).toNat)

/-- `dict_out` after the loop, for `a`, `b` non-empty and `deg a ≥ deg b` -/
def divOut (p : Nat) (a b : Poly) : List Nat :=
  let n := degree a
  let m := degree b
  let inv := invMod p (b.getLastD 0)
  (divLoop p b.toArray inv n m (n + 1) a.toArray).toList

/-- `operator%=(const GaloisFieldDict&)`; for `b = []` the C++ throws (callers guard). -/
def rem (p : Nat) (a b : Poly) : Poly :=
  if b.isEmpty then a
  else if a.isEmpty then a
  else if b.length == 1 then []
  else if degree a < degree b then a
  else strip ((divOut p a b).take (degree b))

/-- `operator/=(const GaloisFieldDict&)`; for `b = []` the C++ throws (callers guard). -/
def quo (p : Nat) (a b : Poly) : Poly :=
  if b.isEmpty then []
  else if a.isEmpty then a
  else if b.length == 1 then
    let inv := invMod p (b.getLastD 0)
    a.map (fun x => x * inv % p)
  else if degree a < degree b then []
  else strip ((divOut p a b).drop (degree b))

/-- `gf_div` (quotient, remainder); for `b = []` the C++ throws (callers guard). -/
def divmod (p : Nat) (a b : Poly) : Poly × Poly :=
  if a.isEmpty then ([], [])
  else if degree a < degree b then ([], strip (a.map (· % p)))
  else
    let out := divOut p a b
    (strip ((out.drop (degree b)).map (· % p)), strip ((out.take (degree b)).map (· % p)))

theorem strip_length_le (l : Poly) : (strip l).length ≤ l.length := by
  induction l with
  | nil => exact Nat.le_refl 0
  | cons a l ih =>
    rw [strip]
    by_cases h : (strip l).isEmpty && a == 0
    · rw [if_pos h]
      exact Nat.zero_le _
    · rw [if_neg h]
      exact Nat.succ_le_succ ih

theorem rem_length_lt (p : Nat) (a b : Poly) (hb : b ≠ []) : (rem p a b).length < b.length := by
  have hb' : 0 < b.length := List.length_pos_iff.mpr hb
  rw [rem, if_neg (fun h => hb (List.isEmpty_iff.mp h))]
  by_cases h1 : a.isEmpty
  · rw [if_pos h1, List.isEmpty_iff.mp h1]
    exact hb'
  · rw [if_neg h1]
    by_cases h2 : b.length == 1
    · rw [if_pos h2]
      exact hb'
    · rw [if_neg h2]
      by_cases h3 : degree a < degree b
      · rw [if_pos h3]
        have h4 : a.length ≤ degree a + 1 := Nat.le_add_of_sub_le (Nat.le_refl _)
        exact Nat.lt_of_le_of_lt (Nat.le_trans h4 h3) (Nat.sub_lt hb' Nat.one_pos)
      · rw [if_neg h3]
        exact Nat.lt_of_le_of_lt (strip_length_le _)
          (Nat.lt_of_le_of_lt (List.length_take_le _ _) (Nat.sub_lt hb' Nat.one_pos))

/-! ### powers, monic, gcd, lcm, diff, eval -/

/-- the `while (1)` of `gf_pow` -/
def powLoop (p : Nat) (num : Nat) (toSq toRet : Poly) : Poly :=
  let toRet := if num % 2 == 1 then mulAssign p toRet toSq else toRet
  let num' := num / 2
  if _h : num' = 0 then toRet
  else powLoop p num' (sqr p toSq) toRet
termination_by num
decreasing_by omega

/-- the constant polynomial `GaloisFieldDict({1}, modulo_)` / `from_vec({1})` -/
def one (p : Nat) : Poly := if 1 % p == 0 then [] else [1 % p]

/-- `gf_pow` -/
def pow (p : Nat) (a : Poly) (n : Nat) : Poly :=
  if n == 0 then one p
  else if n == 1 then a
  else if n == 2 then sqr p a
  else powLoop p n a (one p)

/-- `gf_monic` : (leading coefficient, monic polynomial) -/
def monic (p : Nat) (a : Poly) : Nat × Poly :=
  match a.getLast? with
  | none => (0, a)
  | some lc =>
    if lc != 1 then
      let inv := invMod p lc
      (lc, a.map (fun x => inv * x % p))
    else (lc, a)

/-- the `while (not g.dict_.empty())` Euclid loop of `gf_gcd` -/
def gcdLoop (p : Nat) (f g : Poly) : Poly :=
  if h : g = [] then f
  else gcdLoop p g (rem p f g)
termination_by g.length
decreasing_by exact rem_length_lt p f g h

/-- `gf_gcd` -/
def gcd (p : Nat) (f g : Poly) : Poly := (monic p (gcdLoop p f g)).2

/-- `gf_lcm` -/
def lcm (p : Nat) (a o : Poly) : Poly :=
  if a.isEmpty then a
  else if o.isEmpty then o
  else (monic p (quo p (mul p o a) (gcd p a o))).2

def diffAux (p : Nat) : Nat → Poly → Poly
  | _, [] => []
  | i, x :: l => (i * x % p) :: diffAux p (i + 1) l

/-- `gf_diff` -/
def diff (p : Nat) (a : Poly) : Poly := strip (diffAux p 1 a.tail)

/-- `gf_eval` : Horner from the top with the truncating `%=` of `integer_class` -/
def eval (p : Nat) (a : Poly) (x : Int) : Int :=
  a.foldr (fun (c : Nat) (res : Int) => (res * x + (c : Int)).tmod (p : Int)) 0

/-- `gf_is_sqf` -/
def isSqf (p : Nat) (a : Poly) : Bool :=
  if a.isEmpty then true
  else
    let m := (monic p a).2
    isOne (gcd p m (diff p m))

/-! ### square-free decomposition -/

/-- inner `while (not h.is_one())` of `gf_sqf_list`; returns `(g, out)` -/
def sqfInner (p n : Nat) : Nat → Nat → Poly → Poly → List (Poly × Nat) → Except Err (Poly × List (Poly × Nat))
  | 0, _, _, _, _ => .error .fuel
  | fuel + 1, i, g, h, out =>
    if isOne h then .ok (g, out)
    else
      let G := gcd p h g
      let H := quo p h G
      let out := if degree H > 0 then out ++ [(H, i * n)] else out
      sqfInner p n fuel (i + 1) (quo p g G) G out

/-- `f(x) ↦ f(x^{1/r})` : the coefficient gather at the end of the outer loop -/
def pthRoot (r : Nat) (f : Poly) : Poly :=
  let deg := degree f
  let d := deg / r
  -- `f.dict_[d - i] = temp.dict_[deg - i * r]` for `i = 0..d`, then `resize(d + 1)`, strip
  strip ((List.range (d + 1)).map (fun k => f.getD (deg - (d - k) * r) 0))

/-- outer `while (true)` of `gf_sqf_list` -/
def sqfOuter (p : Nat) : Nat → Nat → Poly → List (Poly × Nat) → Except Err (List (Poly × Nat))
  | 0, _, _, _ => .error .fuel
  | fuel + 1, n, f, out =>
    let F := diff p f
    let r : Except Err (Bool × Poly × List (Poly × Nat)) :=
      if !F.isEmpty then
        let g := gcd p f F
        let h := quo p f g
        match sqfInner p n (f.length + 2) 1 g h out with
        | .error e => .error e
        | .ok (g', out') => if isOne g' then .ok (true, f, out') else .ok (false, g', out')
      else .ok (false, f, out)
    match r with
    | .error e => .error e
    | .ok (sqf, f, out) =>
      if !sqf then sqfOuter p fuel (n * p) (pthRoot p f) out
      else .ok out

/-- `gf_sqf_list` -/
def sqfList (p : Nat) (a : Poly) : Except Err (List (Poly × Nat)) :=
  if degree a < 1 then .ok []
  else sqfOuter p (a.length + 2) 1 (monic p a).2 []

/-- `gf_sqf_part` -/
def sqfPart (p : Nat) (a : Poly) : Except Err Poly :=
  match sqfList p a with
  | .error e => .error e
  | .ok l => .ok (l.foldl (fun g f => mulAssign p g f.1) (fromVec p [1]))

/-! ### modular composition and powers -/

/-- loop of `gf_compose_mod` over `i = size-2 … 0` (`gs` = those coefficients, high first) -/
def composeLoop (p : Nat) (f h : Poly) : List Nat → Poly → Poly
  | [], out => out
  | c :: gs, out => composeLoop p f h gs (rem p (addConst p (mulAssign p out h) (c : Int)) f)

/-- `this->gf_compose_mod(g, h)` with `this = f` : `g(h) mod f` (for `f ≠ []`) -/
def composeMod (p : Nat) (f g h : Poly) : Poly :=
  match g.reverse with
  | [] => g
  | lc :: gs => composeLoop p f h gs (fromVec p [(lc : Int)])

def powModLoop (p : Nat) (m : Poly) (num : Nat) (inp h : Poly) : Poly :=
  let h := if num % 2 == 1 then rem p (mulAssign p h inp) m else h
  let num' := num / 2
  if _hz : num' = 0 then h
  else powModLoop p m num' (rem p (sqr p inp) m) h
termination_by num
decreasing_by omega

/-- `this->gf_pow_mod(f, n)` with `this = m` : `f^n mod m` (for `m ≠ []`) -/
def powMod (p : Nat) (m f : Poly) (n : Nat) : Poly :=
  if n == 0 then fromVec p [1]
  else if n == 1 then rem p f m
  else if n == 2 then rem p (sqr p f) m
  else powModLoop p m n f (fromVec p [1])

/-- `gf_lshift(n)` -/
def lshift (a : Poly) (n : Nat) : Poly := if a.isEmpty then [] else List.replicate n 0 ++ a

/-- `gf_frobenius_monomial_base` : `x^(i p) mod f` for `i < deg f` -/
def frobBase (p : Nat) (f : Poly) : List Poly :=
  let n := degree f
  if n == 0 then []
  else
    let b0 := fromVec p [1]
    if p < n then
      -- b[i] = (b[i-1] << p) % f
      (List.range (n - 1)).foldl (fun (acc : List Poly × Poly) _ =>
          let nx := rem p (lshift acc.2 p) f
          (acc.1 ++ [nx], nx)) ([b0], b0) |>.1
    else if n > 1 then
      let b1 := powMod p f (fromVec p [0, 1]) p
      (List.range (n - 2)).foldl (fun (acc : List Poly × Poly) _ =>
          let nx := rem p (mul p acc.2 b1) f
          (acc.1 ++ [nx], nx)) ([b0, b1], b1) |>.1
    else [b0]

/-- `this->gf_frobenius_map(g, b)` with `this = self` : `self^p mod g` using the base `b` of `g` -/
def frobMap (p : Nat) (self g : Poly) (b : List Poly) : Except Err Poly :=
  let t := if degree self ≥ degree g then rem p self g else self
  if t.isEmpty then .ok t
  else
    let m := degree t
    let out0 := fromVec p [(t.getD 0 0 : Int)]
    let rec go : Nat → Nat → Poly → Except Err Poly
      | 0, _, out => .ok out
      | k + 1, i, out =>
        match b[i]? with
        | none => .error .oob
        | some bi => go k (i + 1) (add p out (scale p bi (t.getD i 0)))
    match go m 1 out0 with
    | .error e => .error e
    | .ok out => .ok (strip out)

/-! ### sets ordered by `DictLess` -/

def lexLt : List Nat → List Nat → Bool
  | [], [] => false
  | [], _ :: _ => true
  | _ :: _, [] => false
  | x :: a, y :: b => if x < y then true else if y < x then false else lexLt a b

/-- `GaloisFieldDict::DictLess` -/
def dictLess (a b : Poly) : Bool :=
  if degree a == degree b then lexLt a b else degree a < degree b

/-- `std::set<…, DictLess>::insert` on the sorted list representation -/
def setInsert (x : Poly) : List Poly → List Poly
  | [] => [x]
  | y :: l =>
    if dictLess x y then x :: y :: l
    else if dictLess y x then y :: setInsert x l
    else y :: l

def setUnion (s t : List Poly) : List Poly := t.foldl (fun acc x => setInsert x acc) s

/-- `std::set<std::pair<GaloisFieldDict, unsigned>, DictLess>::insert` -/
def setInsertP (x : Poly × Nat) : List (Poly × Nat) → List (Poly × Nat)
  | [] => [x]
  | y :: l =>
    if dictLess x.1 y.1 then x :: y :: l
    else if dictLess y.1 x.1 then y :: setInsertP x l
    else y :: l

/-! ### distinct-degree factorisation (Zassenhaus) -/

/-- `while (2 * i <= f.degree())` of `gf_ddf_zassenhaus` -/
def ddfZLoop (p : Nat) (toSub : Poly) : Nat → Nat → Poly → Poly → List Poly → List (Poly × Nat)
    → Except Err (Poly × List (Poly × Nat))
  | 0, _, _, _, _, _ => .error .fuel
  | fuel + 1, i, f, g, b, factors =>
    if 2 * i ≤ degree f then
      match frobMap p g f b with
      | .error e => .error e
      | .ok g =>
        let h := gcd p f (sub p g toSub)
        if !isOne h then
          let f' := quo p f h
          ddfZLoop p toSub fuel (i + 1) f' (rem p g f') (frobBase p f') (factors ++ [(h, i)])
        else ddfZLoop p toSub fuel (i + 1) f g b factors
    else .ok (f, factors)

/-- `gf_ddf_zassenhaus` -/
def ddfZ (p : Nat) (a : Poly) : Except Err (List (Poly × Nat)) :=
  let x := fromVec p [0, 1]
  match ddfZLoop p x (a.length + 2) 1 a x (frobBase p a) [] with
  | .error e => .error e
  | .ok (f, factors) =>
    if !(isOne f || f.isEmpty) then .ok (factors ++ [(f, degree f)]) else .ok factors

/-- `_gf_pow_pnm1d2` : `f^((p^n-1)/2) mod self` -/
def powPnm1d2 (p : Nat) (self f : Poly) (n : Nat) (b : List Poly) : Except Err Poly :=
  let fin := rem p f self
  let rec go : Nat → Poly → Poly → Except Err Poly
    | 0, _, r => .ok r
    | k + 1, h, r =>
      match frobMap p h self b with
      | .error e => .error e
      | .ok h' => go k h' (rem p (mulAssign p r h') self)
  match go (n - 1) fin fin with
  | .error e => .error e
  | .ok r => .ok (powMod p self r ((p - 1) / 2))

/-- `gf_random(n, state)` : `n` draws in `[0, p)` then the leading 1; returns the new position -/
def gfRandom (p : Nat) (rnd : Nat → Nat) (pos n : Nat) : Poly × Nat :=
  (fromVec p (((List.range n).map (fun k => ((rnd (pos + k) % p : Nat) : Int))) ++ [1]), pos + n)

/-- the trace-like sum for `p = 2` in `gf_edf_zassenhaus` -/
def edfZ2Loop (self : Poly) : Nat → Poly → Poly → Poly
  | 0, _, h => h
  | k + 1, r, h =>
    let r' := powMod 2 self r 2
    edfZ2Loop self k r' (add 2 h r')

/-- the `while (factors.size() < N)` loop of `gf_edf_zassenhaus`; `recur` is the recursive call -/
def edfZLoop (p : Nat) (rnd : Nat → Nat) (self : Poly) (n N : Nat) (b : List Poly)
    (recur : Poly → Nat → Except Err (List Poly × Nat)) :
    Nat → List Poly → Nat → Except Err (List Poly × Nat)
  | 0, _, _ => .error .fuel
  | t + 1, factors, pos =>
    if factors.length < N then
      let (r, pos) := gfRandom p rnd pos (2 * n - 1)
      let gE : Except Err Poly :=
        if p == 2 then
          if n * N - 1 ≥ 31 then .error .range
          else .ok (gcd p self (edfZ2Loop self (2 ^ (n * N - 1)) r r))
        else
          match powPnm1d2 p self r n b with
          | .error e => .error e
          | .ok h => .ok (gcd p self (subConst p h 1))
      match gE with
      | .error e => .error e
      | .ok g =>
        if !isOne g && g != self then
          match recur g pos with
          | .error e => .error e
          | .ok (f1, pos) =>
            match recur (quo p self g) pos with
            | .error e => .error e
            | .ok (f2, pos) => edfZLoop p rnd self n N b recur t (setUnion f1 f2) pos
        else edfZLoop p rnd self n N b recur t factors pos
    else .ok (factors, pos)

/-- `gf_edf_zassenhaus(n)`; `depth` bounds the recursion, `tries` the `while` loop -/
def edfZ (p : Nat) (rnd : Nat → Nat) (tries : Nat) : Nat → Poly → Nat → Nat → Except Err (List Poly × Nat)
  | 0, _, _, _ => .error .fuel
  | depth + 1, self, n, pos =>
    if degree self ≤ n then .ok ([self], pos)
    else
      let N := degree self / n
      let b := if p != 2 then frobBase p self else []
      edfZLoop p rnd self n N b (fun g pos => edfZ p rnd tries depth g n pos) tries [self] pos

/-- `gf_zassenhaus` -/
def zassenhaus (p : Nat) (rnd : Nat → Nat) (a : Poly) : Except Err (List Poly) :=
  match ddfZ p a with
  | .error e => .error e
  | .ok dd =>
    let rec go : List (Poly × Nat) → List Poly → Nat → Except Err (List Poly)
      | [], acc, _ => .ok acc
      | (f, n) :: rest, acc, pos =>
        match edfZ p rnd 400 (f.length + 2) f n pos with
        | .error e => .error e
        | .ok (fs, pos) => go rest (setUnion acc fs) pos
    go dd [] 0

/-- `gf_factor` : (leading coefficient, set of (irreducible factor, multiplicity)) -/
def factor (p : Nat) (rnd : Nat → Nat) (a : Poly) : Except Err (Nat × List (Poly × Nat)) :=
  let (lc, m) := monic p a
  if degree m < 1 then .ok (lc, [])
  else
    match sqfList p m with
    | .error e => .error e
    | .ok sl =>
      let rec go : List (Poly × Nat) → List (Poly × Nat) → Except Err (List (Poly × Nat))
        | [], acc => .ok acc
        | (g, e) :: rest, acc =>
          match zassenhaus p rnd g with
          | .error er => .error er
          | .ok fs => go rest (fs.foldl (fun acc f => setInsertP (f, e) acc) acc)
      match go sl [] with
      | .error e => .error e
      | .ok fs => .ok (lc, fs)

/-! ### Shoup's algorithm -/

/-- `gf_trace_map(a, b, c, n)` on `self`; returns `.second` (= `U`) and `.first` -/
def traceMap (p : Nat) (self a b c : Poly) (n : Nat) : Poly × Poly :=
  let u := composeMod p self a b
  let v := b
  let (U, V) := if n % 2 == 1 then (add p a u, b) else (a, c)
  let rec go : Nat → Nat → Poly → Poly → Poly → Poly → Poly × Poly
    | 0, _, _, _, U, V => (composeMod p self a V, U)
    | fuel + 1, nv, u, v, U, V =>
      if nv == 0 then (composeMod p self a V, U)
      else
        let u := add p u (composeMod p self u v)
        let v := composeMod p self v v
        let (U, V) := if nv % 2 == 1 then (add p U (composeMod p self u V), composeMod p self v V) else (U, V)
        go fuel (nv / 2) u v U V
  go (n + 1) (n / 2) u v U V

/-- `_gf_trace_map(f, n, b)` on `self` **as patched**: `h = h.gf_frobenius_map(*this, b)`
    (`h ↦ h^p mod self`).  The unpatched source calls `this->gf_frobenius_map(h, b)`
    (`self^p mod h`, receiver and argument swapped), which makes `gf_edf_shoup` recurse
    without progress for factor degree `n ≥ 2` (see docs/C23.md). -/
def traceMapB (p : Nat) (self f : Poly) (n : Nat) (b : List Poly) : Except Err Poly :=
  let rec go : Nat → Poly → Poly → Except Err Poly
    | 0, _, r => .ok r
    | k + 1, h, r =>
      match frobMap p h self b with
      | .error e => .error e
      | .ok h' => go k h' (rem p (add p r h') self)
  go (n - 1) f f

/-- smallest `k` with `k*k ≥ x` : `ceil(sqrt(x))` -/
def ceilSqrt (x : Nat) : Nat :=
  let s := Nat.sqrt x
  if s * s == x then s else s + 1

/-- `gf_ddf_shoup` -/
def ddfS (p : Nat) (a : Poly) : Except Err (List (Poly × Nat)) :=
  if a.isEmpty then .ok []
  else
    let n := degree a
    let k := ceilSqrt (n / 2)
    let b := frobBase p a
    let x := fromVec p [0, 1]
    match frobMap p x a b with
    | .error e => .error e
    | .ok h =>
      -- U = [x, h, U2, …, Uk]
      let rec mkU : Nat → List Poly → Poly → Except Err (List Poly)
        | 0, U, _ => .ok U
        | c + 1, U, last =>
          match frobMap p last a b with
          | .error e => .error e
          | .ok nx => mkU c (U ++ [nx]) nx
      match mkU (k - 1) [x, h] h with
      | .error e => .error e
      | .ok Ufull =>
        let Ufull := (Ufull ++ List.replicate (k + 1) []).take (k + 1)   -- `U.resize(k+1)`
        let h := Ufull.getD k []
        let U := Ufull.take k
        -- V = [h, V1, …, V_{k-1}]
        let V := ((List.range (k - 1)).foldl (fun (acc : List Poly × Poly) _ =>
                    let nx := composeMod p a acc.2 h
                    (acc.1 ++ [nx], nx)) ([h], h)).1.take k
        let rec inner : List Poly → Nat → Nat → Poly → Poly → List (Poly × Nat) → Poly × List (Poly × Nat)
          | [], _, _, _, g, fs => (g, fs)
          | u :: us, i, j, Vi, g, fs =>
            let hh := sub p Vi u
            let F := gcd p g hh
            let fs := if !isOne F then fs ++ [(F, k * (i + 1) - j)] else fs
            inner us i (j - 1) Vi (quo p g F) fs
        let rec outer : List Poly → Nat → Poly → List (Poly × Nat) → Poly × List (Poly × Nat)
          | [], _, f, fs => (f, fs)
          | Vi :: Vs, i, f, fs =>
            let hprod := U.foldl (fun hh u => rem p (mulAssign p hh (sub p Vi u)) f) (fromVec p [1])
            let g := gcd p f hprod
            let f := quo p f g
            let (_, fs) := inner U.reverse i (k - 1) Vi g fs
            outer Vs (i + 1) f fs
        let (f, fs) := outer V 0 a []
        if !isOne f then .ok (fs ++ [(f, degree f)]) else .ok fs

/-- `gf_edf_shoup(n)` -/
def edfS (p : Nat) (rnd : Nat → Nat) : Nat → Poly → Nat → Nat → Except Err (List Poly × Nat)
  | 0, _, _, _ => .error .fuel
  | depth + 1, self, n, pos =>
    let N := degree self
    if N ≤ n then .ok (if N != 0 then [self] else [], pos)
    else
      let x := fromVec p [0, 1]
      let (r, pos) := gfRandom p rnd pos (N - 1)
      if p == 2 then
        let h := powMod p self x p
        let H := (traceMap p self r h x (n - 1)).2
        let h1 := gcd p self H
        let h2 := quo p self h1
        match edfS p rnd depth h1 n pos with
        | .error e => .error e
        | .ok (f1, pos) =>
          match edfS p rnd depth h2 n pos with
          | .error e => .error e
          | .ok (f2, pos) => .ok (setUnion f1 f2, pos)
      else
        let b := frobBase p self
        match traceMapB p self r n b with
        | .error e => .error e
        | .ok H =>
          let h := powMod p self H ((p - 1) / 2)
          let h1 := gcd p self h
          let h2 := gcd p self (subConst p h 1)
          let h3 := quo p self (mul p h1 h2)
          match edfS p rnd depth h1 n pos with
          | .error e => .error e
          | .ok (f1, pos) =>
            match edfS p rnd depth h2 n pos with
            | .error e => .error e
            | .ok (f2, pos) =>
              match edfS p rnd depth h3 n pos with
              | .error e => .error e
              | .ok (f3, pos) => .ok (setUnion (setUnion f1 f2) f3, pos)

/-- `gf_shoup` -/
def shoup (p : Nat) (rnd : Nat → Nat) (a : Poly) : Except Err (List Poly) :=
  match ddfS p a with
  | .error e => .error e
  | .ok dd =>
    let rec go : List (Poly × Nat) → List Poly → Nat → Except Err (List Poly)
      | [], acc, _ => .ok acc
      | (f, n) :: rest, acc, pos =>
        match edfS p rnd 200 f n pos with
        | .error e => .error e
        | .ok (fs, pos) => go rest (setUnion acc fs) pos
    go dd [] 0

/-! ### public entry points (where the C++ throws `DivisionByZeroError`) -/

def opRem (p : Nat) (a b : Poly) : Except Err Poly :=
  if b.isEmpty then .error .divByZero else .ok (rem p a b)

def opQuo (p : Nat) (a b : Poly) : Except Err Poly :=
  if b.isEmpty then .error .divByZero else .ok (quo p a b)

def opDivmod (p : Nat) (a b : Poly) : Except Err (Poly × Poly) :=
  if b.isEmpty then .error .divByZero else .ok (divmod p a b)

/-- `m.gf_pow_mod(f, n)` : throws iff `n ≠ 0` and `m` is the zero polynomial -/
def opPowMod (p : Nat) (m f : Poly) (n : Nat) : Except Err Poly :=
  if n != 0 && m.isEmpty then .error .divByZero else .ok (powMod p m f n)

/-- `f.gf_compose_mod(g, h)` : throws iff `g` has ≥ 2 coefficients and `f` is zero -/
def opComposeMod (p : Nat) (f g h : Poly) : Except Err Poly :=
  if g.length ≥ 2 && f.isEmpty then .error .divByZero else .ok (composeMod p f g h)

/-- `gf_lcm` : the `out /= gf_gcd(o)` cannot see a zero divisor (both operands non-zero) -/
def opLcm (p : Nat) (a b : Poly) : Except Err Poly := .ok (lcm p a b)


/-! ### executable certificate checks (run by the driver on the model's own results;
soundness is proved in `SymVerif.Props.C23`) -/

/-- `lc * Π g^e == a`, every `g` well-formed with leading coefficient 1 -/
def checkMulBack (p : Nat) (a : Poly) (lc : Nat) (fs : List (Poly × Nat)) : Bool :=
  fs.all (fun x => decide (WF p x.1) && x.1.getLast? == some 1) &&
  fs.foldl (fun acc x => mul p acc (pow p x.1 x.2)) (fromVec p [(lc : Int)]) == a

/-- all coefficient vectors of length `k` with entries `< p` -/
def allVecs (p : Nat) : Nat → List Poly
  | 0 => [[]]
  | k + 1 => (allVecs p k).flatMap (fun l => (List.range p).map (fun c => c :: l))

/-- brute-force irreducibility: degree ≥ 1 and no monic divisor of degree `1..⌊d/2⌋` -/
def irreducibleBrute (p : Nat) (g : Poly) : Bool :=
  decide (degree g ≥ 1) &&
  (List.range (degree g / 2)).all (fun k =>
    (allVecs p (k + 1)).all (fun c => !(rem p g (c ++ [1])).isEmpty))

/-- number of candidate divisors `irreducibleBrute` examines (the driver only runs it when small) -/
def bruteCost (p : Nat) (g : Poly) : Nat :=
  (List.range (degree g / 2)).foldl (fun acc k => acc + p ^ (k + 1)) 0

end SymVerif.GF
