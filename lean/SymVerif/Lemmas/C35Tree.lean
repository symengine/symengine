/-
Composition of the per-rule value lemmas over whole trees: `refineF false` (the repaired rule set) preserves
the value of every well-formed expression (`refineF_value`); Max/Min nodes go through `maxRule_value` / `minRule_value`.
The declarations after `refineF_value` (`hasHead_argsOf`, `extHeads_not`) are used by nothing.
-/
import SymVerif.Lemmas.C35Ext

namespace SymVerif.C35
open SymVerif SymVerif.Queries SymVerif.Refine SymVerif.C34

variable {ρ : String → ℝ} {A : Assumptions}

theorem mapArgs_value {f : Expr → Res} :
    ∀ {args l : List Expr} {ch : Bool} {vs : List ℝ}, mapArgs f args = .ok (l, ch) →
    (∀ a ∈ args, ∀ ra v, f a = .ok ra → evalR ρ a = some v → evalR ρ (Res.get a ra) = some v) →
    evalArgs ρ args = some vs → evalArgs ρ l = some vs
  | [], l, ch, vs, h, _, hv => by cases h; exact hv
  | a :: t, l, ch, vs, h, hf, hv => by
    simp only [mapArgs] at h
    split at h
    · rename_i r lt cht hfa hmt
      cases h
      obtain ⟨va, vt, ha, ht, rfl⟩ := evalArgs_cons_some.mp hv
      exact evalArgs_cons_some.mpr ⟨va, vt, hf a List.mem_cons_self r va hfa ha,
        mapArgs_value hmt (fun b hb => hf b (List.mem_cons_of_mem _ hb)) ht, rfl⟩
    · cases h
    · cases h

theorem evalR_app_two_none {h : String} {a b : Expr} (h1 : h ≠ "Max") (h2 : h ≠ "Min") :
    evalR ρ (.app h [a, b]) = none := by
  simp only [evalR, evalArgs]
  cases evalR ρ a <;> cases evalR ρ b <;> simp [appSem, h1, h2]

theorem refineF_int_none {asIs : Bool} {fuel : Nat} {k : ℤ} {r : Expr} :
    refineF asIs A fuel (.int k) ≠ .ok (some r) := by
  cases fuel <;> simp [refineF]

/-- the shape of the Add and Mul cases of `refineF`: a changed node is `raw` of the transformed arguments -/
theorem mapArgs_rebuilt {f : Expr → Res} {args : List Expr} {raw : List Expr → Expr} {r : Expr}
    (h : (match mapArgs f args with
          | .ok (l, ch) => (.ok (if ch then some (raw l) else none) : Res)
          | .error err => .error err) = .ok (some r)) :
    ∃ l ch, mapArgs f args = .ok (l, ch) ∧ r = raw l := by
  split at h
  · rename_i l ch hm
    cases ch <;> cases h
    exact ⟨l, _, hm, rfl⟩
  · cases h

theorem refineF_value {ρ : String → ℝ} {A : Assumptions} (hA : FactsSat ρ A) :
    ∀ (fuel : Nat) (e r : Expr) (v : ℝ), wf e = true →
      refineF false A fuel e = .ok (some r) → evalR ρ e = some v → evalR ρ r = some v := by
  intro fuel
  induction fuel with
  | zero => intro e r v _ h _; simp [refineF] at h
  | succ n ih =>
    intro e r v hw hr hv
    -- the induction hypothesis, for a child that may have come back unchanged
    have hget : ∀ {a : Expr} {ra : Option Expr}, wf a = true → refineF false A n a = .ok ra →
        ∀ va, evalR ρ a = some va → evalR ρ (Res.get a ra) = some va := by
      intro a ra hwa hra va hva
      cases ra with
      | none => exact hva
      | some r' => exact ih a r' va hwa hra hva
    -- Add / Mul contexts: the node and the raw rebuilt node are both `op` of the values of the arguments
    have hctx : ∀ (e' : Expr) (op : List ℝ → ℝ) (raw : List Expr → Expr) {l : List Expr} {ch : Bool},
        (∀ l, evalR ρ (raw l) = (evalArgs ρ l).map op) → wf e' = true →
        evalR ρ e' = (evalArgs ρ (argsOf e')).map op → mapArgs (refineF false A n) (argsOf e') = .ok (l, ch) →
        evalR ρ e' = some v → evalR ρ (raw l) = some v := by
      intro e' op raw l ch hraw hw' heq hm hv'
      obtain ⟨vs, hs, rfl⟩ := Option.map_eq_some_iff.mp (heq ▸ hv')
      rw [hraw, mapArgs_value hm (fun a ha ra va hfa => hget (wf_argsOf hw' a ha) hfa va) hs, Option.map_some]
    cases e with
    | add c ts =>
      obtain ⟨l, ch, hm, rfl⟩ := mapArgs_rebuilt (raw := sumRaw) hr
      exact hctx _ _ _ (evalR_sumRaw ρ) hw (evalR_add_args hw) hm hv
    | mul c fs =>
      obtain ⟨l, ch, hm, rfl⟩ := mapArgs_rebuilt (raw := prodRaw) hr
      exact hctx _ _ _ (evalR_prodRaw ρ) hw evalR_mul_args hm hv
    | pow b x =>
      have hwb := wf_pow.mp hw
      obtain ⟨vb, hvb, hp⟩ := evalR_pow_some.mp hv
      simp only [refineF] at hr
      split at hr
      · -- both unchanged: the Pow-of-Pow rule
        split at hr
        · cases hr
        · rename_i hg
          simp only [Bool.or_eq_true, not_or, Bool.not_eq_true] at hg
          exact rulePow_value hA hw hg.2 (Except.ok.inj hr) hv
      · rename_i rb rx _ hb hx'
        have hres : r = .pow (Res.get b rb) (Res.get x rx) := by
          split at hr
          · split at hr
            · cases hr
            · cases hr; rfl
          · cases hr; rfl
        subst hres
        refine evalR_pow_some.mpr ⟨vb, hget hwb.1 hb vb hvb, ?_⟩
        cases rx with
        | none => exact hp
        | some xr =>
          -- a changed exponent is no integer literal: the base is positive and the power is the real power
          have hpos := powSem_nonint_pos (fun k hk => by subst hk; exact refineF_int_none hx') hp
          rw [powSem_of_pos hpos] at hp ⊢
          obtain ⟨vx, hvx, rfl⟩ := Option.map_eq_some_iff.mp hp
          rw [Res.get, ih x xr vx hwb.2 hx' hvx, Option.map_some]
      · cases hr
      · cases hr
    | app h args =>
      by_cases hext : (h == "Max" || h == "Min") = true
      · -- Max / Min: the arguments are unchanged, the dropped ones are dominated
        simp only [refineF, hext, if_true] at hr
        have hwargs := wf_app.mp hw
        split at hr
        · cases hr
        · simp at hr
          obtain ⟨_, rfl⟩ := hr
          simp only [Bool.or_eq_true, beq_iff_eq] at hext
          rcases hext with rfl | rfl
          · simpa using maxRule_value hA hwargs hv
          · simpa using minRule_value hA hwargs hv
        · cases hr
      have hnm : (h == "Max" || h == "Min") = false := by simpa using hext
      simp only [refineF, hnm, Bool.false_eq_true, if_false] at hr
      split at hr
      · -- Interval: has no real value
        have := appSem_some_head (by simpa [evalR] using hv)
        rename_i hi
        have hh : h = "Interval" := by simpa using hi
        subst hh
        simp [mem_semHeads] at this
      · split at hr
        · rename_i a
          have hwa := wf_app.mp hw a (List.mem_singleton_self a)
          split at hr
          · split at hr
            · -- argument unchanged: the rule of the node
              simp at hr
              exact ruleOne_value hA hwa hr hv
            · rename_i a' ha'
              split at hr
              · cases hr  -- a rule head with a changed argument: unmodelled
              · simp at hr
                subst hr
                rw [evalR_app_one] at hv ⊢
                obtain ⟨va, hva, hs⟩ := Option.bind_eq_some_iff.mp hv
                rw [ih a a' va hwa ha' hva]; exact hs
            · cases hr
          · cases hr  -- not a OneArgFunction: the node is unchanged
        · -- two arguments: none of these functions has a real meaning here
          rename_i a b
          exfalso
          simp only [Bool.or_eq_false_iff, beq_eq_false_iff_ne, ne_eq] at hnm
          rw [evalR_app_two_none hnm.1 hnm.2] at hv
          cases hv
        · cases hr
    | fsym nm args => simp [evalR] at hv
    | _ => simp [refineF] at hr

def extHeads : List String := ["Max", "Min"]

theorem hasHead_termOf {hs : List String} {k v : Expr} (hk : hasHead hs k = false) (hv : hasHead hs v = false) :
    hasHead hs (termOf k v) = false := by
  unfold termOf
  split
  · simp only [hasHead, Bool.or_eq_false_iff] at hk ⊢
    exact ⟨hv, hk.2⟩
  · simp only [hasHead, hasHeadPairs, Bool.or_eq_false_iff, Bool.or_false] at hk ⊢
    exact ⟨hv, hk⟩
  · simp only [hasHead, hasHeadPairs, Bool.or_eq_false_iff, Bool.or_false]
    exact ⟨hv, hk⟩

theorem hasHeadPairs_iff {hs : List String} {ps : List (Expr × Expr)} : hasHeadPairs hs ps = false ↔
    ∀ p ∈ ps, hasHead hs p.1 = false ∧ hasHead hs p.2 = false := by
  induction ps with
  | nil => exact iff_of_true rfl nofun
  | cons p t ih => simp only [hasHeadPairs, Bool.or_eq_false_iff, ih, List.forall_mem_cons, and_assoc]

theorem hasHead_argsOf {e : Expr} (h : hasHead extHeads e = false) : ∀ a ∈ argsOf e, hasHead extHeads a = false := by
  intro a ha
  cases e with
  | add c ts =>
    simp only [hasHead, Bool.or_eq_false_iff, hasHeadPairs_iff] at h
    rcases mem_argsOf_add ha with rfl | ⟨p, hp, rfl⟩
    · exact h.1
    · split
      exacts [(h.2 p hp).1, hasHead_termOf (h.2 p hp).1 (h.2 p hp).2]
  | mul c fs =>
    simp only [hasHead, Bool.or_eq_false_iff, hasHeadPairs_iff] at h
    rcases mem_argsOf_mul ha with rfl | ⟨p, hp, rfl⟩
    · exact h.1
    · split
      exacts [(h.2 p hp).1, by simp only [hasHead, h.2 p hp, Bool.or_self]]
  | _ => cases ha

theorem extHeads_not {h : String} {args : List Expr} (hx : hasHead extHeads (.app h args) = false) :
    (h == "Max" || h == "Min") = false := by
  simp only [hasHead, Bool.or_eq_false_iff] at hx
  have := hx.1
  simp only [extHeads, List.contains_cons, List.contains_nil, Bool.or_false, Bool.or_eq_false_iff] at this
  simp only [Bool.or_eq_false_iff]
  exact this

end SymVerif.C35
