/-
C04 helper lemmas: a sorted association list with canonical non-zero numeric values *is* a finitely
supported function `key ↦ ℚ(i)` (`lk`); two such lists with the same function are equal (`dok_ext`);
`Add::dict_add_term` adds point-wise (`lk_upd`), hence merging is commutative and associative
(`merge_comm`, `merge_assoc`).  All of it is the generic algebra of Lemmas/C04DictG.lean at the value
semantics `numVS` (canonical exact numbers, meaning `gq`): `lk`, `DOK`, `upd`, `ValsOK` are written out
but ARE `lkG numVS`, `DOKG numVS`, `updG numVS`, `ValsOKG numVS` by `rfl` (`merge` by the induction
`merge_eq`).  The Add side speaks `lk`/`merge`, the Mul side `lkG expVS`/`mergeG expVS`.
-/
import SymVerif.Lemmas.C04DictG

namespace SymVerif.AC
open SymVerif SymVerif.Arith

/-- canonical exact numbers as dictionary values; `add` is what `numAdd` returns on them (`numAdd_eq`) -/
noncomputable def numVS : VS (ℚ × ℚ) where
  ok := ExOK
  val := gq
  inj := gq_inj
  add a b := ofG (gq a + gq b)
  add_ok _ _ := exOK_ofG _
  val_add _ _ := gq_ofG _
  isZ := numIsZero
  isZ_iff := numIsZero_iff

noncomputable def lk (d : Dict) (t : Expr) : ℚ × ℚ :=
  match dfind d t with
  | some v => gq v
  | none => 0

def DOK (d : Dict) : Prop := Sorted d ∧ ∀ p ∈ d, ExOK p.2 ∧ gq p.2 ≠ 0

theorem DOK.nil : DOK [] := DOKG.nil numVS

theorem DOK.found {d : Dict} {t v : Expr} (h : DOK d) (hf : dfind d t = some v) : ExOK v ∧ gq v ≠ 0 :=
  DOKG.found (V := numVS) h hf

theorem lk_nil (u : Expr) : lk [] u = 0 := rfl

theorem lk_single (t c u : Expr) : lk [(t, c)] u = if key u == key t then gq c else 0 := by
  unfold lk
  rw [dfind_cons, keq_comm]
  by_cases h : (key u == key t) = true <;> simp [h, dfind]

theorem dok_ext {d₁ d₂ : Dict} (h1 : DOK d₁) (h2 : DOK d₂) (h : ∀ t, lk d₁ t = lk d₂ t) : d₁ = d₂ :=
  dokG_ext numVS h1 h2 h

/-- `Add::dict_add_term(d, c, t)` as a pure function -/
noncomputable def upd (d : Dict) (c t : Expr) : Dict :=
  match dfind d t with
  | none => if !numIsZero c then dinsert d t c else d
  | some v =>
    if numIsZero (ofG (gq v + gq c)) then derase d t else dset d t (ofG (gq v + gq c))

theorem upd_eq (d : Dict) (c t : Expr) : upd d c t = updG numVS d c t := rfl

theorem addDictAddTerm_eq {d : Dict} {c : Expr} (t : Expr) (hd : DOK d) (hc : ExOK c) :
    addDictAddTerm d c t = .ok (upd d c t) := by
  unfold addDictAddTerm upd
  cases hf : dfind d t with
  | none => rfl
  | some v =>
    simp only []
    rw [numAdd_eq (hd.found hf).1 hc]
    rfl

theorem upd_DOK {d : Dict} {c : Expr} (t : Expr) (hd : DOK d) (hc : ExOK c) : DOK (upd d c t) :=
  updG_DOK numVS t hd hc

theorem lk_upd {d : Dict} {c : Expr} (t u : Expr) (hd : DOK d) (hc : ExOK c) :
    lk (upd d c t) u = lk d u + (if key u == key t then gq c else 0) :=
  lkG_upd numVS t u hd hc

/-! ### merging: `for (p : b) dict_add_term(d, p.second, p.first)` -/

noncomputable def merge (d : Dict) : Dict → Dict
  | [] => d
  | (k, v) :: r => merge (upd d v k) r

theorem merge_eq : ∀ (d l : Dict), merge d l = mergeG numVS d l
  | _, [] => rfl
  | d, (k, v) :: r => merge_eq (upd d v k) r

def ValsOK (l : Dict) : Prop := ∀ p ∈ l, ExOK p.2

theorem DOK.vals {d : Dict} (h : DOK d) : ValsOK d := DOKG.vals numVS h

theorem addMergeLoop_eq : ∀ {d : Dict} (l : Dict), DOK d → ValsOK l → addMergeLoop d l = .ok (merge d l)
  | _, [], _, _ => rfl
  | d, (k, v) :: r, hd, hl => by
    have hv : ExOK v := hl (k, v) List.mem_cons_self
    simp only [addMergeLoop, merge, addDictAddTerm_eq k hd hv]
    exact addMergeLoop_eq r (upd_DOK k hd hv) (fun p hp => hl p (List.mem_cons_of_mem _ hp))

theorem merge_DOK {d l : Dict} (hd : DOK d) (hl : ValsOK l) : DOK (merge d l) :=
  merge_eq d l ▸ mergeG_DOK numVS hd hl

theorem merge_keys {l d : Dict} {P : Expr → Prop} (hd : ∀ q ∈ d, P q.1) (hl : ∀ q ∈ l, P q.1) :
    ∀ q ∈ merge d l, P q.1 :=
  merge_eq d l ▸ mergeG_all numVS (fun k _ => P k) (fun _ _ _ h _ => h) hd hl

noncomputable def contrib (l : Dict) (u : Expr) : ℚ × ℚ :=
  (l.map (fun p => if key u == key p.1 then gq p.2 else 0)).sum

theorem contrib_append (l₁ l₂ : Dict) (u : Expr) : contrib (l₁ ++ l₂) u = contrib l₁ u + contrib l₂ u := by
  simp [contrib]

theorem lk_merge {d₁ d₂ : Dict} (u : Expr) (h1 : DOK d₁) (h2 : DOK d₂) :
    lk (merge d₁ d₂) u = lk d₁ u + lk d₂ u :=
  merge_eq d₁ d₂ ▸ lkG_merge numVS u h1 h2

theorem merge_comm {d₁ d₂ : Dict} (h1 : DOK d₁) (h2 : DOK d₂) : merge d₁ d₂ = merge d₂ d₁ := by
  rw [merge_eq, merge_eq]
  exact mergeG_comm numVS h1 h2

theorem merge_assoc {d₁ d₂ d₃ : Dict} (h1 : DOK d₁) (h2 : DOK d₂) (h3 : DOK d₃) :
    merge (merge d₁ d₂) d₃ = merge d₁ (merge d₂ d₃) := by
  simp only [merge_eq]
  exact mergeG_assoc numVS h1 h2 h3

theorem merge_nil_left {d : Dict} (h : DOK d) : merge [] d = d :=
  merge_eq [] d ▸ mergeG_nil_left numVS h

theorem merge_perm {d : Dict} {l₁ l₂ : Dict} (hd : DOK d) (h1 : ValsOK l₁) (hp : l₁.Perm l₂) :
    merge d l₁ = merge d l₂ := by
  rw [merge_eq, merge_eq]
  exact mergeG_perm numVS hd h1 hp

end SymVerif.AC
