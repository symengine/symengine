/-
C04: accumulators.  Every n-ary constructor of the slice is a loop `state := absorb state operand`;
`Acc N OK absorb` says that the body keeps the invariant `N` of the state on legal operands and is
right-commutative there.  The state after a list of legal operands then stays normal and only depends on the
multiset of the list (`Acc.foldl_N`, `Acc.foldl_perm`).  Right-commutativity is what an injective meaning of
the states in a commutative semigroup gives (`Acc.of_den`: used for dictionaries and summands; the other instances
show it from commutativity and associativity of the operation, or directly).  The namespace `AC` is that of
Model/AC.lean (the parts of the model for order and grouping).
-/

namespace SymVerif.AC

section Acc
variable {σ X : Type}

/-- a loop body that keeps the state normal on legal operands and is right-commutative there -/
structure Acc (N : σ → Prop) (OK : X → Prop) (absorb : σ → X → σ) : Prop where
  closed : ∀ {s a}, N s → OK a → N (absorb s a)
  rc : ∀ {s a b}, N s → OK a → OK b → absorb (absorb s a) b = absorb (absorb s b) a

variable {N : σ → Prop} {OK : X → Prop} {absorb : σ → X → σ}

theorem Acc.mono (A : Acc N OK absorb) {OK' : X → Prop} (h : ∀ a, OK' a → OK a) : Acc N OK' absorb :=
  ⟨fun hs ha => A.closed hs (h _ ha), fun hs ha hb => A.rc hs (h _ ha) (h _ hb)⟩

theorem Acc.foldl_N (A : Acc N OK absorb) : ∀ (l : List X) {s : σ}, N s → (∀ a ∈ l, OK a) → N (l.foldl absorb s)
  | [], _, hs, _ => hs
  | a :: r, _, hs, hl =>
    A.foldl_N r (A.closed hs (hl a List.mem_cons_self)) (fun x hx => hl x (List.mem_cons_of_mem _ hx))

theorem Acc.foldl_perm (A : Acc N OK absorb) {l₁ l₂ : List X} (hp : l₁.Perm l₂) :
    (∀ a ∈ l₁, OK a) → ∀ s, N s → l₁.foldl absorb s = l₂.foldl absorb s := by
  induction hp with
  | nil => intros; rfl
  | cons x _ ih =>
    intro hl s hs
    exact ih (fun a ha => hl a (List.mem_cons_of_mem _ ha)) _ (A.closed hs (hl x List.mem_cons_self))
  | swap x y l =>
    intro hl s hs
    show l.foldl absorb (absorb (absorb s y) x) = l.foldl absorb (absorb (absorb s x) y)
    rw [A.rc hs (hl y List.mem_cons_self) (hl x (List.mem_cons_of_mem _ List.mem_cons_self))]
  | trans h1 _ ih1 ih2 =>
    intro hl s hs
    rw [ih1 hl s hs, ih2 (fun a ha => hl a (h1.mem_iff.mpr ha)) s hs]

/-- right-commutativity from a meaning: normal states are determined by `den`, which takes values in a
commutative semigroup `(M, mul)`, given by its laws since this module imports nothing, and absorbing an operand
combines the meaning with that of the operand -/
theorem Acc.of_den {M : Type} (mul : M → M → M) (comm : ∀ a b, mul a b = mul b a)
    (assoc : ∀ a b c, mul (mul a b) c = mul a (mul b c)) (den : σ → M) (d : X → M)
    (inj : ∀ {s t}, N s → N t → den s = den t → s = t)
    (closed : ∀ {s a}, N s → OK a → N (absorb s a))
    (den_absorb : ∀ {s a}, N s → OK a → den (absorb s a) = mul (den s) (d a)) : Acc N OK absorb where
  closed := closed
  rc := fun {s a b} hs ha hb => by
    apply inj (closed (closed hs ha) hb) (closed (closed hs hb) ha)
    rw [den_absorb (closed hs ha) hb, den_absorb hs ha, den_absorb (closed hs hb) ha, den_absorb hs hb,
      assoc, assoc, comm (d a)]

end Acc

end SymVerif.AC
