import SymVerif.Lemmas.C28Truth
/-!
Soundness of substitution `x := e` and of `and_or<And>` with its FiniteSet-domain rule (`andD`), under numeric
valuations: atoms over `x` take their arithmetic value at `x`, opaque atoms are arbitrary.
-/
namespace SymVerif.C28
open SymVerif.Logic SymVerif.Logic.B

/-- numeric valuation: the distinguished symbol has the integer value `x`; atoms over other symbols are valued by `v`.
    The thresholds 8, 4 and the offsets are those of `substB`, so that `subst_sound` closes on atoms by unfolding. -/
def nv (x : Int) (v : Val) : Val :=
  { rel := fun i n => if 8 ≤ i then (xrelSem (i - 8) x ^^ n) else v.rel i n
    mem := fun i => if 4 ≤ i then xmemSem (i - 4) x else v.mem i
    fs := fun l => decide (x ∈ l) }

theorem nv_ok (x : Int) (v : Val) (hv : v.ok) : (nv x v).ok := by
  intro i n
  simp only [nv]
  split
  · exact Bool.xor_not _ _
  · exact hv i n

mutual
theorem subst_sound (x : Int) (v : Val) (hv : v.ok) :
    ∀ b, truth (nv x v) (substB x b) = truth (nv x v) b
  | .tt => by simp [substB]
  | .ff => by simp [substB]
  | .rel i _ | .mem i => by
    simp only [substB]
    split
    · rename_i h; simp [truth_const, truth, nv, h]
    · rfl
  | .fs l => by simp [substB, truth_const, truth, nv]
  | .and l => by
    simp only [substB, truth]
    rw [and_val _ (nv_ok x v hv)]
    exact substL_all x v hv l
  | .or l => by
    simp only [substB, truth]
    rw [or_val _ (nv_ok x v hv)]
    exact substL_any x v hv l
  | .xor l => by
    simp only [substB, truth]
    rw [xor_val _ (nv_ok x v hv)]
    exact substL_par x v hv l
  | .not b => by
    simp only [substB, truth]
    rw [not_sound _ (nv_ok x v hv), subst_sound x v hv b]
theorem substL_all (x : Int) (v : Val) (hv : v.ok) :
    ∀ l, allT (nv x v) (substL x l) = allT (nv x v) l
  | [] => by simp [substL]
  | a :: l => by simp only [substL, allT, subst_sound x v hv a, substL_all x v hv l]
theorem substL_any (x : Int) (v : Val) (hv : v.ok) :
    ∀ l, anyT (nv x v) (substL x l) = anyT (nv x v) l
  | [] => by simp [substL]
  | a :: l => by simp only [substL, anyT, subst_sound x v hv a, substL_any x v hv l]
theorem substL_par (x : Int) (v : Val) (hv : v.ok) :
    ∀ l, parT (nv x v) (substL x l) = parT (nv x v) l
  | [] => by simp [substL]
  | a :: l => by simp only [substL, parT, subst_sound x v hv a, substL_par x v hv l]
end

theorem classify_sound (x : Int) (v : Val) (hv : v.ok) (rc : B) :
    (classify x rc = .t → truth (nv x v) rc = true) ∧ (classify x rc = .f → truth (nv x v) rc = false) := by
  unfold classify
  rw [← subst_sound x v hv rc]
  split
  · rename_i heq; exact ⟨fun _ => heq ▸ rfl, nofun⟩
  · rename_i heq; exact ⟨nofun, fun _ => heq ▸ rfl⟩
  · exact ⟨nofun, nofun⟩

theorem present_and (x : Int) (v : Val) (hv : v.ok) (fset : List Int) (rc : B) :
    (decide (x ∈ fset.filter fun e => classify e rc != .f) && truth (nv x v) rc)
      = (decide (x ∈ fset) && truth (nv x v) rc) := by
  cases hcl : classify x rc
  case f => rw [(classify_sound x v hv rc).2 hcl, Bool.and_false, Bool.and_false]
  all_goals simp [List.mem_filter, hcl]

theorem present_imp (x : Int) (v : Val) (hv : v.ok) (fset : List Int) (rc : B)
    (hsym : fset.any (fun e => classify e rc == .other) = false)
    (hx : x ∈ fset.filter fun e => classify e rc != .f) : truth (nv x v) rc = true := by
  obtain ⟨hx, hf⟩ := List.mem_filter.1 hx
  have ho := List.any_eq_false.1 hsym x hx
  cases hcl : classify x rc
  · exact (classify_sound x v hv rc).1 hcl
  · simp [hcl] at hf
  · simp [hcl] at ho

theorem allT_erase (v : Val) (a : B) (l : List B) (h : a ∈ l) : allT v l = (truth v a && allT v (l.erase a)) := by
  rw [allT_eq_all, allT_eq_all, (List.perm_cons_erase h).all_eq, List.all_cons]

theorem finishAnd_sound (v : Val) (args : List B) : truth v (finishAnd args) = allT v args :=
  finishAnd_eq args ▸ finishAO_sound v false args

theorem fsContains_sound (x : Int) (v : Val) (l : List Int) :
    truth (nv x v) (fsContains l) = decide (x ∈ l) := by
  unfold fsContains
  split
  · rename_i h
    have : l = [] := by simpa using h
    simp [this, truth]
  · simp [truth, nv]

/-- the ways `andD` answers: like `and_or<And>` without the domain rule, or, with the single `Contains(x, fset)`
    conjunct and `rc` the conjunction of the others: the pruned `Contains` alone when no element leaves `rc`
    symbolic, or a re-entry with the pruned `Contains` and `rc` -/
theorem andD_cases {fuel : Nat} {s : List B} {b : B} (h : andD (fuel + 1) s = some b) :
    b = andOr false s ∨ ∃ args fset rc, collect false s [] = some args ∧ .fs fset ∈ args ∧
      rc = andOr false (args.erase (.fs fset)) ∧
        ((fset.any (fun e => classify e rc == .other) = false ∧
            b = fsContains (fset.filter fun e => classify e rc != .f)) ∨
          andD fuel [fsContains (fset.filter fun e => classify e rc != .f), rc] = some b) := by
  unfold andD at h
  rw [andOr_eq]
  cases hcol : collect false s [] with
  | none => rw [hcol] at h; exact .inl (Option.some.inj h).symm
  | some args =>
    rw [hcol] at h
    simp only [] at h ⊢  -- reduces the `match some args with` on both sides
    split at h  -- `hasCompl args`
    · rename_i hh
      exact .inl ((Option.some.inj h).symm.trans (if_pos hh).symm)
    · rename_i hh
      rw [if_neg hh, ← finishAnd_eq]
      have plain := fun (h : some (finishAnd args) = some b) => (Option.some.inj h).symm
      split at h  -- `args.filter isFS`: no, one, several FiniteSet conjuncts
      · exact .inl (plain h)
      · rename_i fset hfil
        have hmem : B.fs fset ∈ args :=
          (List.mem_filter.1 (show B.fs fset ∈ args.filter isFS by rw [hfil]; exact List.mem_cons_self)).1
        split at h  -- `fset.isEmpty`
        · exact .inl (plain h)
        · split at h  -- `!symexists`
          · rename_i hsym
            exact .inr ⟨args, fset, _, rfl, hmem, rfl, .inl ⟨by simpa using hsym, (Option.some.inj h).symm⟩⟩
          · split at h  -- `present.length != fset.length`
            · exact .inr ⟨args, fset, _, rfl, hmem, rfl, .inr h⟩
            · exact .inl (plain h)
      · cases h

/-- `and_or<And>` with the FiniteSet-domain rule preserves the conjunction at every integer value of `x`, whenever `andD`
    answers; that the fuel suffices is not shown. -/
theorem andD_sound (x : Int) (v : Val) (hv : v.ok) :
    ∀ (fuel : Nat) (s : List B) (b : B), andD fuel s = some b → truth (nv x v) b = allT (nv x v) s
  | 0, s, b, h => nomatch h
  | fuel + 1, s, b, h => by
    have hV := nv_ok x v hv
    rcases andD_cases h with rfl | ⟨args, fset, rc, hcol, hmem, hrc, hb⟩
    · exact and_val _ hV s
    have hfs : truth (nv x v) (.fs fset) = decide (x ∈ fset) := by simp [truth, nv]
    have hrcv : truth (nv x v) rc = allT (nv x v) (args.erase (.fs fset)) := hrc ▸ and_val _ hV _
    -- the conjunction is `x ∈ fset ∧ rc`, which pruning `fset` does not change
    suffices truth (nv x v) b =
        (decide (x ∈ fset.filter fun e => classify e rc != .f) && truth (nv x v) rc) by
      have hargs : allT (nv x v) args = allT (nv x v) s := collect_val_some (nv x v) hcol
      rw [this, present_and x v hv, ← hargs, allT_erase (nv x v) (.fs fset) args hmem, hfs, hrcv]
    rcases hb with ⟨hsym, rfl⟩ | hb
    · rw [fsContains_sound]
      by_cases hx : x ∈ fset.filter fun e => classify e rc != .f
      · rw [present_imp x v hv fset _ hsym hx, Bool.and_true]
      · rw [decide_eq_false hx, Bool.false_and]
    · rw [andD_sound x v hv fuel _ b hb]
      simp only [allT, Bool.and_true, fsContains_sound]

end SymVerif.C28
