/-
C37 — the abstraction step of `treeEquiv`: `absE` replaces every atom by a numbered symbol, and under the contract
`IdxOK` on the index function the abstraction has, in the normaliser's semantics `NF.evalK` at the assignment `ρ` of the
abstract atoms, the value the tree has in `evalS` (`absE_sound`).  `MatchSpec` is the same contract for a single match of
an atom against a table entry.
-/
import SymVerif.Lemmas.C37Fold

namespace SymVerif
namespace CSE

open NF

-- every statement takes `[CharZero K]` from the variable line, whether its proof needs it or not; it is needed from
-- `absFac_sound` on, through `facVal_powAtom` (C37Fold: `cast_sign_div`)
set_option linter.unusedSectionVars false

section
variable {K : Type} [Field K] [CharZero K] {M : Interp K}

def sgn (neg : Bool) (a : K) : K := if neg then -a else a

/-- the dump string of the `i`-th abstract atom -/
def key (i : Nat) : String := Expr.dumpCanon (.sym (enc i))

theorem dumpCanon_sym (n : String) : Expr.dumpCanon (.sym n) = "(s " ++ n ++ ")" := by
  simp only [Expr.dumpCanon, Expr.canonOrder, Expr.dump]
  rfl

theorem key_length (i : Nat) : (key i).length = i + 4 := by
  rw [key, dumpCanon_sym]
  have h1 : "(s ".length = 3 := by decide
  have h2 : ")".length = 1 := by decide
  simp [String.length_append, enc, h1, h2]
  omega

/-- What a match `m` of the atom `x` against the table entry `r` says about their values `vx`, `vr`.
Clause 1 is for atoms that are not powers (`absAtom` accepts only `shift = 0`, `inv = false`).  Clause 2 is for a power
atom `b ** e` with a non-literal exponent, which `absE` turns into the `Mul` entries `powEntries`, `b ** shift · (±r) ** ±1`;
`vr ≠ 0` because otherwise the entry with the atom under an integer exponent has no value (`evalFacs_powEntries`). -/
def MatchSpec (M : Interp K) (x r : Expr) (m : Match) : Prop :=
  ∀ vx vr, evalS M x = some vx → evalS M r = some vr →
    (m.shift = 0 → m.inv = false → vx = sgn m.neg vr) ∧
    (∀ b e vb, x = .pow b e → intLit? e = none → evalS M b = some vb →
      vx = vb ^ m.shift * sgn m.neg vr ^ invExp m.inv ∧ vr ≠ 0)

/-- what the index function handed to `absE` must guarantee: `MatchSpec` with the value `ρ (key i)` of the abstract
atom number `i` in place of the value of the table entry -/
def IdxOK (M : Interp K) (ρ : String → K) (idx : Expr → Option (Nat × Match)) : Prop :=
  ∀ x i m v, idx x = some (i, m) → evalS M x = some v →
    (m.shift = 0 → m.inv = false → v = sgn m.neg (ρ (key i))) ∧
    (∀ b e vb, x = .pow b e → intLit? e = none → evalS M b = some vb →
      v = vb ^ m.shift * sgn m.neg (ρ (key i)) ^ invExp m.inv ∧ ρ (key i) ≠ 0)

theorem evalK_atomSym (I : K) (ρ : String → K) (i : Nat) (neg : Bool) :
    evalK I ρ (atomSym i neg) = some (sgn neg (ρ (key i))) := by
  cases neg
  · simp [atomSym, evalK, sgn, key]
  · simp [atomSym, evalK, evalFacs, intLit?, sgn, key, powVal, mul2]

theorem absAtom_some {idx : Expr → Option (Nat × Match)} {x e' : Expr} (h : absAtom idx x = some e') :
    ∃ i m, idx x = some (i, m) ∧ m.shift = 0 ∧ m.inv = false ∧ e' = atomSym i m.neg := by
  unfold absAtom at h
  split at h
  · rename_i i m hi
    split at h
    · rename_i hs
      simp only [Bool.and_eq_true, decide_eq_true_eq, Bool.not_eq_true'] at hs
      simp only [Option.some.injEq] at h
      exact ⟨i, m, hi, hs.1, hs.2, h.symm⟩
    · cases h
  · cases h

theorem absAtom_sound {ρ : String → K} {idx : Expr → Option (Nat × Match)} (hidx : IdxOK M ρ idx)
    {x e' : Expr} {v : K} (h : absAtom idx x = some e') (hv : evalS M x = some v) :
    evalK M.I ρ e' = some v := by
  obtain ⟨i, m, hi, hs, hinv, rfl⟩ := absAtom_some h
  rw [evalK_atomSym, (hidx x i m v hi hv).1 hs hinv]

theorem sgn_ne_zero {neg : Bool} {a : K} (h : a ≠ 0) : sgn neg a ≠ 0 := by
  cases neg <;> simp [sgn, h]

theorem evalFacs_powEntries {I : K} {ρ : String → K} {b' : Expr} (q : Nat × Match) (k c : Int)
    {t' : List (Expr × Expr)} {vb y : K} (hb : evalK I ρ b' = some vb) (hne : vb ≠ 0)
    (hs : ρ (key q.1) ≠ 0) (ht : evalFacs I ρ t' = some y) :
    evalFacs I ρ (powEntries b' q k c ++ t') =
      some (vb ^ k * (vb ^ q.2.shift * sgn q.2.neg (ρ (key q.1)) ^ invExp q.2.inv) ^ c * y) := by
  have hs' : sgn q.2.neg (ρ (key q.1)) ≠ 0 := sgn_ne_zero hs
  simp only [powEntries, List.cons_append, List.nil_append, evalFacs, intLit?, hb, evalK_atomSym,
    Option.bind_some, powVal_of_ne hne, powVal_of_ne hs', ht, mul2]
  congr 1
  rw [mul_zpow, ← zpow_mul, ← zpow_mul, zpow_add₀ hne]
  ring

theorem absE_pow_facs (I : K) (ρ : String → K) {idx : Expr → Option (Nat × Match)} {b e e' : Expr}
    (h : absE idx (.pow b e) = some e') :
    ∃ fs', absFacs idx [(b, e)] = some fs' ∧ evalK I ρ e' = evalFacs I ρ fs' := by
  simp only [absE, absFacs] at h ⊢
  cases he : intLit? e with
  | some n =>
    simp only [he] at h ⊢
    obtain ⟨b', hb, rfl⟩ := Option.map_eq_some_iff.mp h
    exact ⟨_, by rw [hb], by simp only [evalK, evalFacs, intLit?, mul2_one_right]⟩
  | none =>
    simp only [he] at h ⊢
    split at h
    · rename_i b' q hb hq
      cases h
      exact ⟨_, by rw [hb, hq], by simp only [evalK, List.append_nil, Int.cast_one, mul2_one_left]⟩
    · cases h

/-- The central step: one entry `(b, e)` of a `Mul` list; a `Pow` node is the list with the one entry and tail `[]`.
The conclusion speaks of every value `y` of the abstracted tail, because the caller gets that value from its own
(mutual) recursion. -/
theorem absFac_sound (hM : Lawful M) {ρ : String → K} {idx : Expr → Option (Nat × Match)}
    (hidx : IdxOK M ρ idx) {b e : Expr} {x : K}
    (hb : ∀ b' vb, absE idx b = some b' → evalS M b = some vb → evalK M.I ρ b' = some vb)
    (hx : facVal M b e = some x) {t fs' : List (Expr × Expr)} (h : absFacs idx ((b, e) :: t) = some fs') :
    ∃ t', absFacs idx t = some t' ∧
      ∀ y, evalFacs M.I ρ t' = some y → evalFacs M.I ρ fs' = some (x * y) := by
  simp only [absFacs] at h
  cases he : intLit? e with
  | some n =>
    simp only [he] at h
    obtain ⟨a, ha, hz, rfl⟩ := facVal_lit_some he hx
    split at h
    · rename_i b' t' hb' ht
      cases h
      refine ⟨t', ht, fun y hy => ?_⟩
      simp only [evalFacs, intLit?, hb b' a hb' ha, Option.bind_some, powVal_of hz, hy, mul2]
    · cases h
  | none =>
    simp only [he] at h
    obtain ⟨vb, ve, v0, hvb, hne, hc, rfl, hat⟩ := facVal_powAtom he hx
    split at h
    · rename_i b' q t' hb' hq ht
      cases h
      refine ⟨t', ht, fun y hy => ?_⟩
      obtain ⟨i, m⟩ := q
      have hI : M.pw vb v0 = vb ^ m.shift * sgn m.neg (ρ (key i)) ^ invExp m.inv ∧ ρ (key i) ≠ 0 :=
        (hidx (.pow b (expNorm e).2.2) i m _ hq hat).2 b _ vb rfl (intLit_expNorm e he) hvb
      rw [evalFacs_powEntries (i, m) (expNorm e).1 (expNorm e).2.1 (hb b' vb hb' hvb) hne
        hI.2 hy, hc, hM.pw_add_int vb _ _ hne, ← hM.pw_mul_int vb v0 _ hne, hI.1]
    · cases h

mutual
  theorem absE_sound (hM : Lawful M) (ρ : String → K) (idx : Expr → Option (Nat × Match)) (hidx : IdxOK M ρ idx) :
      ∀ (e e' : Expr) (v : K), absE idx e = some e' → evalS M e = some v →
        evalK M.I ρ e' = some v
    | .int n, e', v, h, hv | .rat n d, e', v, h, hv | .cplx re im, e', v, h, hv => by
      simp only [absE, Option.some.injEq] at h; subst h; simpa [evalK, evalS] using hv
    | .add c ts, e', v, h, hv => by
      simp only [absE] at h
      simp only [evalS] at hv
      obtain ⟨a, b, ha, hb, rfl⟩ := add2_some hv
      split at h
      · rename_i c' ts' hc ht
        cases h
        simp only [evalK, absE_sound hM ρ idx hidx c c' a hc ha,
          absTerms_sound hM ρ idx hidx ts ts' b ht hb, add2]
      · cases h
    | .mul c fs, e', v, h, hv => by
      simp only [absE] at h
      simp only [evalS] at hv
      obtain ⟨a, b, ha, hb, rfl⟩ := mul2_some hv
      split at h
      · rename_i c' fs' hc ht
        cases h
        simp only [evalK, absE_sound hM ρ idx hidx c c' a hc ha,
          absFacs_sound hM ρ idx hidx fs fs' b ht hb, mul2]
      · cases h
    | .pow b e, e', v, h, hv => by
      rw [evalS_pow_eq] at hv
      obtain ⟨fs', hfs, hK⟩ := absE_pow_facs M.I ρ h
      obtain ⟨t', ht, hE⟩ := absFac_sound hM hidx (fun b' vb => absE_sound hM ρ idx hidx b b' vb) hv hfs
      -- the tail of the one-entry list is `[]`, of value 1
      cases ht
      rw [hK, hE 1 rfl, mul_one]
    | .sym n, e', v, h, hv | .dummy n i, e', v, h, hv | .const n, e', v, h, hv | .fsym n args, e', v, h, hv | .app hd args, e', v, h, hv =>
      by simp only [absE] at h; exact absAtom_sound hidx h hv
    | .dbl _, e', v, h, hv | .cdbl _ _, e', v, h, hv | .infty _, e', v, h, hv | .nan, e', v, h, hv | .bool _, e', v, h, hv =>
      by simp [absE] at h
  theorem absTerms_sound (hM : Lawful M) (ρ : String → K) (idx : Expr → Option (Nat × Match)) (hidx : IdxOK M ρ idx) :
      ∀ (ts ts' : List (Expr × Expr)) (v : K), absTerms idx ts = some ts' →
        evalSTerms M ts = some v → evalTerms M.I ρ ts' = some v
    | [], ts', v, h, hv => by
      simp only [absTerms, Option.some.injEq] at h; subst h; simpa [evalTerms, evalSTerms] using hv
    | (k, c) :: t, ts', v, h, hv => by
      simp only [absTerms] at h
      simp only [evalSTerms] at hv
      obtain ⟨x, y, hx, hy, rfl⟩ := add2_some hv
      obtain ⟨a, b, ha, hb, rfl⟩ := mul2_some hx
      split at h
      · rename_i k' c' t' hk hc ht
        cases h
        simp only [evalTerms, absE_sound hM ρ idx hidx k k' a hk ha,
          absE_sound hM ρ idx hidx c c' b hc hb, absTerms_sound hM ρ idx hidx t t' y ht hy, add2, mul2]
      · cases h
  theorem absFacs_sound (hM : Lawful M) (ρ : String → K) (idx : Expr → Option (Nat × Match)) (hidx : IdxOK M ρ idx) :
      ∀ (fs fs' : List (Expr × Expr)) (v : K), absFacs idx fs = some fs' →
        evalSFacs M fs = some v → evalFacs M.I ρ fs' = some v
    | [], fs', v, h, hv => by
      simp only [absFacs, Option.some.injEq] at h; subst h; simpa [evalFacs, evalSFacs] using hv
    | (b, e) :: t, fs', v, h, hv => by
      rw [evalSFacs_cons] at hv
      obtain ⟨x, y, hx, hy, rfl⟩ := mul2_some hv
      obtain ⟨t', ht, hE⟩ := absFac_sound hM hidx (fun b' vb => absE_sound hM ρ idx hidx b b' vb) hx h
      exact hE y (absFacs_sound hM ρ idx hidx t t' y ht hy)
end

end

end CSE
end SymVerif
