import SymVerif.Model.CSR
import Mathlib.Algebra.BigOperators.Intervals
import Mathlib.Algebra.BigOperators.Ring.Finset
import Mathlib.Algebra.Order.Ring.Rat
import Mathlib.Tactic.Ring
/-!
C25 — the abstraction `dense` and the invariant `CanonCSR`; the array facts in the `a[k]!` form every
later file uses; and the view of a range of positions as a list of pairs `(column, value)` (`seg`).
The loop lemmas of the later files say which list ends up in which segment and which positions are
left alone; order and sums are then mostly facts about lists.  `seg_congr` carries a segment across
writes elsewhere, `seg_shift` across an insertion or a deletion before it.
-/
namespace SymVerif.C25
open SymVerif.CSR Finset

@[simp] theorem ok_bind {α β : Type} (a : α) (f : α → Except Err β) :
    (Except.ok a >>= f) = f a := rfl
@[simp] theorem err_bind {α β : Type} (e : Err) (f : α → Except Err β) :
    ((Except.error e : Except Err α) >>= f) = Except.error e := rfl
@[simp] theorem pure_ok {α : Type} (a : α) : (pure a : Except Err α) = Except.ok a := rfl

@[simp] theorem rd_lt {α : Type} [Inhabited α] {a : Array α} {k : Nat} (h : k < a.size) :
    rd a k = .ok a[k]! := by
  simp [rd, h]

@[simp] theorem wr_lt {α : Type} {a : Array α} {k : Nat} (v : α) (h : k < a.size) :
    wr a k v = .ok (a.set k v h) := by
  simp [wr, h]

theorem rd_row {p : Array Nat} {row i : Nat} (hps : p.size = row + 1) (hi : i < row) :
    rd p i = .ok p[i]! ∧ rd p (i + 1) = .ok p[i + 1]! := ⟨rd_lt (by omega), rd_lt (by omega)⟩

theorem forall_single {P : Nat → Prop} {k : Nat} (h : P k) : ∀ a, k ≤ a → a < k + 1 → P a :=
  fun _ a1 a2 => Nat.le_antisymm (Nat.le_of_lt_succ a2) a1 ▸ h

theorem set_get! {α : Type} [Inhabited α] (a : Array α) (k : Nat) (v : α) (h : k < a.size) (l : Nat) :
    (a.set k v h)[l]! = if l = k then v else a[l]! := by
  grind

theorem set_get!_eq {α : Type} [Inhabited α] (a : Array α) (k : Nat) (v : α) (h : k < a.size) :
    (a.set k v h)[k]! = v := by
  rw [set_get!, if_pos rfl]

theorem set_get!_ne {α : Type} [Inhabited α] (a : Array α) (k : Nat) (v : α) (h : k < a.size)
    {l : Nat} (hl : l ≠ k) : (a.set k v h)[l]! = a[l]! := by
  rw [set_get!, if_neg hl]

theorem push_get! {α : Type} [Inhabited α] (a : Array α) (v : α) (k : Nat) (hk : k ≤ a.size) :
    (a.push v)[k]! = if k < a.size then a[k]! else v := by
  grind

theorem push_get!_lt {α : Type} [Inhabited α] (a : Array α) (v : α) {k : Nat} (hk : k < a.size) :
    (a.push v)[k]! = a[k]! := by
  rw [push_get! a v k (Nat.le_of_lt hk), if_pos hk]

theorem push_get!_size {α : Type} [Inhabited α] (a : Array α) (v : α) : (a.push v)[a.size]! = v := by
  rw [push_get! a v _ (Nat.le_refl _), if_neg (Nat.lt_irrefl _)]

theorem insertIdx_get! {α : Type} [Inhabited α] (a : Array α) (k : Nat) (v : α) (h : k ≤ a.size)
    (l : Nat) :
    (a.insertIdx k v h)[l]! = if l < k then a[l]! else if l = k then v else a[l - 1]! := by
  have hs : (a.insertIdx k v h).size = a.size + 1 := by simp
  grind

theorem eraseIdx_get! {α : Type} [Inhabited α] (a : Array α) (k : Nat) (h : k < a.size) (l : Nat) :
    (a.eraseIdx k h)[l]! = if l < k then a[l]! else a[l + 1]! := by
  have hs : (a.eraseIdx k h).size = a.size - 1 := by simp
  grind

theorem insertIdx_get!_lt {α : Type} [Inhabited α] (a : Array α) (k : Nat) (v : α) (h : k ≤ a.size)
    {l : Nat} (hl : l < k) : (a.insertIdx k v h)[l]! = a[l]! := by
  rw [insertIdx_get!, if_pos hl]

theorem insertIdx_get!_eq {α : Type} [Inhabited α] (a : Array α) (k : Nat) (v : α) (h : k ≤ a.size) :
    (a.insertIdx k v h)[k]! = v := by
  rw [insertIdx_get!, if_neg (Nat.lt_irrefl k), if_pos rfl]

theorem insertIdx_get!_succ {α : Type} [Inhabited α] (a : Array α) (k : Nat) (v : α) (h : k ≤ a.size)
    {l : Nat} (hl : k ≤ l) : (a.insertIdx k v h)[l + 1]! = a[l]! := by
  rw [insertIdx_get!, if_neg (Nat.not_lt.mpr (Nat.le_succ_of_le hl)),
    if_neg (Nat.ne_of_gt (Nat.lt_succ_of_le hl)), Nat.add_sub_cancel]

theorem eraseIdx_get!_lt {α : Type} [Inhabited α] (a : Array α) (k : Nat) (h : k < a.size)
    {l : Nat} (hl : l < k) : (a.eraseIdx k h)[l]! = a[l]! := by
  rw [eraseIdx_get!, if_pos hl]

theorem eraseIdx_get!_ge {α : Type} [Inhabited α] (a : Array α) (k : Nat) (h : k < a.size)
    {l : Nat} (hl : k ≤ l) : (a.eraseIdx k h)[l]! = a[l + 1]! := by
  rw [eraseIdx_get!, if_neg (Nat.not_lt.mpr hl)]

theorem extract_get! {α : Type} [Inhabited α] (a : Array α) (n k : Nat) (hk : k < n) :
    (a.extract 0 n)[k]! = a[k]! := by
  grind

theorem replicate_get! {α : Type} [Inhabited α] (n : Nat) (v : α) (k : Nat) (hk : k < n) :
    (Array.replicate n v)[k]! = v := by
  have h1 : k < (Array.replicate n v).size := by simpa using hk
  rw [getElem!_pos (Array.replicate n v) k h1]
  simp

theorem both_trans {α β : Type} {a b c : α} {u v w : β} (h1 : a = b ∧ u = v) (h2 : b = c ∧ v = w) :
    a = c ∧ u = w := ⟨h1.1.trans h2.1, h1.2.trans h2.2⟩

theorem set_both_ne {j : Array Nat} {x : Array Q} {n k : Nat} (a : Nat) (v : Q) (hj : n < j.size)
    (hx : n < x.size) (h : k ≠ n) : (j.set n a hj)[k]! = j[k]! ∧ (x.set n v hx)[k]! = x[k]! :=
  ⟨set_get!_ne _ _ _ _ h, set_get!_ne _ _ _ _ h⟩

/-- a loop that rewrites `a[l], …, a[l + n - 1]` in place, carrying a state: cell `k` becomes
`out k s v` of the state `s` on arrival and its old content `v`, the state `next s v`; `S k` is the
state on arrival at `k` (ghost), `ok k v` what iteration `k` needs to succeed, `n` in `hs` the fuel -/
theorem sweepAcc_spec {α σ : Type} [Inhabited α]
    (loop : Nat → Nat → σ → Array α → Except Err (Array α))
    (out : Nat → σ → α → α) (next : σ → α → σ) (ok : Nat → α → Prop) (S : Nat → σ)
    (h0 : ∀ l s a, loop 0 l s a = .ok a)
    (hs : ∀ n l s a (h : l < a.size), ok l a[l]! →
      loop (n + 1) l s a = loop n (l + 1) (next s a[l]!) (a.set l (out l s a[l]!) h)) :
    ∀ n l (a : Array α), l + n ≤ a.size →
      (∀ k, l ≤ k → k < l + n → ok k a[k]! ∧ S (k + 1) = next (S k) a[k]!) →
      ∃ a', loop n l (S l) a = .ok a' ∧ a'.size = a.size ∧ (∀ k, k < l → a'[k]! = a[k]!) ∧
        (∀ k, l + n ≤ k → a'[k]! = a[k]!) ∧ ∀ k, l ≤ k → k < l + n → a'[k]! = out k (S k) a[k]! := by
  intro n
  induction n with
  | zero =>
    intro l a _ _
    exact ⟨a, h0 l _ a, rfl, fun _ _ => rfl, fun _ _ => rfl, fun k h1 h2 => by omega⟩
  | succ n ih =>
    intro l a hl hq
    have hla : l < a.size := by omega
    obtain ⟨hok, hS⟩ := hq l (Nat.le_refl l) (by omega)
    obtain ⟨a', h1, h2, h3, h4, h5⟩ := ih (l + 1) (a.set l (out l (S l) a[l]!) hla)
      (by rw [Array.size_set]; omega) (fun k hk1 hk2 => by
        rw [set_get!_ne _ _ _ _ (Nat.ne_of_gt hk1)]
        exact hq k (Nat.le_of_succ_le hk1) (by omega))
    rw [Array.size_set] at h2
    refine ⟨a', by rw [hs n l _ a hla hok, ← hS, h1], h2, fun k hk => ?_,
      fun k hk => ?_, fun k hk1 hk2 => ?_⟩
    · rw [h3 k (Nat.lt_succ_of_lt hk), set_get!_ne _ _ _ _ (Nat.ne_of_lt hk)]
    · rw [h4 k (by omega), set_get!_ne _ _ _ _ (by omega)]
    · rcases Nat.lt_or_eq_of_le hk1 with hlt | heq
      · rw [h5 k hlt (by omega), set_get!_ne _ _ _ _ (Nat.ne_of_gt hlt)]
      · subst heq; rw [h3 l (Nat.lt_succ_self l), set_get!_eq]

theorem sweep_spec {α : Type} [Inhabited α] (loop : Nat → Nat → Array α → Except Err (Array α))
    (g : Nat → α → α) (ok : Nat → α → Prop) (h0 : ∀ l a, loop 0 l a = .ok a)
    (hs : ∀ n l a (h : l < a.size), ok l a[l]! →
      loop (n + 1) l a = loop n (l + 1) (a.set l (g l a[l]!) h)) :
    ∀ n l (a : Array α), l + n ≤ a.size → (∀ k, l ≤ k → k < l + n → ok k a[k]!) →
      ∃ a', loop n l a = .ok a' ∧ a'.size = a.size ∧ (∀ k, k < l → a'[k]! = a[k]!) ∧
        (∀ k, l + n ≤ k → a'[k]! = a[k]!) ∧ ∀ k, l ≤ k → k < l + n → a'[k]! = g k a[k]! :=
  fun n l a hl hq => sweepAcc_spec (fun n l (_ : Unit) a => loop n l a) (fun k _ v => g k v)
    (fun _ _ => ()) ok (fun _ => ()) (fun l _ a => h0 l a) (fun n l _ a h => hs n l a h) n l a hl
    (fun k h1 h2 => ⟨hq k h1 h2, rfl⟩)

/-- the value stored at position `k`, if that position belongs to column `c` -/
def cellOf (j : Array Nat) (x : Array Q) (c k : Nat) : Q := if j[k]! = c then x[k]! else 0

/-- the dense matrix a CSR state denotes: entry `(i, c)` is the sum of everything stored for
column `c` in the index range of row `i` (for canonical states: the unique such entry, or 0) -/
def dense (m : Mat) (i c : Nat) : Q := ∑ k ∈ Ico m.p[i]! m.p[i + 1]!, cellOf m.j m.x c k

/-- strictly increasing column indices on the positions `[lo, hi)` -/
def SortedOn (j : Array Nat) (lo hi : Nat) : Prop :=
  ∀ a b, lo ≤ a → a < b → b < hi → j[a]! < j[b]!

/-- canonical CSR: consistent sizes, `p` starts at 0, is non-decreasing and ends at nnz, the
column indices of every row are strictly increasing and below `col` -/
structure CanonCSR (m : Mat) : Prop where
  psize : m.p.size = m.row + 1
  xsize : m.x.size = m.j.size
  p0 : m.p[0]! = 0
  plast : m.p[m.row]! = m.j.size
  pmono : ∀ a b, a ≤ b → b ≤ m.row → m.p[a]! ≤ m.p[b]!
  sorted : ∀ i, i < m.row → SortedOn m.j m.p[i]! m.p[i + 1]!
  jlt : ∀ k, k < m.j.size → m.j[k]! < m.col

def MonoTo (p : Array Nat) (row : Nat) : Prop := ∀ a b, a ≤ b → b ≤ row → p[a]! ≤ p[b]!

theorem MonoTo.row_le {p : Array Nat} {row : Nat} (h : MonoTo p row) {i : Nat} (hi : i < row) :
    p[i]! ≤ p[i + 1]! ∧ p[i + 1]! ≤ p[row]! :=
  ⟨h i (i + 1) (Nat.le_succ i) hi, h (i + 1) row hi (Nat.le_refl _)⟩

theorem CanonCSR.rd_row {m : Mat} (h : CanonCSR m) {i : Nat} (hi : i < m.row) :
    rd m.p i = .ok m.p[i]! ∧ rd m.p (i + 1) = .ok m.p[i + 1]! := C25.rd_row h.psize hi

theorem CanonCSR.row_le {m : Mat} (h : CanonCSR m) {i : Nat} (hi : i < m.row) :
    m.p[i]! ≤ m.p[i + 1]! ∧ m.p[i + 1]! ≤ m.j.size :=
  h.plast ▸ MonoTo.row_le h.pmono hi

/-- the pairs `(column, value)` stored at the positions `[lo, hi)` -/
def seg (j : Array Nat) (x : Array Q) (lo hi : Nat) : List (Nat × Q) :=
  (List.range' lo (hi - lo)).map (fun k => (j[k]!, x[k]!))

def pairVal (c : Nat) (a : Nat × Q) : Q := if a.1 = c then a.2 else 0

@[simp] theorem pairVal_self (c : Nat) (v : Q) : pairVal c (c, v) = v := if_pos rfl

theorem pairVal_ne {c k : Nat} (v : Q) (h : k ≠ c) : pairVal c (k, v) = 0 := if_neg h

@[simp] theorem pairVal_zero (c k : Nat) : pairVal c (k, (0 : Q)) = 0 := ite_self 0

theorem pairVal_add (c' c : Nat) (v w : Q) :
    pairVal c' (c, v + w) = pairVal c' (c, v) + pairVal c' (c, w) := by
  unfold pairVal; split <;> simp

/-- the entry of column `c` that a row denotes -/
def rowSum (c : Nat) (l : List (Nat × Q)) : Q := (l.map (pairVal c)).sum

/-- a row: strictly increasing columns, all below `col` -/
def RowOk (col : Nat) (l : List (Nat × Q)) : Prop :=
  l.Pairwise (fun a b => a.1 < b.1) ∧ ∀ a ∈ l, a.1 < col

def rowL (m : Mat) (i : Nat) : List (Nat × Q) := seg m.j m.x m.p[i]! m.p[i + 1]!

@[simp] theorem rowSum_nil (c : Nat) : rowSum c [] = 0 := rfl

@[simp] theorem rowSum_cons (c : Nat) (a : Nat × Q) (l : List (Nat × Q)) :
    rowSum c (a :: l) = pairVal c a + rowSum c l := by
  simp [rowSum]

@[simp] theorem rowSum_append (c : Nat) (l l' : List (Nat × Q)) :
    rowSum c (l ++ l') = rowSum c l + rowSum c l' := by
  simp [rowSum]

theorem rowSum_of_ne {c : Nat} {l : List (Nat × Q)} (h : ∀ a ∈ l, a.1 ≠ c) : rowSum c l = 0 := by
  induction l with
  | nil => rfl
  | cons a l ih =>
    rw [rowSum_cons, ih (fun b hb => h b (List.mem_cons_of_mem _ hb)), add_zero]
    exact if_neg (h a List.mem_cons_self)

theorem rowSum_perm {c : Nat} {l l' : List (Nat × Q)} (h : l.Perm l') : rowSum c l = rowSum c l' :=
  (h.map _).sum_eq

theorem seg_self (j : Array Nat) (x : Array Q) (lo : Nat) : seg j x lo lo = [] := by
  simp [seg]

theorem seg_length (j : Array Nat) (x : Array Q) (lo hi : Nat) : (seg j x lo hi).length = hi - lo := by
  simp [seg]

theorem seg_cons {j : Array Nat} {x : Array Q} {lo hi : Nat} (h : lo < hi) :
    seg j x lo hi = (j[lo]!, x[lo]!) :: seg j x (lo + 1) hi := by
  unfold seg
  rw [show hi - lo = (hi - (lo + 1)) + 1 by omega, List.range'_succ, List.map_cons]

theorem seg_append {j : Array Nat} {x : Array Q} {lo hi : Nat} (k : Nat) (h1 : lo ≤ k) (h2 : k ≤ hi) :
    seg j x lo hi = seg j x lo k ++ seg j x k hi := by
  unfold seg
  rw [← List.map_append, show hi - lo = (k - lo) + (hi - k) by omega, ← List.range'_append_1,
    Nat.add_sub_cancel' h1]

theorem seg_cons_written {j j' : Array Nat} {x x' : Array Q} {n hi a : Nat} {v : Q}
    (hj : n < j.size) (hx : n < x.size) (h : n < hi)
    (keep : j'[n]! = (j.set n a hj)[n]! ∧ x'[n]! = (x.set n v hx)[n]!) :
    seg j' x' n hi = (a, v) :: seg j' x' (n + 1) hi := by
  rw [seg_cons h, keep.1, keep.2, set_get!_eq, set_get!_eq]

theorem seg_snoc {j : Array Nat} {x : Array Q} {lo hi : Nat} (h : lo ≤ hi) :
    seg j x lo (hi + 1) = seg j x lo hi ++ [(j[hi]!, x[hi]!)] := by
  rw [seg_append hi h (Nat.le_succ hi), seg_cons (Nat.lt_succ_self hi), seg_self]

theorem mem_seg {j : Array Nat} {x : Array Q} {lo hi : Nat} {a : Nat × Q} :
    a ∈ seg j x lo hi ↔ ∃ k, lo ≤ k ∧ k < hi ∧ (j[k]!, x[k]!) = a := by
  simp only [seg, List.mem_map, List.mem_range'_1]
  constructor
  · rintro ⟨k, ⟨h1, h2⟩, rfl⟩; exact ⟨k, h1, by omega, rfl⟩
  · rintro ⟨k, h1, h2, rfl⟩; exact ⟨k, ⟨h1, by omega⟩, rfl⟩

theorem forall_mem_seg {j : Array Nat} {x : Array Q} {lo hi : Nat} {P : Nat × Q → Prop} :
    (∀ a ∈ seg j x lo hi, P a) ↔ ∀ k, lo ≤ k → k < hi → P (j[k]!, x[k]!) :=
  ⟨fun h k h1 h2 => h _ (mem_seg.mpr ⟨k, h1, h2, rfl⟩), fun h a ha => by
    obtain ⟨k, h1, h2, rfl⟩ := mem_seg.mp ha; exact h k h1 h2⟩

theorem seg_shift {j j' : Array Nat} {x x' : Array Q} {lo hi : Nat} (d d' : Nat)
    (h : ∀ k, lo ≤ k → k < hi → j'[k + d']! = j[k + d]! ∧ x'[k + d']! = x[k + d]!) :
    seg j' x' (lo + d') (hi + d') = seg j x (lo + d) (hi + d) := by
  unfold seg
  rw [Nat.add_sub_add_right, Nat.add_sub_add_right, Nat.add_comm lo d', Nat.add_comm lo d,
    ← List.map_add_range', ← List.map_add_range', List.map_map, List.map_map]
  refine List.map_congr_left (fun k hk => ?_)
  obtain ⟨h1, h2⟩ := List.mem_range'_1.mp hk
  obtain ⟨e1, e2⟩ := h k h1 (by omega)
  show (j'[d' + k]!, x'[d' + k]!) = (j[d + k]!, x[d + k]!)
  rw [Nat.add_comm d' k, Nat.add_comm d k, e1, e2]

theorem seg_congr {j j' : Array Nat} {x x' : Array Q} {lo hi : Nat}
    (h : ∀ k, lo ≤ k → k < hi → j'[k]! = j[k]! ∧ x'[k]! = x[k]!) :
    seg j' x' lo hi = seg j x lo hi :=
  seg_shift 0 0 h

theorem cellOf_eq_pairVal (j : Array Nat) (x : Array Q) (c k : Nat) :
    cellOf j x c k = pairVal c (j[k]!, x[k]!) := rfl

theorem sum_cell_seg (j : Array Nat) (x : Array Q) (c lo hi : Nat) :
    ∑ k ∈ Ico lo hi, cellOf j x c k = rowSum c (seg j x lo hi) := by
  by_cases h : lo ≤ hi
  · induction hi, h using Nat.le_induction with
    | base => rw [Finset.Ico_self, Finset.sum_empty, seg_self, rowSum_nil]
    | succ hi h ih =>
      rw [Finset.sum_Ico_succ_top h, ih, seg_snoc h, rowSum_append, rowSum_cons, rowSum_nil, add_zero,
        cellOf_eq_pairVal]
  · rw [Finset.Ico_eq_empty (fun h' => h (Nat.le_of_lt h')), Finset.sum_empty, seg,
      Nat.sub_eq_zero_of_le (Nat.le_of_not_ge h)]
    rfl

theorem dense_eq_rowSum (m : Mat) (i c : Nat) : dense m i c = rowSum c (rowL m i) :=
  sum_cell_seg ..

theorem pairwise_seg {j : Array Nat} {x : Array Q} {lo hi : Nat} {R : Nat → Nat → Prop} :
    (seg j x lo hi).Pairwise (fun a b => R a.1 b.1) ↔
      ∀ a b, lo ≤ a → a < b → b < hi → R j[a]! j[b]! := by
  unfold seg
  rw [List.pairwise_map, List.pairwise_iff_getElem]
  simp only [List.length_range', List.getElem_range', Nat.one_mul]
  constructor
  · intro h a b ha hab hb
    have := h (a - lo) (b - lo) (by omega) (by omega) (by omega)
    rwa [Nat.add_sub_cancel' ha, Nat.add_sub_cancel' (by omega : lo ≤ b)] at this
  · intro h a b ha hb hab
    exact h _ _ (Nat.le_add_right _ _) (by omega) (by omega)

theorem sortedOn_iff {j : Array Nat} {x : Array Q} {lo hi : Nat} :
    SortedOn j lo hi ↔ (seg j x lo hi).Pairwise (fun a b => a.1 < b.1) :=
  pairwise_seg.symm

theorem RowOk.sublist {col : Nat} {l l' : List (Nat × Q)} (h : RowOk col l) (hs : l'.Sublist l) :
    RowOk col l' :=
  ⟨h.1.sublist hs, fun a ha => h.2 a (hs.subset ha)⟩

theorem CanonCSR.rowOk {m : Mat} (h : CanonCSR m) {i : Nat} (hi : i < m.row) :
    RowOk m.col (rowL m i) :=
  ⟨sortedOn_iff.mp (h.sorted i hi),
    forall_mem_seg.mpr fun k _ hk => h.jlt k (Nat.lt_of_lt_of_le hk (h.row_le hi).2)⟩

theorem find_segment (s : Nat → Nat) (h0 : s 0 = 0) :
    ∀ n k, k < s n → ∃ c, c < n ∧ s c ≤ k ∧ k < s (c + 1) := by
  intro n
  induction n with
  | zero => intro k hk; omega
  | succ n ih =>
    intro k hk
    by_cases h : k < s n
    · obtain ⟨c, h1, h2, h3⟩ := ih k h
      exact ⟨c, by omega, h2, h3⟩
    · exact ⟨n, by omega, by omega, hk⟩

theorem CanonCSR.of_rows {m : Mat} (psize : m.p.size = m.row + 1) (xsize : m.x.size = m.j.size)
    (p0 : m.p[0]! = 0) (plast : m.p[m.row]! = m.j.size)
    (pmono : MonoTo m.p m.row)
    (rows : ∀ i, i < m.row → RowOk m.col (rowL m i)) : CanonCSR m :=
  { psize := psize, xsize := xsize, p0 := p0, plast := plast, pmono := pmono,
    sorted := fun i hi => sortedOn_iff.mpr (rows i hi).1,
    jlt := fun k hk => by
      obtain ⟨i, h1, h2, h3⟩ := find_segment (fun r => m.p[r]!) p0 m.row k (by rw [plast]; exact hk)
      exact (rows i h1).2 _ (mem_seg.mpr ⟨k, h2, h3, rfl⟩) }

end SymVerif.C25
