import SymVerif.Lemmas.C27Sem

/-! Interval with Interval: intersection, union, complement. -/
namespace SymVerif.Sets

/-- the left end of `Interval::set_intersection`: the larger start, the flags joined when the starts agree -/
theorem ivInter_left (s1 s2 : ENum) (lo1 lo2 : Bool) (x : ENum) :
    ((if ¬s1 = s2 then if s1 = min s1 s2 then s2 else s1 else s1) < x ∨
        (if ¬s1 = s2 then if s1 = min s1 s2 then s2 else s1 else s1) = x ∧
          (if ¬s1 = s2 then if s1 = min s1 s2 then lo2 else lo1 else lo1 || lo2) = false) ↔
      ((s1 < x ∨ s1 = x ∧ lo1 = false) ∧ (s2 < x ∨ s2 = x ∧ lo2 = false)) := by
  rcases lt_trichotomy s1 s2 with h | rfl | h
  · simp only [h.ne, not_false_eq_true, if_true, min_eq_left h.le]
    exact (and_iff_right_of_imp fun hl => Or.inl (hl.elim h.trans fun hl => hl.1 ▸ h)).symm
  · simp only [not_true_eq_false, if_false, Bool.or_eq_false_iff]
    rw [← or_and_left, and_and_left]
  · simp only [h.ne', not_false_eq_true, if_true, min_eq_right h.le, if_false]
    exact (and_iff_left_of_imp fun hl => Or.inl (hl.elim h.trans fun hl => hl.1 ▸ h)).symm

theorem ivInter_right (e1 e2 : ENum) (ro1 ro2 : Bool) (x : ENum) :
    ((x < if ¬e1 = e2 then if e1 = min e1 e2 then e1 else e2 else e1) ∨
        (if ¬e1 = e2 then if e1 = min e1 e2 then e1 else e2 else e1) = x ∧
          (if ¬e1 = e2 then if e1 = min e1 e2 then ro1 else ro2 else ro1 || ro2) = false) ↔
      ((x < e1 ∨ e1 = x ∧ ro1 = false) ∧ (x < e2 ∨ e2 = x ∧ ro2 = false)) := by
  rcases lt_trichotomy e1 e2 with h | rfl | h
  · simp only [h.ne, not_false_eq_true, if_true, min_eq_left h.le]
    exact (and_iff_left_of_imp fun hl => Or.inl (hl.elim (fun hl => hl.trans h) fun hl => hl.1 ▸ h)).symm
  · simp only [not_true_eq_false, if_false, Bool.or_eq_false_iff]
    rw [← or_and_left, and_and_left]
  · simp only [h.ne', not_false_eq_true, if_true, min_eq_right h.le, if_false]
    exact (and_iff_right_of_imp fun hl => Or.inl (hl.elim (fun hl => hl.trans h) fun hl => hl.1 ▸ h)).symm

theorem ivInterIv_mem (s1 e1 : ENum) (lo1 ro1 : Bool) (s2 e2 : ENum) (lo2 ro2 : Bool) (q : ℚ) :
    mem (ivInterIv s1 e1 lo1 ro1 s2 e2 lo2 ro2) q ↔ (memIv s1 e1 lo1 ro1 q ∧ memIv s2 e2 lo2 ro2 q) := by
  unfold ivInterIv
  simp only [ENum.min2_eq, Bool.and_eq_true, beq_iff_eq, bne_iff_ne, ne_eq]
  split
  · rw [mem_interval]
    unfold memIv
    rw [ivInter_left, ivInter_right]
    exact and_and_and_comm
  · rename_i hc
    exact ⟨False.elim, fun ⟨h1, h2⟩ => hc ⟨(min_eq_left (h1.lb.trans h2.ub)).symm,
      (min_eq_right (h2.lb.trans h1.ub)).symm⟩⟩
theorem ivInterIv_WF {s1 e1 : ENum} {lo1 ro1 : Bool} {s2 e2 : ENum} {lo2 ro2 : Bool} :
    WF (ivInterIv s1 e1 lo1 ro1 s2 e2 lo2 ro2) :=
  iteInduction (fun _ => WF_interval) fun _ => trivial

theorem ivUnionIv_ok (s1 e1 : ENum) (lo1 ro1 : Bool) (s2 e2 : ENum) (lo2 ro2 : Bool)
    (h1 : s1 < e1) (h2 : s2 < e2) :
    Den (ivUnionIv s1 e1 lo1 ro1 s2 e2 lo2 ro2) fun q => memIv s1 e1 lo1 ro1 q ∨ memIv s2 e2 lo2 ro2 q := by
  unfold ivUnionIv ivUnionIvWith
  simp only [ENum.min2_eq, ENum.max2_eq, Bool.and_eq_true, Bool.or_eq_true, beq_iff_eq,
    Bool.not_true, Bool.or_false, Bool.not_eq_eq_eq_not]
  split
  · exact pairAny_ok makeUnion_ok (a := .iv s1 e1 lo1 ro1) (b := .iv s2 e2 lo2 ro2) h1 h2
  · -- the test for "apart" has failed: `max s1 s2 < min e1 e2`, or they are equal and that point belongs to one of the
    -- two; then the hull, with the flags of the outer ends, is the union
    refine Den.ok (WF_interval) fun q => ?_
    rw [mem_interval]
    unfold memIv
    grind

/-- the two intervals have a common point (possibly an infinite one) -/
def ivMeet (s1 e1 : ENum) (lo1 ro1 : Bool) (s2 e2 : ENum) (lo2 ro2 : Bool) : Prop :=
  (s1 < e2 ∨ (s1 = e2 ∧ lo1 = false ∧ ro2 = false)) ∧ (s2 < e1 ∨ (s2 = e1 ∧ lo2 = false ∧ ro1 = false))

/-- the pieces of `other \ this` when the two intervals meet -/
theorem ivComplPieces_mem (s1 e1 : ENum) (lo1 ro1 : Bool) (s2 e2 : ENum) (lo2 ro2 : Bool)
    (h1 : s1 < e1) (h2 : s2 < e2) (q : ℚ) (hm : ivMeet s1 e1 lo1 ro1 s2 e2 lo2 ro2) :
    memAny (ivComplPieces s1 e1 lo1 ro1 s2 e2 lo2 ro2) q ↔
      (memIv s2 e2 lo2 ro2 q ∧ ¬ memIv s1 e1 lo1 ro1 q) := by
  unfold ivComplPieces
  unfold ivMeet at hm
  simp only [ENum.min2_eq, ENum.max2_eq, beq_iff_eq]
  rw [memAny_iff]
  simp only [mem_mkSS, List.mem_append]
  split <;> split <;>
    simp only [List.mem_cons, List.not_mem_nil, or_false, false_or, exists_eq_left, exists_eq_or_imp,
      mem_interval, or_self, false_and, exists_false]
  -- by the pieces that exist: `[s2, s1)` when `s2 ≤ s1`, `(e1, e2]` when `e1 ≤ e2`; with one piece only, `hm` excludes
  -- that the second interval lies apart on the other side
  · show memIv s2 s1 lo2 (!lo1) q ∨ memIv e1 e2 (!ro1) ro2 q ↔ _
    unfold memIv; grind
  · show memIv s2 s1 lo2 (!lo1) q ↔ _
    unfold memIv; grind
  · show memIv e1 e2 (!ro1) ro2 q ↔ _
    unfold memIv; grind
  · -- no piece: the second interval lies inside the first
    show False ↔ _
    unfold memIv; grind

theorem ivComplPieces_WFL {s1 e1 : ENum} {lo1 ro1 : Bool} {s2 e2 : ENum} {lo2 ro2 : Bool} :
    WFL (ivComplPieces s1 e1 lo1 ro1 s2 e2 lo2 ro2) := by
  rw [WFL_iff]
  intro x hx
  unfold ivComplPieces at hx
  rw [mem_mkSS] at hx
  simp only [List.mem_append] at hx
  rcases hx with hx | hx <;> split at hx <;> simp at hx <;> subst hx <;> exact WF_interval

theorem interval_ne_empty (s e : ENum) (lo ro : Bool) (h : interval s e lo ro ≠ .empty) :
    s < e ∨ (s = e ∧ lo = false ∧ ro = false) := by
  rcases interval_answers s e lo ro with ⟨h', _⟩ | ⟨h', _⟩ | ⟨_, _, hi⟩
  exacts [Or.inl h', Or.inr h', absurd hi h]

theorem ivInterIv_ne_empty {s1 e1 : ENum} {lo1 ro1 : Bool} {s2 e2 : ENum} {lo2 ro2 : Bool}
    (h : ivInterIv s1 e1 lo1 ro1 s2 e2 lo2 ro2 ≠ .empty) : ivMeet s1 e1 lo1 ro1 s2 e2 lo2 ro2 := by
  unfold ivInterIv at h
  dsimp only at h
  split at h
  · rename_i hc
    have := interval_ne_empty _ _ _ _ h
    simp only [ENum.min2_eq, Bool.and_eq_true, beq_iff_eq, bne_iff_ne, ne_eq] at hc this
    -- `hc`: `s1 ≤ e2`, `s2 ≤ e1`.  If `s1 = e2` then start = `max s1 s2` ≥ `min e1 e2` = end, so by `this` the
    -- intersection is the closed point and `lo1 = ro2 = false`; likewise for `s2 = e1`
    unfold ivMeet
    grind
  · exact absurd rfl h

end SymVerif.Sets
