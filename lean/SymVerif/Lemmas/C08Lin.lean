import SymVerif.Model.Funcs
import SymVerif.Lemmas.Basic
import Mathlib.Data.Rat.Cast.CharZero
import Mathlib.Algebra.BigOperators.Group.List.Basic
import Mathlib.Tactic.Ring
import Mathlib.Tactic.Linarith
/-!
C08: value of a linear form under a valuation of its atoms, and the value-level meaning of the
operations `neg`, `dropPi`, `addPi`, `getPiShift`, `handleMinus` of `Model/Funcs.lean`.
Everything is stated over an arbitrary field `K` of characteristic 0 with a distinguished element
`pi` (instantiated at ℂ and ℝ in `Props/C08.lean`).  `Lin.wf` (at most one `pi` entry) is a hypothesis throughout:
`toLin` does not give it, the driver tests it before calling `trigCtor`.
Claimed theorem of the property, at the end of the file: `C08.get_pi_shift_sound`.
-/
set_option linter.unusedSectionVars false
namespace SymVerif.Funcs
open SymVerif

variable {K : Type} [Field K] [CharZero K]

/-- value of an atom: `pi` is the distinguished element, every other atom is looked up -/
def atomVal (ρ : Expr → K) (pi : K) (k : Expr) : K := if isPi k then pi else ρ k

def termVal (ρ : Expr → K) (pi : K) (p : Expr × Rat) : K := (p.2 : K) * atomVal ρ pi p.1

def sumTs (ρ : Expr → K) (pi : K) (ts : List (Expr × Rat)) : K := (ts.map (termVal ρ pi)).sum

def Lin.eval (ρ : Expr → K) (pi : K) (l : Lin) : K := (l.c : K) + sumTs ρ pi l.ts

@[simp] theorem sumTs_nil (ρ : Expr → K) (pi : K) : sumTs ρ pi [] = 0 := by simp [sumTs]
@[simp] theorem sumTs_cons (ρ : Expr → K) (pi : K) (a) (t) :
    sumTs ρ pi (a :: t) = termVal ρ pi a + sumTs ρ pi t := by simp [sumTs]
theorem sumTs_append (ρ : Expr → K) (pi : K) (s t) :
    sumTs ρ pi (s ++ t) = sumTs ρ pi s + sumTs ρ pi t := by simp [sumTs]

theorem isPi_piE : isPi piE = true := by decide

theorem Lin.eval_zero (ρ : Expr → K) (pi : K) : Lin.zero.eval ρ pi = 0 := by
  simp [Lin.eval, Lin.zero]

theorem Lin.eval_of_isZero {ρ : Expr → K} {pi : K} {l : Lin} (h : l.isZero = true) : l.eval ρ pi = 0 := by
  simp only [Lin.isZero, Bool.and_eq_true, beq_iff_eq, List.isEmpty_iff] at h
  simp [Lin.eval, h.1, h.2]

theorem sumTs_neg (ρ : Expr → K) (pi : K) (ts : List (Expr × Rat)) :
    sumTs ρ pi (ts.map fun p => (p.1, -p.2)) = - sumTs ρ pi ts := by
  induction ts with
  | nil => simp
  | cons a t ih => simp [ih, termVal]; ring

theorem Lin.eval_neg (ρ : Expr → K) (pi : K) (l : Lin) : l.neg.eval ρ pi = - l.eval ρ pi := by
  simp only [Lin.eval, Lin.neg, sumTs_neg]; push_cast; ring

theorem Lin.isZero_neg (l : Lin) : l.neg.isZero = l.isZero := by
  have h : (-l.c == 0) = (l.c == 0) := by
    rw [Bool.eq_iff_iff]; simp [neg_eq_zero]
  simp [Lin.isZero, Lin.neg, h]

abbrev isPiP : Expr × Rat → Bool := fun p => isPi p.1

theorem sumTs_split (ρ : Expr → K) (pi : K) (ts : List (Expr × Rat)) :
    sumTs ρ pi ts = sumTs ρ pi (ts.filter isPiP) + sumTs ρ pi (ts.filter (fun p => !isPi p.1)) := by
  have := List.sum_map_filter_add_sum_map_filter_not (fun p : Expr × Rat => isPi p.1 = true) (termVal ρ pi) ts
  simpa [sumTs, isPiP] using this.symm

theorem filter_of_find_some {α} (P : α → Bool) (ts : List α) (x : α) (h : ts.find? P = some x)
    (hl : (ts.filter P).length ≤ 1) : ts.filter P = [x] := by
  induction ts with
  | nil => simp at h
  | cons a t ih =>
    by_cases hp : P a = true
    · simp only [List.find?_cons, hp] at h
      cases h
      simp only [List.filter_cons, hp, if_true, List.length_cons] at hl ⊢
      have : (t.filter P).length = 0 := by omega
      rw [List.length_eq_zero_iff] at this
      rw [this]
    · have hp' : P a = false := by simpa using hp
      simp only [List.find?_cons, hp'] at h
      simp only [List.filter_cons, hp'] at hl ⊢
      exact ih h hl

theorem Lin.wf_iff (l : Lin) : l.wf = true ↔ (l.ts.filter isPiP).length ≤ 1 := by
  simp [Lin.wf]

theorem piCoef_some {l : Lin} {n : Rat} (h : l.piCoef = some n) (hw : l.wf = true) :
    ∃ k, isPi k = true ∧ l.ts.filter isPiP = [(k, n)] := by
  simp only [Lin.piCoef, Option.map_eq_some_iff] at h
  obtain ⟨⟨k, n'⟩, hf, hn⟩ := h
  simp at hn; subst hn
  refine ⟨k, ?_, filter_of_find_some isPiP l.ts (k, n') hf (l.wf_iff.mp hw)⟩
  have := List.find?_some hf
  simpa using this

theorem piCoef_none {l : Lin} (h : l.piCoef = none) : l.ts.filter isPiP = [] := by
  simp only [Lin.piCoef, Option.map_eq_none_iff] at h
  exact List.filter_eq_nil_iff.mpr fun a ha => by simpa using List.find?_eq_none.mp h a ha

theorem dropPi_filter (l : Lin) : l.dropPi.ts.filter isPiP = [] := by
  rw [List.filter_eq_nil_iff]
  intro a ha
  simp only [Lin.dropPi, List.mem_filter] at ha
  simpa using ha.2

theorem dropPi_wf (l : Lin) : l.dropPi.wf = true := by
  rw [Lin.wf_iff, dropPi_filter]; simp

theorem eval_dropPi_of_some (ρ : Expr → K) (pi : K) {l : Lin} {n : Rat} (h : l.piCoef = some n)
    (hw : l.wf = true) : l.eval ρ pi = l.dropPi.eval ρ pi + (n : K) * pi := by
  obtain ⟨k, hk, hf⟩ := piCoef_some h hw
  simp only [Lin.eval, Lin.dropPi]
  rw [sumTs_split ρ pi l.ts, hf]
  simp [termVal, atomVal, hk]; ring

theorem eval_dropPi_of_none (ρ : Expr → K) (pi : K) {l : Lin} (h : l.piCoef = none) :
    l.dropPi.eval ρ pi = l.eval ρ pi := by
  simp only [Lin.eval, Lin.dropPi]
  rw [sumTs_split ρ pi l.ts, piCoef_none h]
  simp

theorem getPiShift_isZero {l r : Lin} {n : Rat} (h : getPiShift l = some (n, r)) (hz : l.isZero = true) :
    n = 0 ∧ r = l := by
  unfold getPiShift at h
  have : l.piCoef = none := by
    simp only [Lin.isZero, Bool.and_eq_true, beq_iff_eq, List.isEmpty_iff] at hz
    simp [Lin.piCoef, hz.2]
  simp only [this, hz, if_true] at h
  cases h
  exact ⟨rfl, rfl⟩

theorem sumTs_mapPi (ρ : Expr → K) (pi : K) (q : Rat) (ts : List (Expr × Rat)) :
    sumTs ρ pi (ts.map fun kv => if isPi kv.1 then (kv.1, kv.2 + q) else kv)
      = sumTs ρ pi ts + ((ts.filter isPiP).length : K) * ((q : K) * pi) := by
  induction ts with
  | nil => simp
  | cons a t ih =>
    by_cases h : isPi a.1 = true
    · simp [h, ih, termVal, atomVal]; ring
    · simp [h, ih]; ring

theorem filter_isPi_map_length (f : Expr × Rat → Expr × Rat) (hf : ∀ p, (f p).1 = p.1) (ts : List (Expr × Rat)) :
    ((ts.map f).filter isPiP).length = (ts.filter isPiP).length := by
  rw [List.filter_map, List.length_map]
  congr 2
  funext p
  simp only [Function.comp, isPiP, hf]

theorem addPi_sound (ρ : Expr → K) (pi : K) (l : Lin) (q : Rat) (hw : l.wf = true) :
    (l.addPi q).eval ρ pi = l.eval ρ pi + (q : K) * pi ∧ (l.addPi q).wf = true := by
  unfold Lin.addPi
  split
  · rename_i hq
    have : q = 0 := by simpa using hq
    subst this
    simp [hw]
  · split
    · -- no pi entry: one is appended
      rename_i hp
      have hf := piCoef_none hp
      constructor
      · simp only [Lin.eval, sumTs_append, sumTs_cons, sumTs_nil, termVal, atomVal, isPi_piE, if_true]
        ring
      · rw [Lin.wf_iff]
        simp only [List.filter_append, hf, List.nil_append]
        exact (List.length_filter_le _ _).trans (by simp)
    · rename_i p hp
      split
      · -- the pi entry cancels: dropPi
        rename_i hpq
        refine ⟨?_, dropPi_wf l⟩
        have e := eval_dropPi_of_some ρ pi hp hw
        have hq' : (q : K) = -(p : K) := by
          have h0 : p + q = 0 := by simpa using hpq
          have h1 : q = -p := by linarith
          rw [h1]; push_cast; ring
        rw [e, hq']; ring
      · -- the pi entry is updated in place
        obtain ⟨k, hk, hf⟩ := piCoef_some hp hw
        constructor
        · simp only [Lin.eval]
          rw [sumTs_mapPi, hf]
          simp only [List.length_singleton, Nat.cast_one, one_mul]
          ring
        · rw [Lin.wf_iff]
          rw [filter_isPi_map_length _ fun p => by split <;> rfl]
          exact l.wf_iff.mp hw

theorem neg_wf (l : Lin) (hw : l.wf = true) : l.neg.wf = true := by
  rw [Lin.wf_iff] at hw ⊢
  exact (filter_isPi_map_length (fun p => (p.1, -p.2)) (fun _ => rfl) l.ts).trans_le hw

/-- the step both non-recursive arms of `handleMinus` take: ask `leadNeg`, negate iff it says so (the model writes
this block twice inline; `negIfLead` is the same term) -/
def negIfLead (order : List Expr) (l : Lin) : Except Err (Bool × Lin) := do
  let b ← leadNeg order l
  pure (if b then (true, l.neg) else (false, l))

theorem negIfLead_sound (ρ : Expr → K) (pi : K) (order : List Expr) {l r : Lin} {b : Bool} (hw : l.wf = true)
    (h : negIfLead order l = .ok (b, r)) : r.eval ρ pi = (if b then -1 else 1) * l.eval ρ pi ∧ r.wf = true := by
  obtain ⟨bb, -, h⟩ := bind_eq_ok h
  cases bb <;> cases h
  · exact ⟨by simp, hw⟩
  · exact ⟨by simp [Lin.eval_neg], neg_wf l hw⟩

/-- the valuation gives an `Add` atom the value of the sum it stores -/
def Compositional (ρ : Expr → K) (pi : K) : Prop :=
  ∀ c ts inner, toLin (.add c ts) = some inner → ρ (.add c ts) = inner.eval ρ pi

/-- `handle_minus(arg, rarg)`: `rarg = -arg` when it returns true, `rarg = arg` otherwise -
for *every* dictionary order -/
theorem handleMinus_sound (ρ : Expr → K) (pi : K) (hρ : Compositional ρ pi) (order : List Expr) :
    ∀ (fuel : Nat) (l : Lin) (b : Bool) (r : Lin), l.wf = true → handleMinus order fuel l = .ok (b, r) →
      r.eval ρ pi = (if b then -1 else 1) * l.eval ρ pi ∧ r.wf = true := by
  intro fuel
  induction fuel with
  | zero => intro l b r _ h; simp [handleMinus] at h
  | succ fuel ih =>
    intro l b r hw h
    unfold handleMinus at h
    split at h
    · -- the argument is `q * (Add)`
      rename_i c ts q hc hts
      split at h
      · -- q = -1: the sign goes into the sum
        rename_i hq
        have hq' : q = -1 := by simpa using hq
        split at h
        · cases h
        · rename_i inner hin
          split at h
          · cases h
          · rename_i hwf
            have hwf' : inner.wf = true := by simpa using hwf
            obtain ⟨⟨b', r'⟩, hrec, h⟩ := bind_eq_ok h
            cases h
            obtain ⟨e1, w1⟩ := ih inner b' _ hwf' hrec
            refine ⟨?_, w1⟩
            -- the one use of `Compositional`: the Add atom has the value of the form it stores
            have hatom : ρ (.add c ts) = inner.eval ρ pi := hρ c ts inner hin
            have hc' : l.c = 0 := by simpa using hc
            have hts' : l.ts = [(.add c ts, -1)] := by rw [hts, hq']
            have hl : l.eval ρ pi = - inner.eval ρ pi := by
              rw [Lin.eval, hc', hts']
              simp [termVal, atomVal, isPi, hatom]
            rw [e1, hl]
            cases b' <;> simp
      · exact negIfLead_sound ρ pi order hw h
    · exact negIfLead_sound ρ pi order hw h

end SymVerif.Funcs

namespace SymVerif.C08
open SymVerif SymVerif.Funcs

variable {K : Type} [Field K] [CharZero K]

/-- `get_pi_shift`: `arg = x + n·pi` -/
theorem get_pi_shift_sound (ρ : Expr → K) (pi : K) {l r : Lin} {n : Rat} (h : getPiShift l = some (n, r))
    (hw : l.wf = true) : l.eval ρ pi = r.eval ρ pi + (n : K) * pi ∧ r.wf = true := by
  unfold getPiShift at h
  cases hp : l.piCoef with
  | some m =>
    simp only [hp] at h
    cases h
    exact ⟨eval_dropPi_of_some ρ pi hp hw, dropPi_wf l⟩
  | none =>
    simp only [hp] at h
    split at h
    · cases h
      simp [hw]
    · cases h

end SymVerif.C08
