import SymVerif.Lemmas.C23Div

/-!
C23: quotient / remainder / divmod, monic, gcd.  A lemma `X_wf_spec` is `X_spec` and `X_wf` in one statement.
-/
namespace SymVerif.C23
open Polynomial SymVerif.GF

variable {p : ℕ} [Fact p.Prime]

theorem prime_pos : 0 < p := (Fact.out : p.Prime).pos
theorem prime_one_lt : 1 < p := (Fact.out : p.Prime).one_lt

theorem invMod_mul_lc {l : Poly} (h : WF p l) (hne : l ≠ []) :
    ((invMod p (l.getLastD 0) : ℕ) : ZMod p) * ((l.getLastD 0 : ℕ) : ZMod p) = 1 := by
  rw [invMod_cast (getLastD_ne_zero_of_wf h hne)]
  exact inv_mul_cancel₀ (getLastD_ne_zero_of_wf h hne)

/-- multiplying all coefficients by a unit keeps the invariant -/
theorem wf_map {f : ℕ → ℕ} {c : ZMod p} (hc : c ≠ 0) (hf : ∀ x, ((f x : ℕ) : ZMod p) = c * x)
    (hr : ∀ x, f x < p) {a : Poly} (ha : WF p a) : WF p (a.map f) :=
  wf_map_of_eq_zero ha (fun x _ => hr x) fun x hx h =>
    cast_eq_zero_of_lt (ha.1 x hx) ((mul_eq_zero.1 ((hf x).symm.trans (by rw [h, Nat.cast_zero]))).resolve_left hc)

theorem wf_map_mul_right {a : Poly} (ha : WF p a) (u : ℕ) (hu : (u : ZMod p) ≠ 0) :
    WF p (a.map (fun x => x * u % p)) :=
  wf_map hu (fun x => by rw [ZMod.natCast_mod, Nat.cast_mul, mul_comm]) (fun _ => Nat.mod_lt _ prime_pos) ha

theorem wf_map_mul_left {a : Poly} (ha : WF p a) (u : ℕ) (hu : (u : ZMod p) ≠ 0) :
    WF p (a.map (fun x => u * x % p)) :=
  wf_map hu (fun x => by rw [ZMod.natCast_mod, Nat.cast_mul]) (fun _ => Nat.mod_lt _ prime_pos) ha

omit [Fact p.Prime] in
/-- the `.map (· % p)` of `divmod` (`gf_div` returns through `from_vec`) is the identity on reduced vectors -/
theorem map_mod_of_red {l : Poly} (h : Red p l) : l.map (· % p) = l := by
  induction l with
  | nil => rfl
  | cons x l ih =>
    simp only [List.map_cons]
    rw [Nat.mod_eq_of_lt (h x (by simp)), ih (fun y hy => h y (List.mem_cons_of_mem _ hy))]

omit [Fact p.Prime] in
theorem length_eq_degree_succ {l : Poly} (h : l ≠ []) : l.length = GF.degree l + 1 := by
  have := List.length_pos_iff.mpr h; unfold GF.degree; omega

omit [Fact p.Prime] in
theorem Red.take {l : Poly} (h : Red p l) (k : ℕ) : Red p (l.take k) := fun x hx => h x (List.mem_of_mem_take hx)
omit [Fact p.Prime] in
theorem Red.drop {l : Poly} (h : Red p l) (k : ℕ) : Red p (l.drop k) := fun x hx => h x (List.mem_of_mem_drop hx)

theorem divOut_spec {a b : Poly} (hb : WF p b) (ha0 : a ≠ []) (hb0 : b ≠ []) :
    Red p (divOut p a b) ∧
      toPoly p a = toPoly p ((divOut p a b).drop (GF.degree b)) * toPoly p b
        + toPoly p ((divOut p a b).take (GF.degree b)) := by
  have hal := length_eq_degree_succ ha0
  have hinv : ((invMod p (b.getLastD 0) : ℕ) : ZMod p) * ((b.getD (GF.degree b) 0 : ℕ) : ZMod p) = 1 := by
    rw [GF.degree, getD_length_sub_one]; exact invMod_mul_lc hb hb0
  have hloop : divOut p a b
      = divLoopL p a b (invMod p (b.getLastD 0)) (GF.degree a) (GF.degree b) (GF.degree a + 1) [] := by
    have := divLoop_eq (p := p) a b (invMod p (b.getLastD 0)) (GF.degree a) (GF.degree b) hal (GF.degree a + 1) []
      (Nat.zero_add _)
    rwa [List.append_nil, List.take_of_length_le (by omega)] at this
  rw [hloop]
  exact divLoopL_spec _ _ _ _ _ prime_pos (length_eq_degree_succ hb0) hal hinv

/-- `operator/=` and `operator%=` -/
theorem quo_rem_wf_spec {a b : Poly} (ha : WF p a) (hb : WF p b) (hb0 : b ≠ []) :
    toPoly p a = toPoly p (quo p a b) * toPoly p b + toPoly p (rem p a b) ∧
      WF p (quo p a b) ∧ WF p (rem p a b) := by
  have e : ¬ b.isEmpty = true := fun h => hb0 (List.isEmpty_iff.mp h)
  rw [quo, rem, if_neg e, if_neg e]
  by_cases h1 : a.isEmpty
  · rw [if_pos h1, if_pos h1, List.isEmpty_iff.mp h1, toPoly_nil, zero_mul, zero_add]
    exact ⟨rfl, wf_nil, wf_nil⟩
  · rw [if_neg h1, if_neg h1]
    have ha0 : a ≠ [] := fun h => h1 (List.isEmpty_iff.mpr h)
    by_cases h2 : b.length == 1
    · -- the shortcut of `operator/=`, `operator%=` for a constant divisor (scale by the inverse, remainder 0, no loop);
      -- `gf_div` has none, so `divmod` runs the loop with `m = 0`
      rw [if_pos h2, if_pos h2]
      obtain ⟨c, rfl⟩ : ∃ c, b = [c] := List.length_eq_one_iff.1 (beq_iff_eq.1 h2)
      have hi : ((invMod p c : ℕ) : ZMod p) * (c : ZMod p) = 1 := invMod_mul_lc hb hb0
      have hu : ((invMod p c : ℕ) : ZMod p) ≠ 0 := left_ne_zero_of_mul_eq_one hi
      refine ⟨?_, wf_map_mul_right ha _ hu, wf_nil⟩
      show toPoly p a = toPoly p (a.map (fun x => x * invMod p c % p)) * toPoly p [c] + toPoly p []
      rw [toPoly_map_mul_right, toPoly_cons, toPoly_nil, mul_zero, add_zero, add_zero,
        mul_comm (C _) (toPoly p a), mul_assoc, ← C_mul, hi, C_1, mul_one]
    · rw [if_neg h2, if_neg h2]
      by_cases h3 : GF.degree a < GF.degree b
      · rw [if_pos h3, if_pos h3, toPoly_nil, zero_mul, zero_add]
        exact ⟨rfl, wf_nil, ha⟩
      · rw [if_neg h3, if_neg h3]
        obtain ⟨hr, hspec⟩ := divOut_spec hb ha0 hb0
        rw [toPoly_strip, toPoly_strip]
        exact ⟨hspec, wf_strip (hr.drop _), wf_strip (hr.take _)⟩

theorem toPoly_quo_rem {a b : Poly} (ha : WF p a) (hb : WF p b) (hb0 : b ≠ []) :
    toPoly p a = toPoly p (quo p a b) * toPoly p b + toPoly p (rem p a b) := (quo_rem_wf_spec ha hb hb0).1
-- `quo_wf`, `rem_wf` are results of props/c23.py: each statement is written out whole, its `[Fact p.Prime]` included
omit [Fact p.Prime] in
theorem quo_wf [Fact p.Prime] {a b : Poly} (ha : WF p a) (hb : WF p b) (hb0 : b ≠ []) : WF p (quo p a b) :=
  (quo_rem_wf_spec ha hb hb0).2.1
omit [Fact p.Prime] in
theorem rem_wf [Fact p.Prime] {a b : Poly} (ha : WF p a) (hb : WF p b) (hb0 : b ≠ []) : WF p (rem p a b) :=
  (quo_rem_wf_spec ha hb hb0).2.2

omit [Fact p.Prime] in
theorem degree_lt_of_length_lt {r b : Poly} (hr : WF p r) (hb : WF p b) (h : r.length < b.length) :
    (toPoly p r).degree < (toPoly p b).degree := by
  have hb0 : b ≠ [] := by intro e; simp [e] at h
  have hB : toPoly p b ≠ 0 := fun e => hb0 ((toPoly_eq_zero_iff hb).mp e)
  by_cases hr0 : r = []
  · subst hr0
    simp only [toPoly_nil, degree_zero]
    exact bot_lt_iff_ne_bot.mpr (fun e => hB (degree_eq_bot.mp e))
  · have hR : toPoly p r ≠ 0 := fun e => hr0 ((toPoly_eq_zero_iff hr).mp e)
    rw [degree_eq_natDegree hR, degree_eq_natDegree hB, natDegree_toPoly hr, natDegree_toPoly hb]
    have := List.length_pos_iff.mpr hr0
    exact_mod_cast (by omega : r.length - 1 < b.length - 1)

theorem degree_rem_lt {a b : Poly} (ha : WF p a) (hb : WF p b) (hb0 : b ≠ []) :
    (toPoly p (rem p a b)).degree < (toPoly p b).degree :=
  degree_lt_of_length_lt (rem_wf ha hb hb0) hb (rem_length_lt p a b hb0)

/-- `gf_div` -/
theorem divmod_wf_spec {a b : Poly} (ha : WF p a) (hb : WF p b) (hb0 : b ≠ []) :
    toPoly p a = toPoly p (divmod p a b).1 * toPoly p b + toPoly p (divmod p a b).2 ∧
      WF p (divmod p a b).1 ∧ WF p (divmod p a b).2 ∧ (divmod p a b).2.length < b.length := by
  have hbl := List.length_pos_iff.mpr hb0
  rw [divmod]
  by_cases h1 : a.isEmpty
  · rw [if_pos h1, List.isEmpty_iff.mp h1]
    exact ⟨by rw [toPoly_nil, zero_mul, zero_add], wf_nil, wf_nil, hbl⟩
  · rw [if_neg h1]
    have ha0 : a ≠ [] := fun h => h1 (List.isEmpty_iff.mpr h)
    by_cases h3 : GF.degree a < GF.degree b
    · rw [if_pos h3, map_mod_of_red ha.1, strip_of_wf ha]
      refine ⟨by rw [toPoly_nil, zero_mul, zero_add], wf_nil, ha, ?_⟩
      show a.length < b.length
      have := length_eq_degree_succ ha0
      have := length_eq_degree_succ hb0
      omega
    · rw [if_neg h3]
      obtain ⟨hr, hspec⟩ := divOut_spec hb ha0 hb0
      simp only
      rw [map_mod_of_red (hr.take _), map_mod_of_red (hr.drop _), toPoly_strip, toPoly_strip]
      refine ⟨hspec, wf_strip (hr.drop _), wf_strip (hr.take _), ?_⟩
      have := strip_length_le ((divOut p a b).take (GF.degree b))
      have := List.length_take_le (GF.degree b) (divOut p a b)
      have := length_eq_degree_succ hb0
      omega

/-- `operator%=` is `%` of `(ZMod p)[X]` -/
theorem toPoly_rem {a b : Poly} (ha : WF p a) (hb : WF p b) (hb0 : b ≠ []) :
    toPoly p (rem p a b) = toPoly p a % toPoly p b := by
  rw [← (mod_eq_self_iff (mt (toPoly_eq_zero_iff hb).mp hb0)).mpr (degree_rem_lt ha hb hb0)]
  refine (Polynomial.mod_eq_of_dvd_sub ?_).symm
  rw [toPoly_quo_rem ha hb hb0, add_sub_cancel_right]
  exact dvd_mul_left _ _

theorem rem_eq_nil_of_dvd {a b : Poly} (ha : WF p a) (hb : WF p b) (hb0 : b ≠ [])
    (hdvd : toPoly p b ∣ toPoly p a) : rem p a b = [] :=
  (toPoly_eq_zero_iff (rem_wf ha hb hb0)).mp
    ((toPoly_rem ha hb hb0).trans (EuclideanDomain.mod_eq_zero.mpr hdvd))

theorem quo_mul_of_dvd {a b : Poly} (ha : WF p a) (hb : WF p b) (hb0 : b ≠ [])
    (hdvd : toPoly p b ∣ toPoly p a) : toPoly p (quo p a b) * toPoly p b = toPoly p a := by
  have hspec := toPoly_quo_rem ha hb hb0
  rw [rem_eq_nil_of_dvd ha hb hb0 hdvd, toPoly_nil, add_zero] at hspec
  exact hspec.symm

omit [Fact p.Prime] in
theorem monic_nil : monic p [] = (0, []) := rfl

omit [Fact p.Prime] in
theorem monic_of_getLast? {a : Poly} {lc : ℕ} (h : a.getLast? = some lc) :
    monic p a = if lc != 1 then (lc, a.map (fun x => invMod p lc * x % p)) else (lc, a) := by
  rw [monic, h]

theorem monic_wf_spec {a : Poly} (ha : WF p a) (ha0 : a ≠ []) :
    (monic p a).1 = a.getLastD 0 ∧
    toPoly p (monic p a).2 = C (((a.getLastD 0 : ℕ) : ZMod p)⁻¹) * toPoly p a ∧
    WF p (monic p a).2 ∧ (toPoly p (monic p a).2).Monic ∧ (monic p a).2 ≠ [] := by
  have hlc := getLastD_ne_zero_of_wf ha ha0
  have hmonic : (C (((a.getLastD 0 : ℕ) : ZMod p)⁻¹) * toPoly p a).Monic := by
    rw [Monic, leadingCoeff_mul, leadingCoeff_C, leadingCoeff_toPoly ha]
    exact inv_mul_cancel₀ hlc
  obtain ⟨lc, hl⟩ := Option.ne_none_iff_exists'.1 (mt List.getLast?_eq_none_iff.1 ha0)
  have hlast : a.getLastD 0 = lc := by rw [List.getLastD_eq_getLast?, hl]; rfl
  rw [hlast] at hlc hmonic ⊢
  rw [monic_of_getLast? hl]
  by_cases h1 : lc = 1
  · rw [h1, Nat.cast_one, inv_one, C_1, one_mul] at hmonic ⊢
    exact ⟨rfl, rfl, ha, hmonic, ha0⟩
  · have hu : ((invMod p lc : ℕ) : ZMod p) ≠ 0 := by
      rw [invMod_cast hlc]; exact inv_ne_zero hlc
    have hval : toPoly p (a.map (fun x => invMod p lc * x % p)) = C ((lc : ZMod p)⁻¹) * toPoly p a := by
      rw [toPoly_map_mul_left, invMod_cast hlc]
    rw [if_pos (bne_iff_ne.2 h1)]
    exact ⟨rfl, hval, wf_map_mul_left ha _ hu, by rw [hval]; exact hmonic,
      fun h => ha0 (List.map_eq_nil_iff.1 h)⟩

omit [Fact p.Prime] in
theorem gcdLoop_nil (f : Poly) : gcdLoop p f [] = f := by rw [gcdLoop, dif_pos rfl]

/-- the Euclid loop of `gf_gcd` is `EuclideanDomain.gcd` (which recurses the same way, `gcd a b` on `(b % a, a)`: `gcd_val`;
    hence `g` first) -/
theorem gcdLoop_spec {f g : Poly} (hf : WF p f) (hg : WF p g) :
    WF p (gcdLoop p f g) ∧ toPoly p (gcdLoop p f g) = EuclideanDomain.gcd (toPoly p g) (toPoly p f) := by
  fun_induction gcdLoop p f g with
  | case1 f => exact ⟨hf, (EuclideanDomain.gcd_zero_left _).symm⟩
  | case2 f g hg0 ih =>
    obtain ⟨w, e⟩ := ih hg (rem_wf hf hg hg0)
    exact ⟨w, by rw [e, toPoly_rem hf hg hg0, ← EuclideanDomain.gcd_val]⟩

/-- `gf_gcd` -/
theorem gcd_wf_spec {f g : Poly} (hf : WF p f) (hg : WF p g) :
    WF p (GF.gcd p f g) ∧ toPoly p (GF.gcd p f g) ∣ toPoly p f ∧ toPoly p (GF.gcd p f g) ∣ toPoly p g ∧
    (∀ c, c ∣ toPoly p f → c ∣ toPoly p g → c ∣ toPoly p (GF.gcd p f g)) ∧
    ((f ≠ [] ∨ g ≠ []) → (toPoly p (GF.gcd p f g)).Monic ∧ GF.gcd p f g ≠ []) := by
  obtain ⟨h1, e⟩ := gcdLoop_spec hf hg
  unfold GF.gcd
  by_cases h0 : gcdLoop p f g = []
  · obtain ⟨hg0, hf0⟩ := EuclideanDomain.gcd_eq_zero_iff.mp (e.symm.trans (h0 ▸ toPoly_nil))
    obtain rfl := (toPoly_eq_zero_iff hf).mp hf0
    obtain rfl := (toPoly_eq_zero_iff hg).mp hg0
    rw [h0, monic_nil, toPoly_nil]
    exact ⟨wf_nil, dvd_refl _, dvd_refl _, fun c h _ => h, fun h => absurd rfl (h.elim id id)⟩
  · obtain ⟨_, m2, m3, m4, m5⟩ := monic_wf_spec h1 h0
    have hu : ((((gcdLoop p f g).getLastD 0 : ℕ) : ZMod p))⁻¹ ≠ 0 := inv_ne_zero (getLastD_ne_zero_of_wf h1 h0)
    rw [m2, e]  -- `e` has `gcd (toPoly g) (toPoly f)`: `f` takes `gcd_dvd_right`
    exact ⟨m3, (C_mul_dvd hu).mpr (EuclideanDomain.gcd_dvd_right _ _), (C_mul_dvd hu).mpr (EuclideanDomain.gcd_dvd_left _ _),
      fun c hcf hcg => (dvd_C_mul hu).mpr (EuclideanDomain.dvd_gcd hcg hcf), fun _ => ⟨e ▸ m2 ▸ m4, m5⟩⟩

/-- also for the empty divisor, where the model's total `rem` returns the dividend -/
theorem rem_wf_total {a m : Poly} (ha : WF p a) (hm : WF p m) : WF p (rem p a m) := by
  by_cases hm0 : m = []
  · rw [hm0]; exact ha
  · exact rem_wf ha hm hm0

end SymVerif.C23
