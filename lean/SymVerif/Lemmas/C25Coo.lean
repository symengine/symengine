import SymVerif.Lemmas.C25Basic
/-!
C25 — `CSRMatrix::from_coo`, part 1: the counting sort by row (count, cumulative sum, scatter,
shift).  The dense meaning of a coordinate list is `cooSum`: duplicates are summed.  The scatter is
a stable distribution: bucket `r` receives the pairs of the triples of row `r`, in their order
(`Buckets.put` is the one step, shared with the transposition).
-/
namespace SymVerif.C25
open SymVerif.CSR Finset

/-- what a coordinate list denotes at `(i, c)`: the sum of all triples there -/
def cooSum : List Triple → Nat → Nat → Q
  | [], _, _ => 0
  | t :: ts, i, c => (if t.1 = i ∧ t.2.1 = c then t.2.2 else 0) + cooSum ts i c

/-- number of triples in row `r` -/
def cnt : List Triple → Nat → Nat
  | [], _ => 0
  | t :: ts, r => (if t.1 = r then 1 else 0) + cnt ts r

/-- start of bucket `r` of a counting sort in which bucket `r'` receives `f r'` items (`Ico 0 r`, not
`range r`: the running sums of the loops come as sums over `Ico i r`) -/
def starts (f : Nat → Nat) (r : Nat) : Nat := ∑ r' ∈ Ico 0 r, f r'

theorem starts_zero (f : Nat → Nat) : starts f 0 = 0 := rfl

theorem starts_succ (f : Nat → Nat) (r : Nat) : starts f (r + 1) = starts f r + f r :=
  Finset.sum_Ico_succ_top (Nat.zero_le r) f

theorem starts_mono (f : Nat → Nat) : ∀ a b, a ≤ b → starts f a ≤ starts f b := fun _ _ hab =>
  monotone_nat_of_le_succ (fun r => by rw [starts_succ]; exact Nat.le_add_right _ _) hab

theorem starts_ptr {p : Array Nat} {row N : Nat} {f : Nat → Nat}
    (hp : ∀ r, r ≤ row → p[r]! = starts f r) (hN : starts f row = N) :
    p[0]! = 0 ∧ p[row]! = N ∧ MonoTo p row :=
  ⟨(hp 0 (Nat.zero_le _)).trans (starts_zero f), (hp row (Nat.le_refl _)).trans hN,
    fun a b hab hb => by rw [hp a (Nat.le_trans hab hb), hp b hb]; exact starts_mono f a b hab⟩

theorem starts_row (ts : List Triple) (row : Nat) (h : ∀ t ∈ ts, t.1 < row) :
    starts (cnt ts) row = ts.length := by
  induction ts with
  | nil => simp [starts, cnt]
  | cons t ts ih =>
    have ht : t.1 < row := h t (List.mem_cons_self)
    have := ih (fun t' ht' => h t' (List.mem_cons_of_mem _ ht'))
    unfold starts at this ⊢
    simp only [cnt, Finset.sum_add_distrib, this, List.length_cons]
    rw [Finset.sum_ite_eq (Ico 0 row) t.1 (fun _ => 1)]
    simp [ht]; omega

theorem cooCount_spec :
    ∀ (ts : List Triple) (p : Array Nat), (∀ t ∈ ts, t.1 < p.size) →
      ∃ p', cooCount ts p = .ok p' ∧ p'.size = p.size ∧ ∀ r, r < p.size → p'[r]! = p[r]! + cnt ts r := by
  intro ts
  induction ts with
  | nil => intro p _; exact ⟨p, rfl, rfl, fun r _ => by simp [cnt]⟩
  | cons t ts ih =>
    intro p h
    obtain ⟨i, c, v⟩ := t
    have hi : i < p.size := h (i, c, v) (List.mem_cons_self)
    unfold cooCount
    simp only [rd_lt hi, ok_bind, wr_lt _ hi]
    obtain ⟨p', e, s, g⟩ := ih (p.set i (p[i]! + 1) hi) (fun t' ht' => by
      simpa using h t' (List.mem_cons_of_mem _ ht'))
    refine ⟨p', e, by simpa using s, fun r hr => ?_⟩
    rw [g r (by simpa using hr), set_get!]
    simp only [cnt]
    by_cases hri : r = i
    · subst hri; simp; omega
    · have : ¬ i = r := fun h => hri h.symm
      simp [hri, this]

theorem cumsumLoop_spec (n : Nat) (p : Array Nat) (hsz : n ≤ p.size) :
    ∃ p', cumsumLoop n 0 0 p = .ok p' ∧ p'.size = p.size ∧
      ∀ r, r < n → p'[r]! = starts (fun r' => p[r']!) r := by
  obtain ⟨p', e, s, _, _, g⟩ := sweepAcc_spec cumsumLoop (out := fun _ s _ => s) (next := (· + ·))
    (ok := fun _ _ => True) (S := starts (fun r' => p[r']!)) (h0 := fun _ _ _ => rfl)
    (hs := fun n l s a h _ => by rw [cumsumLoop]; simp only [rd_lt h, ok_bind, wr_lt _ h])
    n 0 p (by rw [Nat.zero_add]; exact hsz) (fun k _ _ => ⟨trivial, starts_succ _ k⟩)
  exact ⟨p', e, s, fun r hr => g r (Nat.zero_le r) (by rw [Nat.zero_add]; exact hr)⟩

theorem shiftLoop_spec (n : Nat) (p : Array Nat) (hsz : n ≤ p.size) :
    ∃ p', shiftLoop n 0 0 p = .ok p' ∧ p'.size = p.size ∧ (0 < n → p'[0]! = 0) ∧
      ∀ r, r + 1 < n → p'[r + 1]! = p[r]! := by
  obtain ⟨p', e, s, _, _, g⟩ := sweepAcc_spec shiftLoop (out := fun _ s _ => s) (next := fun _ v => v)
    (ok := fun _ _ => True) (S := fun k => if k = 0 then 0 else p[k - 1]!) (h0 := fun _ _ _ => rfl)
    (hs := fun n l s a h _ => by rw [shiftLoop]; simp only [rd_lt h, ok_bind, wr_lt _ h])
    n 0 p (by rw [Nat.zero_add]; exact hsz)
    (fun k _ _ => ⟨trivial, by rw [if_neg (Nat.succ_ne_zero k), Nat.add_sub_cancel]⟩)
  exact ⟨p', e, s, fun hn => g 0 (Nat.le_refl 0) (by rw [Nat.zero_add]; exact hn),
    fun r h => by rw [g (r + 1) (Nat.zero_le _) (by rw [Nat.zero_add]; exact h),
      if_neg (Nat.succ_ne_zero r), Nat.add_sub_cancel]⟩

/-- a counting sort in progress: bucket `r` occupies the positions `[bs r, bs (r + 1))`, holds the
pairs `L r` up to its cursor `cur r`, and still expects `rest r` pairs -/
structure Buckets (bs : Nat → Nat) (nb : Nat) (cur : Nat → Nat) (j : Array Nat) (x : Array Q)
    (L : Nat → List (Nat × Q)) (rest : Nat → Nat) : Prop where
  mono : ∀ a b, a ≤ b → bs a ≤ bs b
  lo : ∀ r, r < nb → bs r ≤ cur r
  fill : ∀ r, r < nb → cur r + rest r = bs (r + 1)
  holds : ∀ r, r < nb → seg j x (bs r) (cur r) = L r

namespace Buckets

theorem cur_lt {bs : Nat → Nat} {nb : Nat} {cur : Nat → Nat} {j : Array Nat} {x : Array Q}
    {L : Nat → List (Nat × Q)} {rest : Nat → Nat} (B : Buckets bs nb cur j x L rest)
    {r0 : Nat} (h0 : r0 < nb) (hn : 0 < rest r0) : cur r0 < bs nb :=
  Nat.lt_of_lt_of_le (by have := B.fill r0 h0; omega) (B.mono (r0 + 1) nb h0)

/-- the pair `a` goes to the cursor of bucket `r0`.  `hrest` has `r0 = r`, not `r = r0`: that is how
`cnt` and `cntFrom_peel` unfold, so the callers close it by `rfl` -/
theorem put {bs : Nat → Nat} {nb : Nat} {cur cur' : Nat → Nat} {j : Array Nat} {x : Array Q}
    {L L' : Nat → List (Nat × Q)} {rest rest' : Nat → Nat} (B : Buckets bs nb cur j x L rest)
    {r0 : Nat} (h0 : r0 < nb) (a : Nat × Q)
    (hj : cur r0 < j.size) (hx : cur r0 < x.size)
    (hcur : ∀ r, r < nb → cur' r = if r = r0 then cur r0 + 1 else cur r)
    (hrest : ∀ r, r < nb → rest r = (if r0 = r then 1 else 0) + rest' r)
    (hL : ∀ r, r < nb → L' r = if r = r0 then L r0 ++ [a] else L r) :
    Buckets bs nb cur' (j.set (cur r0) a.1 hj) (x.set (cur r0) a.2 hx) L' rest' := by
  refine { mono := B.mono, lo := fun r hr => ?lo, fill := fun r hr => ?fill, holds := fun r hr => ?holds }
  case lo =>
    rw [hcur r hr]
    by_cases h : r = r0
    · rw [if_pos h, h]; exact Nat.le_succ_of_le (B.lo r0 h0)
    · rw [if_neg h]; exact B.lo r hr
  case fill =>
    have := B.fill r hr
    rw [hrest r hr] at this
    rw [hcur r hr]
    by_cases h : r = r0
    · subst h; rw [if_pos rfl] at this ⊢; omega
    · rw [if_neg (Ne.symm h)] at this; rw [if_neg h]; omega
  case holds =>
    rw [hcur r hr, hL r hr]
    by_cases h : r = r0
    · subst h
      rw [if_pos rfl, if_pos rfl, seg_snoc (B.lo r hr), set_get!_eq, set_get!_eq, ← B.holds r hr]
      congr 1
      exact seg_congr (fun k _ hk => set_both_ne _ _ hj hx (Nat.ne_of_lt hk))
    · rw [if_neg h, if_neg h, ← B.holds r hr]
      -- the segments of different buckets are disjoint
      have hne : ∀ k, bs r ≤ k → k < cur r → k ≠ cur r0 := by
        intro k hk1 hk2
        have hfr := B.fill r hr
        rcases Nat.lt_or_gt_of_ne h with hlt | hgt
        · have := B.mono (r + 1) r0 hlt
          have := B.lo r0 h0
          omega
        · -- bucket `r0` still expects a pair, so its cursor is below the start of the next bucket
          have hf0 := B.fill r0 h0
          rw [hrest r0 h0, if_pos rfl] at hf0
          have := B.mono (r0 + 1) r hgt
          omega
      exact seg_congr (fun k hk1 hk2 => set_both_ne _ _ hj hx (hne k hk1 hk2))

theorem congr {bs : Nat → Nat} {nb : Nat} {cur : Nat → Nat} {j : Array Nat} {x : Array Q}
    {L L' : Nat → List (Nat × Q)} {rest : Nat → Nat} (B : Buckets bs nb cur j x L rest)
    (hL : ∀ r, r < nb → L' r = L r) : Buckets bs nb cur j x L' rest :=
  ⟨B.mono, B.lo, B.fill, fun r h => by rw [hL r h]; exact B.holds r h⟩

theorem full {bs : Nat → Nat} {nb : Nat} {cur : Nat → Nat} {j : Array Nat} {x : Array Q}
    {L : Nat → List (Nat × Q)} {rest : Nat → Nat} (B : Buckets bs nb cur j x L rest) {r : Nat}
    (hr : r < nb) (h0 : rest r = 0) : seg j x (bs r) (bs (r + 1)) = L r := by
  have := B.fill r hr
  rw [h0, Nat.add_zero] at this
  rw [← this]
  exact B.holds r hr

theorem start {f : Nat → Nat} {nb : Nat} {cur : Nat → Nat} {j : Array Nat} {x : Array Q}
    {rest : Nat → Nat} (hcur : ∀ r, r < nb → cur r = starts f r) (hrest : ∀ r, r < nb → rest r = f r) :
    Buckets (starts f) nb cur j x (fun _ => []) rest :=
  ⟨starts_mono f, fun r hr => Nat.le_of_eq (hcur r hr).symm,
   fun r hr => by rw [hcur r hr, hrest r hr, starts_succ], fun r hr => by rw [hcur r hr, seg_self]⟩

end Buckets

theorem scatter_spec (row N : Nat) (bs : Nat → Nat) (hbN : bs row ≤ N) :
    ∀ (ts : List Triple) (p j : Array Nat) (x : Array Q) (L : Nat → List (Nat × Q)),
      p.size = row + 1 → j.size = N → x.size = N → (∀ t ∈ ts, t.1 < row) →
      Buckets bs row (fun r => p[r]!) j x L (cnt ts) →
      ∃ p' j' x', scatter ts p j x = .ok (p', j', x') ∧ p'.size = row + 1 ∧ j'.size = N ∧
        x'.size = N ∧ (∀ r, r < row → p'[r]! = bs (r + 1)) ∧
        ∀ r, r < row → seg j' x' (bs r) (bs (r + 1)) = L r ++ (ts.filter (·.1 = r)).map (·.2) := by
  intro ts
  induction ts with
  | nil =>
    intro p j x L hp hj hx _ B
    refine ⟨p, j, x, rfl, hp, hj, hx, fun r hr => by simpa [cnt] using B.fill r hr, fun r hr => ?_⟩
    rw [B.full hr rfl, List.filter_nil, List.map_nil, List.append_nil]
  | cons t ts ih =>
    intro p j x L hp hj hx hts B
    obtain ⟨i, c0, v⟩ := t
    have hi : i < row := hts (i, c0, v) List.mem_cons_self
    have hip : i < p.size := hp ▸ Nat.lt_succ_of_lt hi
    have hdN : p[i]! < N := Nat.lt_of_lt_of_le (B.cur_lt hi (by simp [cnt])) hbN
    have hdj : p[i]! < j.size := hj ▸ hdN
    have hdx : p[i]! < x.size := hx ▸ hdN
    unfold scatter
    simp only [rd_lt hip, ok_bind, wr_lt _ hdj, wr_lt _ hdx, wr_lt _ hip]
    obtain ⟨p', j', x', e, s1, s2, s3, g1, g3⟩ :=
      ih (p.set i (p[i]! + 1) hip) (j.set p[i]! c0 hdj) (x.set p[i]! v hdx)
        (fun r => if r = i then L i ++ [(c0, v)] else L r)
        (by rw [Array.size_set]; exact hp) (by rw [Array.size_set]; exact hj)
        (by rw [Array.size_set]; exact hx) (fun t' ht' => hts t' (List.mem_cons_of_mem _ ht'))
        (B.put hi (c0, v) hdj hdx (hcur := fun r _ => set_get! ..) (hrest := fun r _ => rfl)
          (hL := fun r _ => rfl))
    refine ⟨p', j', x', e, s1, s2, s3, g1, fun r hr => ?_⟩
    rw [g3 r hr, List.filter_cons]
    by_cases hri : r = i
    · subst hri; simp
    · have : ¬ i = r := fun h => hri h.symm
      simp [hri, this]

theorem rowSum_bucket (ts : List Triple) (i c : Nat) :
    rowSum c ((ts.filter (·.1 = i)).map (·.2)) = cooSum ts i c := by
  induction ts with
  | nil => rfl
  | cons t ts ih =>
    rw [List.filter_cons, cooSum]
    by_cases h : t.1 = i
    · rw [if_pos (decide_eq_true h), List.map_cons, rowSum_cons, ih]
      simp only [pairVal, h, true_and]
    · rw [if_neg (by simpa using h), ih]
      simp only [h, false_and, if_false, zero_add]

end SymVerif.C25
