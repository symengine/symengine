/-
C04, Add side.  Every operand `a` of `add` has a representation `repr a = (coef, dict)`
(`Add`: its fields; Number: `(a, {})`; anything else: `(0, {term: coef})` through `as_coef_term`);
on *normal* representations (`NR`: canonical exact numbers, sorted non-zero dictionary, keys that are
legal terms and not sums)

    addCore a b = Add::from_dict (repr a ⊕ repr b)            (`addCore_eq`)
    repr (Add::from_dict s) = s                                (`repr_fromDict`)

where `⊕` (`radd`) adds the coefficients in ℚ(i) and merges the dictionaries point-wise.  The meaning
`rden s = (coefficient, term ↦ coefficient)` is injective on normal representations and `⊕` adds meanings
(`rden_inj`, `rden_radd`), so absorbing a summand into a representation is an accumulator (`raddAcc`; `Acc` is in
Lemmas/C04Fold.lean).  `add(vec)` is `Add::from_dict` of the fold (`addN_eq`), and so is the fold of the
binary constructor (`foldlM_addE_eq`).
-/
import SymVerif.Lemmas.C04Dict
import SymVerif.Model.AC

namespace SymVerif.AC
open SymVerif SymVerif.Arith

def NR (s : Expr × Dict) : Prop := ExOK s.1 ∧ DOK s.2 ∧ ∀ p ∈ s.2, termOK p.1 = true

theorem NR.coef {s : Expr × Dict} (h : NR s) : ExOK s.1 := h.1
theorem NR.dok {s : Expr × Dict} (h : NR s) : DOK s.2 := h.2.1
theorem NR.keys {s : Expr × Dict} (h : NR s) : ∀ p ∈ s.2, termOK p.1 = true := h.2.2

/-- a summand: its representation is normal and `Add::from_dict` rebuilds it -/
def AOK (a : Expr) : Prop := NR (repr a) ∧ addFromDict (repr a).1 (repr a).2 = .ok a

theorem AOK.nr {a : Expr} (h : AOK a) : NR (repr a) := h.1
theorem AOK.rebuild {a : Expr} (h : AOK a) : addFromDict (repr a).1 (repr a).2 = .ok a := h.2

/-- `⊕` on representations -/
noncomputable def radd (r s : Expr × Dict) : Expr × Dict := (ofG (gq r.1 + gq s.1), merge r.2 s.2)

theorem exOK_isNum {e : Expr} (h : ExOK e) : e.isNum = true := h.numOK.1

theorem repr_num {a : Expr} (h : a.isNum = true) : repr a = (a, []) := by
  cases a <;> first | rfl | cases h

theorem AOK_num {e : Expr} (h : ExOK e) : AOK e := by
  have hr := repr_num (exOK_isNum h)
  exact ⟨hr ▸ ⟨h, DOK.nil, by simp⟩, by rw [hr]; rfl⟩

theorem AOK.exOK_of_isNum {a : Expr} (ha : AOK a) (hn : a.isNum = true) : ExOK a := by
  have := ha.nr.coef
  rwa [repr_num hn] at this

theorem NR_single {t c : Expr} (ht : termOK t = true) (hc : ExOK c) (h0 : gq c ≠ 0) : NR (zero, [(t, c)]) :=
  ⟨exOK_int 0, ⟨by simp [Sorted], by simpa using ⟨hc, h0⟩⟩, by simpa using ht⟩

theorem isIntLit_of_not_num {e : Expr} (h : e.isNum = false) (n : Int) : isIntLit e n = false := by
  cases e <;> first | rfl | contradiction

theorem isIntLit_zero_of_nz {v : Expr} (h : numIsZero v = false) : isIntLit v 0 = false := by
  cases v <;> first | rfl | exact h

theorem add_cases (a : Expr) : (∃ c d, a = .add c d) ∨ isAdd a = false := by
  cases a <;> first | exact .inl ⟨_, _, rfl⟩ | exact .inr rfl

theorem ne_mul_of_isMul {a : Expr} (h : isMul a = false) (c : Expr) (d : Dict) : a = .mul c d → False := by
  rintro rfl
  cases h

theorem repr_of_asCoefTerm {a c t : Expr} (hna : isAdd a = false) (hn : a.isNum = false)
    (h : asCoefTerm a = .ok (c, t)) : repr a = (zero, [(t, c)]) := by
  unfold repr
  split
  · cases hna
  · simp only [hn, Bool.false_eq_true, if_false, h]

theorem asCoefTerm_other {a : Expr} (hm : isMul a = false) (ha : isAdd a = false) (hn : a.isNum = false) :
    asCoefTerm a = .ok (one, a) := by
  cases a <;> first | rfl | contradiction

@[simp] theorem ok_bind {α β : Type} (x : α) (f : α → R β) : (Except.ok x >>= f) = f x := rfl

theorem ofG_gq_add_zero {c : Expr} (h : ExOK c) : ofG (gq c + gq zero) = c := by
  rw [gq_zero, add_zero, ofG_gq h]

theorem NR.radd {r s : Expr × Dict} (hr : NR r) (hs : NR s) : NR (radd r s) :=
  ⟨exOK_ofG _, merge_DOK hr.dok hs.dok.vals, merge_keys (P := fun k => termOK k = true) hr.keys hs.keys⟩

theorem radd_comm {r s : Expr × Dict} (hr : NR r) (hs : NR s) : radd r s = radd s r := by
  unfold radd
  rw [add_comm, merge_comm hr.dok hs.dok]

/-- the meaning of a representation: `(coefficient, term ↦ coefficient)` -/
noncomputable def rden (s : Expr × Dict) : (ℚ × ℚ) × (Expr → ℚ × ℚ) := (gq s.1, fun t => lk s.2 t)

theorem rden_inj {r s : Expr × Dict} (hr : NR r) (hs : NR s) (h : rden r = rden s) : r = s :=
  Prod.ext (gq_inj hr.coef hs.coef (congrArg Prod.fst h))
    (dok_ext hr.dok hs.dok (fun t => congrFun (congrArg Prod.snd h) t))

theorem rden_radd {r s : Expr × Dict} (hr : NR r) (hs : NR s) : rden (radd r s) = rden r + rden s :=
  Prod.ext (gq_ofG _) (funext fun t => lk_merge t hr.dok hs.dok)

theorem termOK_facts {k : Expr} (h : termOK k = true) : exact k = true ∧ k.isNum = false ∧ isAdd k = false := by
  unfold termOK at h
  simp only [Bool.and_eq_true, Bool.not_eq_true'] at h
  exact ⟨h.1.1.1, h.1.1.2, h.1.2⟩

theorem asCoefTerm_num {a : Expr} (h : a.isNum = true) : asCoefTerm a = .ok (a, one) := by
  cases a <;> first | rfl | cases h

theorem asCoefTerm_term {k : Expr} (h : termOK k = true) : asCoefTerm k = .ok (one, k) := by
  obtain ⟨_, h1, h2⟩ := termOK_facts h
  -- the one case with content is a Mul key: its coefficient is the literal 1, so `as_coef_term` takes its `else`
  cases k <;> simp_all [asCoefTerm, termOK, Expr.isNum, isAdd]

theorem repr_term {k : Expr} (h : termOK k = true) : repr k = (zero, [(k, one)]) :=
  repr_of_asCoefTerm (termOK_facts h).2.2 (termOK_facts h).2.1 (asCoefTerm_term h)

theorem exact_of_exOK {c : Expr} (h : ExOK c) : exact c = true := by
  cases c <;> first | rfl | cases h.1

theorem addFromDict_zero_one (k : Expr) : addFromDict zero [(k, one)] = .ok k := by
  simp [addFromDict, zero, one, numIsZero, Expr.isNum, isIntLit]

theorem addFromDict_zero_single {k v : Expr} (hvn : v.isNum = true) (hv0 : isIntLit v 0 = false)
    (hv1 : isIntLit v 1 = false) :
    addFromDict zero [(k, v)] = .ok (match k with
      | .mul _ mfs => mulFromDict v mfs
      | .pow b e => .mul v [(b, e)]
      | _ => .mul v [(k, one)]) := by
  have hz0 : numIsZero zero = true := rfl
  unfold addFromDict
  simp only [hz0, hvn, hv0, hv1, if_true, Bool.not_true, Bool.false_eq_true, if_false]
  cases k <;> rfl

theorem asCoefTerm_mul {v : Expr} {fs : Dict} (h : isIntLit v 1 = false) :
    asCoefTerm (.mul v fs) = .ok (v, mulFromDict one fs) := by
  simp [asCoefTerm, h]

/-- the single-term arm of `Add::from_dict` -/
theorem fromDict_single {k v : Expr} (hk : termOK k = true) (hv : ExOK v) (hv0 : gq v ≠ 0) :
    ∃ r, addFromDict zero [(k, v)] = .ok r ∧ repr r = (zero, [(k, v)]) ∧ exact r = true := by
  have hvn := exOK_isNum hv
  have hvz : numIsZero v = false := (numIsZero_false_iff hv).mpr hv0
  have hv0' := isIntLit_zero_of_nz hvz
  have hvx := exact_of_exOK hv
  have ho0 : numIsZero one = false := rfl
  have ho1 : numIsOne one = true := rfl
  have hi1 : isIntLit one 1 = true := rfl
  by_cases h1 : isIntLit v 1 = true
  · have := isIntLit_iff.mp h1
    subst this
    exact ⟨k, addFromDict_zero_one k, repr_term hk, (termOK_facts hk).1⟩
  · have h1' : isIntLit v 1 = false := by simpa using h1
    have hkx := (termOK_facts hk).1
    by_cases hm : isMul k = true
    · -- Mul key (coefficient literal 1, two factors or more, by `termOK`): `v * k` is `k` with coefficient `v`
      obtain ⟨c, fs, rfl⟩ := isMul_iff.mp hm
      simp only [termOK, Bool.and_eq_true, decide_eq_true_eq] at hk
      have hc := isIntLit_iff.mp hk.2.1
      subst hc
      cases fs with
      | nil => simp at hk
      | cons p1 fs' =>
        cases fs' with
        | nil => simp at hk
        | cons p2 rest =>
          refine ⟨.mul v (p1 :: p2 :: rest), ?_, ?_, ?_⟩
          · rw [addFromDict_zero_single hvn hv0' h1']
            simp [mulFromDict, hvz]
          · rw [repr_of_asCoefTerm rfl rfl (asCoefTerm_mul h1')]
            rfl
          · simp only [exact, Bool.and_eq_true] at hkx ⊢
            exact ⟨hvx, hkx.2⟩
    by_cases hp : isPow k = true
    · -- Pow key `b ** e`: `v * k` is `Mul v {b: e}`; `termOK` gives `e ≠ 1`, so `as_coef_term` rebuilds `b ** e`
      obtain ⟨b, e, rfl⟩ := isPow_iff.mp hp
      simp only [termOK, Bool.and_eq_true, Bool.not_eq_true'] at hk
      refine ⟨.mul v [(b, e)], ?_, ?_, ?_⟩
      · exact addFromDict_zero_single hvn hv0' h1'
      · rw [repr_of_asCoefTerm rfl rfl (asCoefTerm_mul h1')]
        simp [mulFromDict, ho0, ho1, hk.2]
      · simp only [exact, exactPairs, Bool.and_eq_true] at hkx ⊢
        exact ⟨hvx, ⟨hkx.1, hkx.2⟩, trivial⟩
    -- any other key: `v * k` as a product with the single factor `k ** 1`
    refine ⟨.mul v [(k, one)], ?_, ?_, ?_⟩
    · rw [addFromDict_zero_single hvn hv0' h1']
      cases k <;> first | rfl | exact absurd rfl hm | exact absurd rfl hp
    · rw [repr_of_asCoefTerm rfl rfl (asCoefTerm_mul h1')]
      simp [mulFromDict, ho0, ho1, hi1]
    · have : exact one = true := rfl
      simp [exact, exactPairs, hvx, hkx, this]

theorem exactPairs_iff : ∀ l : List (Expr × Expr),
    exactPairs l = true ↔ ∀ p ∈ l, exact p.1 = true ∧ exact p.2 = true
  | [] => by simp [exactPairs]
  | (k, v) :: t => by simp [exactPairs, exactPairs_iff t, and_assoc]

/-- `Add::from_dict` succeeds on a normal representation and `repr` recovers it -/
theorem repr_fromDict {s : Expr × Dict} (h : NR s) :
    ∃ r, addFromDict s.1 s.2 = .ok r ∧ repr r = s ∧ exact r = true := by
  obtain ⟨c, d⟩ := s
  obtain ⟨hc, hd, hk⟩ := h
  simp only at hc hd hk
  have hcx := exact_of_exOK hc
  have hdx := (exactPairs_iff d).mpr (fun p hp => ⟨(termOK_facts (hk p hp)).1, exact_of_exOK (hd.2 p hp).1⟩)
  cases d with
  | nil =>
    exact ⟨c, rfl, repr_num (exOK_isNum hc), hcx⟩
  | cons p r =>
    obtain ⟨k, v⟩ := p
    cases r with
    | nil =>
      by_cases hz : numIsZero c = true
      · have := numIsZero_eq_zero hc hz
        subst this
        have hv := hd.2 (k, v) List.mem_cons_self
        exact fromDict_single (hk (k, v) List.mem_cons_self) hv.1 hv.2
      · refine ⟨.add c [(k, v)], ?_, rfl, ?_⟩
        · simp [addFromDict, hz]
        · simp [exact, hcx, hdx]
    | cons q r =>
      refine ⟨.add c ((k, v) :: q :: r), rfl, rfl, ?_⟩
      simp [exact, hcx, hdx]

/-- a summand is exact: it is what `Add::from_dict` builds from a normal representation -/
theorem AOK.exact {a : Expr} (h : AOK a) : exact a = true := by
  obtain ⟨r, h1, _, h3⟩ := repr_fromDict h.1
  rw [h.2] at h1
  cases h1
  exact h3

theorem AOK_fromDict {s : Expr × Dict} (h : NR s) :
    ∃ r, addFromDict s.1 s.2 = .ok r ∧ AOK r ∧ repr r = s := by
  obtain ⟨r, h1, h2, _⟩ := repr_fromDict h
  exact ⟨r, h1, ⟨h2 ▸ h, by rw [h2]; exact h1⟩, h2⟩

theorem asCoefTerm_succeeds {a : Expr} (h : isAdd a = false) : ∃ c t, asCoefTerm a = .ok (c, t) := by
  unfold asCoefTerm
  split
  · split <;> exact ⟨_, _, rfl⟩
  · simp [isAdd] at h
  · split <;> exact ⟨_, _, rfl⟩

theorem ne_add_of_isAdd {a : Expr} (h : isAdd a = false) (c : Expr) (d : Dict) : a = .add c d → False := by
  rintro rfl
  cases h

theorem addCore_add_left {ac : Expr} {ad : Dict} {b : Expr} (hb : isAdd b = false) :
    addCore (.add ac ad) b = addOntoAdd ac ad b :=
  addCore.eq_2 b ac ad (ne_add_of_isAdd hb)

theorem addCore_add_right {a : Expr} {bc : Expr} {bd : Dict} (ha : isAdd a = false) :
    addCore a (.add bc bd) = addOntoAdd bc bd a :=
  addCore.eq_3 a bc bd (ne_add_of_isAdd ha)

/-- `(c, t)` is what `as_coef_term` gives on the summand `a` (not an Add): `(a, 1)` for a Number, else a
coefficient and a legal term -/
inductive CoefTerm (a c t : Expr) : Prop
  | num (hn : a.isNum = true) (ht : t = one) (hc : c = a) (hr : repr a = (a, []))
  | term (hn : a.isNum = false) (ht : termOK t = true) (hr : repr a = (zero, [(t, c)]))

theorem asCoefTerm_of_AOK {a : Expr} (ha : AOK a) (hna : isAdd a = false) :
    ∃ c t, asCoefTerm a = .ok (c, t) ∧ ExOK c ∧ CoefTerm a c t := by
  by_cases hn : a.isNum = true
  · have hr := repr_num hn
    have hex : ExOK a := AOK.exOK_of_isNum ha hn
    exact ⟨a, one, asCoefTerm_num hn, hex, .num hn rfl rfl hr⟩
  · have hn' : a.isNum = false := by simpa using hn
    obtain ⟨c, t, hct⟩ := asCoefTerm_succeeds hna
    have hr := repr_of_asCoefTerm hna hn' hct
    have hnr := ha.nr
    rw [hr] at hnr
    have hv := hnr.dok.2 (t, c) List.mem_cons_self
    exact ⟨c, t, hct, hv.1, .term hn' (hnr.keys (t, c) List.mem_cons_self) hr⟩

theorem merge_single (d : Dict) (t c : Expr) : merge d [(t, c)] = upd d c t := rfl

theorem radd_term {coef : Expr} {d : Dict} {a c t : Expr} (hs : NR (coef, d)) (hc : ExOK c)
    (hr : repr a = (zero, [(t, c)])) :
    addDictAddTerm d c t = .ok (radd (coef, d) (repr a)).2 ∧ (radd (coef, d) (repr a)).1 = coef := by
  rw [hr]
  exact ⟨addDictAddTerm_eq t hs.dok hc, ofG_gq_add_zero hs.coef⟩

/-- the arm of `add` in which one operand is an Add -/
theorem addOntoAdd_eq {ac : Expr} {ad : Dict} {b : Expr} (ha : NR (ac, ad)) (hb : AOK b)
    (hnb : isAdd b = false) :
    addOntoAdd ac ad b = addFromDict (radd (ac, ad) (repr b)).1 (radd (ac, ad) (repr b)).2 := by
  obtain ⟨c, t, hct, hc, hcase⟩ := asCoefTerm_of_AOK hb hnb
  unfold addOntoAdd
  rcases hcase with ⟨hn, _, hca, hr⟩ | ⟨hn, _, hr⟩
  · subst hca
    simp only [hn, if_true, hr, radd, merge]
    by_cases hz : numIsZero c = true
    · have hz0 := (numIsZero_iff hc).mp hz
      simp [hz, hz0, ofG_gq ha.coef]
    · simp [hz, numAdd_eq ha.coef hc]
  · obtain ⟨h1, h2⟩ := radd_term ha hc hr
    simp only [hn, hct, Bool.false_eq_true, if_false, ok_bind, h1, h2]

/-- the representation of a summand that is not an Add, read as a function on keys: `c` at the term `t`,
where a Number sits at the key `one` (as in the dictionary the last arm of `add` builds) -/
theorem repr_lk {a c t : Expr} (hcase : CoefTerm a c t) :
    gq (repr a).1 = (if key one == key t then gq c else 0) ∧
    ∀ u, lk (repr a).2 u = if key u == key one then 0 else (if key u == key t then gq c else 0) := by
  rcases hcase with ⟨_, rfl, rfl, hr⟩ | ⟨_, ht, hr⟩
  · rw [hr]
    exact ⟨by simp, fun u => by rw [lk_nil]; split <;> rfl⟩
  · have hne : (key one == key t) = false := by
      rw [Bool.eq_false_iff]
      intro h
      cases key_beq_iff.mp h
      cases ht
    rw [hr]
    refine ⟨by simp [hne, gq_zero], fun u => ?_⟩
    rw [lk_single]
    by_cases h1 : (key u == key one) = true
    · cases key_beq_iff.mp h1
      simp [hne]
    · simp [h1]

theorem derase_of_dfind_none : ∀ {d : Dict} {t : Expr}, dfind d t = none → derase d t = d
  | [], _, _ => rfl
  | (k, x) :: r, t, h => by
    rw [dfind_cons] at h
    split at h
    · cases h
    · rename_i hk
      simp only [derase, hk, Bool.false_eq_true, if_false, derase_of_dfind_none h]

/-- `add(a, b)` is `Add::from_dict` of the sum of the representations -/
theorem addCore_eq {a b : Expr} (ha : AOK a) (hb : AOK b) :
    addCore a b = addFromDict (radd (repr a) (repr b)).1 (radd (repr a) (repr b)).2 := by
  rcases add_cases a with ⟨ac, ad, rfl⟩ | haa'
  · have hnr : NR (ac, ad) := ha.nr
    rcases add_cases b with ⟨bc, bd, rfl⟩ | hbb'
    · have hnb : NR (bc, bd) := hb.nr
      simp only [addCore, repr, radd]
      rw [addMergeLoop_eq bd hnr.dok hnb.dok.vals, numAdd_eq hnr.coef hnb.coef]
      rfl
    · rw [addCore_add_left hbb']
      exact addOntoAdd_eq hnr hb hbb'
  · rcases add_cases b with ⟨bc, bd, rfl⟩ | hbb'
    · have hnb : NR (bc, bd) := hb.nr
      rw [addCore_add_right haa', addOntoAdd_eq hnb ha haa']
      have e : repr (.add bc bd) = (bc, bd) := rfl
      rw [e, radd_comm hnb ha.nr]
    · obtain ⟨c1, t1, hct1, hc1, hcase1⟩ := asCoefTerm_of_AOK ha haa'
      obtain ⟨c2, t2, hct2, hc2, hcase2⟩ := asCoefTerm_of_AOK hb hbb'
      -- the last arm of `addCore`; the three side conditions of `eq_4` say that the earlier patterns do not match
      rw [addCore.eq_4 a b (ne_add_of_isAdd haa') (ne_add_of_isAdd hbb')
        (fun _ _ _ _ h _ => ne_add_of_isAdd haa' _ _ h), hct1, hct2]
      simp only [ok_bind, addDictAddTerm_eq t1 DOK.nil hc1,
        addDictAddTerm_eq t2 (upd_DOK t1 DOK.nil hc1) hc2]
      have hd : DOK (upd (upd [] c1 t1) c2 t2) := upd_DOK t2 (upd_DOK t1 DOK.nil hc1) hc2
      have hlk : ∀ u, lk (upd (upd [] c1 t1) c2 t2) u
          = (if key u == key t1 then gq c1 else 0) + (if key u == key t2 then gq c2 else 0) := by
        intro u
        rw [lk_upd t2 u (upd_DOK t1 DOK.nil hc1) hc2, lk_upd t1 u DOK.nil hc1, lk_nil, zero_add]
      obtain ⟨hca, hla⟩ := repr_lk hcase1
      obtain ⟨hcb, hlb⟩ := repr_lk hcase2
      have hdict : derase (upd (upd [] c1 t1) c2 t2) one = merge (repr a).2 (repr b).2 := by
        apply dok_ext ⟨sorted_derase hd.1, fun p hp => hd.2 p (mem_derase hp)⟩
          (merge_DOK ha.nr.dok hb.nr.dok.vals)
        intro u
        rw [lk_merge u ha.nr.dok hb.nr.dok, hla u, hlb u]
        unfold lk
        rw [dfind_derase one u hd.1]
        by_cases h1 : (key u == key one) = true
        · simp [h1]
        · have := hlk u
          unfold lk at this
          simp only [h1, Bool.false_eq_true, if_false]
          exact this
      have hone : lk (upd (upd [] c1 t1) c2 t2) one = gq (repr a).1 + gq (repr b).1 := by
        rw [hlk one, hca, hcb]
      -- the model's final `match dfind d one` is the match inside `lk d one`: one case split serves both sides
      unfold lk at hone
      simp only [radd]
      rw [← hone, ← hdict]
      cases hf : dfind (upd (upd [] c1 t1) c2 t2) one with
      | none => simp only [ofG_zero, derase_of_dfind_none hf]
      | some w => simp only [ofG_gq (hd.found hf).1]

theorem coefDictAddTerm_eq {coef : Expr} {d : Dict} {a : Expr} (hs : NR (coef, d)) (ha : AOK a) :
    coefDictAddTerm coef d one a = .ok (radd (coef, d) (repr a)) := by
  have hone : ExOK one := exOK_int 1
  have numMul_one : ∀ {c : Expr}, ExOK c → numMul one c = .ok c := by
    intro c hc
    rw [numMul_eq hone hc, gq_one, one_cmul, ofG_gq hc]
  rcases add_cases a with ⟨tc, td, rfl⟩ | haa'
  · have hnr : NR (tc, td) := ha.nr
    have h1 : numIsOne one = true := rfl
    simp only [coefDictAddTerm, Expr.isNum, Bool.false_eq_true, if_false, h1, if_true, repr, radd]
    rw [addMergeLoop_eq td hs.dok hnr.dok.vals]
    simp only [ok_bind, numAdd_eq hs.coef hnr.coef]
    rfl
  · obtain ⟨c, t, hct, hc, hcase⟩ := asCoefTerm_of_AOK ha haa'
    rcases hcase with ⟨hn, _, hca, hr⟩ | ⟨hn, _, hr⟩
    · subst hca
      unfold coefDictAddTerm
      simp only [hn, if_true, numMul_one hc, ok_bind, numAdd_eq hs.coef hc, hr, radd, merge]
      rfl
    · -- the catch-all arm of the model, restated: its `match` does not reduce for a variable `a`
      have hcd : coefDictAddTerm coef d one a = (do
          let (c2, t) ← asCoefTerm a
          let m ← numMul one c2
          let d' ← addDictAddTerm d m t
          pure (coef, d')) := by
        unfold coefDictAddTerm
        simp only [hn, Bool.false_eq_true, if_false]
        split
        · simp [isAdd] at haa'
        · rfl
      obtain ⟨h1, h2⟩ := radd_term hs hc hr
      rw [hcd, hct]
      simp only [ok_bind, numMul_one hc, h1]
      exact congrArg Except.ok (Prod.ext h2.symm rfl)

theorem NR_unit : NR (zero, []) := ⟨exOK_int 0, DOK.nil, by simp⟩

theorem radd_unit {s : Expr × Dict} (hs : NR s) : radd (zero, []) s = s := by
  obtain ⟨c, d⟩ := s
  unfold radd
  simp only [gq_zero, zero_add, ofG_gq hs.coef, merge_nil_left hs.dok]

/-- the loop body of `add(vec)`, and of every arm of `add(a, b)`: the meaning of the state grows by that of
the summand -/
theorem raddAcc : Acc NR AOK (fun s a => radd s (repr a)) :=
  Acc.of_den (· + ·) add_comm add_assoc rden (fun a => rden (repr a)) (inj := rden_inj)
    (closed := fun hs ha => hs.radd ha.nr) (den_absorb := fun hs ha => rden_radd hs ha.nr)

noncomputable def rsum (s : Expr × Dict) (l : List Expr) : Expr × Dict := l.foldl (fun s a => radd s (repr a)) s

theorem addNLoop_eq : ∀ (l : List Expr) {coef : Expr} {d : Dict}, NR (coef, d) → (∀ a ∈ l, AOK a) →
    addNLoop coef d l = .ok (rsum (coef, d) l)
  | [], _, _, _, _ => rfl
  | a :: r, coef, d, hs, hl => by
    have ha := hl a List.mem_cons_self
    simp only [addNLoop, coefDictAddTerm_eq hs ha, ok_bind]
    exact addNLoop_eq r (hs.radd ha.nr) (fun x hx => hl x (List.mem_cons_of_mem _ hx))

theorem addE_eq {x y : Expr} (hx : AOK x) (hy : AOK y) :
    addE x y = addFromDict (radd (repr x) (repr y)).1 (radd (repr x) (repr y)).2 := by
  unfold addE guard2
  simp only [hx.exact, hy.exact, Bool.and_self, if_true]
  exact addCore_eq hx hy

theorem addE_step {x y : Expr} (hx : AOK x) (hy : AOK y) :
    ∃ z, addE x y = .ok z ∧ AOK z ∧ repr z = radd (repr x) (repr y) := by
  obtain ⟨z, hz, hok, hrep⟩ := AOK_fromDict (hx.1.radd hy.1)
  exact ⟨z, (addE_eq hx hy).trans hz, hok, hrep⟩

/-- the fold of the binary constructor computes `Add::from_dict` of the accumulated representation -/
theorem foldlM_addE_eq : ∀ (l : List Expr) {acc : Expr}, AOK acc → (∀ a ∈ l, AOK a) →
    l.foldlM addE acc = addFromDict (rsum (repr acc) l).1 (rsum (repr acc) l).2
  | [], acc, hacc, _ => hacc.2.symm
  | a :: r, acc, hacc, hl => by
    obtain ⟨z, hz, hok, hrep⟩ := addE_step hacc (hl a List.mem_cons_self)
    simp only [List.foldlM, hz, ok_bind]
    rw [foldlM_addE_eq r hok (fun x hx => hl x (List.mem_cons_of_mem _ hx)), hrep]
    rfl

theorem addN_eq {l : List Expr} (hl : ∀ a ∈ l, AOK a) :
    addN l = addFromDict (rsum (zero, []) l).1 (rsum (zero, []) l).2 := by
  unfold addN
  have : exactList l = true := (exactList_iff l).mpr (fun a ha => (hl a ha).exact)
  simp only [this, if_true, addNLoop_eq l NR_unit hl, ok_bind]

end SymVerif.AC
