import SymVerif.Lemmas.Basic
import Mathlib.Data.Nat.Prime.Basic
import Mathlib.Data.Nat.Sqrt
import Mathlib.Data.Nat.Factorization.Basic
import Mathlib.Algebra.Order.BigOperators.GroupWithZero.List
import Mathlib.Algebra.BigOperators.Group.List.Basic
import Mathlib.Tactic.Ring
import Mathlib.Tactic.Linarith
import SymVerif.Model.NTheory
/-! `FactList l N` (the interface between the factorisation and every arithmetic function) with its lemmas:
`FactList.cons_inv` is the step a proof about a loop over the list starts from; then the correctness of the
trial-division factorisation (`pfm_factList`). -/
namespace SymVerif.C32
open SymVerif.NTheory

/-- `l` is the prime factorisation of `N`: primes with positive exponents, strictly ascending. -/
structure FactList (l : List (Nat × Nat)) (N : Nat) : Prop where
  prime : ∀ pe ∈ l, pe.1.Prime ∧ 0 < pe.2
  sorted : (l.map Prod.fst).Pairwise (· < ·)
  prod : (l.map (fun pe => pe.1 ^ pe.2)).prod = N

theorem FactList.nil_iff {N : Nat} : FactList [] N ↔ N = 1 := by
  constructor
  · intro h; have := h.prod; simpa using this.symm
  · rintro rfl; exact ⟨by simp, by simp, by simp⟩

theorem FactList.eq_nil_of_one {l : List (Nat × Nat)} (h : FactList l 1) : l = [] := by
  cases l with
  | nil => rfl
  | cons pe t =>
    have hpe := h.prime pe (by simp)
    have hprod := h.prod
    rw [List.map_cons, List.prod_cons] at hprod
    have h1 := Nat.dvd_one.mp ⟨_, hprod.symm⟩
    have h2 := Nat.one_lt_pow hpe.2.ne' hpe.1.one_lt
    omega

theorem FactList.pos {l : List (Nat × Nat)} {N : Nat} (h : FactList l N) : 0 < N := by
  rw [← h.prod]
  apply List.prod_pos
  intro x hx
  obtain ⟨pe, hpe, rfl⟩ := List.mem_map.mp hx
  exact Nat.pow_pos (h.prime pe hpe).1.pos

theorem FactList.tail {x : Nat × Nat} {t : List (Nat × Nat)} {N : Nat} (h : FactList (x :: t) N) :
    FactList t (t.map (fun pe => pe.1 ^ pe.2)).prod :=
  ⟨fun pe hpe => h.prime pe (List.mem_cons_of_mem _ hpe), (List.pairwise_cons.mp h.sorted).2, rfl⟩

theorem FactList.prod_cons {x : Nat × Nat} {t : List (Nat × Nat)} {N : Nat} (h : FactList (x :: t) N) :
    N = x.1 ^ x.2 * (t.map (fun pe => pe.1 ^ pe.2)).prod := by
  rw [← h.prod, List.map_cons, List.prod_cons]

theorem FactList.head_lt {x : Nat × Nat} {t : List (Nat × Nat)} {N : Nat} (h : FactList (x :: t) N)
    {pe : Nat × Nat} (hpe : pe ∈ t) : x.1 < pe.1 :=
  (List.pairwise_cons.mp h.sorted).1 pe.1 (List.mem_map.mpr ⟨pe, hpe, rfl⟩)

theorem FactList.perm_primeFactorsList {l : List (Nat × Nat)} {N : Nat} (h : FactList l N) :
    (l.flatMap fun pe => List.replicate pe.2 pe.1).Perm N.primeFactorsList := by
  refine Nat.primeFactorsList_unique ?_ fun q hq => ?_
  · rw [List.flatMap_def, List.prod_flatten, List.map_map, ← h.prod]
    exact congrArg List.prod (List.map_congr_left fun pe _ => List.prod_replicate ..)
  · obtain ⟨pe, hpe, hq⟩ := List.mem_flatMap.mp hq
    exact (List.mem_replicate.mp hq).2 ▸ (h.prime pe hpe).1

theorem FactList.mem_flatMap_replicate {l : List (Nat × Nat)} {N : Nat} (h : FactList l N) (q : Nat) :
    q ∈ l.flatMap (fun pe => List.replicate pe.2 pe.1) ↔ q.Prime ∧ q ∣ N :=
  h.perm_primeFactorsList.mem_iff.trans (Nat.mem_primeFactorsList h.pos.ne')

theorem FactList.prime_dvd {l : List (Nat × Nat)} {N : Nat} (h : FactList l N) {q : Nat} (hq : q.Prime)
    (hd : q ∣ N) : ∃ pe ∈ l, pe.1 = q := by
  obtain ⟨pe, hpe, hq⟩ := List.mem_flatMap.mp ((h.mem_flatMap_replicate q).mpr ⟨hq, hd⟩)
  exact ⟨pe, hpe, (List.mem_replicate.mp hq).2.symm⟩

theorem FactList.cons_inv {p e : Nat} {l : List (Nat × Nat)} {N : Nat} (h : FactList ((p, e) :: l) N) :
    p.Prime ∧ 0 < e ∧ ∃ N', N = p ^ e * N' ∧ FactList l N' ∧ Nat.Coprime (p ^ e) N' ∧
      (∀ q, q.Prime → q ∣ N' → p < q) := by
  have hp := h.prime (p, e) (List.mem_cons_self ..)
  have hbig : ∀ q, q.Prime → q ∣ (l.map (fun pe => pe.1 ^ pe.2)).prod → p < q := by
    intro q hq hd
    obtain ⟨pe, hpe, rfl⟩ := h.tail.prime_dvd hq hd
    exact h.head_lt hpe
  refine ⟨hp.1, hp.2, _, h.prod_cons, h.tail, ?_, hbig⟩
  apply Nat.Coprime.pow_left
  rw [Nat.Prime.coprime_iff_not_dvd hp.1]
  exact fun hd => lt_irrefl _ (hbig p hp.1 hd)

theorem FactList.factorization_eq : ∀ {l : List (Nat × Nat)} {N : Nat}, FactList l N →
    ∀ pe ∈ l, N.factorization pe.1 = pe.2 := by
  intro l
  induction l with
  | nil => intro N _ pe hpe; exact absurd hpe (by simp)
  | cons x t ih =>
    intro N h pe hpe
    obtain ⟨p, e⟩ := x
    obtain ⟨hp, he, N', hN, ht, hcop, hbig⟩ := h.cons_inv
    have hN'pos : N' ≠ 0 := ht.pos.ne'
    have hpe0 : p ^ e ≠ 0 := (Nat.pow_pos hp.pos).ne'
    rw [hN, Nat.factorization_mul hpe0 hN'pos, Finsupp.add_apply, hp.factorization_pow]
    rcases List.mem_cons.mp hpe with rfl | hmem
    · have : N'.factorization p = 0 := Nat.factorization_eq_zero_of_not_dvd
        (fun hd => lt_irrefl _ (hbig p hp hd))
      simp [this]
    · have hne : p ≠ pe.1 := (h.head_lt hmem).ne
      rw [Finsupp.single_apply, if_neg hne, zero_add]
      exact ih ht pe hmem

theorem divOut_spec {p : Nat} (hp : 2 ≤ p) : ∀ (f n c : Nat), 0 < n → n ≤ f →
    ∃ v, (divOut p f n c).1 = c + v ∧ n = (divOut p f n c).2 * p ^ v ∧ ¬ p ∣ (divOut p f n c).2 ∧
      0 < (divOut p f n c).2 := by
  intro f
  induction f with
  | zero => intro n c hn hf; omega
  | succ f ih =>
    intro n c hn hf
    unfold divOut
    by_cases hd : n % p = 0
    · simp only [hd, beq_self_eq_true, if_true]
      have hdvd : p ∣ n := Nat.dvd_of_mod_eq_zero hd
      have hq : 0 < n / p := Nat.div_pos (Nat.le_of_dvd hn hdvd) (by omega)
      have hlt : n / p < n := Nat.div_lt_self hn (by omega)
      obtain ⟨v, h1, h2, h3, h4⟩ := ih (n / p) (c + 1) hq (by omega)
      refine ⟨v + 1, by rw [h1]; ring, ?_, h3, h4⟩
      conv_lhs => rw [← Nat.div_mul_cancel hdvd, h2]
      ring
    · have : (n % p == 0) = false := by simpa using hd
      simp only [this, Bool.false_eq_true, if_false]
      exact ⟨0, by simp, by simp, fun h => hd (Nat.mod_eq_zero_of_dvd h), hn⟩

theorem val2_odd {n : ℕ} (h : n % 2 = 1) : val2 n = 0 := by
  unfold val2
  cases n with
  | zero => simp at h
  | succ k =>
    unfold divOut
    have : ((k + 1) % 2 == 0) = false := by simp [h]
    simp [this]

/-- invariant of `pfmLoop` at trial divisor `d`: `n` is the cofactor left, `acc` the prime powers found (all below `d`),
and `n` has no prime factor below `d` (`nosmall`: what makes a divisor found prime) -/
structure PfmInv (N d n : Nat) (acc : List (Nat × Nat)) : Prop where
  pos : 0 < n
  prod : n * (acc.map (fun pe => pe.1 ^ pe.2)).prod = N
  prime : ∀ pe ∈ acc, pe.1.Prime ∧ 0 < pe.2 ∧ pe.1 < d
  sorted : (acc.map Prod.fst).Pairwise (· > ·)
  nosmall : ∀ q, q.Prime → q ∣ n → d ≤ q

theorem PfmInv.prime_of_le {N d d' n : Nat} {acc : List (Nat × Nat)} (h : PfmInv N d n acc) (hd : d ≤ d') :
    ∀ pe ∈ acc, pe.1.Prime ∧ 0 < pe.2 ∧ pe.1 < d' :=
  fun pe hpe => ⟨(h.prime pe hpe).1, (h.prime pe hpe).2.1, lt_of_lt_of_le (h.prime pe hpe).2.2 hd⟩

theorem PfmInv.skip {N d n : Nat} {acc : List (Nat × Nat)} (h : PfmInv N d n acc) (hnd : ¬ d ∣ n) :
    PfmInv N (d + 1) n acc :=
  ⟨h.pos, h.prod, h.prime_of_le (Nat.le_succ d),
    h.sorted, fun q hq hqn => Nat.lt_of_le_of_ne (h.nosmall q hq hqn) (fun heq => hnd (heq ▸ hqn))⟩

theorem PfmInv.push {N d n n' v : Nat} {acc : List (Nat × Nat)} (h : PfmInv N d n acc) (hd : 2 ≤ d)
    (hv : 0 < v) (hn : n = n' * d ^ v) (hn' : 0 < n') (hnd : ¬ d ∣ n') :
    PfmInv N (d + 1) n' ((d, v) :: acc) := by
  have hdn : d ∣ n := hn ▸ Dvd.dvd.mul_left (dvd_pow_self d hv.ne') _
  have hdprime : d.Prime := by
    -- the least prime factor of `d` divides `n`, so it is not below `d`
    have hmf := Nat.minFac_prime (n := d) (by omega)
    have hle := h.nosmall _ hmf ((Nat.minFac_dvd d).trans hdn)
    exact le_antisymm (Nat.minFac_le (by omega)) hle ▸ hmf
  refine ⟨hn', ?_, ?_, ?_, ?_⟩
  · rw [List.map_cons, List.prod_cons, ← h.prod, hn]
    ring
  · intro pe hpe
    rcases List.mem_cons.mp hpe with rfl | hpe
    · exact ⟨hdprime, hv, Nat.lt_succ_self _⟩
    · exact h.prime_of_le (Nat.le_succ d) pe hpe
  · rw [List.map_cons, List.pairwise_cons]
    refine ⟨?_, h.sorted⟩
    intro q hq
    obtain ⟨pe, hpe, rfl⟩ := List.mem_map.mp hq
    exact (h.prime pe hpe).2.2
  · intro q hq hqd
    exact Nat.lt_of_le_of_ne (h.nosmall q hq (hn ▸ Dvd.dvd.mul_right hqd _)) (fun heq => hnd (heq ▸ hqd))

theorem pfmLoop_spec (N limit : Nat) : ∀ (f d n : Nat) (acc : List (Nat × Nat)),
    2 ≤ d → limit + 1 ≤ f + d → PfmInv N d n acc →
    ∃ d', PfmInv N d' (pfmLoop limit f d n acc).1 (pfmLoop limit f d n acc).2 ∧
      (limit < d' ∨ (pfmLoop limit f d n acc).1 = 1) := by
  intro f
  induction f with
  | zero =>
    intro d n acc hd hf hinv
    exact ⟨d, hinv, Or.inl (by omega)⟩
  | succ f ih =>
    intro d n acc hd hf hinv
    unfold pfmLoop
    by_cases hlim : d > limit
    · simp only [hlim, if_true]
      exact ⟨d, hinv, Or.inl hlim⟩
    · simp only [hlim, if_false]
      obtain ⟨v, hcnt, hn, hndvd', hpos⟩ := divOut_spec hd n n 0 hinv.pos (le_refl _)
      rw [Nat.zero_add] at hcnt
      by_cases hv : (divOut d n n 0).1 > 0
      · simp only [hv, if_true]
        have hinv' := hinv.push hd hv (hcnt ▸ hn) hpos hndvd'
        by_cases hone : (divOut d n n 0).2 = 1
        · rw [if_pos (beq_iff_eq.mpr hone)]
          exact ⟨d + 1, hinv', Or.inr hone⟩
        · rw [if_neg (mt beq_iff_eq.mp hone)]
          exact ih (d + 1) _ _ (by omega) (by omega) hinv'
      · simp only [hv, if_false]
        have hndvd : ¬ d ∣ n := by
          rw [hn, ← hcnt, Nat.eq_zero_of_not_pos hv, pow_zero, mul_one]
          exact hndvd'
        exact ih (d + 1) n acc (by omega) (by omega) (hinv.skip hndvd)

theorem PfmInv.factList {N d : Nat} {acc : List (Nat × Nat)} (h : PfmInv N d 1 acc) :
    FactList acc.reverse N := by
  refine ⟨fun pe hpe => ?_, ?_, ?_⟩
  · have := h.prime pe (List.mem_reverse.mp hpe)
    exact ⟨this.1, this.2.1⟩
  · rw [List.map_reverse, List.pairwise_reverse]
    exact h.sorted
  · rw [List.map_reverse, List.prod_reverse, ← h.prod, one_mul]

theorem pfm_factList {n : Int} {l : List (Nat × Nat)} (hn : n ≠ 0)
    (h : primeFactorMultiplicities n = .ok l) : FactList l n.natAbs := by
  unfold primeFactorMultiplicities at h
  have hN : 0 < n.natAbs := Int.natAbs_pos.mpr hn
  have hN0 : (n.natAbs == 0) = false := beq_eq_false_iff_ne.mpr hN.ne'
  simp only [hN0, Bool.false_eq_true, if_false] at h
  split at h
  · cases h
  · injection h with h
    set N := n.natAbs with hNdef
    set limit := Nat.sqrt N with hlim
    have hinv0 : PfmInv N 2 N [] :=
      ⟨hN, Nat.mul_one N, fun _ h => absurd h List.not_mem_nil, List.Pairwise.nil, fun q hq _ => hq.two_le⟩
    obtain ⟨d', hinv, hfin⟩ := pfmLoop_spec N limit limit 2 N [] (le_refl _) (by omega) hinv0
    set r := pfmLoop limit limit 2 N [] with hr
    by_cases hone : r.1 = 1
    · rw [if_pos (beq_iff_eq.mpr hone)] at h
      rw [hone] at hinv
      exact h ▸ hinv.factList
    · rw [if_neg (mt beq_iff_eq.mp hone)] at h
      have hd' : limit < d' := hfin.resolve_right hone
      -- the remaining cofactor has no prime factor `≤ √N`, so it is a prime above the listed ones
      have hr2 : 2 ≤ r.1 := by have := hinv.pos; omega
      have hrle : r.1 ≤ N := Nat.le_of_dvd hN (Dvd.intro _ hinv.prod)
      have hrprime : r.1.Prime := by
        by_contra hnp
        have h1 : d' ≤ r.1.minFac := hinv.nosmall _ (Nat.minFac_prime (by omega)) (Nat.minFac_dvd r.1)
        have h2 : r.1.minFac ≤ limit := Nat.le_sqrt'.mpr ((Nat.minFac_sq_le_self hinv.pos hnp).trans hrle)
        omega
      -- the final `(r.1, 1)` is one more `push`, at `d = r.1`: move the invariant up to `d = r.1` first
      have hinv_r : PfmInv N r.1 r.1 r.2 :=
        ⟨hinv.pos, hinv.prod,
          hinv.prime_of_le (hinv.nosmall r.1 hrprime (dvd_refl _)),
          hinv.sorted, fun q hq hqd => ((Nat.prime_dvd_prime_iff_eq hq hrprime).mp hqd).ge⟩
      have := hinv_r.push hr2 Nat.one_pos (by rw [pow_one, one_mul]) Nat.one_pos
        (fun hd => hrprime.one_lt.ne' (Nat.dvd_one.mp hd))
      exact h ▸ this.factList

theorem pfm_bind {β : Type} {n : Int} (hn : n ≠ 0) {f : List (Nat × Nat) → M β} {b : β}
    (h : primeFactorMultiplicities n >>= f = .ok b) : ∃ l, FactList l n.natAbs ∧ f l = .ok b := by
  obtain ⟨l, hl, hb⟩ := bind_eq_ok h
  exact ⟨l, pfm_factList hn hl, hb⟩

theorem primeFactors_mem {n : Int} {ps : List Nat} (hn : n ≠ 0) (h : primeFactors n = .ok ps) (q : Nat) :
    q ∈ ps ↔ q.Prime ∧ q ∣ n.natAbs := by
  obtain ⟨l, hl, hb⟩ := pfm_bind hn h
  cases hb
  exact hl.mem_flatMap_replicate q

end SymVerif.C32
