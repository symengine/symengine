import SymVerif.Lemmas.C08Lin
import Mathlib.Tactic.FieldSimp
/-!
C08: soundness of `trigSimplify` and of the six trigonometric constructors for *any* family of
functions satisfying the four laws `TrigLaws` (period, parity, quarter turn, half turn; instances: `Lemmas/C08Laws.lean`).
Claimed theorems of the property, at the end of the file: `C08.trig_simplify_sound`, `C08.trig_ctor_sound`.
-/
set_option linter.unusedSectionVars false
namespace SymVerif.Funcs
open SymVerif

variable {K : Type} [Field K] [CharZero K]

/-- the laws the rewriting of trig_simplify relies on; `half` asks period 2 because tan/cot have no half-turn law;
`periodic` and `half` follow from the other two (`TrigLaws.of_quarter`) and are fields because the proofs rewrite with them -/
structure TrigLaws (pi : K) (F : TrigFn → K → K) : Prop where
  periodic : ∀ (fn : TrigFn) (x : K) (k : ℤ), F fn (x + (k : K) * ((fn.period : ℕ) : K) * pi) = F fn x
  parity : ∀ (fn : TrigFn) (x : K), F fn (-x) = (if fn.odd then -1 else 1) * F fn x
  quarter : ∀ (fn : TrigFn) (x : K), F fn (x + pi / 2) = (if fn.conjOdd then -1 else 1) * F fn.co x
  half : ∀ (fn : TrigFn) (x : K), fn.period = 2 → F fn (x + pi) = - F fn x

theorem TrigFn.period_cases (fn : TrigFn) : fn.period = 1 ∨ fn.period = 2 := by
  cases fn <;> simp [TrigFn.period]

/-- a fact about these six functions, not a definition: the C++ flag `conj_odd` is "the co-function is odd" -/
theorem TrigFn.conjOdd_eq (fn : TrigFn) : fn.conjOdd = fn.co.odd := by
  cases fn <;> rfl

/-- value of a result under `F`.  For a table result it is `F fn (π·i/12)`, not the printed `tableVal fn i`: the two
are linked for `sin` only (`C08.sinTab_sound`), and at a pole `mkF` gives `x / 0 = 0` where the model prints `zoo`. -/
def Res.sem (ρ : Expr → K) (pi : K) (F : TrigFn → K → K) : Res → K
  | .tab sgn fn i => (sgn : K) * F fn (pi * (i : K) / 12)
  | .app sgn fn a => (sgn : K) * F fn (a.eval ρ pi)

theorem Res.sem_scale (ρ : Expr → K) (pi : K) (F : TrigFn → K → K) (s : Int) (r : Res) :
    (r.scale s).sem ρ pi F = (s : K) * r.sem ρ pi F := by
  cases r <;> simp [Res.scale, Res.sem] <;> ring

theorem ratFloor_le (q : Rat) : ratFloor q ≤ q := Rat.floor_le q
theorem lt_ratFloor_add_one (q : Rat) : q < ratFloor q + 1 := by
  have := Rat.lt_floor_add_one q
  simpa [ratFloor] using this

theorem natAbs_cast_nonneg {z : ℤ} (h : 0 ≤ z) : ((z.natAbs : ℕ) : Rat) = (z : Rat) := by
  rw [Nat.cast_natAbs, abs_of_nonneg h]

theorem natAbs_cast_nonpos {z : ℤ} (h : z ≤ 0) : ((z.natAbs : ℕ) : Rat) = -(z : Rat) := by
  rw [Nat.cast_natAbs, abs_of_nonpos h, Int.cast_neg]

/-- `hP` is needed for a negative integer `n`, where `k = 2n/P` -/
theorem shiftM_spec (n : Rat) (P : Nat) (hP : P = 1 ∨ P = 2) :
    ∃ k : ℤ, n = shiftM n P / 2 + (k : Rat) * (P : Rat) := by
  unfold shiftM
  by_cases hd : (n.den == 1) = true
  · have hd' : n.den = 1 := by simpa using hd
    rw [if_pos hd]
    have hn : n = (n.num : Rat) := (Rat.coe_int_num_of_den_eq_one hd').symm
    rcases le_or_gt 0 n.num with h | h
    · refine ⟨0, ?_⟩
      have hA : ((n.num.natAbs : ℕ) : Rat) = n := (natAbs_cast_nonneg h).trans hn.symm
      rw [hA]
      rcases hP with hP | hP <;> subst hP <;> push_cast <;> ring
    · -- a negative integer: m/2 = |n| = -n, so n = m/2 + 2n = m/2 + (2n/P)·P
      have hA : ((n.num.natAbs : ℕ) : Rat) = -n := by
        rw [natAbs_cast_nonpos (le_of_lt h), ← hn]
      rw [hA]
      rcases hP with hP | hP
      · subst hP
        refine ⟨2 * n.num, ?_⟩
        push_cast; rw [← hn]; ring
      · subst hP
        refine ⟨n.num, ?_⟩
        push_cast; rw [← hn]; ring
  · rw [if_neg hd]
    refine ⟨(n / (P : Rat)).floor, ?_⟩
    have hP0 : (P : Rat) ≠ 0 := by rcases hP with hP | hP <;> subst hP <;> norm_num
    simp only [ratFloor]
    field_simp
    ring

theorem shiftM_period_one_lt_two (n : Rat) (hd : ¬ n.den = 1) : shiftM n 1 < 2 := by
  unfold shiftM
  rw [if_neg (fun h => hd (beq_iff_eq.mp h))]
  have h1 := lt_ratFloor_add_one (n / ((1 : ℕ) : Rat))
  linarith

/-- why an integer `n` takes an early exit of `trigSimplify` when the period is 1 (`12·n ≡ 0 mod 12`) -/
theorem int_mul12 {n : Rat} (hd : n.den = 1) : (n * 12).den = 1 ∧ (n * 12).num = n.num * 12 := by
  have hn : n = (n.num : Rat) := (Rat.coe_int_num_of_den_eq_one hd).symm
  have : n * 12 = ((n.num * 12 : ℤ) : Rat) := by push_cast; rw [← hn]
  rw [this]
  exact ⟨Rat.den_intCast _, Rat.num_intCast _⟩

theorem parity_apply {pi : K} {F : TrigFn → K → K} (L : TrigLaws pi F) (g : TrigFn) {b : Bool} {x y : K}
    (h : y = (if b then -1 else 1) * x) :
    F g x = (if g.odd && b then -1 else 1) * F g y := by
  cases b with
  | false =>
    have h' : y = x := by simpa using h
    subst h'; simp
  | true =>
    have h' : y = -x := by simpa using h
    have hx : x = -y := by rw [h']; ring
    rw [hx, L.parity]
    simp

/-- what `trig_simplify` promises about its outputs; `index` is what the C++ leaves there: a table index `i ≥ 0`,
`-1` ("no table index") or nothing (`none`) -/
structure SimpSem (ρ : Expr → K) (pi : K) (F : TrigFn → K → K) (fn : TrigFn) (arg : Lin) (s : Simp) : Prop where
  wf : s.rarg.wf = true
  sign : s.sign = 1 ∨ s.sign = -1
  conj : s.conj = true → F fn (arg.eval ρ pi) = (s.sign : K) * F fn.co (s.rarg.eval ρ pi)
  same : s.conj = false → s.rarg.isZero = false → F fn (arg.eval ρ pi) = (s.sign : K) * F fn (s.rarg.eval ρ pi)
  table : s.conj = false → s.rarg.isZero = true → ∀ i : Int, s.index = some i → 0 ≤ i →
    F fn (arg.eval ρ pi) = (s.sign : K) * F fn (pi * (i : K) / 12)

/-- the shape of every branch with `conj = false` that is not the table exit; `hidx`: the only table index such a
branch can leave is 0 -/
theorem simpSem_of_generic {ρ : Expr → K} {pi : K} {F : TrigFn → K → K} {fn : TrigFn} {arg ra : Lin}
    {idx : Option Int} {sg : Int} (hwf : ra.wf = true) (hs : sg = 1 ∨ sg = -1)
    (hidx : ∀ i, idx = some i → 0 ≤ i → i = 0)
    (h : F fn (arg.eval ρ pi) = (sg : K) * F fn (ra.eval ρ pi)) :
    SimpSem ρ pi F fn arg ⟨false, ra, idx, sg⟩ := by
  refine { wf := hwf, sign := hs, conj := by simp, same := fun _ _ => h, table := fun _ hz i hi h0 => ?_ }
  obtain rfl := hidx i hi h0
  rw [h, Lin.eval_of_isZero hz]; simp

theorem idx_neg_one (i : Int) (hi : some (-1 : Int) = some i) (h0 : 0 ≤ i) : i = 0 := by
  cases hi
  exact absurd h0 (by decide)

theorem signIf_cases {σ : Int} (hσ : σ = 1 ∨ σ = -1) (c : Bool) :
    (if c then -σ else σ) = 1 ∨ (if c then -σ else σ) = -1 := by
  rcases hσ with rfl | rfl <;> cases c <;> simp

theorem oddSign_cases (o b : Bool) : (if o && b then (-1 : Int) else 1) = 1 ∨ (if o && b then (-1 : Int) else 1) = -1 :=
  signIf_cases (.inl rfl) _

section
variable {ρ : Expr → K} {pi : K} {F : TrigFn → K → K} (L : TrigLaws pi F) (hρ : Compositional ρ pi)
  (order : List Expr) (fn : TrigFn)
include L hρ

omit L in
theorem withMinus_sound {x : Lin} {k : Bool → Lin → Simp} {s : Simp} (hx : x.wf = true)
    (h : withMinus order x k = .ok s) :
    ∃ b ra, s = k b ra ∧ ra.eval ρ pi = (if b then -1 else 1) * x.eval ρ pi ∧ ra.wf = true := by
  unfold withMinus at h
  split at h
  · cases h
  · next b ra hh => exact ⟨b, ra, (Except.ok.inj h).symm, handleMinus_sound ρ pi hρ order hmFuel x b ra hx hh⟩

/-- `withMinus` with the parity continuation: `f(x) = ±f(handle_minus(x))`, sign as the C++ computes it -/
theorem withMinus_parity {x arg : Lin} (idx : Option Int) (σ : Int) {s : Simp} (hx : x.wf = true)
    (hidx : ∀ i, idx = some i → 0 ≤ i → i = 0) (hσ : σ = 1 ∨ σ = -1)
    (hF : F fn (arg.eval ρ pi) = (σ : K) * F fn (x.eval ρ pi))
    (h : withMinus order x (fun b ra => ⟨false, ra, idx, if fn.odd && b then -σ else σ⟩) = .ok s) :
    SimpSem ρ pi F fn arg s := by
  obtain ⟨b, ra, rfl, e1, w1⟩ := withMinus_sound hρ order hx h
  refine simpSem_of_generic w1 (signIf_cases hσ _) hidx ?_
  rw [hF, parity_apply L fn e1]
  cases fn.odd <;> cases b <;> simp

theorem simpNoShift_sound {arg : Lin} {s : Simp} (hw : arg.wf = true)
    (h : simpNoShift order arg fn.odd = .ok s) : SimpSem ρ pi F fn arg s := by
  unfold simpNoShift at h
  exact withMinus_parity L hρ order fn (idx := some (-1)) (σ := 1) hw idx_neg_one (.inl rfl) (by simp)
    (by simpa using h)

theorem simpEarlyMinus_sound {arg r : Lin} {s : Simp} (wr : r.wf = true)
    (hF : F fn (arg.eval ρ pi) = F fn (r.eval ρ pi))
    (h : simpEarlyMinus order r fn.odd = .ok s) : SimpSem ρ pi F fn arg s := by
  unfold simpEarlyMinus at h
  exact withMinus_parity L hρ order fn (idx := some 0) (σ := 1) wr (fun _ hi _ => (Option.some.inj hi).symm) (.inl rfl) (by simpa using hF)
    (by simpa using h)

theorem simpHalf_sound {arg r : Lin} {q : Rat} {s : Simp} (wr : r.wf = true) (hP : fn.period = 2)
    (hF : F fn (arg.eval ρ pi) = F fn (r.eval ρ pi + (q : K) * pi + pi))
    (h : simpHalf order r q fn.odd = .ok s) : SimpSem ρ pi F fn arg s := by
  unfold simpHalf at h
  obtain ⟨ea, wa⟩ := addPi_sound ρ pi r q wr
  refine withMinus_parity L hρ order fn (idx := none) (σ := -1) wa nofun (.inr rfl) ?_ ?_
  · rw [hF, ← ea, L.half fn _ hP]; simp
  · simpa using h  -- σ = -1: -σ = 1, the model's `if odd && b then 1 else -1`

theorem simpQuarter_sound {arg r : Lin} {q : Rat} {s : Simp} (s0 : Int) (hs0 : s0 = 1 ∨ s0 = -1) (wr : r.wf = true)
    (hF : F fn (arg.eval ρ pi) = (s0 : K) * F fn (r.eval ρ pi + (q : K) * pi + pi / 2))
    (h : simpQuarter order r s0 q fn.conjOdd = .ok s) : SimpSem ρ pi F fn arg s := by
  unfold simpQuarter at h
  obtain ⟨ea, wa⟩ := addPi_sound ρ pi r q wr
  obtain ⟨b, ra, rfl, e1, w1⟩ := withMinus_sound hρ order wa h
  refine { wf := w1, sign := signIf_cases hs0 _, conj := ?_, same := by simp, table := by simp }
  · intro _
    -- quarter gives (conjOdd ? -1 : 1), parity of the co-function (co.odd && b ? -1 : 1), and conjOdd = co.odd:
    -- the product is the model's (!b && conjOdd ? -s0 : s0)
    rw [hF, ← ea, L.quarter, parity_apply L fn.co e1, ← fn.conjOdd_eq]
    rcases hs0 with hs0 | hs0 <;> subst hs0 <;> cases fn.conjOdd <;> cases b <;> simp

theorem simpFall_sound {arg r : Lin} {n : Rat} {s : Simp} (wr : r.wf = true)
    (earg : arg.eval ρ pi = r.eval ρ pi + (n : K) * pi)
    (hlt : fn.period = 1 → shiftM n fn.period < 2)
    (h : simpFall order r n fn.period fn.odd fn.conjOdd = .ok s) : SimpSem ρ pi F fn arg s := by
  have hPc := fn.period_cases
  obtain ⟨k, hk⟩ := shiftM_spec n fn.period hPc
  unfold simpFall at h
  simp only at h
  set m := shiftM n fn.period with hm
  -- arg ≡ r + (m/2)·pi modulo the period
  have hF : F fn (arg.eval ρ pi) = F fn (r.eval ρ pi + ((m / 2 : Rat) : K) * pi) := by
    have hn : (n : K) = ((m / 2 : Rat) : K) + (k : K) * ((fn.period : ℕ) : K) := by
      have := congrArg (Rat.cast : Rat → K) hk
      rw [this]; push_cast; ring
    rw [earg, hn]
    have := L.periodic fn (r.eval ρ pi + ((m / 2 : Rat) : K) * pi) k
    rw [← this]; congr 1; ring
  by_cases hA : (decide (2 ≤ m) && decide (m < 3)) = true
  · rw [if_pos hA] at h
    simp only [Bool.and_eq_true, decide_eq_true_eq] at hA
    have hP2 : fn.period = 2 := hPc.resolve_left fun hP => absurd (hlt hP) (not_lt.mpr hA.1)
    refine simpHalf_sound L hρ order fn wr hP2 ?_ h
    rw [hF]; congr 1; push_cast; ring
  rw [if_neg hA] at h
  by_cases hB : 1 ≤ m
  · rw [if_pos hB] at h
    by_cases hC : m < 2
    · rw [if_pos hC] at h
      refine simpQuarter_sound L hρ order fn 1 (Or.inl rfl) wr ?_ h
      rw [hF, Int.cast_one, one_mul]; congr 1; push_cast; ring
    · rw [if_neg hC] at h
      have hP2 : fn.period = 2 := hPc.resolve_left fun hP => hC (hlt hP)
      refine simpQuarter_sound L hρ order fn (-1) (Or.inr rfl) wr ?_ h
      have hx : r.eval ρ pi + ((m / 2 : Rat) : K) * pi
          = (r.eval ρ pi + (((m - 3) / 2 : Rat) : K) * pi + pi / 2) + pi := by push_cast; ring
      rw [hF, hx, L.half fn _ hP2, Int.cast_neg, Int.cast_one, neg_one_mul]
  · rw [if_neg hB] at h
    cases h
    obtain ⟨ea, wa⟩ := addPi_sound ρ pi r (m / 2) wr
    refine simpSem_of_generic (idx := some (-1)) (sg := 1) wa (.inl rfl) idx_neg_one ?_
    rw [hF, ea, Int.cast_one, one_mul]

end

end SymVerif.Funcs

namespace SymVerif.C08
open SymVerif SymVerif.Funcs

variable {K : Type} [Field K] [CharZero K]

theorem trig_simplify_sound {ρ : Expr → K} {pi : K} {F : TrigFn → K → K} (L : TrigLaws pi F)
    (hρ : Compositional ρ pi) (order : List Expr) (fn : TrigFn) (arg : Lin) (s : Simp) (hw : arg.wf = true)
    (h : trigSimplify order arg fn.period fn.odd fn.conjOdd = .ok s) : SimpSem ρ pi F fn arg s := by
  unfold trigSimplify at h
  cases hg : getPiShift arg with
  | none =>
    simp only [hg] at h
    exact simpNoShift_sound L hρ order fn hw h
  | some p =>
    obtain ⟨n, r⟩ := p
    simp only [hg] at h
    obtain ⟨earg, wr⟩ := get_pi_shift_sound ρ pi hg hw
    -- tan/cot have no half-turn law (`TrigLaws.half`): with period 1 the branches `m ≥ 2` must be unreachable
    have fall : (n.den = 1 → fn.period = 1 → False) →
        simpFall order r n fn.period fn.odd fn.conjOdd = .ok s → SimpSem ρ pi F fn arg s := fun hni h =>
      simpFall_sound L hρ order fn wr earg
        (fun hP => hP ▸ shiftM_period_one_lt_two n fun hd => hni hd hP) h
    by_cases ht : ((n * 12).den == 1) = true
    · rw [if_pos ht] at h
      have htd : (n * 12).den = 1 := beq_iff_eq.mp ht
      -- `m` is the model's; `hnK` is shaped so that `rw [hnK, L.periodic]` fires
      set m := (n * 12).num % (12 * (fn.period : Int)) with hm
      set j := (n * 12).num / (12 * (fn.period : Int)) with hj
      have hnK : (n : K) * pi = pi * (m : K) / 12 + (j : K) * ((fn.period : ℕ) : K) * pi := by
        have hdef : m = (n * 12).num - 12 * (fn.period : Int) * j := Int.emod_def _ _
        have h12 : (n : K) = (((n * 12).num : ℤ) : K) / 12 := by
          have h1 : n * 12 = ((n * 12).num : Rat) := (Rat.coe_int_num_of_den_eq_one htd).symm
          have h2 := congrArg (Rat.cast : Rat → K) h1
          push_cast at h2
          rw [← h2]; ring
        rw [hdef, h12]; push_cast; ring
      by_cases hz : r.isZero = true
      · rw [if_pos hz] at h
        cases h
        refine { wf := rfl, sign := Or.inl rfl, conj := fun h => absurd h Bool.false_ne_true,
                 same := fun _ hz' => by simp [Lin.isZero, Lin.zero] at hz', table := ?_ }
        intro _ _ i hi h0
        cases hi
        rw [earg, Lin.eval_of_isZero hz, zero_add, hnK, L.periodic, Int.cast_one, one_mul]
      · rw [if_neg hz] at h
        by_cases hm0 : (m == 0) = true
        · rw [if_pos hm0] at h
          refine simpEarlyMinus_sound L hρ order fn wr ?_ h
          rw [earg, hnK, beq_iff_eq.mp hm0, Int.cast_zero, mul_zero, zero_div, zero_add, L.periodic]
        · rw [if_neg hm0] at h
          refine fall (fun hd hP => hm0 ?_) h
          rw [hm, (int_mul12 hd).2, hP, beq_iff_eq]
          exact Int.mul_emod_left _ _
    · rw [if_neg ht] at h
      exact fall (fun hd _ => ht (beq_iff_eq.mpr (int_mul12 hd).1)) h

/-- **constructor soundness** for any interpretation satisfying `TrigLaws` (for a table
result `res.sem` is not the printed value: see `Res.sem`) -/
theorem trig_ctor_sound {ρ : Expr → K} {pi : K} {F : TrigFn → K → K} (L : TrigLaws pi F)
    (hρ : Compositional ρ pi) (order : List Expr) (fuel : Nat) (fn : TrigFn) (arg : Lin) (res : Res)
    (hw : arg.wf = true) (h : trigCtor order fuel fn arg = .ok res) :
    res.sem ρ pi F = F fn (arg.eval ρ pi) := by
  induction fuel generalizing fn arg res with
  | zero => cases h
  | succ fuel ih =>
    unfold trigCtor at h
    by_cases hz : (fn.zeroSpecial && arg.isZero) = true
    · rw [if_pos hz] at h
      cases h
      simp only [Res.sem, Lin.eval_of_isZero ((Bool.and_eq_true _ _).mp hz).2, Int.cast_one, one_mul, Nat.cast_zero,
        mul_zero, zero_div]
    rw [if_neg hz] at h
    by_cases hcan : isCancelArg fn arg = true
    · rw [if_pos hcan] at h; cases h
    rw [if_neg hcan] at h
    obtain ⟨s, hsimp, h⟩ := bind_eq_ok h
    have S := trig_simplify_sound L hρ order fn arg s hw hsimp
    have scaled : ∀ (g : TrigFn) (σ : Int) (v : K),
        (do let r ← trigCtor order fuel g s.rarg; pure (r.scale σ) : Except Err Res) = .ok res →
        (σ : K) * F g (s.rarg.eval ρ pi) = v → res.sem ρ pi F = v := by
      intro g σ v h hv
      obtain ⟨r, hrec, h⟩ := bind_eq_ok h
      cases h
      rw [Res.sem_scale, ih g s.rarg r S.wf hrec, hv]
    by_cases hc : s.conj = true
    · rw [if_pos hc] at h
      exact scaled fn.co s.sign _ h (S.conj hc).symm
    rw [if_neg hc] at h
    have hc' : s.conj = false := Bool.eq_false_iff.mpr hc
    by_cases hzr : s.rarg.isZero = true
    · rw [if_pos hzr] at h
      cases hi : s.index with
      | none => simp only [hi] at h; cases h
      | some i =>
        simp only [hi] at h
        by_cases hneg : i < 0
        · rw [if_pos hneg] at h; cases h
        · rw [if_neg hneg] at h
          cases h
          have h0 : 0 ≤ i := not_lt.mp hneg
          simp only [Res.sem]
          rw [S.table hc' hzr i hi h0, ← Int.cast_natCast (R := K) i.toNat, Int.toNat_of_nonneg h0]
    rw [if_neg hzr] at h
    have hz' : s.rarg.isZero = false := Bool.eq_false_iff.mpr hzr
    by_cases hs1 : (s.sign == 1) = true
    · rw [if_pos hs1] at h
      have hs1' : s.sign = 1 := beq_iff_eq.mp hs1
      by_cases he : (!(s.rarg.eqv arg)) = true
      · rw [if_pos he] at h
        rw [ih fn s.rarg res S.wf h, S.same hc' hz', hs1', Int.cast_one, one_mul]
      · rw [if_neg he] at h
        cases h
        simp only [Res.sem, Int.cast_one, one_mul]
    · rw [if_neg hs1] at h
      have hsm : s.sign = -1 := S.sign.resolve_left fun h1 => hs1 (beq_iff_eq.mpr h1)
      exact scaled fn (-1) _ h (by rw [S.same hc' hz', hsm])

end SymVerif.C08
