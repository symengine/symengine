import SymVerif.Lemmas.C26MulBase
/-!
Value preservation of `matrix_mul`: the merge loop.  After the factors `Pr` the state stands for the chain
`keep ++ pending leaf`, whose product is the product of `Pr`; each step shows "new state = old product · t".
-/
namespace SymVerif.MatExpr
open MExpr

/-- the pending DiagonalMatrix / ImmutableDenseMatrix of the merge loop -/
def pend (st : MulSt) : List MExpr :=
  match st.dg, st.dn with
  | some d, _ => [diag d]
  | none, some (r, c, v) => [dense r c v]
  | none, none => []

/-- the factors the state stands for: `keep` and the pending merged leaf (the model's `mulKeep`) -/
def baseL (st : MulSt) : List MExpr := st.keep ++ pend st

theorem mulKeep_eq_baseL (st : MulSt) : mulKeep st = baseL st := by
  cases hdg : st.dg with
  | some d => simp [mulKeep, baseL, pend, hdg]
  | none =>
    cases hdn : st.dn with
    | some x => obtain ⟨r, c, v⟩ := x; simp [mulKeep, baseL, pend, hdg, hdn]
    | none => simp [mulKeep, baseL, pend, hdg, hdn]

theorem valsOf_single (env : Env) (t : MExpr) : valsOf env [t] = [valOf env t] := rfl

theorem valsOf_snoc (env : Env) (l : List MExpr) (t : MExpr) :
    valsOf env (l ++ [t]) = valsOf env l ++ [valOf env t] := valsOf_append env l [t]

/-- after the factors `Pr` (a chain from `a` to `b`) the state stands for a chain with the same product;
    when it stands for no factor at all, `idn` remembers the last of the identities seen so far, which all have size `a` -/
structure MulInv (env : Env) (a b : Nat) (Pr : List MExpr) (st : MulSt) : Prop where
  /-- the model tests the pending diagonal first (`| some d, _`): with both pending the dense leaf would be dropped unseen -/
  excl : st.dg = none ∨ st.dn = none
  ok : okAll env (baseL st)
  chain : Chain a b (valsOf env (baseL st))
  chainP : Chain a b (valsOf env Pr)
  val : prodI a (valsOf env (baseL st)) ≃ prodI a (valsOf env Pr)
  idn : Pr ≠ [] → baseL st = [] → ∃ n, st.idn = some n ∧ n.eval env = a

theorem MulInv.init (env : Env) (a : Nat) : MulInv env a a [] {} :=
  ⟨Or.inl rfl, trivial, rfl, rfl, Val.Eqv.refl _, fun h => absurd rfl h⟩

/-- one more factor `t`: it is enough that the new state stands for (old product) · `t` -/
theorem MulInv.step {env : Env} {a b : Nat} {Pr : List MExpr} {st st1 : MulSt} {t : MExpr}
    (hinv : MulInv env a b Pr st) (ht : (valOf env t).r = b)
    (hex : st1.dg = none ∨ st1.dn = none) (hok : okAll env (baseL st1))
    (hch : Chain a (valOf env t).c (valsOf env (baseL st1)))
    (hv : prodI a (valsOf env (baseL st1)) ≃ mulV (prodI a (valsOf env (baseL st))) (valOf env t))
    (hid : baseL st1 = [] → ∃ n, st1.idn = some n ∧ n.eval env = a) :
    MulInv env a (valOf env t).c (Pr ++ [t]) st1 := by
  refine ⟨hex, hok, hch, ?_, ?_, fun _ => hid⟩
  · rw [valsOf_snoc]; exact hinv.chainP.snoc ht
  · rw [valsOf_snoc]
    exact (hv.trans (mulV_congr hinv.val (Val.Eqv.refl _) (hinv.chain.cols.trans ht.symm))).trans
      (prodI_snoc hinv.chainP ht).symm

theorem MulInv.snoc {env : Env} {a b : Nat} {Pr : List MExpr} {st st1 : MulSt} {t : MExpr}
    (hinv : MulInv env a b Pr st) (hokt : okOf env t) (ht : (valOf env t).r = b)
    (hb : baseL st1 = baseL st ++ [t]) (hex : st1.dg = none ∨ st1.dn = none) :
    MulInv env a (valOf env t).c (Pr ++ [t]) st1 := by
  refine hinv.step ht hex ?_ ?_ ?_ fun h => by simp [hb] at h
  · rw [hb]; exact (okAll_append _ _ _).2 ⟨hinv.ok, hokt, trivial⟩
  · rw [hb, valsOf_snoc]; exact hinv.chain.snoc ht
  · rw [hb, valsOf_snoc]; exact prodI_snoc hinv.chain ht

/-- a step that merges `t` into the pending leaf `p`, giving `p'` -/
theorem MulInv.merge {env : Env} {a b : Nat} {Pr : List MExpr} {st st1 : MulSt} {t p p' : MExpr}
    (hinv : MulInv env a b Pr st) (ht : (valOf env t).r = b)
    (hp : pend st = [p]) (hk1 : st1.keep = st.keep) (hp1 : pend st1 = [p'])
    (hex : st1.dg = none ∨ st1.dn = none) (hokp' : okOf env p')
    (he : mulV (valOf env p) (valOf env t) ≃ valOf env p') :
    MulInv env a (valOf env t).c (Pr ++ [t]) st1 := by
  have hb : baseL st = st.keep ++ [p] := by rw [baseL, hp]
  have hb1 : baseL st1 = st.keep ++ [p'] := by rw [baseL, hp1, hk1]
  have hok := hinv.ok
  have hchain := hinv.chain
  rw [hb] at hok
  rw [hb, valsOf_snoc] at hchain
  obtain ⟨m, hK, hpr, hpc⟩ : ∃ m, Chain a m (valsOf env st.keep) ∧ (valOf env p).r = m ∧ (valOf env p).c = b :=
    chain_append.1 hchain
  refine hinv.step ht hex ?_ ?_ ?_ fun h => by simp [hb1] at h
  · rw [hb1]; exact (okAll_append _ _ _).2 ⟨((okAll_append _ _ _).1 hok).1, hokp', trivial⟩
  · rw [hb1, valsOf_snoc]; exact hK.append ⟨he.1.symm.trans hpr, he.2.1.symm⟩
  · rw [hb1, hb, valsOf_snoc, valsOf_snoc]
    have hpr' : (valOf env p').r = m := he.1.symm.trans hpr
    -- with `K` the product of `keep`: K·p' ≃ K·(p·t) ≃ (K·p)·t ≃ (old product)·t
    refine (prodI_snoc hK hpr').trans ?_
    refine (mulV_congr (Val.Eqv.refl _) he.symm (hK.cols.trans hpr'.symm)).trans ?_
    refine (mulV_assoc _ _ _).symm.trans ?_
    exact mulV_congr (prodI_snoc hK hpr).symm (Val.Eqv.refl _) (hpc.trans ht.symm)

theorem excl_dn {st : MulSt} (hex : st.dg = none ∨ st.dn = none) {d : List GQ} (hdg : st.dg = some d) : st.dn = none :=
  hex.resolve_left fun h => nomatch hdg.symm.trans h

theorem excl_dg {st : MulSt} (hex : st.dg = none ∨ st.dn = none) {x : Nat × Nat × List GQ} (hdn : st.dn = some x) :
    st.dg = none :=
  hex.resolve_right fun h => nomatch hdn.symm.trans h

/-- the generic branch of `mulStep`: flush the pending leaf, push the factor; a function of its own so that the seven
    constructors `mulStep` treats alike share one proof (`gen` in `mulStep_spec`) -/
def flushPush (st : MulSt) (f : MExpr) : MulSt :=
  match st.dg, st.dn with
  | some d, _ => { st with keep := st.keep ++ [diag d, f], dg := none }
  | none, some (r, c, v) => { st with keep := st.keep ++ [dense r c v, f], dn := none }
  | none, none => { st with keep := st.keep ++ [f] }

theorem flushPush_spec (st : MulSt) (f : MExpr) (hex : st.dg = none ∨ st.dn = none) :
    baseL (flushPush st f) = baseL st ++ [f] ∧
      ((flushPush st f).dg = none ∨ (flushPush st f).dn = none) := by
  cases hdg : st.dg with
  | some d =>
    have hdn := excl_dn hex hdg
    simp [flushPush, baseL, pend, hdg, hdn]
  | none =>
    cases hdn : st.dn with
    | some x => obtain ⟨r, c, v⟩ := x; simp [flushPush, baseL, pend, hdg, hdn]
    | none => simp [flushPush, baseL, pend, hdg, hdn]

/-- the shape of the four merging branches of `mulStep`; `chk`, the assertion of the canonical form, plays no part in the
    value -/
theorem merged_ok {α β : Type} {x : Except Err α} {chk : α → Except Err β} {g : α → MulSt} {st1 : MulSt}
    (h : (do let p ← x; let _ ← chk p; pure (g p)) = .ok st1) : ∃ p, x = .ok p ∧ g p = st1 := by
  simp only [bind_ok] at h
  obtain ⟨p, hp, _, _, h⟩ := h
  exact ⟨p, hp, by simpa [pure, Except.pure] using h⟩

theorem mkDenseT_ok {x : Nat × Nat × List GQ} {u : Unit} (_h : mkDenseT x = .ok u) : True := trivial

theorem mulStep_spec {env : Env} {a b : Nat} {Pr : List MExpr} {st st1 : MulSt} {t : MExpr}
    (h : mulStep st t = .ok st1) (hinv : MulInv env a b Pr st) (hokt : okOf env t)
    (ht : (valOf env t).r = b) : MulInv env a (valOf env t).c (Pr ++ [t]) st1 := by
  have gen : mulStep st t = .ok (flushPush st t) → MulInv env a (valOf env t).c (Pr ++ [t]) st1 := by
    intro hg
    rw [hg] at h
    simp at h
    rw [← h]
    obtain ⟨hb, hex⟩ := flushPush_spec st t hinv.excl
    exact hinv.snoc hokt ht hb hex
  cases t with
  | zero _ _ | sym _ | add _ | mul _ _ | had _ | transpose _ | conj _ =>
    exact gen (by simp only [mulStep, flushPush]; split <;> simp [*])
  | ident n =>
    simp [mulStep] at h
    subst h
    -- the state stands for the same factors; an identity does not change the product
    have ht : n.eval env = b := ht
    refine hinv.step ht hinv.excl hinv.ok (show Chain a (n.eval env) _ from ht ▸ hinv.chain)
      (mulV_ident_right ?_).symm fun hb => ⟨n, rfl, ?_⟩
    · exact hinv.chain.cols.trans ht.symm
    · have hc := hinv.chain
      rw [show baseL st = [] from hb] at hc
      exact ht.trans hc.symm
  | diag d =>
    simp only [mulStep] at h
    split at h
    · -- diag * diag
      rename_i d0 hdg
      obtain ⟨p, hp, rfl⟩ := merged_ok h
      obtain ⟨hlen, rfl, _⟩ := zipSame_ok hp
      have hdn := excl_dn hinv.excl hdg
      refine hinv.merge (p := diag d0) (p' := diag (List.zipWith (· * ·) d0 d)) ht
        (by simp [pend, hdg]) rfl (by simp [pend]) (Or.inr hdn) trivial (diag_mul_diag hlen)
    · -- dense * diag
      rename_i r c v hdg hdn
      obtain ⟨p, hp, rfl⟩ := merged_ok h
      obtain ⟨hg, rfl⟩ := ite_ok hp
      exact hinv.merge (p := dense r c v) (p' := dense r c _) ht
        (by simp [pend, hdg, hdn]) rfl (by simp [pend, hdg]) (Or.inl hdg)
        (by simp [okOf, length_mkFlat]) (dense_mul_diag hg.2)
    · rename_i hdg hdn
      simp at h; subst h
      exact hinv.snoc hokt ht (by simp [baseL, pend, hdg, hdn]) (Or.inr hdn)
  | dense r c v =>
    simp only [mulStep] at h
    split at h
    · -- dense * dense
      rename_i r0 c0 v0 hdn
      obtain ⟨p, hp, rfl⟩ := merged_ok h
      obtain ⟨⟨_, _, rfl⟩, rfl⟩ := ite_ok hp
      have hdg := excl_dg hinv.excl hdn
      exact hinv.merge (p := dense r0 c0 v0) (p' := dense r0 c _) ht
        (by simp [pend, hdg, hdn]) rfl (by simp [pend, hdg]) (Or.inl hdg)
        (by simp [okOf, length_mkFlat]) (dense_mul_dense)
    · -- diag * dense
      rename_i d0 hdn hdg
      obtain ⟨p, hp, rfl⟩ := merged_ok h
      obtain ⟨hg, rfl⟩ := ite_ok hp
      exact hinv.merge (p := diag d0) (p' := dense r c _) ht
        (by simp [pend, hdg]) rfl (by simp [pend]) (Or.inl rfl)
        (by simp [okOf, length_mkFlat]) (diag_mul_dense hg.2)
    · rename_i hdn hdg
      simp at h; subst h
      exact hinv.snoc hokt ht (by simp [baseL, pend, hdg, hdn]) (Or.inl hdg)

theorem mulLoop_spec {env : Env} {a : Nat} : ∀ (l Pr : List MExpr) (st st' : MulSt) (b c : Nat),
    mulLoop l st = .ok st' → MulInv env a b Pr st → okAll env l → Chain b c (valsOf env l) →
    MulInv env a c (Pr ++ l) st'
  | [], Pr, st, st', b, c, h, hinv, _, hch => by
    simp [mulLoop] at h; subst h
    rw [List.append_nil]; exact (show b = c from hch) ▸ hinv
  | t :: rest, Pr, st, st', b, c, h, hinv, hok, hch => by
    simp only [mulLoop, bind_ok] at h
    obtain ⟨st1, h1, h2⟩ := h
    have := mulLoop_spec rest (Pr ++ [t]) st1 st' _ c h2 (mulStep_spec h1 hinv hok.1 hch.1) hok.2 hch.2
    simpa using this

end SymVerif.MatExpr
