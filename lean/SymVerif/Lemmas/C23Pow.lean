import SymVerif.Lemmas.C23Euclid

/-!
C23: powers, modular powers and modular composition, verified once under a ring homomorphism that
kills the modulus.
-/
namespace SymVerif.C23
open Polynomial SymVerif.GF

variable {p : ℕ} [Fact p.Prime]

theorem mul_pow_bit {M : Type} [Monoid M] (h x : M) (n : ℕ) :
    h * x ^ (n % 2) * (x ^ 2) ^ (n / 2) = h * x ^ n := by
  rw [← pow_mul, mul_assoc, ← pow_add, Nat.mod_add_div]

theorem bit_ite {α : Type} (P : α → Prop) (n : ℕ) (a b : α) (h1 : n % 2 = 1 → P a)
    (h0 : n % 2 = 0 → P b) : P (if n % 2 == 1 then a else b) := by
  rcases Nat.mod_two_eq_zero_or_one n with h | h
  · rw [h]; exact h0 h
  · rw [h]; exact h1 h

/-! ### computing modulo `m`

Congruence modulo the polynomial of `m` is equality under every ring homomorphism `φ` that sends it to
zero; the loops are verified for such a `φ` into an arbitrary ring, where `rem` disappears (`map_rem`).
The claimed theorems put in the quotient map (`exists_hom_ker`: equality there is `m ∣ A - B`) or, for
`gf_pow`, the identity with `m = []`. -/

theorem exists_hom_ker (M : (ZMod p)[X]) :
    ∃ (S : Type) (_ : CommRing S) (φ : (ZMod p)[X] →+* S), φ M = 0 ∧ ∀ A B, φ A = φ B → M ∣ A - B :=
  ⟨_, inferInstance, Ideal.Quotient.mk (Ideal.span {M}),
    Ideal.Quotient.eq_zero_iff_mem.mpr (Ideal.mem_span_singleton_self M),
    fun _ _ h => Ideal.mem_span_singleton.mp (Ideal.Quotient.eq.mp h)⟩

omit [Fact p.Prime] in
/-- the loop of `gf_pow` is the loop of `gf_pow_mod` with nothing to reduce by: `rem p a [] = a` by definition -/
theorem powLoop_eq_powModLoop (num : ℕ) (sq ret : Poly) :
    powLoop p num sq ret = powModLoop p [] num sq ret := by
  induction num using Nat.strong_induction_on generalizing sq ret with
  | _ num ih =>
    rw [powLoop, powModLoop]
    by_cases h0 : num / 2 = 0
    · rw [dif_pos h0, dif_pos h0]; rfl
    · rw [dif_neg h0, dif_neg h0]
      exact ih _ (Nat.div_lt_self (Nat.pos_of_ne_zero fun h => h0 (by rw [h])) Nat.one_lt_two) _ _

section hom
variable {S : Type} [CommRing S] (φ : (ZMod p)[X] →+* S)

theorem map_rem {a m : Poly} (hφ : φ (toPoly p m) = 0) (ha : WF p a) (hm : WF p m) :
    φ (toPoly p (rem p a m)) = φ (toPoly p a) := by
  by_cases hm0 : m = []
  · rw [hm0]; rfl
  · rw [toPoly_quo_rem ha hm hm0, φ.map_add, φ.map_mul, hφ, mul_zero, zero_add]

theorem powModLoop_spec {m : Poly} (hφ : φ (toPoly p m) = 0) (hm : WF p m) :
    ∀ (num : ℕ) (inp h : Poly), 1 ≤ num → WF p inp → WF p h →
      φ (toPoly p (powModLoop p m num inp h)) = φ (toPoly p h) * φ (toPoly p inp) ^ num ∧
      WF p (powModLoop p m num inp h) ∧ (m ≠ [] → (powModLoop p m num inp h).length < m.length) := by
  intro num
  induction num using Nat.strong_induction_on with
  | _ num ih =>
    intro inp h h1 hinp hh
    rw [powModLoop]
    have hw := mulAssign_wf prime_pos hh hinp
    have hh' : WF p (if num % 2 == 1 then rem p (mulAssign p h inp) m else h) :=
      bit_ite _ num _ _ (fun _ => rem_wf_total hw hm) (fun _ => hh)
    have hval : φ (toPoly p (if num % 2 == 1 then rem p (mulAssign p h inp) m else h))
        = φ (toPoly p h) * φ (toPoly p inp) ^ (num % 2) :=
      bit_ite (fun r => φ (toPoly p r) = φ (toPoly p h) * φ (toPoly p inp) ^ (num % 2)) num _ _
        (fun hb => by rw [map_rem φ hφ hw hm, mulAssign_spec, φ.map_mul, hb, pow_one])
        (fun hb => by rw [hb, pow_zero, mul_one])
    by_cases h0 : num / 2 = 0
    · rw [dif_pos h0]
      obtain rfl : num = 1 := by omega
      -- the last round has `num = 1`, odd: the `if` is the `rem`, hence shorter than `m`
      exact ⟨hval.trans (by rw [pow_one]), hh', fun hm0 => rem_length_lt p _ m hm0⟩
    · rw [dif_neg h0]
      have hsq := sqr_wf prime_pos hinp
      obtain ⟨e, w, l⟩ := ih (num / 2) (by omega) (rem p (sqr p inp) m) _ (by omega) (rem_wf_total hsq hm) hh'
      exact ⟨by rw [e, hval, map_rem φ hφ hsq hm, toPoly_sqr, φ.map_mul, ← pow_two, mul_pow_bit], w, l⟩

theorem pow_wf_spec {a : Poly} (ha : WF p a) (n : ℕ) :
    toPoly p (GF.pow p a n) = toPoly p a ^ n ∧ WF p (GF.pow p a n) := by
  match n with
  | 0 => exact ⟨by rw [pow_zero]; exact toPoly_one prime_pos, wf_one prime_pos⟩
  | 1 => exact ⟨(pow_one _).symm, ha⟩
  | 2 => exact ⟨by rw [pow_two]; exact toPoly_sqr a, sqr_wf prime_pos ha⟩
  | n + 3 =>
    obtain ⟨e, w, _⟩ := powModLoop_spec (RingHom.id _) rfl wf_nil (n + 3) a (one p)
      (Nat.le_add_left 1 _) ha (wf_one prime_pos)
    rw [show GF.pow p a (n + 3) = powModLoop p [] (n + 3) a (one p) from powLoop_eq_powModLoop ..]
    exact ⟨e.trans (by rw [toPoly_one prime_pos]; exact one_mul _), w⟩

/-- `gf_pow_mod` -/
theorem powMod_wf_spec {m f : Poly} (hφ : φ (toPoly p m) = 0) (hm : WF p m) (hm0 : m ≠ []) (hf : WF p f) (n : ℕ) :
    φ (toPoly p (powMod p m f n)) = φ (toPoly p f) ^ n ∧ WF p (powMod p m f n) ∧
      (1 ≤ n → (powMod p m f n).length < m.length) := by
  match n with
  | 0 => exact ⟨by rw [pow_zero, ← φ.map_one, ← toPoly_fromVec_one prime_pos]; rfl, fromVec_wf prime_pos _,
      fun h => absurd h (Nat.not_succ_le_zero 0)⟩
  | 1 => exact ⟨by rw [pow_one]; exact map_rem φ hφ hf hm, rem_wf hf hm hm0, fun _ => rem_length_lt p _ m hm0⟩
  | 2 => exact ⟨by rw [show powMod p m f 2 = rem p (sqr p f) m from rfl, map_rem φ hφ (sqr_wf prime_pos hf) hm,
      toPoly_sqr, φ.map_mul, pow_two], rem_wf (sqr_wf prime_pos hf) hm hm0, fun _ => rem_length_lt p _ m hm0⟩
  | n + 3 =>
    obtain ⟨e, w, l⟩ := powModLoop_spec φ hφ hm (n + 3) f (fromVec p [1])
      (Nat.le_add_left 1 _) hf (fromVec_wf prime_pos _)
    rw [toPoly_fromVec_one prime_pos, φ.map_one, one_mul] at e
    exact ⟨e, w, fun _ => l hm0⟩

theorem composeLoop_spec {f : Poly} (hφ : φ (toPoly p f) = 0) (hf : WF p f) (hf0 : f ≠ []) {h : Poly}
    (hh : WF p h) : ∀ (gs : List ℕ) (out : Poly), WF p out →
      φ (toPoly p (composeLoop p f h gs out))
        = gs.foldl (fun acc (c : ℕ) => acc * φ (toPoly p h) + φ (C (c : ZMod p))) (φ (toPoly p out)) ∧
      WF p (composeLoop p f h gs out) := by
  intro gs
  induction gs with
  | nil => intro out hw; exact ⟨rfl, hw⟩
  | cons c gs ih =>
    intro out hw
    have hw1 := addConst_wf prime_pos (mulAssign_wf prime_pos hw hh) (c : ℤ)
    obtain ⟨e, w⟩ := ih _ (rem_wf hw1 hf hf0)
    rw [map_rem φ hφ hw1 hf, addConst_spec prime_pos, mulAssign_spec, φ.map_add, φ.map_mul,
      Int.cast_natCast] at e
    exact ⟨e, w⟩

theorem map_comp_toPoly (l : Poly) (H : (ZMod p)[X]) :
    φ ((toPoly p l).comp H) = l.foldr (fun (c : ℕ) acc => acc * φ H + φ (C (c : ZMod p))) 0 := by
  induction l with
  | nil => rw [toPoly_nil, zero_comp, φ.map_zero, List.foldr_nil]
  | cons c l ih =>
    rw [toPoly_cons, add_comp, C_comp, mul_comp, X_comp, φ.map_add, φ.map_mul, ih, List.foldr_cons,
      add_comm, mul_comm]

/-- `gf_compose_mod` -/
theorem composeMod_wf_spec {f g h : Poly} (hφ : φ (toPoly p f) = 0) (hf : WF p f) (hf0 : f ≠ []) (hh : WF p h) :
    φ (toPoly p (composeMod p f g h)) = φ ((toPoly p g).comp (toPoly p h)) ∧ WF p (composeMod p f g h) := by
  unfold composeMod
  -- `g(h)` is a `foldr` over `g`, the loop a `foldl` over `g.reverse`: one `cases` then serves the model's `match` and the spec
  rw [map_comp_toPoly, ← List.foldl_reverse]
  cases hr : g.reverse with
  | nil =>
    rw [List.reverse_eq_nil_iff.1 hr]
    exact ⟨φ.map_zero, wf_nil⟩
  | cons lc gs =>
    obtain ⟨e, w⟩ := composeLoop_spec φ hφ hf hf0 hh gs (fromVec p [(lc : ℤ)]) (fromVec_wf prime_pos _)
    refine ⟨e.trans ?_, w⟩
    rw [List.foldl_cons, toPoly_fromVec_const prime_pos, zero_mul, zero_add, Int.cast_natCast]

end hom

end SymVerif.C23
