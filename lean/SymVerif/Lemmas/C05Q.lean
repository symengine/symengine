import SymVerif.Model.Num
import Mathlib.Data.Rat.Lemmas
import Mathlib.Tactic.Ring
import Mathlib.Tactic.Positivity
/-!
Lemmas about the `mpq` model `Q`: every operation returns the canonical representation of the
mathematical result (`toRat` is the value in Mathlib's `ℚ`).

A canonical `Q` is the numerator and denominator of a rational of Mathlib (`Q.ofRat`), `Q.norm` is
`Rat.normalize`, and `Q.add/sub/mul/inv/pow` compute what `ℚ`'s own operations are defined to compute
(both follow GMP).  The lemmas about canonical fractions are these defining equations read backwards;
only the lemmas about fractions that need not be in lowest terms (they serve `Lemmas/C29Sub.lean`) are proved by
field arithmetic.  The last lemmas are about `Num` (`div_int_zero`): they stand here so that `Props/C06.lean` needs
no other module of C05.
-/
namespace SymVerif.Num.Q

def toRat (q : Q) : ℚ := (q.num : ℚ) / (q.den : ℚ)

def Canon (q : Q) : Prop := 0 < q.den ∧ Int.gcd q.num (q.den : Int) = 1

theorem canon_iff (q : Q) : q.canon = true ↔ q.Canon := by
  simp [canon, Canon]

theorem Canon.pos {q : Q} (h : q.Canon) : 0 < q.den := h.1

theorem Canon.ofInt (n : Int) : (Q.ofInt n).Canon := by
  simp [Canon, Q.ofInt]

@[simp] theorem toRat_ofInt (n : Int) : (Q.ofInt n).toRat = n := by
  simp [toRat, Q.ofInt]

/-- the `mpq` that GMP keeps for the rational number `x` -/
def ofRat (x : ℚ) : Q := ⟨x.num, x.den⟩

theorem toRat_ofRat (x : ℚ) : (ofRat x).toRat = x := Rat.num_div_den x

theorem canon_ofRat (x : ℚ) : (ofRat x).Canon := ⟨x.den_pos, x.reduced⟩

theorem Canon.eq_ofRat {q : Q} (h : q.Canon) : q = ofRat q.toRat := by
  obtain ⟨n, d⟩ := q
  have hd : (0 : ℤ) < (d : ℤ) := Int.natCast_pos.mpr h.1
  have hc : n.natAbs.Coprime (d : ℤ).natAbs := h.2
  have h2 := Rat.den_div_eq_of_coprime hd hc
  simp only [ofRat, toRat, mk.injEq]
  exact ⟨(Rat.num_div_eq_of_coprime hd hc).symm, by exact_mod_cast h2.symm⟩

theorem canon_ext {a b : Q} (ha : a.Canon) (hb : b.Canon) (h : a.toRat = b.toRat) : a = b := by
  rw [ha.eq_ofRat, hb.eq_ofRat, h]

/-- `mpq_canonicalize` is `Rat.normalize` -/
theorem norm_eq {n : Int} {d : Nat} (hd : d ≠ 0) : norm n d = ofRat (Rat.normalize n d hd) := by
  rw [Rat.normalize_eq]; rfl

theorem norm_canon {n : Int} {d : Nat} (hd : 0 < d) : (norm n d).Canon := by
  rw [norm_eq hd.ne']; exact canon_ofRat _

theorem toRat_norm {n : Int} {d : Nat} (hd : 0 < d) : (norm n d).toRat = (n : ℚ) / (d : ℚ) := by
  rw [norm_eq hd.ne', toRat_ofRat, Rat.normalize_eq_mkRat, Rat.mkRat_eq_div]

theorem add_ofRat (x y : ℚ) : (ofRat x).add (ofRat y) = ofRat (x + y) := by
  rw [Rat.add_def]; exact norm_eq _

theorem sub_ofRat (x y : ℚ) : (ofRat x).sub (ofRat y) = ofRat (x - y) := by
  rw [Rat.sub_def]; exact norm_eq _

theorem mul_ofRat (x y : ℚ) : (ofRat x).mul (ofRat y) = ofRat (x * y) := by
  rw [Rat.mul_def]; exact norm_eq _

theorem neg_ofRat (x : ℚ) : (ofRat x).neg = ofRat (-x) := by
  simp [Q.neg, ofRat]

/-- `mpz_pow_ui` on numerator and denominator keeps a fraction canonical -/
theorem pow_ofRat (x : ℚ) (k : ℕ) : (ofRat x).pow k = ofRat (x ^ k) := by
  simp [Q.pow, ofRat, Rat.num_pow, Rat.den_pow]

theorem inv_ofRat {x : ℚ} (h : x ≠ 0) : (ofRat x).inv = ofRat x⁻¹ := by
  have h0 : x.num ≠ 0 := Rat.num_ne_zero.mpr h
  show (if x.num < 0 then (⟨-(x.den : ℤ), x.num.natAbs⟩ : Q) else ⟨x.den, x.num.natAbs⟩) = ⟨x⁻¹.num, x⁻¹.den⟩
  rw [Rat.num_inv, Rat.den_inv, if_neg h0]  -- `Rat.den_inv`: `x⁻¹.den = if x.num = 0 then 1 else x.num.natAbs`
  rcases lt_or_gt_of_ne h0 with hn | hp
  · rw [if_pos hn, Int.sign_eq_neg_one_of_neg hn, neg_one_mul]
  · rw [if_neg hp.not_gt, Int.sign_eq_one_of_pos hp, one_mul]

theorem toRat_sub {a b : Q} (ha : 0 < a.den) (hb : 0 < b.den) :
    (a.sub b).toRat = a.toRat - b.toRat := by
  have h1 : (a.den : ℚ) ≠ 0 := by exact_mod_cast ha.ne'
  have h2 : (b.den : ℚ) ≠ 0 := by exact_mod_cast hb.ne'
  rw [Q.sub, toRat_norm (Nat.mul_pos ha hb), toRat, toRat, div_sub_div _ _ h1 h2, mul_comm (a.den : ℚ) (b.num : ℚ)]
  push_cast; rfl

@[simp] theorem toRat_neg (a : Q) : a.neg.toRat = -a.toRat := by
  simp only [toRat, Q.neg]; push_cast; ring

theorem sub_den_pos {a b : Q} (ha : 0 < a.den) (hb : 0 < b.den) : 0 < (a.sub b).den :=
  (norm_canon (Nat.mul_pos ha hb)).1

theorem toRat_eq_zero_iff {a : Q} (ha : 0 < a.den) : a.toRat = 0 ↔ a.num = 0 := by
  have h1 : (a.den : ℚ) ≠ 0 := by exact_mod_cast ha.ne'
  simp [toRat, h1]

theorem toRat_pos_iff {a : Q} (ha : 0 < a.den) : 0 < a.toRat ↔ 0 < a.num :=
  (div_pos_iff_of_pos_right (Nat.cast_pos.mpr ha)).trans Int.cast_pos

theorem toRat_neg_iff {a : Q} (ha : 0 < a.den) : a.toRat < 0 ↔ a.num < 0 := by
  have h1 : (0 : ℚ) < (a.den : ℚ) := by exact_mod_cast ha
  simp only [toRat]
  rw [div_lt_iff₀ h1, zero_mul]; exact_mod_cast Iff.rfl

/-- a canonical fraction with numerator 0 is 0/1; hence a `rat` (den ≠ 1) is never zero -/
theorem canon_num_ne_zero {a : Q} (ha : a.Canon) (hd : a.den ≠ 1) : a.num ≠ 0 := by
  intro h
  obtain ⟨_, h2⟩ := ha
  rw [h, Int.gcd_zero_left, Int.natAbs_natCast] at h2
  exact hd h2

/-- `q` is the canonical `mpq` of the rational number `x`.  The `mpq` operations of the model map
representations to representations, so a formula over `Q` is followed by the same formula over `ℚ`. -/
structure Rep (q : Q) (x : ℚ) : Prop where
  canon : q.Canon
  eq : q.toRat = x

theorem natAbs_q_of_neg {n : ℤ} (h : n < 0) : ((n.natAbs : ℕ) : ℚ) = -(n : ℚ) := by
  rw [Nat.cast_natAbs, abs_of_neg h]; push_cast; rfl

theorem natAbs_q_of_nonneg {n : ℤ} (h : 0 ≤ n) : ((n.natAbs : ℕ) : ℚ) = (n : ℚ) := by
  rw [Nat.cast_natAbs, abs_of_nonneg h]

namespace Rep
variable {a b : Q} {x y : ℚ}

theorem ofRat (x : ℚ) : Rep (ofRat x) x := ⟨canon_ofRat x, toRat_ofRat x⟩
theorem eq_ofRat (h : Rep a x) : a = Q.ofRat x := h.eq ▸ h.canon.eq_ofRat
theorem self (h : a.Canon) : Rep a a.toRat := ⟨h, rfl⟩
theorem ofInt (n : Int) : Rep (Q.ofInt n) n := ofRat n

theorem ne_zero (ha : Rep a x) (h : a.num ≠ 0) : x ≠ 0 := by
  rw [ha.eq_ofRat] at h; exact Rat.num_ne_zero.mp h

theorem norm {n : Int} {d : Nat} (hd : 0 < d) (h : (n : ℚ) / d = x) : Rep (norm n d) x :=
  ⟨norm_canon hd, (toRat_norm hd).trans h⟩

theorem add (ha : Rep a x) (hb : Rep b y) : Rep (a.add b) (x + y) := by
  rw [ha.eq_ofRat, hb.eq_ofRat, add_ofRat]; exact ofRat _

theorem sub (ha : Rep a x) (hb : Rep b y) : Rep (a.sub b) (x - y) := by
  rw [ha.eq_ofRat, hb.eq_ofRat, sub_ofRat]; exact ofRat _

theorem mul (ha : Rep a x) (hb : Rep b y) : Rep (a.mul b) (x * y) := by
  rw [ha.eq_ofRat, hb.eq_ofRat, mul_ofRat]; exact ofRat _

theorem neg (ha : Rep a x) : Rep a.neg (-x) := by
  rw [ha.eq_ofRat, neg_ofRat]; exact ofRat _

theorem inv (ha : Rep a x) (h : a.num ≠ 0) : Rep a.inv x⁻¹ := by
  rw [ha.eq_ofRat, inv_ofRat (ha.ne_zero h)]; exact ofRat _

theorem div (ha : Rep a x) (hb : Rep b y) (h : b.num ≠ 0) : Rep (a.div b) (x / y) :=
  ha.mul (hb.inv h)

theorem pow (ha : Rep a x) (k : Nat) : Rep (a.pow k) (x ^ k) := by
  rw [ha.eq_ofRat, pow_ofRat]; exact ofRat _

theorem make (n : Int) {m : Int} (hm : m ≠ 0) : Rep (Q.make n m) ((n : ℚ) / m) := by
  have hpos : 0 < m.natAbs := Int.natAbs_pos.mpr hm
  unfold Q.make; split
  · next h => exact norm hpos (by rw [natAbs_q_of_neg h, Int.cast_neg, neg_div_neg_eq])
  · next h => exact norm hpos (by rw [natAbs_q_of_nonneg (not_lt.mp h)])

end Rep

end SymVerif.Num.Q

namespace SymVerif.Num
open Q

theorem sq_add_sq_ne_zero (x : ℚ) {y : ℚ} (h : y ≠ 0) : x * x + y * y ≠ 0 :=
  (add_pos_of_nonneg_of_pos (mul_self_nonneg x) (mul_self_pos.mpr h)).ne'

theorem Q.Rep.modSq {re im : Q} {x y : ℚ} (hre : Rep re x) (him : Rep im y) :
    Rep (modSq re im) (x * x + y * y) := (hre.mul hre).add (him.mul him)

theorem Q.Rep.modSq_num_ne_zero {re im : Q} {x y : ℚ} (hre : Rep re x) (him : Rep im y)
    (h : im.num ≠ 0) : (Num.modSq re im).num ≠ 0 := fun h0 =>
  have hv : x * x + y * y = 0 :=
    (hre.modSq him).eq.symm.trans ((toRat_eq_zero_iff (hre.modSq him).canon.pos).mpr h0)
  sq_add_sq_ne_zero x (him.ne_zero h) hv

/-- an exact number divided by the exact zero is zoo, `0/0` is nan (`Integer::divint`, `Rational::div`,
`Complex::div`) -/
theorem div_int_zero {F : Type} [FloatOps F] (a : Num F) (he : a.isExact = true)
    (hn : a.normalised = true) :
    Num.div a (.int 0) = .ok (if a.isZero then .nan else .infty 0) := by
  cases a with
  | int n => rfl
  | rat q => exact (apply_ite Except.ok (q.num == 0 : Bool) Num.nan (Num.infty 0)).symm
  | cplx re im =>
    simp only [Num.normalised, Bool.and_eq_true, bne_iff_ne, ne_eq, Q.canon_iff] at hn
    exact if_neg (not_beq_of_ne ((Rep.self hn.1.1).modSq_num_ne_zero (.self hn.1.2) hn.2))
  | _ => cases he

end SymVerif.Num
