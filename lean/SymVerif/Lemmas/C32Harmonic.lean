import Mathlib.NumberTheory.Harmonic.Defs
import Mathlib.Data.Int.Cast.Field
import Mathlib.Data.Nat.Cast.Field
import Mathlib.Tactic.Ring
import SymVerif.Model.NTheory
/-! The loop of `harmonic` computes the defining sum (`harmonicLoop_spec`); `Q.toRat` and `harmTerm`, in which
`harmonic_spec` (Props/C32) is stated, are defined here. -/
namespace SymVerif.NTheory
def Q.toRat (q : Q) : ℚ := (q.num : ℚ) / (q.den : ℚ)

theorem Q.norm_toRat (n : Int) (d : Nat) (hd : 0 < d) :
    (Q.norm n d).toRat = (n : ℚ) / (d : ℚ) ∧ 0 < (Q.norm n d).den := by
  unfold Q.norm
  have hg : 0 < Nat.gcd n.natAbs d := Nat.gcd_pos_of_pos_right _ hd
  have hg0 : (Nat.gcd n.natAbs d == 0) = false := beq_eq_false_iff_ne.mpr hg.ne'
  simp only [hg0, Bool.false_eq_true, if_false]
  have hgq : ((Nat.gcd n.natAbs d : Nat) : ℚ) ≠ 0 := Nat.cast_ne_zero.mpr hg.ne'
  refine ⟨?_, Nat.div_pos (Nat.le_of_dvd hd (Nat.gcd_dvd_right _ _)) hg⟩
  rw [Q.toRat, Int.cast_div (Int.natCast_dvd.mpr (Nat.gcd_dvd_left _ _)) (by exact_mod_cast hgq),
    Nat.cast_div (Nat.gcd_dvd_right _ _) hgq, Int.cast_natCast, div_div_div_cancel_right₀ hgq]

theorem Q.add_toRat (a b : Q) (ha : 0 < a.den) (hb : 0 < b.den) :
    (Q.add a b).toRat = a.toRat + b.toRat ∧ 0 < (Q.add a b).den := by
  unfold Q.add
  obtain ⟨h1, h2⟩ := Q.norm_toRat (a.num * b.den + b.num * a.den) (a.den * b.den) (Nat.mul_pos ha hb)
  refine ⟨?_, h2⟩
  have haq : (a.den : ℚ) ≠ 0 := Nat.cast_ne_zero.mpr ha.ne'
  have hbq : (b.den : ℚ) ≠ 0 := Nat.cast_ne_zero.mpr hb.ne'
  rw [h1, Q.toRat, Q.toRat, div_add_div _ _ haq hbq, mul_comm (a.den : ℚ) (b.num : ℚ)]
  push_cast
  rfl

end SymVerif.NTheory

namespace SymVerif.C32
open SymVerif.NTheory

/-- the term `1 / i^m` (or `i^(-m)`) added by the loop -/
def harmTerm (m : Int) (i : Nat) : ℚ := if m > 0 then 1 / (i : ℚ) ^ m.toNat else (i : ℚ) ^ (-m).toNat

theorem harmonicLoop_spec (m : Int) : ∀ (f i : Nat) (res : Q), 1 ≤ i → 0 < res.den →
    (harmonicLoop m f i res).toRat = res.toRat + ∑ k ∈ Finset.range f, harmTerm m (i + k) ∧
    0 < (harmonicLoop m f i res).den := by
  intro f
  induction f with
  | zero => intro i res _ hres; simp [harmonicLoop, hres]
  | succ f ih =>
    intro i res hi hres
    unfold harmonicLoop
    simp only
    set t : Q := if m > 0 then ⟨1, i ^ m.toNat⟩ else Q.ofInt ((i ^ (-m).toNat : Nat) : Int) with ht
    obtain ⟨htval, htden⟩ : t.toRat = harmTerm m i ∧ 0 < t.den := by
      rw [ht, harmTerm]
      split
      · exact ⟨by simp [Q.toRat], Nat.pow_pos (by omega)⟩
      · exact ⟨by simp [Q.toRat, Q.ofInt], Nat.one_pos⟩
    obtain ⟨a1, a2⟩ := Q.add_toRat res t hres htden
    obtain ⟨b1, b2⟩ := ih (i + 1) (Q.add res t) (by omega) a2
    refine ⟨?_, b2⟩
    rw [b1, a1, htval, Finset.sum_range_succ']
    have : ∀ k, i + 1 + k = i + (k + 1) := by intro k; ring
    simp only [this, add_zero]
    ring

end SymVerif.C32
