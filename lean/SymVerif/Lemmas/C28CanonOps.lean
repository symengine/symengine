import SymVerif.Lemmas.C28Canon
import SymVerif.Lemmas.C28Dom
/-!
The constructors keep the invariant `wf` of C28Canon: `and_or` (with and without the FiniteSet-domain rule) and
`logical_xor` return well-formed, hence `is_canonical`, objects, and what `piecewise` keeps passes
`Piecewise::is_canonical`.
-/
namespace SymVerif.C28
open SymVerif.Logic SymVerif.Logic.B

/-- recogniser of the class built by `and_or<caller>` -/
def sameKind (o : Bool) : B → Bool := if o then isOr else isAnd

/-- `x` may stand as an argument of a node of the class recognised by `same` -/
structure Arg (same : B → Bool) (x : B) : Prop where
  wf : wf x = true
  nonconst : isConst x = false
  other : same x = false

/-- what the first loop of `and_or` collects: a set of admissible arguments -/
structure Inv (same : B → Bool) (args : List B) : Prop where
  sorted : Sorted args
  arg : ∀ x ∈ args, Arg same x

theorem wf_children {same : B → Bool} {l : List B} (h1 : argsOk same l = true) (h2 : wfL l = true) :
    ∀ a ∈ l, Arg same a := by
  intro a ha
  have := ((argsOk_iff same l).1 h1).2.2 a ha
  exact ⟨(wfL_iff l).1 h2 a ha, this.1, this.2.1⟩

theorem contrib_wf (o : Bool) {a x : B} (ha : wf a = true) (h : contrib o a x) : Arg (sameKind o) x := by
  cases a with
  | tt | ff => exact h.elim
  | and l =>
    have hl := Bool.and_eq_true_iff.1 ha
    cases o; exacts [wf_children hl.1 hl.2 x h, h ▸ ⟨ha, rfl, rfl⟩]
  | or l =>
    have hl := Bool.and_eq_true_iff.1 ha
    cases o; exacts [h ▸ ⟨ha, rfl, rfl⟩, wf_children hl.1 hl.2 x h]
  | _ => exact h ▸ ⟨ha, rfl, by cases o <;> rfl⟩

theorem collect_inv (o : Bool) {s r : List B} (hs : ∀ a ∈ s, wf a = true) (hr : collect o s [] = some r) :
    Inv (sameKind o) r := by
  obtain ⟨-, hsort, hmem⟩ := (collect_spec o s []).2 r hr
  refine ⟨hsort sorted_nil, fun x hx => ?_⟩
  obtain ⟨a, ha, hx⟩ := ((hmem x).1 hx).resolve_left List.not_mem_nil
  exact contrib_wf o (hs a ha) hx

theorem wf_const (b : Bool) : wf (const b) = true := by cases b <;> rfl

theorem not_hasCompl {args : List B} (h : ¬hasCompl args = true) : ∀ a ∈ args, notB a ∉ args := by
  simpa [hasCompl] using h

/-- what the first two loops of `and_or` leave, if of length ≥ 2, is a canonical argument set -/
theorem inv_argsOk {same : B → Bool} {args : List B} (hinv : Inv same args)
    (hnc : ∀ a ∈ args, notB a ∉ args) (hlen : 2 ≤ args.length) :
    argsOk same args = true ∧ wfL args = true :=
  ⟨(argsOk_iff same args).2
      ⟨hlen, hinv.sorted, fun x hx => ⟨(hinv.arg x hx).nonconst, (hinv.arg x hx).other, hnc x hx⟩⟩,
    (wfL_iff _).2 fun x hx => (hinv.arg x hx).wf⟩

theorem wf_finishAO (o : Bool) (args : List B) (hinv : Inv (sameKind o) args) (hnc : ∀ a ∈ args, notB a ∉ args) :
    wf (finishAO o args) = true := by
  match args, hinv, hnc with
  | [], _, _ => exact wf_const _
  | [a], hinv, _ => exact (hinv.arg a List.mem_cons_self).wf
  | a :: b :: t, hinv, hnc =>
    have := inv_argsOk hinv hnc (Nat.le_add_left 2 t.length)
    cases o <;> exact Bool.and_eq_true_iff.2 this

theorem wf_andOr (o : Bool) (s : List B) (hs : ∀ a ∈ s, wf a = true) : wf (andOr o s) = true := by
  rw [andOr_eq]
  split
  · exact wf_const o
  · rename_i args hcol
    split
    · exact wf_const o
    · rename_i hh
      exact wf_finishAO o args (collect_inv o hs hcol) (not_hasCompl hh)

theorem wf_fsContains (l : List Int) : wf (fsContains l) = true := by
  unfold fsContains; split <;> rfl

theorem wf_andD : ∀ (fuel : Nat) (s : List B) (b : B), (∀ a ∈ s, wf a = true) → andD fuel s = some b →
    wf b = true
  | 0, s, b, _, h => nomatch h
  | fuel + 1, s, b, hs, h => by
    rcases andD_cases h with rfl | ⟨args, fset, rc, hcol, _, rfl, ⟨_, rfl⟩ | hb⟩
    · exact wf_andOr false s hs
    · exact wf_fsContains _
    · refine wf_andD fuel _ b (fun a ha => ?_) hb
      rcases List.mem_cons.1 ha with rfl | ha
      · exact wf_fsContains _
      · rw [List.mem_singleton.1 ha]
        exact wf_andOr false _ fun y hy => ((collect_inv false hs hcol).arg y (List.mem_of_mem_erase hy)).wf

/-- loop invariant of `logical_xor` on its argument set -/
structure XInv (args : List B) : Prop where
  inv : Inv isXor args
  nocompl : ∀ x ∈ args, notB x ∉ args

theorem xinv_erase {args : List B} (h : XInv args) (a : B) : XInv (args.erase a) :=
  ⟨⟨sorted_erase a args h.inv.sorted, fun x hx => h.inv.arg x (List.mem_of_mem_erase hx)⟩,
    fun x hx hm => h.nocompl x (List.mem_of_mem_erase hx) (List.mem_of_mem_erase hm)⟩

theorem xorStep_inv (st : List B × Bool) (a : B) (h : XInv st.1) (ha : Arg isXor a) : XInv (xorStep st a).1 := by
  unfold xorStep
  split
  · exact xinv_erase h a
  · rename_i hna
    split
    · exact xinv_erase h _
    · rename_i hnn
      refine ⟨⟨sorted_insSorted a _ h.inv.sorted hna, fun x hx => ?_⟩, fun x hx hm => ?_⟩
      · exact (mem_insSorted.1 hx).elim (· ▸ ha) (h.inv.arg x)
      · -- a complementary pair of the new set would have `a` on one side
        rcases mem_insSorted.1 hx with rfl | hx <;> rcases mem_insSorted.1 hm with hm | hm
        · exact notB_ne_self _ hm
        · exact hnn hm
        · exact hnn (by rw [← hm, notB_invol x (h.inv.arg x hx).wf]; exact hx)
        · exact h.nocompl x hx hm

theorem xorSteps_inv : ∀ (l : List B) (st : List B × Bool), XInv st.1 → (∀ a ∈ l, Arg isXor a) →
    XInv (xorSteps l st).1
  | [], _, h, _ => h
  | a :: l, st, h, hl =>
    xorSteps_inv l _ (xorStep_inv st a h (hl a List.mem_cons_self)) fun x hx => hl x (List.mem_cons_of_mem _ hx)

theorem xorLoop_inv : ∀ (s : List B) (st : List B × Bool), (∀ a ∈ s, wf a = true) → XInv st.1 →
    XInv (xorLoop s st).1
  | [], st, _, h => h
  | a :: s, st, hs, h => by
    have hwa : wf a = true := hs a List.mem_cons_self
    have ih := fun st' => xorLoop_inv s st' (fun x hx => hs x (List.mem_cons_of_mem _ hx))
    cases a with
    | tt | ff => exact ih _ h
    | xor l =>
      simp only [wf, Bool.and_eq_true] at hwa
      exact ih _ (xorSteps_inv l st h (wf_children hwa.1 hwa.2))
    | rel i n | mem i | fs l | and l | or l | not b => exact ih _ (xorStep_inv st _ h ⟨hwa, rfl, rfl⟩)

theorem wf_xorFinish (st : List B × Bool) (h : XInv st.1) : wf (xorFinish st) = true := by
  obtain ⟨args, nots⟩ := st
  have hf : wf (xorFinish (args, false)) = true := by
    match args, h with
    | [], _ => rfl
    | [a], h => exact (h.inv.arg a List.mem_cons_self).wf
    | a :: b :: t, h => exact Bool.and_eq_true_iff.2 (inv_argsOk h.inv h.nocompl (Nat.le_add_left 2 t.length))
  cases nots
  · exact hf
  · have : xorFinish (args, true) = notB (xorFinish (args, false)) := by
      match args with
      | [] | [_] | _ :: _ :: _ => rfl
    exact this ▸ wf_notB _ hf

theorem wf_xorE (s : List B) (hs : ∀ a ∈ s, wf a = true) : wf (xorE s) = true :=
  wf_xorFinish _ (xorLoop_inv s ([], false) hs ⟨⟨sorted_nil, by simp⟩, by simp⟩)

/-- `Piecewise::is_canonical`, the loop with its `conditions` set; `t.isEmpty` is the `found_true` flag (a `true`
    condition makes the next iteration answer `false`: `true` must come last) -/
def pwCanonAux : List (Nat × B) → List B → Bool
  | [], _ => true
  | (_, c) :: t, seen =>
    if c = .ff then false
    else if c = .tt then t.isEmpty
    else if c ∈ seen then false
    else pwCanonAux t (c :: seen)

/-- `Piecewise::is_canonical`: the loop, then the two tests on `vec.size()` (not empty, not a lone `true` branch) -/
def pwCanonical (l : List (Nat × B)) : Bool :=
  pwCanonAux l [] && !l.isEmpty &&
    (match l with
     | [(_, .tt)] => false
     | _ => true)

theorem pwPrune_canon (vec : List (Nat × B)) (seen : List B) :
    pwCanonAux (pwPrune vec seen) seen = true ∧ ∀ p ∈ pwPrune vec seen, p ∈ vec := by
  fun_induction pwPrune vec seen with
  | case1 => exact ⟨rfl, fun _ h => h⟩
  -- condition `false` / already seen: the branch is dropped, `seen` unchanged
  | case2 seen e t ih | case4 e c t seen _ _ _ ih => exact ih.imp_right fun h p hp => List.mem_cons_of_mem _ (h p hp)
  -- condition `true`: kept, the rest cut; a new condition: kept and remembered
  | case3 => exact ⟨by simp [pwCanonAux], fun p hp => List.mem_singleton.1 hp ▸ List.mem_cons_self⟩
  | case5 e c t seen h1 h2 h3 ih =>
    exact ⟨by simp [pwCanonAux, h1, h2, h3, ih.1], fun p hp => List.mem_cons.2 ((List.mem_cons.1 hp).imp_right (ih.2 p))⟩

end SymVerif.C28
