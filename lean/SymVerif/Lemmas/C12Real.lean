/-
`NumOps ℝ`: the instantiation of M-Eval used by the proofs (C12, C15, C45).
Every libm entry point is interpreted by the corresponding Mathlib function; `erf`/`erfc`
have no Mathlib definition and are parameters.  ℝ has no infinities / NaN: `inf`, `nan`
and non-finite stored doubles are mapped to 0 and no theorem below depends on them.
The field lemmas of `realOps` at the end stand in the namespace `SymVerif.C15` (`C15.R_exp`, …).
-/
import SymVerif.Model.EvalG
import SymVerif.Model.EvalFloat
import Mathlib.Analysis.SpecialFunctions.Trigonometric.Inverse
import Mathlib.Analysis.SpecialFunctions.Trigonometric.Arctan
import Mathlib.Analysis.SpecialFunctions.Complex.Arg
import Mathlib.Analysis.SpecialFunctions.Arsinh
import Mathlib.Analysis.SpecialFunctions.Arcosh
import Mathlib.Analysis.SpecialFunctions.Artanh
import Mathlib.Analysis.SpecialFunctions.Pow.Real
import Mathlib.Analysis.SpecialFunctions.Gamma.Basic

namespace SymVerif.EvalG

open Classical in
noncomputable def realOps (erf erfc : ℝ → ℝ) : NumOps ℝ where
  ofQTrunc := fun n d => (n : ℝ) / (d : ℝ)
  ofQNear := fun n d => (n : ℝ) / (d : ℝ)
  ofBits := fun b => match bitsToQ b with
    | some (n, d) => (n : ℝ) / (d : ℝ)
    | none => 0
  inf := fun _ => 0
  nan := 0
  add := (· + ·)
  sub := (· - ·)
  mul := (· * ·)
  div := (· / ·)
  neg := fun x => -x
  call1 := fun f x =>
    match f with
    | .sin => some (Real.sin x) | .cos => some (Real.cos x) | .tan => some (Real.tan x)
    | .asin => some (Real.arcsin x) | .acos => some (Real.arccos x) | .atan => some (Real.arctan x)
    | .sinh => some (Real.sinh x) | .cosh => some (Real.cosh x) | .tanh => some (Real.tanh x)
    | .asinh => some (Real.arsinh x) | .acosh => some (Real.arcosh x) | .atanh => some (Real.artanh x)
    | .exp => some (Real.exp x) | .log => some (Real.log x) | .abs => some |x|
    | .floor => some (⌊x⌋ : ℝ) | .ceil => some (⌈x⌉ : ℝ)
    | .trunc => some (if x < 0 then (⌈x⌉ : ℝ) else (⌊x⌋ : ℝ))
    | .sqrt => some (Real.sqrt x) | .cbrt => none  -- Mathlib has no real cube root defined for negative arguments
    | .isnan => some 0
    -- C's `lgamma` is log|Γ|: so is this, Mathlib's `Real.log` being log|·|
    | .tgamma => some (Real.Gamma x) | .lgamma => some (Real.log (Real.Gamma x))
    | .erf => some (erf x) | .erfc => some (erfc x)
    | _ => none
  call2 := fun f x y =>
    match f with
    | .atan2 => some (Complex.arg ⟨y, x⟩)  -- `atan2(x, y)`: the first operand is the ordinate
    | .pow => some (x ^ y)
    -- `std::max` / `std::min` as they are defined (and as `stdMax`/`stdMin` in EvalFloat)
    | .max => some (if x < y then y else x)
    | .min => some (if y < x then y else x)
    | _ => none
  eq := fun a b => decide (a = b)
  lt := fun a b => decide (a < b)
  le := fun a b => decide (a ≤ b)

/-- value of a `.fn` node kind of a definition table on given operand values -/
def nodeVal {α : Type} (O : NumOps α) (defs : Defs) (k : String) (args : List α) : Except Err α :=
  match defs.find k with
  | some (.fn body) => evalF O args body
  | _ => .error .notImpl

theorem nodeVal_fn {α : Type} {O : NumOps α} {defs : Defs} {k : String} {body : Formula}
    (h : defs.find k = some (.fn body)) (args : List α) : nodeVal O defs k args = evalF O args body := by
  simp only [nodeVal, h]

end SymVerif.EvalG

namespace SymVerif.C15
open SymVerif.EvalG

section
variable (erf erfc : ℝ → ℝ) (x y : ℝ)
@[simp] theorem R_exp : (realOps erf erfc).call1 .exp x = some (Real.exp x) := rfl
@[simp] theorem R_sqrt : (realOps erf erfc).call1 .sqrt x = some (Real.sqrt x) := rfl
@[simp] theorem R_pow : (realOps erf erfc).call2 .pow x y = some (x ^ y) := rfl
@[simp] theorem R_add : (realOps erf erfc).add x y = x + y := rfl
@[simp] theorem R_sub : (realOps erf erfc).sub x y = x - y := rfl
@[simp] theorem R_mul : (realOps erf erfc).mul x y = x * y := rfl
@[simp] theorem R_div : (realOps erf erfc).div x y = x / y := rfl
@[simp] theorem R_neg : (realOps erf erfc).neg x = -x := rfl
@[simp] theorem R_ofQNear (n : Int) (d : Nat) : (realOps erf erfc).ofQNear n d = (n : ℝ) / (d : ℝ) := rfl
@[simp] theorem R_eq : (realOps erf erfc).eq x y = decide (x = y) := rfl
@[simp] theorem R_lt : (realOps erf erfc).lt x y = decide (x < y) := rfl
@[simp] theorem R_le : (realOps erf erfc).le x y = decide (x ≤ y) := rfl
end

end SymVerif.C15
