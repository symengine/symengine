import Mathlib.Tactic.Ring
import Mathlib.Tactic.Linarith
import Mathlib.Algebra.Ring.Parity
import SymVerif.Model.MpSpec
import SymVerif.Model.MpBoost
/-! C43, integer roots: the Newton iteration `positive_root` of mp_boost.cpp and the bisection of the
specification both return the floor of the real `n`-th root.
Claimed theorems of the property: `newton_root`, `root`, `sqrt`, `rootrem`, `sqrtrem`, `perfect_square`. -/
namespace SymVerif.C43
open SymVerif

/-- `r x^(m+1) + x r^(m+1) ≤ r^(m+2) + x^(m+2)`  (i.e. `(r-x)(r^(m+1)-x^(m+1)) ≥ 0`) -/
theorem rearrangement (r x m : Nat) :
    r * x ^ (m + 1) + x * r ^ (m + 1) ≤ r ^ (m + 2) + x ^ (m + 2) := by
  rw [Nat.pow_succ' (n := m + 1), Nat.pow_succ' (n := m + 1)]
  rcases Nat.le_total x r with h | h
  · rw [Nat.add_comm (r * _), Nat.add_comm (r * _)]
    exact mul_add_mul_le_mul_add_mul h (Nat.pow_le_pow_left h _)
  · exact mul_add_mul_le_mul_add_mul h (Nat.pow_le_pow_left h _)

/-- weighted AM–GM for integers: `(m+1) r x^m ≤ r^(m+1) + m x^(m+1)` -/
theorem amgm (r x m : Nat) : (m + 1) * r * x ^ m ≤ r ^ (m + 1) + m * x ^ (m + 1) := by
  induction m with
  | zero => simp
  | succ m ih =>
    calc (m + 1 + 1) * r * x ^ (m + 1)
        = r * x ^ (m + 1) + x * ((m + 1) * r * x ^ m) := by ring
      _ ≤ r * x ^ (m + 1) + x * (r ^ (m + 1) + m * x ^ (m + 1)) :=
          Nat.add_le_add_left (Nat.mul_le_mul_left x ih) _
      _ = r * x ^ (m + 1) + x * r ^ (m + 1) + m * x ^ (m + 2) := by ring
      _ ≤ r ^ (m + 2) + x ^ (m + 2) + m * x ^ (m + 2) := Nat.add_le_add_right (rearrangement r x m) _
      _ = r ^ (m + 1 + 1) + (m + 1) * x ^ (m + 1 + 1) := by ring

/-- one Newton step never goes below the integer root: if `r^n ≤ i` then `r ≤ step n i x` -/
theorem step_ge {n i x r : Nat} (hn : 1 ≤ n) (hx : 1 ≤ x) (hr : r ^ n ≤ i) : r ≤ MpBoost.step n i x := by
  obtain ⟨m, rfl⟩ : ∃ m, n = m + 1 := ⟨n - 1, by omega⟩
  unfold MpBoost.step
  rw [Nat.add_sub_cancel, Nat.le_div_iff_mul_le (show 0 < m + 1 by omega)]
  -- `(r (m+1) - m x) x^m ≤ r^(m+1) ≤ i` by AM–GM, hence `r (m+1) - m x ≤ i / x^m`
  have h : r * (m + 1) - m * x ≤ i / x ^ m := by
    rw [Nat.le_div_iff_mul_le (Nat.pow_pos hx), Nat.sub_mul]
    refine Nat.le_trans (Nat.sub_le_iff_le_add.mpr ?_) hr
    calc r * (m + 1) * x ^ m = (m + 1) * r * x ^ m := by ring
      _ ≤ r ^ (m + 1) + m * x ^ (m + 1) := amgm r x m
      _ = r ^ (m + 1) + m * x * x ^ m := by ring
  omega

/-- the exit test of the `do … while (y < x)` loop: if the step does not decrease then `x^n ≤ i` -/
theorem step_stop {n i x : Nat} (hn : 1 ≤ n) (hx : 1 ≤ x) (h : ¬ MpBoost.step n i x < x) : x ^ n ≤ i := by
  obtain ⟨m, rfl⟩ : ∃ m, n = m + 1 := ⟨n - 1, by omega⟩
  unfold MpBoost.step at h
  -- `¬ y < x` is `x (m+1) ≤ m x + i / x^m`; cancel `m x`: `x ≤ i / x^m`, that is `x * x^m ≤ i`
  rw [Nat.add_sub_cancel, Nat.not_lt, Nat.le_div_iff_mul_le (show 0 < m + 1 by omega), Nat.mul_succ,
    Nat.mul_comm x m] at h
  rw [Nat.pow_succ']
  exact (Nat.le_div_iff_mul_le (Nat.pow_pos hx)).mp (Nat.le_of_add_le_add_left h)

/-- `IsRoot n i r`: `r` is the floor of the real `n`-th root of `i` -/
def IsRoot (n i r : Nat) : Prop := r ^ n ≤ i ∧ i < (r + 1) ^ n

theorem isRoot_unique {n i r s : Nat} (hn : 1 ≤ n) (h1 : IsRoot n i r) (h2 : IsRoot n i s) : r = s := by
  have hn0 : n ≠ 0 := by omega
  rcases Nat.lt_trichotomy r s with h | h | h
  · have : (r + 1) ^ n ≤ s ^ n := Nat.pow_le_pow_left h n
    have := h1.2; have := h2.1; omega
  · exact h
  · have : (s + 1) ^ n ≤ r ^ n := Nat.pow_le_pow_left h n
    have := h2.2; have := h1.1; omega

/-- Newton loop invariant ⇒ result: started at any value that is not below the root, the loop stops
at the floor root. -/
theorem newtonLoop_spec (n i : Nat) (hn : 1 ≤ n) (hi : 1 ≤ i) (x : Nat)
    (hx : ∀ r, r ^ n ≤ i → r ≤ x) : IsRoot n i (MpBoost.newtonLoop n i x) := by
  fun_induction MpBoost.newtonLoop n i x with
  | case1 x hlt ih =>
    apply ih
    intro r hr
    have hx1 : 1 ≤ x := hx 1 (by simpa using hi)
    exact step_ge hn hx1 hr
  | case2 x hge =>
    have hx1 : 1 ≤ x := hx 1 (by simpa using hi)
    refine ⟨step_stop hn hx1 hge, ?_⟩
    by_contra hc
    have := hx (x + 1) (by omega)
    omega

/-- **Newton root (mp_boost.cpp `positive_root`)**: for every starting guess `x0 ≥ 1`, every `i ≥ 1` and
`n ≥ 2` the loop terminates (by construction of the model: well-founded on `x`) with the floor of the
`n`-th root, and the flag tells whether the root is exact. -/
theorem newton_root (x0 i n : Nat) (hn : 2 ≤ n) (hi : 1 ≤ i) (hx0 : 1 ≤ x0) :
    IsRoot n i (MpBoost.positiveRootFrom x0 i n).1 ∧
    ((MpBoost.positiveRootFrom x0 i n).2 = true ↔ (MpBoost.positiveRootFrom x0 i n).1 ^ n = i) := by
  unfold MpBoost.positiveRootFrom
  refine ⟨?_, by simp⟩
  exact newtonLoop_spec n i (by omega) hi _ fun r hr => step_ge (by omega) hx0 hr

theorem irootAux_spec (x n lo hi : Nat) (h1 : lo ^ n ≤ x) (h2 : x < hi ^ n) :
    IsRoot n x (MpSpec.irootAux x n lo hi) := by
  fun_induction MpSpec.irootAux x n lo hi with
  | case1 lo hi h =>
    refine ⟨h1, ?_⟩
    have hlt : lo < hi := by
      by_contra hc
      have : hi ^ n ≤ lo ^ n := Nat.pow_le_pow_left (by omega) n
      omega
    have : hi = lo + 1 := by omega
    rw [← this]; exact h2
  | case2 lo hi h mid hm ih => exact ih hm h2
  | case3 lo hi h mid hm ih => exact ih h1 (by omega)

theorem iroot_spec (x n : Nat) (hn : 1 ≤ n) : IsRoot n x (MpSpec.iroot x n) := by
  unfold MpSpec.iroot
  apply irootAux_spec x n
  · have : n ≠ 0 := by omega
    simp [this]
  · -- x < 2^(log2 x + 1) ≤ (2^(log2 x / n + 1))^n
    have h1 : x < 2 ^ (x.log2 + 1) := Nat.lt_log2_self
    have h2 : x.log2 + 1 ≤ (x.log2 / n + 1) * n := by
      have := Nat.lt_mul_div_succ x.log2 (show 0 < n by omega)
      rw [Nat.mul_comm]; omega
    calc x < 2 ^ (x.log2 + 1) := h1
      _ ≤ 2 ^ ((x.log2 / n + 1) * n) := Nat.pow_le_pow_right (by omega) h2
      _ = (2 ^ (x.log2 / n + 1)) ^ n := by rw [Nat.pow_mul]

theorem iroot_eq {x n r : Nat} (hn : 1 ≤ n) (h : IsRoot n x r) : MpSpec.iroot x n = r :=
  isRoot_unique hn (iroot_spec x n hn) h

theorem iroot_one (x : Nat) : MpSpec.iroot x 1 = x :=
  iroot_eq (le_refl 1) ⟨by rw [Nat.pow_one], by rw [Nat.pow_one]; exact Nat.lt_succ_self x⟩

theorem positiveRootFrom_eq (x0 i n : Nat) (hn : 2 ≤ n) (hi : 1 ≤ i) (hx0 : 1 ≤ x0) :
    MpBoost.positiveRootFrom x0 i n = (MpSpec.iroot i n, MpSpec.iroot i n ^ n == i) := by
  rw [iroot_eq (by omega) (newton_root x0 i n hn hi hx0).1]
  rfl

theorem positiveRoot_eq (x n : Nat) (hn : 2 ≤ n) (hx : 1 ≤ x) :
    MpBoost.positiveRoot x n = (MpSpec.iroot x n, MpSpec.iroot x n ^ n == x) :=
  positiveRootFrom_eq _ x n hn hx Nat.one_le_two_pow

theorem root_flag_eq {i : Int} {k : Nat} (hi : i ≠ 0) (hok : 0 < i ∨ k % 2 = 1) (r : Nat) :
    ((i.sign * (r : Int)) ^ k == i) = (r ^ k == i.natAbs) := by
  rw [Bool.eq_iff_iff, beq_iff_eq, beq_iff_eq]
  rcases Int.lt_or_gt_of_ne hi with hneg | hpos
  · rw [Int.sign_eq_neg_one_of_neg hneg, neg_one_mul,
      Odd.neg_pow (Nat.odd_iff.mpr (by omega)), ← Nat.cast_pow]
    omega
  · rw [Int.sign_eq_one_of_pos hpos, one_mul, ← Nat.cast_pow]
    omega

theorem iroot_zero (n : Nat) (hn : 1 ≤ n) : MpSpec.iroot 0 n = 0 :=
  iroot_eq hn ⟨by rw [Nat.zero_pow (by omega)], by rw [Nat.one_pow]; exact Nat.zero_lt_one⟩

theorem spec_root_natCast (x n : Nat) (hn : n ≠ 0) :
    MpSpec.root (x : Int) n = some (((MpSpec.iroot x n : Nat) : Int), MpSpec.iroot x n ^ n == x) := by
  rw [MpSpec.root, if_neg hn, if_neg (by omega)]
  by_cases hx : x = 0
  · subst hx
    simp [iroot_zero n (by omega), zero_pow hn]
  · dsimp only
    rw [root_flag_eq (by omega) (Or.inl (by omega)), Int.sign_eq_one_of_pos (by omega), one_mul,
      Int.natAbs_natCast]

/-- **`mp_root` (mp_boost.cpp) = specification** for every integer `i` and every `n` (both are undefined
— exception / `none` — for `n = 0` and for an even root of a negative number): truncated root with the
sign of `i`, and the exactness flag. -/
theorem root (i : Int) (n : Nat) : MpBoost.root i n = MpSpec.root i n := by
  rw [MpBoost.root]
  by_cases h0 : n = 0
  · rw [if_pos h0, MpSpec.root, if_pos h0]
  rw [if_neg h0]
  by_cases h1 : n = 1
  · subst h1
    rw [if_pos rfl, MpSpec.root, if_neg h0, if_neg (by omega)]
    simp only [iroot_one, Int.sign_mul_natAbs]
    simp
  rw [if_neg h1]
  by_cases hz : i = 0
  · subst hz
    rw [if_pos rfl, ← Int.natCast_zero, spec_root_natCast 0 n h0, iroot_zero n (by omega)]
    simp [zero_pow h0]
  rw [if_neg hz]
  by_cases hpos : i > 0
  · obtain ⟨x, rfl⟩ := Int.eq_ofNat_of_zero_le hpos.le
    rw [if_pos hpos, Int.toNat_natCast, positiveRoot_eq x n (by omega) (by omega), spec_root_natCast x n h0]
  · rw [if_neg hpos, MpSpec.root, if_neg h0]
    by_cases hev : n % 2 = 0
    · rw [if_pos hev, if_pos ⟨by omega, hev⟩]
    · rw [if_neg hev, if_neg (fun h => hev h.2), positiveRoot_eq _ n (by omega) (by omega),
        show (-i).toNat = i.natAbs by omega]
      dsimp only
      rw [root_flag_eq hz (Or.inr (by omega)), Int.sign_eq_neg_one_of_neg (by omega), mul_comm]

/-- `mp_sqrt` (implemented through `mp_root`) = `⌊√i⌋`; both undefined for `i < 0` -/
theorem sqrt (i : Int) : MpBoost.sqrt i = MpSpec.sqrt i := by
  rw [MpBoost.sqrt, MpSpec.sqrt, root]
  by_cases hneg : i < 0
  · rw [if_pos hneg, MpSpec.root, if_neg (by decide), if_pos ⟨hneg, rfl⟩]
    rfl
  · obtain ⟨x, rfl⟩ := Int.eq_ofNat_of_zero_le (Int.not_lt.mp hneg)
    rw [if_neg hneg, spec_root_natCast x 2 (by decide)]
    rfl

theorem rootrem (i : Int) (n : Nat) : MpBoost.rootrem i n = MpSpec.rootrem i n := by
  unfold MpBoost.rootrem MpSpec.rootrem
  rw [root]
  cases MpSpec.root i n <;> simp

theorem sqrtrem (i : Int) : MpBoost.sqrtrem i = MpSpec.sqrtrem i := by
  unfold MpBoost.sqrtrem MpSpec.sqrtrem
  rw [sqrt]
  cases MpSpec.sqrt i with
  | none => simp
  | some r => simp; ring

theorem perfect_square (i : Int) : MpBoost.perfectSquare i = MpSpec.perfectSquare i := by
  rw [MpBoost.perfectSquare, MpSpec.perfectSquare, root]
  by_cases hneg : i < 0
  · rw [if_pos hneg, decide_eq_false (by omega : ¬ i ≥ 0), Bool.false_and]
  · obtain ⟨x, rfl⟩ := Int.eq_ofNat_of_zero_le (Int.not_lt.mp hneg)
    rw [if_neg hneg, spec_root_natCast x 2 (by decide), decide_eq_true (by omega : (x : Int) ≥ 0)]
    rfl

/-- `x` is a perfect `k`-th power -/
def IsPow (x k : Nat) : Prop := ∃ a : Nat, a ^ k = x

theorem iroot_exact_iff (x k : Nat) (hk : 1 ≤ k) : (MpSpec.iroot x k) ^ k = x ↔ IsPow x k := by
  constructor
  · intro h; exact ⟨_, h⟩
  · rintro ⟨a, ha⟩
    rw [iroot_eq hk ⟨ha.le, by rw [← ha]; exact Nat.pow_lt_pow_left (by omega) (by omega)⟩]
    exact ha

theorem root_flag (i : Int) (k : Nat) (hk : 1 ≤ k) (hok : 0 < i ∨ k % 2 = 1) :
    ∃ r b, MpBoost.root i k = some (r, b) ∧ (b = true ↔ IsPow i.natAbs k) := by
  rw [root, MpSpec.root, if_neg (by omega), if_neg (by omega)]
  refine ⟨_, _, rfl, ?_⟩
  by_cases hi : i = 0
  · subst hi
    simp only [Int.sign_zero, Int.zero_mul, beq_iff_eq, Int.natAbs_zero]
    exact iff_of_true (zero_pow (by omega)) ⟨0, zero_pow (by omega)⟩
  · rw [root_flag_eq hi hok, beq_iff_eq, iroot_exact_iff _ k hk]

end SymVerif.C43
