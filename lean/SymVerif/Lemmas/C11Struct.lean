/-
C11, structural facts about the substitution model `Subs.subsE` (no Mathlib).  With symbol keys none of the visitor's
special paths (whole Add term, whole Mul factor, quotient of exponents) can fire, so it is the plain substitution
`mapSym (image σ)` (`subsE_eq_mapSym`); absent keys and identity maps (`subsE_inert`) are then the case of `mapSym_fix`,
where every symbol that occurs is fixed.
-/
import SymVerif.Model.Subs
import SymVerif.Lemmas.C10Cache

namespace SymVerif
namespace Subs
open Expr Diff

theorem lookup_mem {σ : Sigma} {e v : Expr} (h : lookup σ e = some v) : (e, v) ∈ σ := Memo.find_mem h

theorem symKeyed_mem : ∀ {σ : Sigma}, symKeyed σ = true → ∀ {k v : Expr}, (k, v) ∈ σ → ∃ n, k = .sym n
  | [], _, k, v, h => by cases h
  | (k0, v0) :: t, hs, k, v, h => by
    cases k0 <;> simp [symKeyed] at hs
    rcases List.mem_cons.mp h with h | h
    · cases h; exact ⟨_, rfl⟩
    · exact symKeyed_mem hs h

/-- with symbol keys only symbols are ever found -/
theorem lookup_sym {σ : Sigma} (hs : symKeyed σ = true) {e v : Expr} (h : lookup σ e = some v) :
    ∃ n, e = .sym n := symKeyed_mem hs (lookup_mem h)

theorem lookup_none_of_not_sym {σ : Sigma} (hs : symKeyed σ = true) {e : Expr} (he : ∀ n, e ≠ .sym n) :
    lookup σ e = none := by
  cases h : lookup σ e with
  | none => rfl
  | some v => obtain ⟨n, hn⟩ := lookup_sym hs h; exact absurd hn (he n)

theorem termOf_not_sym (k c : Expr) (n : String) : Struct.termOf k c ≠ .sym n := by
  unfold Struct.termOf
  split <;> simp

/-- a whole-term lookup can only succeed for a bare symbol with coefficient 1 -/
theorem termKey_sym {k c : Expr} {n : String} (h : termKey k c = .sym n) : c = .int 1 ∧ k = .sym n := by
  unfold termKey at h
  split at h
  · exact ⟨rfl, h⟩
  · exact absurd h (termOf_not_sym k c n)

theorem powKey_none {pp : Bool} {σ : Sigma} (hs : symKeyed σ = true) : powKey pp σ = none := by
  unfold powKey
  split
  · split
    · simp [symKeyed] at hs
    · rfl
  · rfl

theorem powNode_symKeyed {pp : Bool} {σ : Sigma} (hs : symKeyed σ = true) (b e : Expr) :
    powNode pp σ b e = .pow b e := by
  unfold powNode
  rw [powKey_none hs]

def KeysAbsent (σ : Sigma) (e : Expr) : Prop := ∀ n v, (Expr.sym n, v) ∈ σ → occurs n e = false

def IsId (σ : Sigma) : Prop := ∀ k v, (k, v) ∈ σ → v = k

/-- the two situations in which substitution must return its argument -/
def Inert (σ : Sigma) (e : Expr) : Prop := symKeyed σ = true ∧ (KeysAbsent σ e ∨ IsId σ)

theorem occurs_sym_self (n : String) : occurs n (.sym n) = true := by simp [occurs]

mutual
  /-- plain substitution of symbols: `sym n ↦ g n`, every other node rebuilt from its substituted fields -/
  def mapSym (g : String → Expr) : Expr → Expr
    | .sym n => g n
    | .add c ts => .add (mapSym g c) (mapSymPairs g ts)
    | .mul c fs => .mul (mapSym g c) (mapSymPairs g fs)
    | .pow b e => .pow (mapSym g b) (mapSym g e)
    | .fsym f args => .fsym f (mapSymList g args)
    | .app h args => .app h (mapSymList g args)
    | e => e
  def mapSymList (g : String → Expr) : List Expr → List Expr
    | [] => []
    | a :: t => mapSym g a :: mapSymList g t
  def mapSymPairs (g : String → Expr) : List (Expr × Expr) → List (Expr × Expr)
    | [] => []
    | (a, b) :: t => (mapSym g a, mapSym g b) :: mapSymPairs g t
end

def image (σ : Sigma) (n : String) : Expr := (lookup σ (.sym n)).getD (.sym n)

mutual
  /-- **For symbol keys the visitor is plain substitution.** -/
  theorem subsE_eq_mapSym (pp : Bool) {σ : Sigma} (hs : symKeyed σ = true) :
      ∀ (e : Expr), subsE pp σ e = mapSym (image σ) e
    | .add c ts => by
      simp [subsE, lookup_none_of_not_sym hs, mapSym, subsE_eq_mapSym pp hs c, subsTerms_eq_mapSym pp hs ts]
    | .mul c fs => by
      simp [subsE, lookup_none_of_not_sym hs, mapSym, subsE_eq_mapSym pp hs c, subsFacs_eq_mapSym pp hs fs]
    | .pow b e => by
      simp [subsE, lookup_none_of_not_sym hs, powNode_symKeyed hs, mapSym, subsE_eq_mapSym pp hs b,
        subsE_eq_mapSym pp hs e]
    | .fsym _ args | .app _ args => by
      simp [subsE, lookup_none_of_not_sym hs, mapSym, subsList_eq_mapSym pp hs args]
    | .sym n => by simp only [subsE, mapSym, image]
    | .int _ | .rat _ _ | .cplx _ _ | .dbl _ | .cdbl _ _ | .infty _ | .nan | .dummy _ _ | .const _ | .bool _ => by
      simp [subsE, lookup_none_of_not_sym hs, mapSym]
  theorem subsList_eq_mapSym (pp : Bool) {σ : Sigma} (hs : symKeyed σ = true) :
      ∀ (l : List Expr), subsList pp σ l = mapSymList (image σ) l
    | [] => rfl
    | a :: t => by simp only [subsList, mapSymList, subsE_eq_mapSym pp hs a, subsList_eq_mapSym pp hs t]
  theorem subsTerms_eq_mapSym (pp : Bool) {σ : Sigma} (hs : symKeyed σ = true) :
      ∀ (l : List (Expr × Expr)), subsTerms pp σ l = mapSymPairs (image σ) l
    | [] => rfl
    | (k, c) :: t => by
      simp only [subsTerms, mapSymPairs, subsTerms_eq_mapSym pp hs t]
      cases hl : lookup σ (termKey k c) with
      | none => simp only [subsE_eq_mapSym pp hs k, subsE_eq_mapSym pp hs c]
      | some w =>
        obtain ⟨n, hn⟩ := lookup_sym hs hl
        obtain ⟨rfl, rfl⟩ := termKey_sym hn
        rw [hn] at hl
        simp [mapSym, image, hl]
  theorem subsFacs_eq_mapSym (pp : Bool) {σ : Sigma} (hs : symKeyed σ = true) :
      ∀ (l : List (Expr × Expr)), subsFacs pp σ l = mapSymPairs (image σ) l
    | [] => rfl
    | (b, e) :: t => by
      simp only [subsFacs, mapSymPairs, subsFacs_eq_mapSym pp hs t,
        lookup_none_of_not_sym hs (e := .pow b e) (by simp), powNode_symKeyed hs, asBaseExp]
      split
      · simp only [subsE_eq_mapSym pp hs b, mapSym]
      · simp only [subsE_eq_mapSym pp hs b, subsE_eq_mapSym pp hs e]
end

mutual
  theorem mapSym_fix (g : String → Expr) : ∀ (e : Expr), (∀ n, occurs n e = true → g n = .sym n) → mapSym g e = e
    | .sym n, h => by simp only [mapSym]; exact h n (occurs_sym_self n)
    | .add c ts, h | .mul c ts, h => by
      simp only [occurs, Bool.or_eq_true] at h
      rw [mapSym, mapSym_fix g c fun n hn => h n (.inl hn), mapSymPairs_fix g ts fun n hn => h n (.inr hn)]
    | .pow b e, h => by
      simp only [occurs, Bool.or_eq_true] at h
      rw [mapSym, mapSym_fix g b fun n hn => h n (.inl hn), mapSym_fix g e fun n hn => h n (.inr hn)]
    | .fsym _ args, h | .app _ args, h => by
      simp only [occurs] at h
      rw [mapSym, mapSymList_fix g args h]
    | .int _, _ | .rat _ _, _ | .cplx _ _, _ | .dbl _, _ | .cdbl _ _, _ | .infty _, _ | .nan, _ | .dummy _ _, _ |
      .const _, _ | .bool _, _ => by simp only [mapSym]
  theorem mapSymList_fix (g : String → Expr) : ∀ (l : List Expr),
      (∀ n, occursList n l = true → g n = .sym n) → mapSymList g l = l
    | [], _ => rfl
    | a :: t, h => by
      simp only [occursList, Bool.or_eq_true] at h
      rw [mapSymList, mapSym_fix g a fun n hn => h n (.inl hn), mapSymList_fix g t fun n hn => h n (.inr hn)]
  theorem mapSymPairs_fix (g : String → Expr) : ∀ (l : List (Expr × Expr)),
      (∀ n, occursPairs n l = true → g n = .sym n) → mapSymPairs g l = l
    | [], _ => rfl
    | (a, b) :: t, h => by
      simp only [occursPairs, Bool.or_eq_true] at h
      rw [mapSymPairs, mapSym_fix g a fun n hn => h n (.inl (.inl hn)), mapSym_fix g b fun n hn => h n (.inl (.inr hn)),
        mapSymPairs_fix g t fun n hn => h n (.inr hn)]
end

theorem image_fix {σ : Sigma} {occ : String → Bool}
    (h : (∀ n v, (Expr.sym n, v) ∈ σ → occ n = false) ∨ IsId σ) (n : String) (hn : occ n = true) :
    image σ n = .sym n := by
  unfold image
  cases hl : lookup σ (.sym n) with
  | none => rfl
  | some v =>
    rcases h with h | h
    · have := h n v (lookup_mem hl); rw [hn] at this; cases this
    · exact h _ _ (lookup_mem hl)

theorem subsE_inert (pp : Bool) (σ : Sigma) (hs : symKeyed σ = true) : ∀ (e : Expr),
      (KeysAbsent σ e ∨ IsId σ) → subsE pp σ e = e :=
  fun e h => (subsE_eq_mapSym pp hs e).trans (mapSym_fix _ e (image_fix h))

theorem subsList_inert (pp : Bool) (σ : Sigma) (hs : symKeyed σ = true) : ∀ (l : List Expr),
      ((∀ n v, (Expr.sym n, v) ∈ σ → occursList n l = false) ∨ IsId σ) → subsList pp σ l = l :=
  fun l h => (subsList_eq_mapSym pp hs l).trans (mapSymList_fix _ l (image_fix h))

theorem subsTerms_inert (pp : Bool) (σ : Sigma) (hs : symKeyed σ = true) : ∀ (l : List (Expr × Expr)),
      ((∀ n v, (Expr.sym n, v) ∈ σ → occursPairs n l = false) ∨ IsId σ) → subsTerms pp σ l = l :=
  fun l h => (subsTerms_eq_mapSym pp hs l).trans (mapSymPairs_fix _ l (image_fix h))

theorem subsFacs_inert (pp : Bool) (σ : Sigma) (hs : symKeyed σ = true) : ∀ (l : List (Expr × Expr)),
      ((∀ n v, (Expr.sym n, v) ∈ σ → occursPairs n l = false) ∨ IsId σ) → subsFacs pp σ l = l :=
  fun l h => (subsFacs_eq_mapSym pp hs l).trans (mapSymPairs_fix _ l (image_fix h))

end Subs
end SymVerif
