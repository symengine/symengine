import SymVerif.Lemmas.C08Trig
import Mathlib.Analysis.SpecialFunctions.Trigonometric.Basic
/-!
C08: the real and the complex trigonometric functions satisfy `TrigLaws` (the structure is in
`Lemmas/C08Trig.lean`).
Parity and the quarter turn generate the other two laws (`TrigLaws.of_quarter`).  The six functions are
built from `sin` and `cos` (`tan = sin/cos`, `cot = cos/sin`, `csc = 1/sin`, `sec = 1/cos`, with Lean's
total division), so four laws of the pair suffice.
-/
namespace SymVerif.Funcs

variable {K : Type} [Field K] [CharZero K]

theorem TrigFn.co_co (fn : TrigFn) : fn.co.co = fn := by cases fn <;> rfl

/-- Two quarter turns are a half turn, whose sign `conjOdd fn · conjOdd fn.co` is -1 exactly when the
period is 2; `period` half turns are a period. -/
theorem TrigLaws.of_quarter {pi : K} {F : TrigFn → K → K}
    (parity : ∀ (fn : TrigFn) (x : K), F fn (-x) = (if fn.odd then -1 else 1) * F fn x)
    (quarter : ∀ (fn : TrigFn) (x : K), F fn (x + pi / 2) = (if fn.conjOdd then -1 else 1) * F fn.co x) :
    TrigLaws pi F := by
  have half : ∀ (fn : TrigFn) (x : K), F fn (x + pi) = (if fn.period = 2 then -1 else 1) * F fn x := fun fn x => by
    rw [← add_halves pi, ← add_assoc, quarter, quarter, fn.co_co]
    cases fn <;> simp only [TrigFn.conjOdd, TrigFn.co, TrigFn.period, ↓reduceIte, Bool.false_eq_true, Nat.reduceEqDiff,
      one_mul, neg_one_mul, neg_neg]
  have turn : ∀ (fn : TrigFn) (x : K), F fn (x + ((fn.period : ℕ) : K) * pi) = F fn x := fun fn x => by
    rcases fn.period_cases with h | h <;> rw [h]
    · rw [Nat.cast_one, one_mul, half, h, if_neg (by decide), one_mul]
    · rw [Nat.cast_ofNat, two_mul, ← add_assoc, half, half, h, if_pos rfl, neg_one_mul, neg_one_mul, neg_neg]
  refine ⟨fun fn x k => ?_, parity, quarter, fun fn x h => by rw [half, if_pos h, neg_one_mul]⟩
  induction k using Int.induction_on generalizing x with
  | zero => rw [Int.cast_zero, zero_mul, zero_mul, add_zero]
  | succ n ih => rw [Int.cast_add, Int.cast_one, add_mul, add_mul, one_mul, ← add_assoc, turn, ih]
  | pred n ih =>
    rw [← turn fn (x + _), Int.cast_sub, Int.cast_one, sub_mul, sub_mul, one_mul, add_assoc, sub_add_cancel, ih]

structure SinCos (pi : K) (S C : K → K) : Prop where
  sin_neg : ∀ x, S (-x) = -S x
  cos_neg : ∀ x, C (-x) = C x
  sin_quarter : ∀ x, S (x + pi / 2) = C x
  cos_quarter : ∀ x, C (x + pi / 2) = -S x

def mkF (S C : K → K) : TrigFn → K → K
  | .sin, x => S x
  | .cos, x => C x
  | .tan, x => S x / C x
  | .cot, x => C x / S x
  | .csc, x => 1 / S x
  | .sec, x => 1 / C x

theorem trigLaws_of_sinCos {pi : K} {S C : K → K} (h : SinCos pi S C) : TrigLaws pi (mkF S C) :=
  .of_quarter
    (fun fn x => by cases fn <;> simp [TrigFn.odd, mkF, h.sin_neg, h.cos_neg, neg_div, div_neg])
    (fun fn x => by
      cases fn <;> simp [TrigFn.conjOdd, TrigFn.co, mkF, h.sin_quarter, h.cos_quarter, neg_div, div_neg])

open Real in
theorem realSinCos : SinCos (K := ℝ) π Real.sin Real.cos where
  sin_neg := Real.sin_neg
  cos_neg := Real.cos_neg
  sin_quarter := Real.sin_add_pi_div_two
  cos_quarter := Real.cos_add_pi_div_two

open Real in
theorem complexSinCos : SinCos (K := ℂ) (π : ℂ) Complex.sin Complex.cos where
  sin_neg := Complex.sin_neg
  cos_neg := Complex.cos_neg
  sin_quarter := Complex.sin_add_pi_div_two
  cos_quarter := Complex.cos_add_pi_div_two

noncomputable def Fr : TrigFn → ℝ → ℝ := mkF Real.sin Real.cos
noncomputable def Fc : TrigFn → ℂ → ℂ := mkF Complex.sin Complex.cos

theorem realLaws : TrigLaws (K := ℝ) Real.pi Fr := trigLaws_of_sinCos realSinCos
theorem complexLaws : TrigLaws (K := ℂ) (Real.pi : ℂ) Fc := trigLaws_of_sinCos complexSinCos

theorem Fr_tan (x : ℝ) : Fr .tan x = Real.tan x := by simp [Fr, mkF, Real.tan_eq_sin_div_cos]
theorem Fc_tan (x : ℂ) : Fc .tan x = Complex.tan x := by simp [Fc, mkF, Complex.tan_eq_sin_div_cos]

end SymVerif.Funcs
