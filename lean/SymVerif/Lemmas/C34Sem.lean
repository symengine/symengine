/-
Real-valued semantics of the arithmetic fragment of `Expr` and satisfaction of assumption statements; what it means
for a tribool to answer a question soundly (`Sound`); lookups in the fact tables, bounds on the named constants,
values of exact numbers.  Every lemma module of C34 and C35 rests on it.
-/
import SymVerif.Model.Queries
import Mathlib.Analysis.SpecialFunctions.Pow.Real
import Mathlib.Analysis.SpecialFunctions.Trigonometric.Basic
import Mathlib.Analysis.Real.Pi.Bounds
import Mathlib.Analysis.Complex.ExponentialBounds
import Mathlib.NumberTheory.Real.GoldenRatio
import Mathlib.NumberTheory.Harmonic.EulerMascheroni
import Mathlib.Data.Real.Sign
import Mathlib.Tactic.Linarith
import Mathlib.Tactic.Positivity

namespace SymVerif.C34
open SymVerif SymVerif.Queries

/-- values of the named constants (Catalan's constant and user constants have no value here) -/
noncomputable def constVal (c : String) : Option ℝ :=
  if c = "pi" then some Real.pi
  else if c = "E" then some (Real.exp 1)
  else if c = "GoldenRatio" then some Real.goldenRatio
  else if c = "EulerGamma" then some Real.eulerMascheroniConstant
  else none

/-- `b ** e`, by the syntax of the exponent `e`: an integer literal `.int n` gives the integer power of any base (a
    negative one needs a non-zero base; written with `toNat` / `natAbs`, `powSem_int` reads it as `b ^ n`), every other
    exponent, through its value `ve`, the real power of a positive base -/
noncomputable def powSem (vb : Option ℝ) (e : Expr) (ve : Option ℝ) : Option ℝ :=
  match vb with
  | none => none
  | some b =>
    match e with
    | .int n =>
      if 0 ≤ n then some (b ^ n.toNat)
      else if b = 0 then none else some ((b ^ n.natAbs)⁻¹)
    | _ =>
      match ve with
      | some x => if 0 < b then some (Real.rpow b x) else none
      | none => none

/-- the functions with a real meaning (log: positive argument only; tan, cot, csc, sec: away from their poles) -/
noncomputable def appSem (h : String) (args : Option (List ℝ)) : Option ℝ :=
  match args with
  | some [x] =>
    if h = "Abs" then some |x|
    else if h = "Sign" then some (Real.sign x)
    else if h = "Conjugate" then some x
    else if h = "Floor" then some (⌊x⌋ : ℝ)
    else if h = "Ceiling" then some (⌈x⌉ : ℝ)
    else if h = "Sin" then some (Real.sin x)
    else if h = "Cos" then some (Real.cos x)
    else if h = "Log" then (if 0 < x then some (Real.log x) else none)
    else if h = "Tan" then (if Real.cos x = 0 then none else some (Real.sin x / Real.cos x))
    else if h = "Cot" then (if Real.sin x = 0 then none else some (Real.cos x / Real.sin x))
    else if h = "Csc" then (if Real.sin x = 0 then none else some (Real.sin x)⁻¹)
    else if h = "Sec" then (if Real.cos x = 0 then none else some (Real.cos x)⁻¹)
    else none
  | some (x :: y :: rest) =>
    if h = "Max" then some ((y :: rest).foldl max x)
    else if h = "Min" then some ((y :: rest).foldl min x)
    else none
  | _ => none

mutual
  noncomputable def evalR (ρ : String → ℝ) : Expr → Option ℝ
    | .int n => some (n : ℝ)
    | .rat n d => if d = 0 then none else some ((n : ℝ) / (d : ℝ))
    | .sym s => some (ρ s)
    | .const c => constVal c
    | .add c ts => (evalR ρ c).bind fun vc => (evalTerms ρ ts).map fun vs => vc + vs
    | .mul c fs => (evalR ρ c).bind fun vc => (evalFacs ρ fs).map fun vs => vc * vs
    | .pow b e => powSem (evalR ρ b) e (evalR ρ e)
    | .app h args => appSem h (evalArgs ρ args)
    | _ => none
  noncomputable def evalTerms (ρ : String → ℝ) : List (Expr × Expr) → Option ℝ
    | [] => some 0
    | (k, v) :: t =>
      (evalR ρ k).bind fun vk => (evalR ρ v).bind fun vv => (evalTerms ρ t).map fun vt => vk * vv + vt
  noncomputable def evalFacs (ρ : String → ℝ) : List (Expr × Expr) → Option ℝ
    | [] => some 1
    | (b, e) :: t =>
      (powSem (evalR ρ b) e (evalR ρ e)).bind fun p => (evalFacs ρ t).map fun vt => p * vt
  noncomputable def evalArgs (ρ : String → ℝ) : List Expr → Option (List ℝ)
    | [] => some []
    | a :: t => (evalR ρ a).bind fun va => (evalArgs ρ t).map fun vt => va :: vt
end

/-- what the sign map `id` asserts of a value -/
def mapSem : MapId → ℝ → Prop
  | .pos, x => 0 < x
  | .nonneg, x => 0 ≤ x
  | .neg, x => x < 0
  | .nonpos, x => x ≤ 0
  | .nonzero, x => x ≠ 0
  | .zero, x => x = 0

/-- An assignment satisfies the internal fact tables.  The symbol sets `complexS` and `realS` have no field: `ρ` is
    real-valued, so membership in them holds of every assignment. -/
structure FactsSat (ρ : String → ℝ) (A : Assumptions) : Prop where
  rat : ∀ s ∈ A.ratS, ∃ q : ℚ, ρ s = (q : ℝ)
  int : ∀ s ∈ A.intS, ∃ n : ℤ, ρ s = (n : ℝ)
  maps : ∀ id s b, (s, b) ∈ A.getMap id → (b = true ↔ mapSem id (ρ s))

/-- meaning of one assumption statement for a real assignment: a relational holds when both sides have
    real values in the stated relation; membership in Reals/Complexes is true of every real assignment -/
def holds (ρ : String → ℝ) (s : Expr) : Prop :=
  match s with
  | .app h [a, b] =>
    if h = "Contains" then
      match a, b with
      | .sym x, .app st [] =>
        if st = "Rationals" then ∃ q : ℚ, ρ x = (q : ℝ)
        else if st = "Integers" then ∃ n : ℤ, ρ x = (n : ℝ)
        else True
      | _, _ => True
    else if h = "LessThan" then ∃ va vb, evalR ρ a = some va ∧ evalR ρ b = some vb ∧ va ≤ vb
    else if h = "StrictLessThan" then ∃ va vb, evalR ρ a = some va ∧ evalR ρ b = some vb ∧ va < vb
    else if h = "Equality" then ∃ va vb, evalR ρ a = some va ∧ evalR ρ b = some vb ∧ va = vb
    else if h = "Unequality" then ∃ va vb, evalR ρ a = some va ∧ evalR ρ b = some vb ∧ va ≠ vb
    else True
  | _ => True

def Sat (ρ : String → ℝ) (stmts : List Expr) : Prop := ∀ s ∈ stmts, holds ρ s

theorem holds_le {ρ : String → ℝ} {a b : Expr} : holds ρ (.app "LessThan" [a, b]) ↔
    ∃ va vb, evalR ρ a = some va ∧ evalR ρ b = some vb ∧ va ≤ vb := by
  simp only [holds, String.reduceEq, ↓reduceIte]

theorem holds_lt {ρ : String → ℝ} {a b : Expr} : holds ρ (.app "StrictLessThan" [a, b]) ↔
    ∃ va vb, evalR ρ a = some va ∧ evalR ρ b = some vb ∧ va < vb := by
  simp only [holds, String.reduceEq, ↓reduceIte]

theorem holds_eq {ρ : String → ℝ} {a b : Expr} : holds ρ (.app "Equality" [a, b]) ↔
    ∃ va vb, evalR ρ a = some va ∧ evalR ρ b = some vb ∧ va = vb := by
  simp only [holds, String.reduceEq, ↓reduceIte]

theorem holds_ne {ρ : String → ℝ} {a b : Expr} : holds ρ (.app "Unequality" [a, b]) ↔
    ∃ va vb, evalR ρ a = some va ∧ evalR ρ b = some vb ∧ va ≠ vb := by
  simp only [holds, String.reduceEq, ↓reduceIte]

theorem lookupB_mem {m : List (String × Bool)} {s : String} {b : Bool} (h : lookupB m s = some b) :
    (s, b) ∈ m := by
  induction m with
  | nil => simp [lookupB] at h
  | cons p t ih =>
    obtain ⟨k, v⟩ := p
    simp only [lookupB] at h
    split at h
    · rename_i hk
      cases eq_of_beq hk
      cases h
      exact List.mem_cons_self
    · exact List.mem_cons_of_mem _ (ih h)

theorem fromSet_t {l : List String} {s : String} (h : fromSet l s = .t) : s ∈ l := by
  unfold fromSet at h
  split at h
  · rename_i hc; simpa using hc
  · cases h

theorem fromSet_ne_f {l : List String} {s : String} : fromSet l s ≠ .f := by
  unfold fromSet; split <;> simp

theorem tri_not_eq {x y : Tri} (h : x.not = y) : x = y.not := by
  cases x <;> cases h <;> rfl

/-- the tribool `x` answers the question `P` soundly: it is true only if `P` holds and false only if it does not;
    nothing is said of `indeterminate` -/
structure Sound (x : Tri) (P : Prop) : Prop where
  of_t : x = .t → P
  of_f : x = .f → ¬ P

theorem Sound.i {P : Prop} : Sound .i P := ⟨nofun, nofun⟩

theorem Sound.ofBool {b : Bool} {P : Prop} (h : b = true ↔ P) : Sound (Tri.ofBool b) P := by
  cases b
  · exact ⟨fun h' => (by cases h'), fun _ hp => Bool.false_ne_true (h.mpr hp)⟩
  · exact ⟨fun _ => h.mp rfl, fun h' => by cases h'⟩

theorem Sound.not {x : Tri} {P : Prop} (h : Sound x P) : Sound x.not (¬ P) :=
  ⟨fun hx => h.of_f (tri_not_eq hx), fun hx => not_not_intro (h.of_t (tri_not_eq hx))⟩

theorem Sound.congr {x : Tri} {P Q : Prop} (h : Sound x P) (hpq : P ↔ Q) : Sound x Q :=
  ⟨fun hx => hpq.mp (h.of_t hx), fun hx hq => h.of_f hx (hpq.mpr hq)⟩

/-- the form in which the rules of `refine` test a query -/
theorem Sound.of_beq {x : Tri} {P : Prop} (h : Sound x P) (hx : (x == .t) = true) : P := h.of_t (eq_of_beq hx)

theorem Sound.fromSet {l : List String} {s : String} {P : Prop} (h : s ∈ l → P) : Sound (fromSet l s) P :=
  ⟨fun hx => h (fromSet_t hx), fun hx => absurd hx fromSet_ne_f⟩

theorem FactsSat.sound {ρ A} (h : FactsSat ρ A) (id : MapId) (s : String) :
    Sound (fromMap (A.getMap id) s) (mapSem id (ρ s)) := by
  unfold fromMap
  cases hb : lookupB (A.getMap id) s with
  | none => exact .i
  | some b => exact .ofBool (h.maps id s b (lookupB_mem hb))

theorem factsSat_empty (ρ : String → ℝ) : FactsSat ρ Assumptions.empty where
  rat _ hs := nomatch hs
  int _ hs := nomatch hs
  maps id _ _ h := by cases id <;> cases h

theorem constVal_between {c : String} {v : ℝ} (h : constVal c = some v) : ∃ k : ℕ, (k : ℝ) < v ∧ v < (k : ℝ) + 1 := by
  unfold constVal at h
  split at h
  · cases h
    exact ⟨3, by exact_mod_cast Real.pi_gt_three, by norm_num; exact Real.pi_lt_four⟩
  split at h
  · cases h
    exact ⟨2, by exact_mod_cast Real.exp_one_gt_two, by norm_num; exact Real.exp_one_lt_three⟩
  split at h
  · cases h
    exact ⟨1, by exact_mod_cast Real.one_lt_goldenRatio, by norm_num; exact Real.goldenRatio_lt_two⟩
  split at h
  · cases h
    exact ⟨0, by norm_num; linarith [Real.one_half_lt_eulerMascheroniConstant],
      by norm_num; linarith [Real.eulerMascheroniConstant_lt_two_thirds]⟩
  · cases h

theorem constVal_pos {c : String} {v : ℝ} (h : constVal c = some v) : 0 < v := by
  obtain ⟨k, hk, _⟩ := constVal_between h
  exact k.cast_nonneg.trans_lt hk

theorem constVal_not_int {c : String} {v : ℝ} (h : constVal c = some v) : ¬ ∃ n : ℤ, v = (n : ℝ) := by
  obtain ⟨k, h1, h2⟩ := constVal_between h
  rintro ⟨n, rfl⟩
  have : (k : ℤ) < n := by exact_mod_cast h1
  have : n < (k : ℤ) + 1 := by exact_mod_cast h2
  omega

theorem evalR_isNum_cases {ρ : String → ℝ} {e : Expr} {v : ℝ} (hn : e.isNum = true) (h : evalR ρ e = some v) :
    (∃ n : ℤ, e = .int n ∧ v = n) ∨ (∃ (n : ℤ) (d : ℕ), e = .rat n d ∧ d ≠ 0 ∧ v = (n : ℝ) / (d : ℝ)) := by
  cases e with
  | int n =>
    left
    refine ⟨n, rfl, ?_⟩
    simp [evalR] at h
    exact h.symm
  | rat n d =>
    right
    refine ⟨n, d, rfl, ?_⟩
    simp [evalR] at h
    exact ⟨h.1, h.2.symm⟩
  -- the other Number classes (Complex, the floats, infinities, NaN) have no real value: the theorems are silent on them
  | cplx _ _ | dbl _ | cdbl _ _ | infty _ | nan => simp [evalR] at h
  | _ => simp [Expr.isNum] at hn

theorem rat_pos {n : ℤ} {d : ℕ} (hd : d ≠ 0) : 0 < n ↔ (0 : ℝ) < (n : ℝ) / (d : ℝ) := by
  rw [div_pos_iff_of_pos_right (by exact_mod_cast Nat.pos_of_ne_zero hd)]; exact_mod_cast Iff.rfl

theorem rat_neg {n : ℤ} {d : ℕ} (hd : d ≠ 0) : n < 0 ↔ (n : ℝ) / (d : ℝ) < 0 := by
  rw [div_lt_iff₀ (by exact_mod_cast Nat.pos_of_ne_zero hd), zero_mul]; exact_mod_cast Iff.rfl

theorem rat_eq_zero {n : ℤ} {d : ℕ} (hd : d ≠ 0) : n = 0 ↔ (n : ℝ) / (d : ℝ) = 0 := by
  rw [div_eq_zero_iff, or_iff_left (by exact_mod_cast hd)]; exact_mod_cast Iff.rfl

end SymVerif.C34
