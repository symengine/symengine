import Mathlib.Algebra.BigOperators.Fin
import Mathlib.Algebra.BigOperators.Intervals
import Mathlib.Tactic.Ring
import Mathlib.Tactic.FieldSimp
import Mathlib.Tactic.Linarith
import SymVerif.Lemmas.C24LU
/-! From the Doolittle recurrences (`ColEq`, tables over `X`) to `L * U = A` over `ℚ`.  Nothing here
speaks of arrays: `a` is the input table, `w` the combined table the algorithm leaves. -/
namespace SymVerif.Dense
open Finset

theorem fin_of_isFin {x : X} (h : x.isFin = true) : x = X.fin x.toRat := by
  cases x <;> simp_all [X.isFin, X.toRat]

theorem accF_add_fin (t : Nat → X) (q : Nat → ℚ) (a : ℚ) :
    ∀ n, (∀ k, k < n → t k = X.fin (q k)) →
      accF (fun k acc => X.add acc (t k)) (X.fin a) n = X.fin (a + ∑ k ∈ range n, q k) := by
  intro n
  induction n with
  | zero => intro _; simp [accF]
  | succ n ih =>
    intro h
    rw [accF, ih (fun k hk => h k (Nat.lt_succ_of_lt hk)), h n (Nat.lt_succ_self n), sum_range_succ,
      ← add_assoc]
    rfl

theorem redF_fin (row colv : Nat → X) (r c : Nat → ℚ) (a : ℚ) (lim : Nat)
    (h1 : ∀ k, k < lim → row k = X.fin (r k)) (h2 : ∀ k, k < lim → colv k = X.fin (c k)) :
    redF row colv (X.fin a) lim = X.fin (a - ∑ k ∈ range lim, r k * c k) := by
  rw [sub_eq_add_neg, ← sum_neg_distrib]
  -- `X.sub x y` is `X.add x (X.mul X.minusOne y)` by definition
  refine accF_add_fin (fun k => X.mul X.minusOne (X.mul (row k) (colv k))) _ a lim fun k hk => ?_
  rw [h1 k hk, h2 k hk]
  simp [X.mul, X.minusOne]

theorem X_mul_div_fin (x p : ℚ) (hp : p ≠ 0) :
    X.mul (X.fin x) (X.div X.one (X.fin p)) = X.fin (x * (1 / p)) := by
  simp [X.div, X.one, X.mul, hp]

theorem red_fin (a w : Nat → Nat → X) (i c : Nat) (ha : (a i c).isFin = true)
    (h1 : ∀ k, k < min i c → (w i k).isFin = true) (h2 : ∀ k, k < min i c → (w k c).isFin = true) :
    redF (w i) (fun k => w k c) (a i c) (min i c) =
      X.fin ((a i c).toRat - ∑ k ∈ range (min i c), (w i k).toRat * (w k c).toRat) := by
  rw [fin_of_isFin ha]
  exact redF_fin _ _ (fun k => (w i k).toRat) (fun k => (w k c).toRat) _ _
    (fun k hk => fin_of_isFin (h1 k hk)) (fun k hk => fin_of_isFin (h2 k hk))

theorem ColEq.fin {n : Nat} {a w : Nat → Nat → X} {c i : Nat} (h : ColEq n a w c) (hi : i < n)
    (ha : (a i c).isFin = true)
    (h1 : ∀ k, k < min i c → (w i k).isFin = true) (h2 : ∀ k, k < min i c → (w k c).isFin = true)
    (hp : c < i → (w c c).isFin = true ∧ (w c c).toRat ≠ 0) :
    w i c = X.fin (((a i c).toRat - ∑ k ∈ range (min i c), (w i k).toRat * (w k c).toRat) *
      if i ≤ c then 1 else 1 / (w c c).toRat) := by
  have red := red_fin a w i c ha h1 h2
  by_cases hic : i ≤ c
  · rw [h.of_le hi hic, red, if_pos hic, mul_one]
  · obtain ⟨pf, pz⟩ := hp (Nat.lt_of_not_le hic)
    rw [h.of_lt hi (Nat.lt_of_not_le hic), red, if_neg hic, fin_of_isFin pf, X_mul_div_fin _ _ pz]
    rfl

/-- Under the algorithm's own precondition (every pivot whose reciprocal is multiplied into a cell is a
    non-zero rational) all entries of the combined table are rationals.  The last pivot needs no
    hypothesis: the code computes `div(one, U[n-1][n-1])` too, but its scale loop is empty. -/
theorem lu_fin (n : Nat) (a w : Nat → Nat → X) (hcol : ∀ c, c < n → ColEq n a w c)
    (ha : ∀ i, i < n → ∀ j, j < n → (a i j).isFin = true)
    (hp : ∀ j, j + 1 < n → (w j j).isFin = true ∧ (w j j).toRat ≠ 0) :
    ∀ i, i < n → ∀ c, c < n → (w i c).isFin = true := by
  -- the cells the right side of `ColEq` reads all have a smaller index sum than `(i, c)`
  have key : ∀ s i c, i + c = s → i < n → c < n → (w i c).isFin = true := by
    intro s
    induction s using Nat.strong_induction_on with
    | _ s ih =>
      intro i c hs hi hc
      rw [(hcol c hc).fin hi (ha i hi c hc)
        (fun k hk => ih (i + k) (by omega) i k rfl hi (by omega))
        (fun k hk => ih (k + c) (by omega) k c rfl (by omega) hc) (fun h => hp c (by omega))]
      rfl
  exact fun i hi c hc => key (i + c) i c rfl hi hc

theorem lu_eqs (n : Nat) (a w : Nat → Nat → X) (hcol : ∀ c, c < n → ColEq n a w c)
    (ha : ∀ i, i < n → ∀ j, j < n → (a i j).isFin = true)
    (hp : ∀ j, j + 1 < n → (w j j).isFin = true ∧ (w j j).toRat ≠ 0) :
    ∀ i, i < n → ∀ c, c < n →
      (i ≤ c → (w i c).toRat = (a i c).toRat - ∑ k ∈ range i, (w i k).toRat * (w k c).toRat) ∧
      (c < i → (w i c).toRat * (w c c).toRat =
        (a i c).toRat - ∑ k ∈ range c, (w i k).toRat * (w k c).toRat) := by
  have hfin := lu_fin n a w hcol ha hp
  intro i hi c hc
  have hv := (hcol c hc).fin hi (ha i hi c hc)
    (fun k hk => hfin i hi k (by omega)) (fun k hk => hfin k (by omega) c hc) (fun h => hp c (by omega))
  constructor
  · intro h
    rw [hv, if_pos h, Nat.min_eq_left h, mul_one]; rfl
  · intro h
    have pz := (hp c (by omega)).2
    rw [hv, if_neg (Nat.not_le.mpr h), Nat.min_eq_right (Nat.le_of_lt h)]
    show _ * (1 / (w c c).toRat) * (w c c).toRat = _
    field_simp

/-- the unit lower and the upper factor, read off the combined table, over `ℚ` -/
def loQ (w : Nat → Nat → X) (i k : Nat) : ℚ := if k < i then (w i k).toRat else if k = i then 1 else 0
def upQ (w : Nat → Nat → X) (k j : Nat) : ℚ := if j < k then 0 else (w k j).toRat

theorem lu_product (n : Nat) (a w : Nat → Nat → X) (hcol : ∀ c, c < n → ColEq n a w c)
    (ha : ∀ i, i < n → ∀ j, j < n → (a i j).isFin = true)
    (hp : ∀ j, j + 1 < n → (w j j).isFin = true ∧ (w j j).toRat ≠ 0)
    (i j : Nat) (hi : i < n) (hj : j < n) :
    ∑ k ∈ range n, loQ w i k * upQ w k j = (a i j).toRat := by
  obtain ⟨e1, e2⟩ := lu_eqs n a w hcol ha hp i hi j hj
  -- with `b = min i j`: only the terms `k ≤ b` are non-zero; below `b` both factors are entries of `w`
  have cut : ∀ b, b ≤ i → b ≤ j → (b = i ∨ b = j) → ∑ k ∈ range n, loQ w i k * upQ w k j =
      ∑ k ∈ range b, (w i k).toRat * (w k j).toRat + loQ w i b * upQ w b j := by
    intro b hbi hbj hb
    rw [eventually_constant_sum (N := b + 1) (n := n) (fun k hk => by
      unfold loQ upQ
      by_cases h : j < k
      · rw [if_pos h, mul_zero]
      · -- `hb` (`b` is `min i j`) enters here: `b < k` and `k ≤ j` leave `b = i < k`
        rw [if_neg (by omega), if_neg (by omega), zero_mul]) (Nat.lt_of_le_of_lt hbi hi), sum_range_succ]
    congr 1
    refine sum_congr rfl fun k hk => ?_
    have hk := mem_range.mp hk
    unfold loQ upQ
    rw [if_pos (Nat.lt_of_lt_of_le hk hbi), if_neg (Nat.not_lt.mpr (Nat.le_trans (Nat.le_of_lt hk) hbj))]
  by_cases hij : i ≤ j
  · rw [cut i (Nat.le_refl i) hij (Or.inl rfl)]
    unfold loQ upQ
    rw [if_neg (Nat.lt_irrefl i), if_pos rfl, if_neg (Nat.not_lt.mpr hij), e1 hij]; ring
  · have hji : j < i := Nat.lt_of_not_le hij
    rw [cut j (Nat.le_of_lt hji) (Nat.le_refl j) (Or.inr rfl)]
    unfold loQ upQ
    rw [if_pos hji, if_neg (Nat.lt_irrefl j), e2 hji]; ring

theorem RowDone.fin {n i : Nat} {W l u : Array X} (h : RowDone n W l u i) (hi : i < n)
    (hW : ∀ i, i < n → ∀ c, c < n → (cell W n i c).isFin = true) {j : Nat} (hj : j < n) :
    cell l n i j = X.fin (loQ (cell W n) i j) ∧ cell u n i j = X.fin (upQ (cell W n) i j) := by
  refine ⟨(h j hj).1.trans ?_, (h j hj).2.trans ?_⟩
  · unfold loQ
    by_cases c1 : j < i
    · simp only [if_pos c1]; exact fin_of_isFin (hW i hi j hj)
    · by_cases c2 : j = i <;> simp [c1, c2, X.one, X.zero]
  · unfold upQ
    by_cases c1 : j < i
    · simp [c1, X.zero]
    · simp only [if_neg c1]; exact fin_of_isFin (hW i hi j hj)

end SymVerif.Dense
