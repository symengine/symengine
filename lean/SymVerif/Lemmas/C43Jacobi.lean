import Mathlib.NumberTheory.LegendreSymbol.JacobiSymbol
import SymVerif.Model.MpSpec
import SymVerif.Model.MpBoost
import SymVerif.Lemmas.GmpSpec
/-! C43, Jacobi symbol: the specification's binary algorithm and `unchecked_jacobi` of mp_boost.cpp both
compute Mathlib's `jacobiSym`.
Claimed theorems of the property: `unchecked_jacobi`, `jacobi_meaning`, `jacobi`, `kronecker`. -/
namespace SymVerif.C43
open SymVerif NumberTheorySymbols

/-- the specification's loop multiplies the accumulated sign by the Jacobi symbol -/
theorem jacobiLoop_spec (a n : Nat) (t : Int) (hn : n % 2 = 1) :
    MpSpec.jacobiLoop a n t = t * J(a | n) := by
  fun_induction MpSpec.jacobiLoop a n t with
  | case1 t =>
    simp [jacobiSym.one_right]
  | case2 n t hne =>
    have : 1 < n := by omega
    simp [jacobiSym.zero_left this]
  | case3 a n t h0 hev ih =>
    have ih' := ih hn
    -- `fun_induction` states the new sign in `ih` with a dependent `if h : …`, the goal has the plain `if`
    simp only [dite_eq_ite] at ih'
    rw [ih']
    have key := jacobiSym.even_odd (a := (a : Int)) (b := n) (by omega) hn
    have hc : ((a / 2 : Nat) : Int) = (a : Int) / 2 := by simp
    rw [hc, ← key]
    split <;> ring
  | case4 a n t h0 hodd ih =>
    have ha : a % 2 = 1 := by omega
    have ih' := ih ha
    simp only [dite_eq_ite] at ih'
    rw [ih']
    have key := jacobiSym.quadratic_reciprocity_if (a := a) (b := n) ha hn
    have hm : J(((n % a : Nat) : Int) | a) = J((n : Int) | a) := by
      rw [jacobiSym.mod_left (n : Int) a]; simp
    rw [hm, ← key]
    split <;> ring

theorem jacobiPos_spec (a : Int) (n : Nat) (hn : n % 2 = 1) : MpSpec.jacobiPos a n = J(a | n) := by
  unfold MpSpec.jacobiPos
  rw [jacobiLoop_spec _ _ _ hn, one_mul]
  have hpos : (0 : Int) < n := by omega
  have : (((a % (n : Int)).toNat : Nat) : Int) = a % n := Int.toNat_of_nonneg (Int.emod_nonneg _ (by omega))
  rw [this, ← jacobiSym.mod_left]

theorem fmod_pos (a m : Int) (hm : 0 < m) : MpBoost.fmod a m = a % m := by
  have := GmpSpec.fixup_eq_emod (GmpSpec.tmod_natAbs_lt a (by omega)) (GmpSpec.tmod_modEq a m)
  rwa [show (m.natAbs : Int) = m by omega] at this

/-! The loop `while (x % 2 == 0 && x != 0) { x /= 2; ++k; }` occurs twice in mp_boost.cpp
(`stripTwos`, on `Int`) and once in the specification (`oddPart`, on `Nat`). -/

theorem stripTwos_eq_oddPart : ∀ (fuel x k : Nat),
    MpBoost.stripTwos fuel (x : Int) k = (((MpSpec.oddPart fuel x k).1 : Int), (MpSpec.oddPart fuel x k).2) := by
  intro fuel
  induction fuel with
  | zero => intro x k; rfl
  | succ f ih =>
    intro x k
    unfold MpBoost.stripTwos MpSpec.oddPart
    have hd : (x : Int).tdiv 2 = ((x / 2 : Nat) : Int) := by
      rw [Int.tdiv_eq_ediv_of_nonneg (by omega)]; rfl
    by_cases hc : x % 2 = 0 ∧ x ≠ 0
    · have hc' : (x : Int).tmod 2 = 0 ∧ (x : Int) ≠ 0 := by rw [GmpSpec.tmod_two_eq_zero_iff]; omega
      rw [if_pos hc, if_pos hc', hd, ih]
    · have hc' : ¬ ((x : Int).tmod 2 = 0 ∧ (x : Int) ≠ 0) := by rw [GmpSpec.tmod_two_eq_zero_iff]; omega
      rw [if_neg hc, if_neg hc']

theorem oddPart_zero (fuel k : Nat) : MpSpec.oddPart fuel 0 k = (0, k) := by
  cases fuel <;> rfl

theorem oddPart_spec : ∀ (fuel x k : Nat), x ≠ 0 → x ≤ fuel →
    (MpSpec.oddPart fuel x k).1 % 2 = 1 ∧
    ∃ e, (MpSpec.oddPart fuel x k).2 = k + e ∧ x = (MpSpec.oddPart fuel x k).1 * 2 ^ e := by
  intro fuel
  induction fuel with
  | zero => intro x k h0 hf; omega
  | succ f ih =>
    intro x k h0 hf
    unfold MpSpec.oddPart
    by_cases hc : x % 2 = 0 ∧ x ≠ 0
    · rw [if_pos hc]
      obtain ⟨i1, e, i2, i3⟩ := ih (x / 2) (k + 1) (by omega) (by omega)
      refine ⟨i1, e + 1, by omega, ?_⟩
      rw [Nat.pow_succ, ← Nat.mul_assoc, ← i3]
      omega
    · rw [if_neg hc]
      exact ⟨by omega, 0, rfl, (Nat.mul_one x).symm⟩

theorem stripTwos_spec (x : Nat) (hx : x ≠ 0) :
    ∃ r j : Nat, MpSpec.oddPart x x 0 = (r, j) ∧ MpBoost.stripTwos x (x : Int) 0 = ((r : Int), j) ∧
      r % 2 = 1 ∧ x = r * 2 ^ j := by
  obtain ⟨h1, e, h2, h3⟩ := oddPart_spec x x 0 hx (le_refl x)
  refine ⟨_, _, rfl, stripTwos_eq_oddPart x x 0, h1, ?_⟩
  rw [Nat.zero_add] at h2; rw [h2]; exact h3

theorem J_two (n : Nat) (hn : n % 2 = 1) : J(2 | n) = if n % 8 = 3 ∨ n % 8 = 5 then -1 else 1 := by
  have := jacobiSym.even_odd (a := 2) (b := n) (by norm_num) hn
  simp only [show (2 : Int) / 2 = 1 by norm_num, jacobiSym.one_left] at this
  exact this.symm

theorem J_two_pow (n j : Nat) (hn : n % 2 = 1) :
    J(2 | n) ^ j = if j % 2 = 1 ∧ (n % 8 = 3 ∨ n % 8 = 5) then -1 else 1 := by
  rw [J_two n hn]
  by_cases h8 : n % 8 = 3 ∨ n % 8 = 5
  · simp only [h8, if_true, and_true]
    by_cases hj : j % 2 = 1
    · simp only [hj, if_true]
      exact Odd.neg_one_pow (Nat.odd_iff.mpr hj)
    · simp only [hj, if_false]
      exact Even.neg_one_pow (Nat.even_iff.mpr (by omega))
  · simp [h8]

/-- steps (1)–(2) of `unchecked_jacobi`: reduce modulo `n`, pull out the twos -/
theorem jacobiPrep_spec (a : Int) (n : Nat) (hodd : n % 2 = 1) :
    ∃ r : Nat, (MpBoost.jacobiPrep a n).1 = r ∧ r < n ∧ (r = 0 ∨ r % 2 = 1) ∧
      (r = 0 → (MpBoost.jacobiPrep a n).2 = 1) ∧ J(a | n) = (MpBoost.jacobiPrep a n).2 * J(r | n) := by
  have hn : (0 : Int) < n := by omega
  obtain ⟨x, hx⟩ : ∃ x : Nat, a % n = x := ⟨_, (Int.toNat_of_nonneg (Int.emod_nonneg a (by omega))).symm⟩
  have hlt : x < n := by have := Int.emod_lt_of_pos a hn; omega
  unfold MpBoost.jacobiPrep
  simp only
  rw [fmod_pos a n hn, fmod_pos n 8 (by norm_num), hx, Int.natAbs_natCast, stripTwos_eq_oddPart,
    jacobiSym.mod_left a n, hx]
  simp only
  by_cases hx0 : x = 0
  · subst hx0
    rw [oddPart_zero]
    exact ⟨0, rfl, by omega, Or.inl rfl, fun _ => by simp, by simp⟩
  · obtain ⟨r, j, ho, -, s1, s3⟩ := stripTwos_spec x hx0
    rw [ho]
    simp only
    have hrx : r ≤ x := by rw [s3]; exact Nat.le_mul_of_pos_right r (Nat.pow_pos (by omega))
    refine ⟨r, rfl, by omega, Or.inr s1, by omega, ?_⟩
    rw [s3]
    push_cast
    rw [jacobiSym.mul_left, jacobiSym.pow_left, J_two_pow n j hodd, mul_comm]
    norm_cast

/-- the induction behind `unchecked_jacobi`, over the lower argument as a natural number: each call reduces it -/
theorem uncheckedJacobi_nat : ∀ (n : Nat) (a : Int), n % 2 = 1 →
    MpBoost.uncheckedJacobi a n = some J(a | n) := by
  intro n
  induction n using Nat.strongRecOn with
  | ind n IH =>
    intro a hodd
    rw [MpBoost.uncheckedJacobi]
    by_cases ha : a = 1
    · rw [if_pos ha, ha, jacobiSym.one_left]
    rw [if_neg ha, if_neg (by omega : ¬ (n : Int) ≤ 0)]
    obtain ⟨r, hr, hlt, hro, hs0, hJ⟩ := jacobiPrep_spec a n hodd
    generalize MpBoost.jacobiPrep a n = p at hr hs0 hJ ⊢
    obtain ⟨r', sg⟩ := p
    simp only at hr hs0 hJ ⊢
    subst hr
    rw [hJ]
    by_cases h1 : (r : Int) = 1
    · rw [if_pos h1, h1, jacobiSym.one_left, mul_one]
    rw [if_neg h1]
    by_cases hg : ((Int.gcd r n : Nat) : Int) ≠ 1
    · rw [if_pos hg]
      have : J((r : Int) | n) = 0 := by
        rw [jacobiSym.eq_zero_iff]
        exact ⟨by omega, fun h => hg (by exact_mod_cast h)⟩
      rw [this, mul_zero]
    rw [if_neg hg, dif_pos ⟨by omega, by omega⟩]
    rcases hro with hz | hro
    · -- the reduced numerator is 0: coprime only to n = 1
      subst hz
      have hn1 : n = 1 := by simpa using hg
      subst hn1
      rw [MpBoost.uncheckedJacobi, if_pos Nat.cast_one, hs0 rfl]
      simp [MpBoost.fmod, jacobiSym.one_right]
    · rw [IH r hlt n hro]
      simp only
      rw [fmod_pos _ 4 (by norm_num), fmod_pos _ 4 (by norm_num), mul_assoc,
        ← jacobiSym.quadratic_reciprocity_if hro hodd]
      congr 2
      have h4 : ((r : Int) % 4 = 3 ∧ (n : Int) % 4 = 3) ↔ (r % 4 = 3 ∧ n % 4 = 3) := by norm_cast
      by_cases hc : r % 4 = 3 ∧ n % 4 = 3
      · rw [if_pos (h4.mpr hc), if_pos hc]; ring
      · rw [if_neg (fun h => hc (h4.mp h)), if_neg hc]; ring

/-- `unchecked_jacobi` (reduce, pull out twos, gcd test, quadratic reciprocity, recurse) computes Mathlib's
Jacobi symbol for every odd positive `n` -/
theorem unchecked_jacobi (a n : Int) (hn : 0 < n) (hodd : n % 2 = 1) :
    MpBoost.uncheckedJacobi a n = some J(a | n.toNat) := by
  obtain ⟨m, rfl⟩ : ∃ m : Nat, n = m := ⟨_, (Int.toNat_of_nonneg hn.le).symm⟩
  exact uncheckedJacobi_nat m a (by omega)

/-- what the specification's `jacobi` is: Mathlib's `jacobiSym` (Kronecker extension for negative `n`) -/
theorem jacobi_meaning (a n : Int) (hodd : n % 2 = 1) :
    MpSpec.jacobi a n = some ((if n < 0 ∧ a < 0 then -1 else 1) * J(a | n.natAbs)) := by
  unfold MpSpec.jacobi
  rw [if_neg (by omega : ¬ n % 2 = 0)]
  by_cases hpos : n > 0
  · rw [if_pos hpos, if_neg (by omega : ¬ (n < 0 ∧ a < 0)), one_mul, jacobiPos_spec a n.toNat (by omega),
      show n.toNat = n.natAbs by omega]
  · rw [if_neg hpos, jacobiPos_spec a n.natAbs (by omega)]
    simp only [show n < 0 by omega, true_and]

/-- `mp_jacobi` (with the negative-`n` repair) agrees with the specification, both `none` for even `n`;
`jacobi_meaning` reads the specification as Mathlib's `J(a | n)`. -/
theorem jacobi (a n : Int) : MpBoost.jacobi a n = MpSpec.jacobi a n := by
  unfold MpBoost.jacobi
  simp only [GmpSpec.tmod_two_eq_zero_iff]
  by_cases hev : n % 2 = 0
  · rw [if_pos hev, MpSpec.jacobi, if_pos hev]
  · have hodd : n % 2 = 1 := by omega
    rw [if_neg hev, jacobi_meaning a n hodd]
    by_cases hneg : n < 0
    · rw [if_pos hneg, uncheckedJacobi_nat n.natAbs a (by omega)]
      simp only [Option.map_some, hneg, true_and]
    · rw [if_neg hneg, unchecked_jacobi a n (by omega) hodd, if_neg (fun h => hneg h.1), one_mul,
        show n.toNat = n.natAbs by omega]

/-- **`mp_kronecker` (with the `n = 0` repair) = specification** -/
theorem kronecker (a n : Int) : MpBoost.kronecker a n = some (MpSpec.kronecker a n) := by
  unfold MpBoost.kronecker MpSpec.kronecker
  by_cases h0 : n = 0
  · rw [if_pos h0, if_pos h0]
    congr 2
    apply propext
    omega
  · rw [if_neg h0, if_neg h0]
    simp only
    obtain ⟨m, j, ho, hst, hm_odd, hN⟩ := stripTwos_spec n.natAbs (by omega)
    rw [hst, ho]
    simp only
    have hs : (MpSpec.jacobi a (m : Int)).getD 0 = J(a | m) := by
      rw [MpSpec.jacobi, if_neg (by omega), if_pos (by omega), Option.getD_some, Int.toNat_natCast,
        jacobiPos_spec a m hm_odd]
    rw [uncheckedJacobi_nat m a hm_odd, hs, fmod_pos a 8 (by norm_num)]
    simp only [ne_eq, GmpSpec.tmod_two_eq_zero_iff]
    congr 1
    -- both sides are `sign * two * J(a | m)`: for odd `n`, `j = 0` and `two = 1`; for even `n` the code's table for
    -- `(a|2)^j` is the specification's, checked by the cases of `a % 2`, `a % 8 ∈ {1, 7}`, `j % 2`
    have hj0 : j = 0 ↔ n % 2 ≠ 0 := by
      cases j with
      | zero => rw [Nat.pow_zero, Nat.mul_one] at hN; omega
      | succ j => rw [Nat.pow_succ, ← Nat.mul_assoc] at hN; omega
    unfold MpSpec.kroneckerTwo
    by_cases hn2 : n % 2 = 0
    · have hjne : j ≠ 0 := fun h => (hj0.mp h) hn2
      rw [if_pos hn2, if_neg hjne]
      by_cases ha2 : a % 2 = 0
      · rw [if_neg (not_not.mpr ha2), if_pos ha2]
        by_cases hjo : j % 2 = 0 <;> simp [hjo]
      · rw [if_pos ha2, if_neg ha2, if_pos ha2]
        by_cases h8 : a % 8 = 1 ∨ a % 8 = 7 <;> by_cases hjo : j % 2 = 0 <;> simp [h8, hjo]
    · rw [if_neg hn2, if_pos (hj0.mpr hn2), mul_one]

end SymVerif.C43
