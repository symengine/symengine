/-
C04, Mul side: the n-ary constructor.  Absorbing a factor into a representation is an accumulator
(`rmulSAcc`: `⊗` is commutative and associative), `mul(vec)` is `Mul::from_dict` of the fold (`mulNOS_eq`), and
every bracketing with `mul(a, b)` evaluates to it (`evalTS_mul`, an instance of `evalT_acc_eq` of
Lemmas/C04Tree.lean).  `tlen`, the total number of dictionary entries of the operands, bounds the fuel.
-/
import SymVerif.Lemmas.C04MulS
import SymVerif.Lemmas.C04Tree

namespace SymVerif.AC
open SymVerif SymVerif.Arith

/-- the loop body of `mul(vec)`, and of every arm of `mul(a, b)` -/
theorem rmulSAcc : Acc NRS MOKS (fun s a => rmulS s (reprM a)) where
  closed hs ha := hs.rmulS ha.1
  rc hs ha hb := by
    rw [rmulS_assoc hs ha.1 hb.1, rmulS_comm ha.1 hb.1, ← rmulS_assoc hs hb.1 ha.1]

noncomputable def rprodS (s : Expr × Dict) (l : List Expr) : Expr × Dict :=
  l.foldl (fun s a => rmulS s (reprM a)) s

def tlen (l : List Expr) : Nat := (l.map dlen).sum

theorem tlen_cons (a : Expr) (l : List Expr) : tlen (a :: l) = dlen a + tlen l := rfl

theorem dlen_le_tlen : ∀ {l : List Expr} {a : Expr}, a ∈ l → dlen a ≤ tlen l
  | b :: r, a, h => by
    rw [tlen_cons]
    rcases List.mem_cons.mp h with rfl | h
    · omega
    · have := dlen_le_tlen h
      omega

theorem rprodS_perm {l₁ l₂ : List Expr} (hp : l₁.Perm l₂) (h : ∀ a ∈ l₁, MOKS a) :
    rprodS (one, []) l₁ = rprodS (one, []) l₂ :=
  rmulSAcc.foldl_perm hp h _ NRS_unit

theorem tlen_perm {l₁ l₂ : List Expr} (hp : l₁.Perm l₂) : tlen l₁ = tlen l₂ := (hp.map dlen).sum_eq

theorem length_rprodS_le : ∀ (l : List Expr) (s : Expr × Dict), (rprodS s l).2.length ≤ s.2.length + tlen l
  | [], _ => Nat.le_refl _
  | a :: r, s => by
    have h1 := length_rprodS_le r (rmulS s (reprM a))
    have h2 : (rmulS s (reprM a)).2.length ≤ s.2.length + dlen a := length_mergeG_le expVS _ _
    rw [tlen_cons]
    exact Nat.le_trans h1 (by omega)

theorem mulNLoopS_eq {rv : Bool} {fuel : Nat} : ∀ (l : List Expr) {coef : Expr} {d : Dict},
    NRS (coef, d) → (∀ a ∈ l, MOKS a) → (∀ a ∈ l, dlen a + 3 ≤ fuel) →
    mulNLoop fuel rv coef d l = .ok (rprodS (coef, d) l)
  | [], _, _, _, _, _ => rfl
  | a :: r, coef, d, hs, hl, hfu => by
    have ha := hl a List.mem_cons_self
    have hfa := hfu a List.mem_cons_self
    have hrest : ∀ {c' : Expr} {d' : Dict}, NRS (c', d') →
        mulNLoop fuel rv c' d' r = .ok (rprodS (c', d') r) := fun h =>
      mulNLoopS_eq r h (fun x hx => hl x (List.mem_cons_of_mem _ hx))
        (fun x hx => hfu x (List.mem_cons_of_mem _ hx))
    by_cases hma : isMul a = true
    · obtain ⟨ac, ad, rfl⟩ := isMul_iff.mp hma
      have hna : NRS (ac, ad) := ha.1
      simp only [mulNLoop, numMul_eq hs.1 hna.1, ok_bind, datLoopS_iterOrder _ hs hna hfa]
      -- stated before it is passed on: as an argument of `hrest` it is slow to elaborate
      have hnew : NRS (rmulS (coef, d) (ac, ad)) := hs.rmulS hna
      exact hrest hnew
    · have hma' : isMul a = false := by simpa using hma
      rw [mulNLoop.eq_3 _ _ _ _ _ _ (ne_mul_of_isMul hma'), mulStepS_eq (by omega) hs ha hma']
      have hnew : NRS (rmulS (coef, d) (reprM a)) := hs.rmulS ha.1
      exact hrest hnew

theorem mulEO_eq (rv : Bool) {x y : Expr} (hx : MOKS x) (hy : MOKS y)
    (hfu : dlen x + dlen y + 6 ≤ defaultFuel) :
    mulEO rv x y = .ok (mulFromDict (rmulS (reprM x) (reprM y)).1 (rmulS (reprM x) (reprM y)).2) := by
  unfold mulEO guard2
  simp only [hx.exact, hy.exact, Bool.and_self, if_true]
  exact mulFS_eq hx hy hfu

theorem mulEO_step (rv : Bool) {x y : Expr} (hx : MOKS x) (hy : MOKS y)
    (hfu : dlen x + dlen y + 6 ≤ defaultFuel) :
    ∃ z, mulEO rv x y = .ok z ∧ MOKS z ∧ reprM z = rmulS (reprM x) (reprM y)
      ∧ dlen z ≤ dlen x + dlen y := by
  obtain ⟨hza, hzr⟩ := MOKS_fromDict (hx.1.rmulS hy.1)
  refine ⟨_, mulEO_eq rv hx hy hfu, hza, hzr, ?_⟩
  rw [dlen, hzr]
  exact length_mergeG_le expVS _ _

/-- The loop itself asks `dlen a + 3 ≤ defaultFuel` of each factor (`mulNLoopS_eq`; for the 3 see `datNewS_atom`); the sum
is what the bracketings need, whose intermediate products grow, asked here so that both sides of `evalTS_mul` stand
under one bound. -/
theorem mulNOS_eq {rv : Bool} {l : List Expr} (hl : ∀ a ∈ l, MOKS a)
    (hfu : tlen l + 6 ≤ defaultFuel) :
    mulNO rv l = .ok (mulFromDict (rprodS (one, []) l).1 (rprodS (one, []) l).2) := by
  unfold mulNO
  have hx : exactList l = true := (exactList_iff l).mpr (fun a ha => (hl a ha).exact)
  have hf : ∀ a ∈ l, dlen a + 3 ≤ defaultFuel := by
    intro a ha
    have := dlen_le_tlen ha
    omega
  simp only [hx, if_true, mulNLoopS_eq l NRS_unit hl hf, ok_bind]
  rfl

theorem evalTS_mul (rv rv' : Bool) (t : BTree) (h : ∀ a ∈ t.leaves, MOKS a)
    (hfu : tlen t.leaves + 6 ≤ defaultFuel) :
    evalT (mulEO rv) t = mulNO rv' t.leaves := by
  rw [mulNOS_eq h hfu]
  exact evalT_acc_eq (f := mulEO rv) (size := dlen) (B := defaultFuel - 6)
    (build := fun s => .ok (mulFromDict s.1 s.2)) rmulSAcc NRS_unit
    (hbuild := fun {l} _ hl _ => by
      have hs := rmulSAcc.foldl_N l NRS_unit hl
      obtain ⟨hm, hr⟩ := MOKS_fromDict hs
      refine ⟨_, rfl, hm, by rw [hr, rmulS_unit hs], ?_⟩
      rw [dlen, hr]
      exact (length_rprodS_le l (one, [])).trans (by simp [tlen]))
    (hsingle := fun ha => by rw [rmulS_unit ha.1, ha.2])
    -- `hB : … ≤ defaultFuel - 6` is a truncated subtraction: getting `+ 6 ≤ defaultFuel` back needs the value
    (hbin := fun ha hb hB => by rw [mulEO_eq rv ha hb (by unfold defaultFuel at *; omega), rmulS_unit ha.1])
    t h (by unfold tlen at *; omega)

end SymVerif.AC
