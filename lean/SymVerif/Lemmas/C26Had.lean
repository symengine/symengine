import SymVerif.Lemmas.C26Add
/-!
Value preservation of `hadamard_product`: C26Add with `*` for `+` (`P` for `S`); new are the early return on a ZeroMatrix
(`HadRes`) and the de-duplication of IdentityMatrix (`HadWF.idOk`).
-/
namespace SymVerif.MatExpr
open MExpr

/-- entrywise product of the values of a list of expressions -/
def P (env : Env) (l : List MExpr) (i j : Nat) : GQ := ((valsOf env l).map fun w => w.f i j).prod

theorem P_nil (env : Env) (i j : Nat) : P env [] i j = 1 := by simp [P, valsOf]
theorem P_cons (env : Env) (t : MExpr) (l : List MExpr) (i j : Nat) :
    P env (t :: l) i j = (valOf env t).f i j * P env l i j := by simp [P, valsOf]
theorem P_append (env : Env) (l1 l2 : List MExpr) (i j : Nat) :
    P env (l1 ++ l2) i j = P env l1 i j * P env l2 i j := by
  simp [P, valsOf_eq_map, List.prod_append]
theorem P_single (env : Env) (t : MExpr) (i j : Nat) : P env [t] i j = (valOf env t).f i j := by
  simp [P, valsOf]

theorem P_zero_mem (env : Env) {l : List MExpr} {a b : Dim} (h : zero a b ∈ l) (i j : Nat) :
    P env l i j = 0 :=
  List.prod_eq_zero (List.mem_map.2 ⟨_, mem_valsOf h, rfl⟩)

theorem had_node {env : Env} {R C : Nat} {l : List MExpr} (hne : l ≠ []) (h : ∀ t ∈ l, Fits env R C t) :
    Fits env R C (had l) :=
  have ⟨hok, hd⟩ := fits_iff.1 h
  ⟨⟨hne, hok, sameDims_of_allDims hd⟩, hadV_isFold.r_c (valsOf_ne_nil hne) hd⟩

theorem had_f {env : Env} {l : List MExpr} (hne : l ≠ []) (i j : Nat) : (valOf env (had l)).f i j = P env l i j :=
  hadV_isFold.f (valsOf_ne_nil hne) i j

theorem had_node_inv {env : Env} {l : List MExpr} (h : okOf env (had l)) :
    l ≠ [] ∧ ∀ t ∈ l, Fits env (valOf env (had l)).r (valOf env (had l)).c t :=
  ⟨h.1, fits_iff.2 ⟨h.2.1, hadV_isFold.allDims (valsOf_ne_nil h.1) h.2.2⟩⟩

theorem flattenHad_spec (env : Env) (R C : Nat) : ∀ (l : List MExpr), (∀ t ∈ l, Fits env R C t) →
    (∀ t ∈ flattenHad l, Fits env R C t) ∧
      ∀ i j, P env (flattenHad l) i j = P env l i j
  | [], _ => by simp [flattenHad]
  | t :: rest, h => by
    obtain ⟨ht, hrest⟩ := List.forall_mem_cons.1 h
    obtain ⟨ih1, ih3⟩ := flattenHad_spec env R C rest hrest
    by_cases ha : ∃ us, t = had us
    · obtain ⟨us, rfl⟩ := ha
      obtain ⟨hne, hu⟩ := had_node_inv ht.1
      rw [ht.2.1, ht.2.2] at hu
      simp only [flattenHad]
      refine ⟨List.forall_mem_append.2 ⟨hu, ih1⟩, fun i j => ?_⟩
      rw [P_append, P_cons, ih3, had_f hne]
    · have hfl : flattenHad (t :: rest) = t :: flattenHad rest := by
        cases t <;> first | rfl | exact absurd ⟨_, rfl⟩ ha
      rw [hfl]
      exact ⟨List.forall_mem_cons.2 ⟨ht, ih1⟩, fun i j => by rw [P_cons, P_cons, ih3]⟩

structure HadWF (env : Env) (R C : Nat) (st : HadSt) : Prop where
  keepOk : ∀ t ∈ st.keep, Fits env R C t
  dgOk : ∀ d, st.dg = some d → Fits env R C (diag d)
  dnOk : ∀ r c v, st.dn = some (r, c, v) → Fits env R C (dense r c v)
  /-- why a second IdentityMatrix may be dropped: with one in `keep` the product of `keep` vanishes off the diagonal -/
  idOk : st.haveId = true → ∀ i j, i ≠ j → P env st.keep i j = 0

/-- as `addF`, with 1 while no leaf is pending -/
def hadF (env : Env) (st : HadSt) (i j : Nat) : GQ :=
  P env st.keep i j * dgE 1 st.dg i j * dnE 1 st.dn i j

theorem had_keep_push {env : Env} {R C : Nat} {st : HadSt} (hwf : HadWF env R C st) {t : MExpr}
    (ht : Fits env R C t) :
    HadWF env R C { st with keep := st.keep ++ [t] } ∧
      ∀ i j, hadF env { st with keep := st.keep ++ [t] } i j = hadF env st i j * (valOf env t).f i j := by
  refine ⟨⟨fits_snoc hwf.keepOk ht, hwf.dgOk, hwf.dnOk, ?_⟩, fun i j => ?_⟩
  · intro hid i j hij
    rw [P_append, hwf.idOk hid i j hij]; ring
  · simp only [hadF, P_append, P_single]; ring

/-- what the loop returns: an early ZeroMatrix of the list, or a final state -/
def HadRes (env : Env) (R C : Nat) (st : HadSt) (l : List MExpr) (res : MExpr ⊕ HadSt) : Prop :=
  match res with
  | .inl z => ∃ a b, z = zero a b ∧ zero a b ∈ l
  | .inr st' => HadWF env R C st' ∧
      ∀ i j, hadF env st' i j = hadF env st i j * P env l i j

theorem HadRes.step {env : Env} {R C : Nat} {st st1 : HadSt} {t : MExpr} {rest : List MExpr}
    {res : MExpr ⊕ HadSt} (h : HadRes env R C st1 rest res)
    (hf : ∀ i j, hadF env st1 i j = hadF env st i j * (valOf env t).f i j) :
    HadRes env R C st (t :: rest) res := by
  unfold HadRes at h ⊢
  cases res with
  | inl z => obtain ⟨a, b, h1, h2⟩ := h; exact ⟨a, b, h1, List.mem_cons_of_mem _ h2⟩
  | inr st' => exact ⟨h.1, fun i j => by rw [h.2 i j, hf i j, P_cons]; ring⟩

theorem hadLoop_spec {env : Env} {R C : Nat} : ∀ (l : List MExpr) (st : HadSt) (res : MExpr ⊕ HadSt),
    hadLoop l st = .ok res → HadWF env R C st → (∀ t ∈ l, Fits env R C t) →
    HadRes env R C st l res
  | [], st, res, h, hwf, _ => by
    simp [hadLoop] at h; subst h
    exact ⟨hwf, fun i j => by simp [P_nil]⟩
  | t :: rest, st, res, h, hwf, hl => by
    obtain ⟨ht, hrest⟩ := List.forall_mem_cons.1 hl
    have push : hadLoop rest { st with keep := st.keep ++ [t] } = .ok res →
        HadRes env R C st (t :: rest) res := by
      intro h
      obtain ⟨w1, f1⟩ := had_keep_push hwf ht
      exact (hadLoop_spec rest _ res h w1 hrest).step f1
    cases t with
    | zero a b =>
      simp [hadLoop] at h; subst h
      exact ⟨a, b, rfl, by simp⟩
    | ident n =>
      simp only [hadLoop] at h
      split at h
      · rename_i hid
        refine (hadLoop_spec rest st res h hwf hrest).step fun i j => ?_
        simp only [valOf, hadF]
        by_cases hij : i = j
        · simp [hij]
        · rw [hwf.idOk hid i j hij]; simp
      · obtain ⟨w1, f1⟩ := had_keep_push hwf ht
        have w1' : HadWF env R C { st with haveId := true, keep := st.keep ++ [ident n] } := by
          refine ⟨w1.keepOk, w1.dgOk, w1.dnOk, fun _ i j hij => ?_⟩
          show P env (st.keep ++ [ident n]) i j = 0
          rw [P_append, P_single]; simp [valOf, hij]
        exact (hadLoop_spec rest _ res h w1' hrest).step f1
    | diag d =>
      simp only [hadLoop] at h
      split at h
      · rename_i hdg
        have w1 : HadWF env R C { st with dg := some d } :=
          ⟨hwf.keepOk, fun _ hd' => by cases hd'; exact ht, hwf.dnOk, hwf.idOk⟩
        refine (hadLoop_spec rest _ res h w1 hrest).step fun i j => ?_
        simp only [hadF, dgE, hdg, valOf]; ring
      · rename_i d0 hdg
        obtain ⟨hlen, h⟩ := zipSame_bind_ok h
        have w1 : HadWF env R C { st with dg := some (List.zipWith (· * ·) d0 d) } :=
          ⟨hwf.keepOk, fun _ hd' => by cases hd'; exact fits_diag_zipWith (hwf.dgOk d0 hdg) hlen, hwf.dnOk, hwf.idOk⟩
        refine (hadLoop_spec rest _ res h w1 hrest).step fun i j => ?_
        simp only [hadF, hdg, dgE_zipWith (mul_zero 0) hlen env]; ring
    | dense a b v =>
      simp only [hadLoop] at h
      split at h
      · rename_i hdn
        have w1 : HadWF env R C { st with dn := some (a, b, v) } :=
          ⟨hwf.keepOk, hwf.dgOk, fun _ _ _ hv' => by cases hv'; exact ht, hwf.idOk⟩
        refine (hadLoop_spec rest _ res h w1 hrest).step fun i j => ?_
        simp only [hadF, dnE, hdn, valOf]; ring
      · rename_i r0 c0 v0 hdn
        obtain ⟨hvl, h⟩ := zipSame_bind_ok h
        have h0 := hwf.dnOk r0 c0 v0 hdn
        have w1 : HadWF env R C { st with dn := some (r0, c0, List.zipWith (· * ·) v v0) } :=
          ⟨hwf.keepOk, hwf.dgOk, fun _ _ _ hv' => by cases hv'; exact fits_dense_zipWith h0 hvl, hwf.idOk⟩
        refine (hadLoop_spec rest _ res h w1 hrest).step fun i j => ?_
        -- the state keeps the column count of the first dense factor; both are `C`, and `dnE_zipWith` wants one name
        obtain rfl : c0 = b := h0.2.2.trans ht.2.2.symm
        simp only [hadF, hdn]
        rw [dnE_zipWith (mul_zero 0) hvl env a]; ring
    | sym _ | add _ | mul _ _ | had _ | transpose _ | conj _ => exact push (by simpa [hadLoop] using h)

theorem hadMerge_spec {env : Env} {R C : Nat} {st : HadSt} {keep : List MExpr}
    (h : hadMerge st = .ok keep) (hwf : HadWF env R C st) :
    (∀ t ∈ keep, Fits env R C t) ∧ ∀ i j, i < R → P env keep i j = hadF env st i j := by
  simp only [hadMerge] at h
  split at h
  · rename_i r c v d hdn hdg
    split at h
    · rename_i hg
      simp only [bind_ok] at h
      obtain ⟨_, _, h⟩ := h
      cases h
      obtain ⟨_, rfl, rfl⟩ : _ ∧ r = R ∧ c = C := hwf.dnOk r c v hdn
      have hl : ((List.range r).map fun i => ent v c i i * d.getD i 0).length = r := by
        rw [List.length_map, List.length_range]
      -- of the guard only `r = c` (`hg.2.1`) is taken, for the shape of the merged diagonal
      refine ⟨fits_snoc hwf.keepOk ⟨trivial, hl, hl.trans (hg.2.1)⟩, fun i j hi => ?_⟩
      simp only [P_append, P_single, hadF, dgE, dnE, hdg, hdn, valOf]
      split
      · rename_i hij
        subst hij
        -- the only use of `i < R`: the merged diagonal `(List.range r).map ..` is 0 beyond `r`
        rw [getD_map_range, if_pos hi]; ring
      · ring
    · simp at h
  · rename_i r c v hdn hdg
    simp at h; subst h
    refine ⟨fits_snoc hwf.keepOk (hwf.dnOk r c v hdn), fun i j _ => ?_⟩
    simp only [P_append, P_single, hadF, dgE, dnE, hdg, hdn, valOf]; ring
  · rename_i d hdn hdg
    simp at h; subst h
    refine ⟨fits_snoc hwf.keepOk (hwf.dgOk d hdg), fun i j _ => ?_⟩
    simp only [P_append, P_single, hadF, dgE, dnE, hdg, hdn, valOf]; ring
  · rename_i hdn hdg
    simp at h; subst h
    exact ⟨hwf.keepOk, fun i j _ => by simp [hadF, dgE, dnE, hdg, hdn]⟩

theorem hadFinish_spec {env : Env} {R C : Nat} {st : HadSt} {r : MExpr}
    (h : hadFinish st = .ok r) (hwf : HadWF env R C st) :
    Fits env R C r ∧ ∀ i j, i < R → (valOf env r).f i j = hadF env st i j := by
  simp only [hadFinish, bind_ok] at h
  obtain ⟨keep, hk, h⟩ := h
  obtain ⟨k1, k3⟩ := hadMerge_spec hk hwf
  rcases keep with _ | ⟨k, _ | ⟨k', t⟩⟩
  · simp [mkHad, hadCanonical] at h
  · simp [pure, Except.pure] at h
    rw [← h]
    exact ⟨k1 k (.head _), fun i j hi => by rw [← k3 i j hi, P_single]⟩
  · have h' : mkHad (k :: k' :: t) = .ok r := by simpa using h
    have := mkHad_ok h'; subst this
    exact ⟨had_node (by simp) k1, fun i j hi => by rw [had_f (by simp), k3 i j hi]⟩

theorem hadF_init (env : Env) (i j : Nat) : hadF env {} i j = 1 := by simp [hadF, dgE, dnE, P_nil]

theorem hadWF_init (env : Env) (R C : Nat) : HadWF env R C {} :=
  ⟨by simp, by simp, by simp, by simp⟩

end SymVerif.MatExpr

namespace SymVerif.C26
open SymVerif.MatExpr SymVerif.MatExpr.MExpr

/-- `hadamard_product`: whenever the entrywise product of the operand values is defined, the result
    is defined and has that value. -/
theorem hadamard_value (env : Env) (fs : List MExpr) (r : MExpr) (h : hadamardProduct fs = .ok r)
    (hok : okOf env (had fs)) : okOf env r ∧ valOf env r ≃ valOf env (had fs) := by
  obtain ⟨hne, hf⟩ := had_node_inv hok
  match fs, h with
  | [], h => simp [hadamardProduct] at h
  | [t], h =>
    simp [hadamardProduct] at h; subst h
    obtain ⟨h1, h2, h3⟩ := hf t (.head _)
    exact ⟨h1, h2, h3, fun i j _ _ => by rw [had_f hne, P_single]⟩
  | t1 :: t2 :: rest, h =>
    simp only [hadamardProduct, bind_ok] at h
    -- the first pair: `checkMatchingSizes` passed; nothing to learn, `hok` fixes every shape
    obtain ⟨_, _, res, hl, hfin⟩ := h
    obtain ⟨f1, f4⟩ := flattenHad_spec env _ _ _ hf
    have hls := hadLoop_spec _ _ res hl (hadWF_init env _ _) f1
    unfold HadRes at hls
    cases res with
    | inl z =>
      obtain ⟨a, b, rfl, hmem⟩ := hls
      simp [pure, Except.pure] at hfin; subst hfin
      obtain ⟨hz, hz1, hz2⟩ := f1 _ hmem
      refine ⟨hz, hz1, hz2, fun i j _ _ => ?_⟩
      rw [had_f hne, ← f4, P_zero_mem env hmem]; simp [valOf]
    | inr st =>
      obtain ⟨w, hw⟩ := hls
      simp only at hfin
      obtain ⟨⟨r1, r2, r3⟩, r4⟩ := hadFinish_spec hfin w
      refine ⟨r1, r2, r3, fun i j hi _ => ?_⟩
      rw [r2] at hi
      rw [r4 i j hi, hw i j, f4, had_f hne, hadF_init, one_mul]

end SymVerif.C26
