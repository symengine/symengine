import Mathlib.Tactic.Ring
import Mathlib.Tactic.Linarith
import Mathlib.Tactic.LinearCombination
import SymVerif.Lemmas.C43Gcd
/-! C43, `mp_gcdext`: the cofactor `s` returned by the Euclidean loop of mp_boost.cpp lies in the window GMP
documents (`2|s| ≤ |b|/g`, with the sign of `a` when equality holds), hence `mp_gcdext` returns exactly
the cofactors of the specification.  Claimed theorems of the property: `gcdext_window`, `gcdext`, `gcdext_spec_bezout`. -/
namespace SymVerif.C43
open SymVerif

theorem natAbs_sub_of_mul_nonpos {x y : Int} (h : x * y ≤ 0) : (x - y).natAbs = x.natAbs + y.natAbs := by
  rcases mul_nonpos_iff.mp h with ⟨h1, h2⟩ | ⟨h1, h2⟩ <;> omega

theorem nonpos_of_mul_sq_eq {x y z p : Int} (hp : p ≠ 0) (hy : y ≤ 0) (hz : 0 ≤ z) (e : x * (p * p) = y * z) :
    x ≤ 0 :=
  nonpos_of_mul_nonpos_left (e ▸ mul_nonpos_of_nonpos_of_nonneg hy hz) (mul_self_pos.mpr hp)

/-- invariant of the Euclidean loop of `mp_gcdext` from its second round on, on consecutive cofactors `s0, s1` and
remainders `r0, r1`, strong enough to place the returned cofactor in GMP's window.  `cross` and `alt` are the classical
facts (at exit, `r1 = 0`, `cross` reads `|s1| · g = |b|`: that is why `window` measures `s0` against `|s1|`).  `second`
remembers the state after the first round, the only one with `s0 = 0`: there the tie `2|s| = |b|/g` can arise and the
sign of `a` decides; `window` records `s0 = 1` for it, so that `gcdext_window` reads the sign of the result off the final
sign flip alone. -/
structure GInv (a b s0 s1 r0 r1 : Int) : Prop where
  cross : s0.natAbs * r1.natAbs + s1.natAbs * r0.natAbs = b.natAbs
  alt : s0 * s1 * (r0 * r1) ≤ 0
  lt : r1.natAbs < r0.natAbs
  ne : s1 ≠ 0
  second : s0 = 0 → s1 = 1 ∧ r1 = a.tmod b
  window : r1 = 0 → (s0 = 0 ∨ 2 * s0.natAbs < s1.natAbs ∨ (2 * s0.natAbs = s1.natAbs ∧ s0 = 1 ∧ 0 < r0 * a))

/-- the state after the first round -/
theorem GInv.init (a b : Int) (hb : b ≠ 0) : GInv a b 0 1 b (a.tmod b) :=
  ⟨by simp, by simp, GmpSpec.tmod_natAbs_lt a hb, one_ne_zero, fun _ => ⟨rfl, rfl⟩, fun _ => Or.inl rfl⟩

theorem GInv.step {a b s0 s1 r0 r1 : Int} (h : GInv a b s0 s1 r0 r1) (hr1 : r1 ≠ 0) :
    GInv a b s1 (s0 - r0.tdiv r1 * s1) r1 (r0.tmod r1) := by
  obtain ⟨cross, alt, lt, ne, second, _⟩ := h
  have hq0 := GmpSpec.tdiv_ne_zero_of_lt r0 r1 hr1 lt
  set q := r0.tdiv r1 with hq
  set r2 := r0.tmod r1 with hr2
  have hdec := GmpSpec.tdiv_natAbs_decomp r0 r1
  have hlt := GmpSpec.tmod_natAbs_lt r0 hr1
  have hsq := GmpSpec.tdiv_sign r0 r1
  have hsr := GmpSpec.tmod_mul_self_nonneg r0 r1
  rw [← hq] at hdec hsq
  rw [← hr2] at hdec hlt hsr
  have hr0 : r0 ≠ 0 := fun h0 => by rw [h0] at lt; simp at lt
  have hne : r0 * r1 ≠ 0 := mul_ne_zero hr0 hr1
  -- sign condition: s0 and q*s1 have opposite signs
  have hC : s0 * (q * s1) ≤ 0 := nonpos_of_mul_sq_eq hne alt hsq (by ring)
  have hs2 : (s0 - q * s1).natAbs = s0.natAbs + q.natAbs * s1.natAbs := by
    rw [natAbs_sub_of_mul_nonpos hC, Int.natAbs_mul]
  have hqs : 0 < q.natAbs * s1.natAbs := Nat.mul_pos (Int.natAbs_pos.mpr hq0) (Int.natAbs_pos.mpr ne)
  have hne2 : s0 - q * s1 ≠ 0 := fun hz => by rw [hz] at hs2; simp at hs2; omega
  refine ⟨?cross, ?alt, hlt, hne2, fun hs1 => absurd hs1 ne, ?window⟩
  case cross =>
    rw [hs2]
    calc s1.natAbs * r2.natAbs + (s0.natAbs + q.natAbs * s1.natAbs) * r1.natAbs
        = s0.natAbs * r1.natAbs + s1.natAbs * (q.natAbs * r1.natAbs + r2.natAbs) := by ring
      _ = s0.natAbs * r1.natAbs + s1.natAbs * r0.natAbs := by rw [← hdec]
      _ = b.natAbs := cross
  case alt =>
    -- `r2` has the sign of `r0` (`hsr`), so `r1 * r2` has the sign of `r0 * r1`: `alt` and `hsq` carry over
    have t1 : s0 * s1 * (r1 * r2) ≤ 0 := nonpos_of_mul_sq_eq hr0 alt hsr (by ring)
    have t2 : -(q * (r1 * r2)) ≤ 0 := nonpos_of_mul_sq_eq hr0 (neg_nonpos.mpr hsq) hsr (by ring)
    have e : s1 * (s0 - q * s1) * (r1 * r2) = s0 * s1 * (r1 * r2) + (s1 * s1) * (-(q * (r1 * r2))) := by ring
    rw [e]
    have : (s1 * s1) * (-(q * (r1 * r2))) ≤ 0 := mul_nonpos_of_nonneg_of_nonpos (mul_self_nonneg s1) t2
    omega
  case window =>
    -- the last quotient is at least 2 (`r0 = q r1` by `hdec` with `r2 = 0`, and `|r1| < |r0|`)
    intro hr20
    have hr2n : r2.natAbs = 0 := by rw [hr20]; rfl
    have hq2 : 2 ≤ q.natAbs := by
      by_contra hcon
      have := Nat.mul_le_mul_right r1.natAbs (show q.natAbs ≤ 1 by omega)
      omega
    rw [hs2]
    by_cases hs0 : s0 = 0
    · obtain ⟨e1, e2⟩ := second hs0
      by_cases hq' : q.natAbs = 2
      · right; right
        refine ⟨by rw [hs0, e1, hq']; simp, e1, ?_⟩
        -- r1 = a.tmod b ≠ 0 has the sign of a
        have hnn := GmpSpec.tmod_mul_self_nonneg a b
        rw [← e2] at hnn
        have ha : a ≠ 0 := by
          intro h0; rw [h0, Int.zero_tmod] at e2; exact hr1 e2
        have : r1 * a ≠ 0 := mul_ne_zero hr1 ha
        omega
      · right; left
        rw [hs0, e1]; simp; omega
    · right; left
      have p0 : 0 < s0.natAbs := Int.natAbs_pos.mpr hs0
      have := Nat.mul_le_mul_right s1.natAbs hq2
      omega

theorem gcdextLoop_final {a b s0 t0 s1 t1 r0 r1 : Int} (h : GInv a b s0 s1 r0 r1) :
    ∃ sF, GInv a b (MpBoost.gcdextLoop s0 t0 s1 t1 r0 r1).2.1 sF (MpBoost.gcdextLoop s0 t0 s1 t1 r0 r1).1 0 := by
  fun_induction MpBoost.gcdextLoop s0 t0 s1 t1 r0 r1 with
  | case1 s0 t0 s1 t1 r0 => exact ⟨s1, h⟩
  | case2 s0 t0 s1 t1 r0 r1 hne qr ih => exact ih (h.step hne)

/-- GMP's documented window for the first cofactor, `bg = |b| / gcd(a,b)` -/
def Window (bg : Nat) (a s : Int) : Prop := 2 * s.natAbs < bg ∨ (2 * s.natAbs = bg ∧ 0 < s * a)

theorem window_unique {bg : Nat} {a s s' b' : Int} (hb' : b'.natAbs = bg)
    (h1 : Window bg a s) (h2 : Window bg a s') (hd : b' ∣ s - s') : s = s' := by
  obtain ⟨k, hd⟩ := hd
  have hdabs : (s - s').natAbs = bg * k.natAbs := by rw [hd, Int.natAbs_mul, hb']
  have hle := Int.natAbs_sub_le s s'
  -- unless both cofactors are ties, `|s - s'| < bg` forces `k = 0`
  have small : 2 * s.natAbs < bg ∨ 2 * s'.natAbs < bg → s = s' := by
    intro h
    have hk : k.natAbs = 0 := by
      by_contra hk
      have := Nat.le_mul_of_pos_right bg (Nat.pos_of_ne_zero hk)
      rcases h1 with h1 | ⟨h1, _⟩ <;> rcases h2 with h2 | ⟨h2, _⟩ <;> omega
    rw [hk, Nat.mul_zero, Int.natAbs_eq_zero] at hdabs
    exact Int.eq_of_sub_eq_zero hdabs
  rcases h1 with h1 | ⟨h1, p1⟩
  · exact small (Or.inl h1)
  rcases h2 with h2 | ⟨h2, p2⟩
  · exact small (Or.inr h2)
  -- both ties: equal magnitude and both have the sign of `a`
  rcases Int.natAbs_eq_natAbs_iff.mp (show s.natAbs = s'.natAbs by omega) with h | h
  · exact h
  · rw [h, Int.neg_mul] at p1
    omega

theorem spec_window (a b : Int) (hb : b ≠ 0) :
    Window (b.natAbs / Int.gcd a b) a (MpSpec.gcdext a b).2.1 := by
  unfold MpSpec.gcdext
  simp only [hb, if_false]
  rw [show (MpSpec.natXgcd a.natAbs b.natAbs).1 = Int.gcd a b from (natXgcd_spec a.natAbs b.natAbs).1,
    ← Int.natCast_ediv]
  have hbgpos : 0 < b.natAbs / Int.gcd a b :=
    Nat.div_pos (Nat.le_of_dvd (Int.natAbs_pos.mpr hb) (Nat.gcd_dvd_right a.natAbs b.natAbs))
      (Int.gcd_pos_of_ne_zero_right a hb)
  set bg := b.natAbs / Int.gcd a b with hbg
  set s0 := (a.sign * (MpSpec.natXgcd a.natAbs b.natAbs).2.1) % (bg : Int) with hs0
  have h0 : 0 ≤ s0 := Int.emod_nonneg _ (by omega)
  have h1 : s0 < bg := Int.emod_lt_of_pos _ (by omega)
  unfold Window
  by_cases c1 : 2 * s0 < bg ∨ (2 * s0 = bg ∧ a > 0)
  · rw [if_pos c1]
    rcases c1 with c | ⟨c, ca⟩
    · left; omega
    · right
      refine ⟨by omega, ?_⟩
      have : 0 < s0 := by omega
      exact mul_pos this ca
  · rw [if_neg c1]
    by_cases c2 : 2 * s0 = bg
    · right
      have ha : ¬ a > 0 := fun h => c1 (Or.inr ⟨c2, h⟩)
      have hane : a ≠ 0 := by
        intro h0'
        have : s0 = 0 := by rw [hs0, h0']; simp
        omega
      refine ⟨by omega, ?_⟩
      have : s0 - (bg : Int) < 0 := by omega
      exact mul_pos_of_neg_of_neg this (by omega)
    · left
      have : ¬ 2 * s0 < bg := fun h => c1 (Or.inl h)
      omega

/-- the cofactor `s` of `mp_gcdext` lies in the window GMP documents: `2|s| < |b|/g`, or `2|s| = |b|/g`
and `s` has the sign of `a` -/
theorem gcdext_window (a b : Int) (hb : b ≠ 0) :
    Window (b.natAbs / Int.gcd a b) a (MpBoost.gcdext a b).2.1 := by
  obtain ⟨sF, hF⟩ : ∃ sF, GInv a b (MpBoost.gcdextLoop 1 0 0 1 a b).2.1 sF (MpBoost.gcdextLoop 1 0 0 1 a b).1 0 := by
    -- at entry `(1, 0, 0, 1, a, b)` the fields `ne` (`s1 = 0`) and `lt` (`|b| < |a|`) fail: one round by hand
    rw [MpBoost.gcdextLoop, dif_neg hb]
    exact gcdextLoop_final (by simpa [MpBoost.divideQr] using GInv.init a b hb)
  have hgcd := gcdextLoop_gcd 1 0 0 1 a b
  have hgpos : 0 < Int.gcd a b := Int.gcd_pos_of_ne_zero_right a hb
  unfold MpBoost.gcdext
  generalize MpBoost.gcdextLoop 1 0 0 1 a b = r at hF hgcd
  obtain ⟨g', sL, tL⟩ := r
  simp only at hF hgcd ⊢
  have hg0 : g' ≠ 0 := by
    intro h; rw [h] at hgcd; simp at hgcd; omega
  have hi1 : sF.natAbs * g'.natAbs = b.natAbs := by simpa using hF.cross
  have hsF : 0 < sF.natAbs := Nat.pos_of_ne_zero fun h0 => by
    rw [h0, Nat.zero_mul] at hi1
    exact hb (Int.natAbs_eq_zero.mp hi1.symm)
  rw [show b.natAbs / Int.gcd a b = sF.natAbs by rw [← hi1, hgcd]; exact Nat.mul_div_cancel _ hgpos]
  -- the loop's cofactor, multiplied by the sign `σ` of the last remainder
  have key : ∀ σ : Int, σ = 1 ∨ σ = -1 → 0 < σ * g' → Window sF.natAbs a (sL * σ) := by
    intro σ hσ hσg
    have habs : (sL * σ).natAbs = sL.natAbs := by rcases hσ with rfl | rfl <;> simp
    unfold Window
    rw [habs]
    rcases hF.window rfl with h | h | ⟨h1, h2, h3⟩
    · left; rw [h]; exact hsF
    · left; exact h
    · right
      refine ⟨h1, ?_⟩
      rw [h2, Int.one_mul]
      have : 0 < σ * g' * (g' * a) := Int.mul_pos hσg h3
      rw [show σ * g' * (g' * a) = σ * a * (g' * g') by ring] at this
      exact pos_of_mul_pos_left this (mul_self_nonneg g')
  by_cases hneg : g' < 0
  · simpa [hneg, hg0] using key (-1) (Or.inr rfl) (by omega)
  · simpa [hneg, hg0] using key 1 (Or.inl rfl) (by omega)

theorem spec_gcdext_shape (a b : Int) (hb : b ≠ 0) :
    (MpSpec.gcdext a b).1 = (Int.gcd a b : Int) ∧
    (∃ k : Int, (MpSpec.gcdext a b).2.1 =
        a.sign * (MpSpec.natXgcd a.natAbs b.natAbs).2.1 + ((b.natAbs / Int.gcd a b : Nat) : Int) * k) ∧
    (MpSpec.gcdext a b).2.2 = ((Int.gcd a b : Int) - a * (MpSpec.gcdext a b).2.1) / b := by
  unfold MpSpec.gcdext
  simp only [hb, if_false]
  rw [show (MpSpec.natXgcd a.natAbs b.natAbs).1 = Int.gcd a b from (natXgcd_spec a.natAbs b.natAbs).1,
    ← Int.natCast_ediv]
  refine ⟨rfl, ?_, rfl⟩
  generalize ((b.natAbs / Int.gcd a b : Nat) : Int) = bg
  generalize a.sign * (MpSpec.natXgcd a.natAbs b.natAbs).2.1 = X
  split
  · exact ⟨-(X / bg), by rw [Int.emod_def]; ring⟩
  · exact ⟨-(X / bg) - 1, by rw [Int.emod_def]; ring⟩

/-- **`mp_gcdext` (mp_boost.cpp) returns exactly the cofactors GMP documents** (= the specification) -/
theorem gcdext (a b : Int) : MpBoost.gcdext a b = MpSpec.gcdext a b := by
  by_cases hb : b = 0
  · subst hb
    unfold MpBoost.gcdext MpSpec.gcdext
    rw [MpBoost.gcdextLoop]
    simp only [if_true, dite_true]
    -- the loop exits at once with `(a, 1, 0)`; the sign fix-up (and D5 at `a = 0`) gives the specification's `(|a|, sign a, 0)`
    rcases Int.lt_trichotomy a 0 with h | h | h
    · simp [h, Int.sign_eq_neg_one_of_neg h, show a ≠ 0 by omega, abs_of_neg h]
    · subst h; simp
    · simp [show ¬ a < 0 by omega, Int.sign_eq_one_of_pos h, show a ≠ 0 by omega, abs_of_pos h]
  · obtain ⟨g1, z1⟩ := gcdext_bezout a b
    obtain ⟨g2, ⟨k, hk⟩, hT'⟩ := spec_gcdext_shape a b hb
    obtain ⟨t, z2⟩ := natXgcd_int_bezout a b
    have w1 := gcdext_window a b hb
    have w2 := spec_window a b hb
    have hgpos : 0 < Int.gcd a b := Int.gcd_pos_of_ne_zero_right a hb
    obtain ⟨b', hb'⟩ : ((Int.gcd a b : Nat) : Int) ∣ b := Int.gcd_dvd_right a b
    have hbabs : b'.natAbs = b.natAbs / Int.gcd a b := by
      have : b.natAbs = Int.gcd a b * b'.natAbs := by
        conv_lhs => rw [hb']
        rw [Int.natAbs_mul]; simp
      rw [this, Nat.mul_div_cancel_left _ hgpos]
    rw [← hbabs] at hk
    set S := (MpBoost.gcdext a b).2.1
    set T := (MpBoost.gcdext a b).2.2
    set S' := (MpSpec.gcdext a b).2.1
    set X := a.sign * (MpSpec.natXgcd a.natAbs b.natAbs).2.1
    rw [g1] at z1
    set g : Int := ((Int.gcd a b : Nat) : Int) with hgdef
    have hg0 : g ≠ 0 := by omega
    -- `g (S - X) = (a X + b t) S - (a S + b T) X = b (t S - T X)`, and `b = g b'`
    have hcong : S - X = b' * (t * S - T * X) :=
      mul_left_cancel₀ hg0 (by linear_combination X * z1 - S * z2 + (t * S - T * X) * hb')
    -- `S ≡ X (mod b')` by `hcong`, and `S' = X + |b'| k` by `hk`, where `|b'| = b' * sign b'`
    have hd : b' ∣ S - S' :=
      ⟨t * S - T * X - b'.sign * k, by rw [hk, ← Int.mul_sign_self b']; linear_combination hcong⟩
    have hS : S = S' := window_unique hbabs w1 w2 hd
    have hT : T = (MpSpec.gcdext a b).2.2 := by
      rw [hT', ← hS, show g - a * S = b * T by linear_combination -z1, Int.mul_ediv_cancel_left _ hb]
    exact Prod.ext (by rw [g1, g2]) (Prod.ext hS hT)

theorem gcdext_spec_bezout (a b : Int) :
    (MpSpec.gcdext a b).1 = (Int.gcd a b : Int) ∧
    a * (MpSpec.gcdext a b).2.1 + b * (MpSpec.gcdext a b).2.2 = (MpSpec.gcdext a b).1 := by
  rw [← gcdext]; exact gcdext_bezout a b

end SymVerif.C43
