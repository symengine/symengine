/-
Facts about the constructions performed by load_basic (`build`): they never report `fuel`, and an object
built for a class that passes the static cast check `is_base_of<T, Class>` has a dynamic class that passes it
too (Rational::from_two_ints may return an Integer, Infty or NaN; Complex::from_two_nums a real number).
-/
import SymVerif.Lemmas.Basic
import SymVerif.Lemmas.C20Safe

namespace SymVerif.Codec

theorem fromTwoNums_ne_fuel (re im : Expr) : fromTwoNums re im ≠ .error .fuel := by
  unfold fromTwoNums
  split
  · split <;> simp
  · simp

theorem build_ne_fuel (k : NK) (n : String) (fvs : List FV) : build k n fvs ≠ .error .fuel := by
  unfold build
  split <;> first
    | exact fromTwoNums_ne_fuel _ _
    | (split <;> simp)
    | simp

mutual
  theorem semT_ne_fuel : ∀ t : T, semT t ≠ .error .fuel
    | .mk a tc fs => by
      simp only [semT]
      split
      next e h => exact error_ne_fuel (semFlds_ne_fuel fs) h
      next => exact build_ne_fuel _ _ _
  theorem semFlds_ne_fuel : ∀ fs : List Fld, semFlds fs ≠ .error .fuel
    | [] => nofun
    | f :: fs => by
      simp only [semFlds]
      split
      next e h => exact error_ne_fuel (semFld_ne_fuel f) h
      next =>
        split
        next e h => exact error_ne_fuel (semFlds_ne_fuel fs) h
        next => nofun
  theorem semFld_ne_fuel : ∀ f : Fld, semFld f ≠ .error .fuel
    | .str _ | .u64 _ | .f64 _ | .byte _ => nofun
    | .ptr t => by
      simp only [semFld]
      split
      next e h => exact error_ne_fuel (semT_ne_fuel t) h
      next => nofun
    | .seq _ l => by
      simp only [semFld]
      split
      next e h => exact error_ne_fuel (semTs_ne_fuel l) h
      next => nofun
  theorem semTs_ne_fuel : ∀ l : List T, semTs l ≠ .error .fuel
    | [] => nofun
    | t :: ts => by
      simp only [semTs]
      split
      next e h => exact error_ne_fuel (semT_ne_fuel t) h
      next =>
        split
        next e h => exact error_ne_fuel (semTs_ne_fuel ts) h
        next => nofun
end

theorem fromTwoInts_number (n d : Int) : isA .number (Expr.className (fromTwoInts n d)) = true := by
  unfold fromTwoInts
  split
  · split <;> (simp only [Expr.className]; decide)
  · simp only []
    split <;> (simp only [Expr.className]; decide)

theorem qOf_number {e : Expr} {q : Q} (h : qOf e = some q) : isA .number (Expr.className e) = true := by
  cases e with
  | int _ | rat _ _ => simp only [Expr.className]; decide
  | _ => cases h

theorem fromTwoNums_number {re im e : Expr} (h : fromTwoNums re im = .ok e) :
    isA .number (Expr.className e) = true := by
  unfold fromTwoNums at h
  split at h
  · rename_i r i hr hi
    split at h
    · cases h; exact qOf_number hr
    · simp at h; subst h; simp only [Expr.className]; decide
  · simp at h

/-- the class of the objects a loader constructs, for the kinds that serve one class only; the other kinds
    construct an object of the class they were called for -/
def ownName : NK → Option String
  | .integer => some "Integer" | .rational => some "Rational" | .complex => some "Complex"
  | .cdouble => some "ComplexDouble" | .rdouble => some "RealDouble" | .infty => some "Infty" | .nan => some "NaN"
  | .symbol => some "Symbol" | .dummy => some "Dummy" | .constant => some "Constant" | .mul => some "Mul"
  | .add => some "Add" | .pow => some "Pow" | .fsym => some "FunctionSymbol" | .boolAtom => some "BooleanAtom"
  | _ => none

theorem build_className {k : NK} {n : String} {fvs : List FV} {e : Expr} (h : build k n fvs = .ok e) :
    Expr.className e = (ownName k).getD n ∨
      (k = .rational ∨ k = .complex) ∧ isA .number (Expr.className e) = true := by
  unfold build at h
  split at h
  -- `h_2`, `h_3`: the alternatives `.rational`, `.complex` of `build`, the two kinds whose loader may return another class
  case h_2 => cases h; exact .inr ⟨.inl rfl, fromTwoInts_number _ _⟩
  case h_3 => exact .inr ⟨.inr rfl, fromTwoNums_number h⟩
  all_goals try split at h
  all_goals cases h <;> exact .inl rfl

theorem kindByName_ownName : ∀ p ∈ kindByName, ∀ r ∈ ownName p.2, p.1 = r := by decide +kernel

theorem kindOfName_ownName (n : String) : (ownName (kindOfName n)).getD n = n := by
  unfold kindOfName
  split
  · rfl
  · split
    next k hk =>
      cases ho : ownName k with
      | none => rfl
      | some r => exact (kindByName_ownName _ (List.mem_of_lookup hk) r ho).symm
    next => rfl

theorem build_isA (c : Cls) (n : String) (fvs : List FV) (e : Expr)
    (h : build (kindOfName n) n fvs = .ok e) (hc : isA c n = true) : isA c (Expr.className e) = true := by
  obtain h1 | ⟨hk, hn⟩ := build_className h
  · rwa [h1, kindOfName_ownName]
  · -- `n` is "Rational" or "Complex", which only the static types Basic and Number admit
    have hn' : n = "Rational" ∨ n = "Complex" := by
      have := kindOfName_ownName n
      rcases hk with hk | hk <;> rw [hk] at this
      · exact .inl this.symm
      · exact .inr this.symm
    cases c with
    | basic => rfl
    | number => exact hn
    | _ => rcases hn' with rfl | rfl <;> exact absurd hc (by decide)

end SymVerif.Codec
