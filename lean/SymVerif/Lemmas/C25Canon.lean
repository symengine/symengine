import SymVerif.Lemmas.C25Set
/-!
C25 — what `is_canonical` decides (`isCanonical_iff`: exactly `Checked`).  One direction: it and the
three static predicates accept every `CanonCSR` state, so the asserting constructors do not fire;
the other (`isCanonical_sound`, `mk_sound`): what it accepts is canonical, given the three things it
does not look at.
-/
namespace SymVerif.C25
open SymVerif.CSR Finset

theorem forall_ge_of_succ {P : Nat → Prop} {i : Nat} (hi : P i) :
    (∀ k, i + 1 ≤ k → P k) ↔ ∀ k, i ≤ k → P k :=
  ⟨fun h k hk => (Nat.lt_or_eq_of_le hk).elim (h k) (· ▸ hi), fun h k hk => h k (Nat.le_of_succ_le hk)⟩

/-- the model's fuel is `hi - lo`, one more than the test `jj + 1 < hi` consumes: the bound on `f` holds by
truncated subtraction even when `hi < jj`, so `rowsAny_iff` needs no `p[i] ≤ p[i + 1]` -/
theorem adjLoop_iff (bad : Nat → Nat → Bool) (j : Array Nat) (hi : Nat) (hj : hi ≤ j.size) :
    ∀ f jj, hi ≤ jj + f + 1 → ∃ b, adjLoop bad j hi f jj = .ok b ∧
      (b = false ↔ ∀ k, jj ≤ k → k + 1 < hi → bad j[k]! j[k + 1]! = false) := by
  intro f
  induction f with
  | zero => exact fun jj h => ⟨false, rfl, iff_of_true rfl fun k h1 h2 => by omega⟩
  | succ f ih =>
    intro jj h
    unfold adjLoop
    by_cases hlt : jj + 1 < hi
    · have h1 : jj < j.size := by omega
      have h2 : jj + 1 < j.size := by omega
      simp only [hlt, if_true, rd_lt h1, rd_lt h2, ok_bind]
      by_cases hb : bad j[jj]! j[jj + 1]! = true
      · exact ⟨true, by rw [if_pos hb]; rfl,
          iff_of_false nofun fun h => Bool.false_ne_true ((h jj (Nat.le_refl _) hlt).symm.trans hb)⟩
      · obtain ⟨b, e, hiff⟩ := ih (jj + 1) (by omega)
        exact ⟨b, by rw [if_neg hb]; exact e,
          hiff.trans (forall_ge_of_succ fun _ => Bool.eq_false_iff.mpr hb)⟩
    · exact ⟨false, by simp only [hlt, if_false, pure_ok], iff_of_true rfl fun k h1 h2 => by omega⟩

theorem rowsAny_iff (bad : Nat → Nat → Bool) (p j : Array Nat) (row : Nat) (hp : row < p.size) :
    ∀ n i, i + n = row → (∀ r, i ≤ r → r < row → p[r + 1]! ≤ j.size) →
      ∃ b, rowsAny bad p j n i = .ok b ∧ (b = false ↔ ∀ r, i ≤ r → r < row →
        ∀ k, p[r]! ≤ k → k + 1 < p[r + 1]! → bad j[k]! j[k + 1]! = false) := by
  intro n
  induction n with
  | zero => exact fun i h _ => ⟨false, rfl, iff_of_true rfl fun r h1 h2 => by omega⟩
  | succ n ih =>
    intro i hin hj
    have hi : i < row := by omega
    have h1 : i < p.size := Nat.lt_trans hi hp
    have h2 : i + 1 < p.size := Nat.lt_of_le_of_lt hi hp
    obtain ⟨b, e, hiff⟩ := adjLoop_iff bad j (hi := p[i + 1]!) (hj i (Nat.le_refl _) hi)
      (p[i + 1]! - p[i]!) p[i]! (by omega)
    unfold rowsAny
    simp only [rd_lt h1, rd_lt h2, ok_bind, e]
    cases b with
    | true =>
      exact ⟨true, rfl, iff_of_false nofun fun h => nomatch hiff.2 (h i (Nat.le_refl _) hi)⟩
    | false =>
      obtain ⟨b, e', hiff'⟩ := ih (i + 1) (by omega) fun r hr => hj r (Nat.le_of_succ_le hr)
      exact ⟨b, e', hiff'.trans (forall_ge_of_succ fun _ => hiff.1 rfl)⟩

theorem rowsAny_iff_all (bad : Nat → Nat → Bool) (p j : Array Nat) (row : Nat) (hp : row < p.size)
    (hj : ∀ r, r < row → p[r + 1]! ≤ j.size) :
    ∃ b, rowsAny bad p j row 0 = .ok b ∧ (b = false ↔ ∀ r, r < row →
      ∀ k, p[r]! ≤ k → k + 1 < p[r + 1]! → bad j[k]! j[k + 1]! = false) := by
  obtain ⟨b, e, hb⟩ := rowsAny_iff bad p j row hp row 0 (Nat.zero_add _) (fun r _ => hj r)
  exact ⟨b, e, hb.trans ⟨fun h r => h r (Nat.zero_le _), fun h r _ => h r⟩⟩

theorem gt_false {a b : Nat} : decide (a > b) = false ↔ a ≤ b :=
  decide_eq_false_iff_not.trans Nat.not_lt

theorem pDecreases_eq (p : Array Nat) :
    ∀ n i, pDecreases p n i = adjLoop (fun a b => decide (a > b)) p (i + n + 1) n i := by
  intro n
  induction n with
  | zero => intro i; rfl
  | succ n ih =>
    intro i
    rw [pDecreases, ih (i + 1), adjLoop, if_pos (by omega),
      show i + 1 + n + 1 = i + (n + 1) + 1 by omega]
    simp only [decide_eq_true_eq]

theorem mono_of_adjacent (p : Array Nat) (row : Nat) (h : ∀ r, r < row → p[r]! ≤ p[r + 1]!) :
    MonoTo p row := by
  intro a b hab hb
  induction b with
  | zero => have : a = 0 := by omega
            subst this; exact Nat.le_refl _
  | succ b ih =>
    by_cases hab' : a = b + 1
    · subst hab'; exact Nat.le_refl _
    · have := ih (by omega) (by omega)
      have := h b (by omega)
      omega

theorem sortedOn_of_adjacent (j : Array Nat) (lo hi : Nat)
    (h : ∀ k, lo ≤ k → k + 1 < hi → j[k]! < j[k + 1]!) : SortedOn j lo hi := by
  intro a b ha hab hb
  induction b with
  | zero => omega
  | succ b ih =>
    by_cases hab' : a = b
    · subst hab'; exact h a ha hb
    · have := ih (by omega) (by omega)
      have := h b (by omega) hb
      omega

theorem SortedOn.adjacent {j : Array Nat} {lo hi : Nat} (h : SortedOn j lo hi) {k : Nat}
    (hk1 : lo ≤ k) (hk2 : k + 1 < hi) : j[k]! < j[k + 1]! :=
  h k (k + 1) hk1 (Nat.lt_succ_self k) hk2

theorem hasCanonicalFormat_iff (p j : Array Nat) (row : Nat) (hps : p.size = row + 1)
    (hj : p[row]! ≤ j.size) :
    hasCanonicalFormat p j row = .ok true ↔
      (∀ r, r < row → p[r]! ≤ p[r + 1]!) ∧ ∀ i, i < row → SortedOn j p[i]! p[i + 1]! := by
  -- `0 + row + 1` is the right side of `pDecreases_eq` at `i = 0`, for the `rw` below
  obtain ⟨d, ed, hd⟩ := adjLoop_iff (fun a b => decide (a > b)) p (hi := 0 + row + 1) (by omega) row 0
    (Nat.le_refl _)
  rw [Nat.zero_add] at hd
  have hd' : d = false ↔ ∀ r, r < row → p[r]! ≤ p[r + 1]! := hd.trans
    ⟨fun h r hr => gt_false.1 (h r (Nat.zero_le _) (Nat.succ_lt_succ hr)),
      fun h k _ hk => gt_false.2 (h k (Nat.lt_of_succ_lt_succ hk))⟩
  unfold hasCanonicalFormat
  rw [pDecreases_eq, ed]
  cases d with
  | true => exact iff_of_false nofun fun h => nomatch hd'.2 h.1
  | false =>
    have hmono := hd'.1 rfl
    -- `p` is non-decreasing and ends inside `j`, so every row does
    have hend : ∀ r, r < row → p[r + 1]! ≤ j.size := fun r hr =>
      Nat.le_trans (mono_of_adjacent p row hmono (r + 1) row hr (Nat.le_refl _)) hj
    have hrow : row < p.size := hps ▸ Nat.lt_succ_self row
    obtain ⟨s, es, hs⟩ := rowsAny_iff_all (fun a b => decide (a > b)) p j row hrow hend
    obtain ⟨u, eu, hu⟩ := rowsAny_iff_all (fun a b => a == b) p j row hrow hend
    -- neither `>` nor `==` on an adjacent pair: `<`
    have hsu : s = false ∧ u = false ↔ ∀ i, i < row → SortedOn j p[i]! p[i + 1]! :=
      (and_congr hs hu).trans
        ⟨fun h i hi => sortedOn_of_adjacent _ _ _ fun k hk1 hk2 =>
            Nat.lt_of_le_of_ne (gt_false.1 (h.1 i hi k hk1 hk2)) (ne_of_beq_false (h.2 i hi k hk1 hk2)),
          fun h => ⟨fun i hi k hk1 hk2 => gt_false.2 (Nat.le_of_lt ((h i hi).adjacent hk1 hk2)),
            fun i hi k hk1 hk2 => beq_false_of_ne (Nat.ne_of_lt ((h i hi).adjacent hk1 hk2))⟩⟩
    rw [and_iff_right hmono, ← hsu]
    simp only [ok_bind, hasSortedIndices, hasDuplicates, es, eu, pure_ok]
    cases s <;> cases u <;> simp

/-- what `is_canonical` looks at: the sizes, and, unless there are no entries at all, that `p` is
non-decreasing and every row strictly increasing.  Not `p[0] = 0`, not the column bound, and not
the order of `p` when `p[row] = 0`. -/
structure Checked (m : Mat) : Prop where
  psize : m.p.size = m.row + 1
  jsize : m.j.size = m.p[m.row]!
  xsize : m.x.size = m.p[m.row]!
  pmono : m.j.size ≠ 0 → ∀ r, r < m.row → m.p[r]! ≤ m.p[r + 1]!
  sorted : m.j.size ≠ 0 → ∀ i, i < m.row → SortedOn m.j m.p[i]! m.p[i + 1]!

theorem isCanonical_iff (m : Mat) : isCanonical m = .ok true ↔ Checked m := by
  unfold isCanonical
  by_cases hps : m.p.size = m.row + 1
  · rw [if_neg (not_not.2 hps), rd_lt (by omega), ok_bind]
    by_cases hsz : m.j.size = m.p[m.row]! ∧ m.x.size = m.p[m.row]!
    · rw [if_neg (by omega)]
      by_cases hz : m.p[m.row]! = 0
      · rw [if_neg (not_not.2 hz)]
        exact iff_of_true rfl ⟨hps, hsz.1, hsz.2, fun h => absurd (hsz.1.trans hz) h,
          fun h => absurd (hsz.1.trans hz) h⟩
      · have hne : m.j.size ≠ 0 := hsz.1 ▸ hz
        rw [if_pos hz, hasCanonicalFormat_iff m.p m.j m.row hps (Nat.le_of_eq hsz.1.symm)]
        exact ⟨fun h => ⟨hps, hsz.1, hsz.2, fun _ => h.1, fun _ => h.2⟩,
          fun h => ⟨h.pmono hne, h.sorted hne⟩⟩
    · rw [if_pos (by omega)]
      exact iff_of_false nofun fun h => hsz ⟨h.jsize, h.xsize⟩
  · rw [if_pos hps]
    exact iff_of_false nofun fun h => hps h.psize

theorem isCanonical_of_canon {m : Mat} (h : CanonCSR m) : isCanonical m = .ok true :=
  (isCanonical_iff m).2 ⟨h.psize, h.plast.symm, h.xsize.trans h.plast.symm,
    fun _ _ hr => (h.row_le hr).1, fun _ => h.sorted⟩

theorem hasCanonicalFormat_of_canon {m : Mat} (h : CanonCSR m) :
    hasCanonicalFormat m.p m.j m.row = .ok true :=
  (hasCanonicalFormat_iff m.p m.j m.row h.psize (Nat.le_of_eq h.plast)).2
    ⟨fun _ hr => (h.row_le hr).1, h.sorted⟩

theorem CanonCSR.rowsAny_false {m : Mat} (h : CanonCSR m) (bad : Nat → Nat → Bool)
    (hbad : ∀ a b, a < b → bad a b = false) : rowsAny bad m.p m.j m.row 0 = .ok false := by
  obtain ⟨b, e, hb⟩ := rowsAny_iff_all bad m.p m.j m.row (h.psize ▸ Nat.lt_succ_self _)
    (fun r hr => (h.row_le hr).2)
  rw [e, hb.2 fun r hr k hk1 hk2 =>
    hbad _ _ ((h.sorted r hr).adjacent hk1 hk2)]

theorem hasDuplicates_of_canon {m : Mat} (h : CanonCSR m) :
    hasDuplicates m.p m.j m.row = .ok false :=
  h.rowsAny_false _ fun _ _ hab => beq_false_of_ne (Nat.ne_of_lt hab)

theorem hasSortedIndices_of_canon {m : Mat} (h : CanonCSR m) :
    hasSortedIndices m.p m.j m.row = .ok true := by
  unfold hasSortedIndices
  rw [h.rowsAny_false _ fun _ _ hab => gt_false.2 (Nat.le_of_lt hab)]
  rfl

theorem mk_of_canon {row col : Nat} {p j : Array Nat} {x : Array Q}
    (h : CanonCSR { row := row, col := col, p := p, j := j, x := x }) :
    CSR.mk row col p j x = .ok { row := row, col := col, p := p, j := j, x := x } := by
  unfold CSR.mk
  simp only [isCanonical_of_canon h, ok_bind, if_true, pure_ok]

/-- arrays that `is_canonical` accepts are canonical, provided the three properties it does not
examine hold -/
theorem isCanonical_sound {m : Mat} (h : isCanonical m = .ok true) (hp0 : m.p[0]! = 0)
    (hcol : ∀ k, k < m.j.size → m.j[k]! < m.col)
    (hzero : m.j.size = 0 → ∀ r, r < m.row → m.p[r]! ≤ m.p[r + 1]!) : CanonCSR m := by
  have c := (isCanonical_iff m).1 h
  have hmono := mono_of_adjacent m.p m.row fun r hr =>
    if hz : m.j.size = 0 then hzero hz r hr else c.pmono hz r hr
  refine { psize := c.psize, xsize := c.xsize.trans c.jsize.symm, p0 := hp0, plast := c.jsize.symm,
           pmono := hmono, sorted := fun i hi => ?_, jlt := hcol }
  by_cases hz : m.j.size = 0
  · -- no entries: every row is empty
    intro a b _ _ hb
    have := hmono (i + 1) m.row hi (Nat.le_refl _)
    rw [← c.jsize, hz] at this
    omega
  · exact c.sorted hz i hi

theorem mk_sound {row col : Nat} {p j : Array Nat} {x : Array Q} {m : Mat}
    (h : CSR.mk row col p j x = .ok m) (hp0 : p[0]! = 0) (hcol : ∀ k, k < j.size → j[k]! < col)
    (hzero : j.size = 0 → ∀ r, r < row → p[r]! ≤ p[r + 1]!) :
    m = { row := row, col := col, p := p, j := j, x := x } ∧ CanonCSR m := by
  cases hc : isCanonical { row := row, col := col, p := p, j := j, x := x } with
  | error e => simp only [CSR.mk, hc, err_bind] at h; cases h
  | ok b =>
    simp only [CSR.mk, hc, ok_bind] at h
    cases b with
    | false => cases h
    | true =>
      cases Except.ok.inj h
      exact ⟨rfl, isCanonical_sound hc hp0 hcol hzero⟩

end SymVerif.C25
