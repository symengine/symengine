/-
The Max / Min rules of RefineVisitor preserve the value: the arguments that are dropped are dominated by an
argument that is kept.  The two rules run the same classification loop with the sign queries mirrored, and `min` is
the `max` of the dual order, so each step is proved once, for a loop with abstract queries and an abstract extremum.
-/
import SymVerif.Lemmas.C35Pow

namespace SymVerif.C35
open SymVerif SymVerif.Queries SymVerif.Refine SymVerif.C34

variable {ρ : String → ℝ} {A : Assumptions}

theorem foldl_max_le_iff {α : Type} [LinearOrder α] (l : List α) (x c : α) :
    l.foldl max x ≤ c ↔ ∀ z ∈ x :: l, z ≤ c := List.max?_le_iff rfl

theorem max_eq_of_dominated {α : Type} [LinearOrder α] {x y : α} {l m : List α}
    (hsub : ∀ z ∈ x :: l, z ∈ y :: m) (hdom : ∀ z ∈ y :: m, ∃ w ∈ x :: l, z ≤ w) :
    l.foldl max x = m.foldl max y := by
  have hl := (foldl_max_le_iff l x _).mp le_rfl
  have hm := (foldl_max_le_iff m y _).mp le_rfl
  apply le_antisymm
  · exact (foldl_max_le_iff l x _).mpr fun z hz => hm z (hsub z hz)
  · refine (foldl_max_le_iff m y _).mpr fun z hz => ?_
    obtain ⟨w, hw, hle⟩ := hdom z hz
    exact hle.trans (hl w hw)

/-- a head whose value is the extremum `op` (for the order `le`) of its two or more arguments -/
structure ExtHead (h : String) (op : ℝ → ℝ → ℝ) (le : ℝ → ℝ → Prop) : Prop where
  one : ∀ x, appSem h (some [x]) = none
  many : ∀ x y r, appSem h (some (x :: y :: r)) = some ((y :: r).foldl op x)
  refl : ∀ z, le z z
  ext : ∀ {x y : ℝ} {l m : List ℝ}, (∀ z ∈ x :: l, z ∈ y :: m) → (∀ z ∈ y :: m, ∃ w ∈ x :: l, le z w) →
    l.foldl op x = m.foldl op y

theorem extHead_max : ExtHead "Max" max (· ≤ ·) :=
  ⟨fun _ => by simp [appSem], fun _ _ _ => by simp [appSem], le_refl, max_eq_of_dominated⟩

theorem extHead_min : ExtHead "Min" min (· ≥ ·) :=
  ⟨fun _ => by simp [appSem], fun _ _ _ => by simp [appSem], le_refl, max_eq_of_dominated (α := ℝᵒᵈ)⟩

/-- the four sign queries of the classification loop of `RefineVisitor::bvisit(const Max &)` / `bvisit(const Min &)`,
    seen from the extremum: `win` / `winW` put the argument strictly / weakly on the side of the extremum,
    `lose` / `loseW` strictly / weakly on the other side -/
structure Sides where
  win : Expr → Bool
  winW : Expr → Bool
  lose : Expr → Bool
  loseW : Expr → Bool

def maxSides (A : Assumptions) : Sides :=
  ⟨(isPositive A · == .t), (isNonnegative A · == .t), (isNegative A · == .t), (isNonpositive A · == .t)⟩

def minSides (A : Assumptions) : Sides :=
  ⟨(isNegative A · == .t), (isNonpositive A · == .t), (isPositive A · == .t), (isNonnegative A · == .t)⟩

/-- (kept arguments, weak losers held back, strict losers held back, a strict winner was seen, a weak winner was seen) -/
abbrev ExtState := List Expr × List Expr × List Expr × Bool × Bool

/-- `maxStep` / `minStep` with the queries abstracted -/
def extStep (S : Sides) (a : Expr) (st : ExtState) : ExtState :=
  let (keep, losersW, losers, sawWin, sawWinW) := st
  if S.win a then (keep ++ [a], losersW, losers, true, sawWinW)
  else if S.winW a then (keep ++ [a], losersW, losers, sawWin, true)
  else if S.lose a then (keep, losersW, losers ++ [a], sawWin, sawWinW)
  else if S.loseW a then (keep, losersW ++ [a], losers, sawWin, sawWinW)
  else (keep ++ [a], losersW, losers, sawWin, sawWinW)

def extKeep (S : Sides) (args : List Expr) : List Expr :=
  let (keep, losersW, losers, sawWin, sawWinW) :=
    args.foldl (fun st a => extStep S a st) ([], [], [], false, false)
  let keep := if !sawWin && !losersW.isEmpty then keep ++ losersW else keep
  if !sawWinW && !sawWin && !losers.isEmpty then keep ++ losers else keep

theorem maxKeep_eq (A : Assumptions) (args : List Expr) : maxKeep A args = extKeep (maxSides A) args := rfl

theorem minKeep_eq (A : Assumptions) (args : List Expr) : minKeep A args = extKeep (minSides A) args := rfl

/-- where the loop puts an argument: kept at once (a winner, or no loser), or held back as a strict or as a weak loser -/
def Sides.kept (S : Sides) (a : Expr) : Bool := S.win a || S.winW a || !(S.lose a || S.loseW a)
def Sides.heldLose (S : Sides) (a : Expr) : Bool := !S.win a && !S.winW a && S.lose a
def Sides.heldLoseW (S : Sides) (a : Expr) : Bool := !S.win a && !S.winW a && !S.lose a && S.loseW a

theorem extStep_eq (S : Sides) (a : Expr) (keep losersW losers : List Expr) (sawWin sawWinW : Bool) :
    extStep S a (keep, losersW, losers, sawWin, sawWinW) =
      (keep ++ [a].filter S.kept, losersW ++ [a].filter S.heldLoseW, losers ++ [a].filter S.heldLose,
        sawWin || S.win a, sawWinW || (!S.win a && S.winW a)) := by
  simp only [extStep]
  split_ifs <;>
    simp only [Sides.kept, Sides.heldLoseW, Sides.heldLose, *, Bool.true_or, Bool.or_true, Bool.or_false, Bool.or_self,
      Bool.not_or, Bool.not_true, Bool.not_false, Bool.false_and, Bool.and_false, Bool.and_self, Bool.false_eq_true,
      not_false_eq_true, List.filter_cons_of_pos, List.filter_cons_of_neg, List.filter_nil, List.append_nil]

/-- the loop computes three filters and two flags -/
theorem extFold_eq (S : Sides) (args keep losersW losers : List Expr) (sawWin sawWinW : Bool) :
    args.foldl (fun st a => extStep S a st) (keep, losersW, losers, sawWin, sawWinW) =
      (keep ++ args.filter S.kept, losersW ++ args.filter S.heldLoseW, losers ++ args.filter S.heldLose,
        sawWin || args.any S.win, sawWinW || args.any fun a => !S.win a && S.winW a) := by
  induction args generalizing keep losersW losers sawWin sawWinW with
  | nil => simp only [List.foldl_nil, List.filter_nil, List.append_nil, List.any_nil, Bool.or_false]
  | cons a t ih =>
    rw [List.foldl_cons, extStep_eq, ih]
    simp only [List.append_assoc, ← List.filter_append, List.singleton_append, List.any_cons, Bool.or_assoc]

theorem extKeep_eq (S : Sides) (args : List Expr) :
    extKeep S args = args.filter S.kept
      ++ (if args.any S.win then [] else args.filter S.heldLoseW)
      ++ (if args.any S.win || args.any (fun a => !S.win a && S.winW a) then [] else args.filter S.heldLose) := by
  simp only [extKeep, extFold_eq, List.nil_append, Bool.false_or]
  -- the `isEmpty` tests of the loop change nothing (`keep ++ [] = keep`); the two filter lists are split only to see that
  cases args.any S.win <;> cases (args.any fun a => !S.win a && S.winW a) <;>
    cases List.filter S.heldLoseW args <;> cases List.filter S.heldLose args <;> simp

theorem mem_extKeep (S : Sides) (args : List Expr) (b : Expr) : b ∈ extKeep S args ↔
    b ∈ args ∧ (S.kept b = true ∨ (args.any S.win = false ∧ S.heldLoseW b = true) ∨
      (args.any S.win = false ∧ (args.any fun a => !S.win a && S.winW a) = false ∧ S.heldLose b = true)) := by
  rw [extKeep_eq]
  cases args.any S.win <;> cases (args.any fun a => !S.win a && S.winW a) <;>
    simp only [Bool.or_self, Bool.or_true, Bool.or_false, Bool.false_eq_true, ↓reduceIte, List.append_nil, List.mem_append,
      List.mem_filter, ← and_or_left, or_assoc, true_and, reduceCtorEq, false_and, or_false]

/-- the kept list consists of arguments, and every argument is kept or dominated by a kept one; `dom a b` is asked
    for where the loop drops `a` on the strength of `b`: any loser against a strict winner, a strict loser against
    a weak winner -/
theorem extKeep_spec (S : Sides) {dom : Expr → Expr → Prop} {args : List Expr}
    (h1 : ∀ a ∈ args, ∀ b ∈ args, S.win b = true → S.lose a = true ∨ S.loseW a = true → dom a b)
    (h2 : ∀ a ∈ args, ∀ b ∈ args, S.winW b = true → S.lose a = true → dom a b) :
    (∀ a ∈ extKeep S args, a ∈ args) ∧ ∀ a ∈ args, a ∈ extKeep S args ∨ ∃ b ∈ extKeep S args, dom a b := by
  refine ⟨fun a ha => ((mem_extKeep S args a).mp ha).1, fun a ha => ?_⟩
  have hwin : ∀ b ∈ args, S.win b = true ∨ S.winW b = true → b ∈ extKeep S args := fun b hb h =>
    (mem_extKeep S args b).mpr ⟨hb, .inl (by rcases h with h | h <;> simp [Sides.kept, h])⟩
  by_cases hk : S.kept a = true
  · exact .inl ((mem_extKeep S args a).mpr ⟨ha, .inl hk⟩)
  have hl : S.win a = false ∧ S.winW a = false ∧ (S.lose a = true ∨ S.loseW a = true) := by
    simpa [Sides.kept, and_assoc, or_iff_not_imp_left] using hk
  by_cases hs : args.any S.win = true
  · obtain ⟨b, hb, hbw⟩ := List.any_eq_true.mp hs
    exact .inr ⟨b, hwin b hb (.inl hbw), h1 a ha b hb hbw hl.2.2⟩
  have hs' : args.any S.win = false := Bool.not_eq_true _ ▸ hs
  by_cases hst : S.lose a = true
  · by_cases hw : (args.any fun a => !S.win a && S.winW a) = true
    · obtain ⟨b, hb, hbw⟩ := List.any_eq_true.mp hw
      have hbw' : S.winW b = true := (Bool.and_eq_true _ _ ▸ hbw).2
      exact .inr ⟨b, hwin b hb (.inr hbw'), h2 a ha b hb hbw' hst⟩
    · -- a strict loser and no winner at all: held back and returned
      exact .inl ((mem_extKeep S args a).mpr ⟨ha, .inr (.inr ⟨hs', Bool.not_eq_true _ ▸ hw,
        by simp [Sides.heldLose, hl.1, hl.2.1, hst]⟩)⟩)
  · -- a weak loser and no strict winner
    exact .inl ((mem_extKeep S args a).mpr ⟨ha, .inr (.inl ⟨hs',
      by simp [Sides.heldLoseW, hl.1, hl.2.1, hst, hl.2.2.resolve_left hst]⟩)⟩)

theorem evalR_mkExt {h : String} {op : ℝ → ℝ → ℝ} {le : ℝ → ℝ → Prop} (H : ExtHead h op le)
    {K : List Expr} {k : ℝ} {ks : List ℝ} (hks : evalArgs ρ K = some (k :: ks)) :
    evalR ρ (mkExt h K) = some (ks.foldl op k) := by
  match K, hks with
  | [], hks => cases hks
  | [a], hks =>
    obtain ⟨va, vt, ha, ht, heq⟩ := evalArgs_cons_some.mp hks
    cases ht; cases heq; exact ha
  | a :: b :: t, hks =>
    obtain ⟨va, vt, _, ht, heq⟩ := evalArgs_cons_some.mp hks
    obtain ⟨vb, vt', _, _, rfl⟩ := evalArgs_cons_some.mp ht
    cases heq
    simp only [mkExt, evalR, hks, H.many]

theorem extRule_value {h : String} {op : ℝ → ℝ → ℝ} {le : ℝ → ℝ → Prop} (H : ExtHead h op le)
    {args K : List Expr} {v : ℝ} (hsubK : ∀ a ∈ K, a ∈ args)
    (hdom : ∀ a ∈ args, a ∈ K ∨ ∃ b ∈ K, ∀ va vb, evalR ρ a = some va → evalR ρ b = some vb → le va vb)
    (hv : evalR ρ (.app h args) = some v) : evalR ρ (mkExt h K) = some v := by
  simp only [evalR] at hv
  match hvs : evalArgs ρ args, hv with
  | some [], hv => cases hv
  | some [x], hv => rw [H.one] at hv; cases hv
  | some (x :: y :: rest), hv =>
    rw [H.many] at hv
    have hall : ∀ a ∈ args, ∃ v, evalR ρ a = some v := fun a ha => (evalArgs_mem_some hvs ha).imp fun _ h => h.2
    obtain ⟨ks, hks⟩ := evalArgs_defined fun a ha => hall a (hsubK a ha)
    obtain ⟨a0, ha0, _⟩ := evalArgs_some_mem hvs (v := x) List.mem_cons_self
    obtain ⟨b0, hb0⟩ : ∃ b, b ∈ K := (hdom a0 ha0).elim (fun h => ⟨a0, h⟩) fun ⟨b, hb, _⟩ => ⟨b, hb⟩
    match ks, hks with
    | [], hks => obtain ⟨_, h, _⟩ := evalArgs_mem_some hks hb0; cases h
    | k :: ks, hks =>
      rw [evalR_mkExt H hks, ← hv]
      congr 1
      refine H.ext (fun z hz => ?_) fun z hz => ?_
      · obtain ⟨a, ha, haz⟩ := evalArgs_some_mem hks hz
        exact evalArgs_val_mem hvs (hsubK a ha) haz
      · obtain ⟨a, ha, haz⟩ := evalArgs_some_mem hvs hz
        rcases hdom a ha with hk | ⟨b, hb, hle⟩
        · exact ⟨z, evalArgs_val_mem hks hk haz, H.refl z⟩
        · obtain ⟨vb, hvb⟩ := hall b (hsubK b hb)
          exact ⟨vb, evalArgs_val_mem hks hb hvb, hle z vb haz hvb⟩

theorem maxRule_value {ρ : String → ℝ} {A : Assumptions} (hA : FactsSat ρ A) {args : List Expr} {v : ℝ}
    (hwf : ∀ a ∈ args, wf a = true) (hv : evalR ρ (.app "Max" args) = some v) :
    evalR ρ (mkExt "Max" (maxKeep A args)) = some v := by
  obtain ⟨hsub, hdom⟩ := extKeep_spec (maxSides A) (args := args)
    (dom := fun a b => ∀ va vb, evalR ρ a = some va → evalR ρ b = some vb → va ≤ vb)
    (fun a _ b hb hwin hl va vb hva hvb =>
      have h0 : va ≤ 0 := hl.elim (fun h => ((isNegative_sound hA hva).of_beq h).le)
        fun h => (isNonpositive_sound hA hva).of_beq h
      h0.trans ((isPositiveF_sound hA _ b vb (hwf b hb) hvb).of_beq hwin).le)
    (fun a _ b _ hwin hl va vb hva hvb =>
      ((isNegative_sound hA hva).of_beq hl).le.trans ((isNonnegative_sound hA hvb).of_beq hwin))
  rw [maxKeep_eq]
  exact extRule_value extHead_max hsub hdom hv

theorem minRule_value {ρ : String → ℝ} {A : Assumptions} (hA : FactsSat ρ A) {args : List Expr} {v : ℝ}
    (hwf : ∀ a ∈ args, wf a = true) (hv : evalR ρ (.app "Min" args) = some v) :
    evalR ρ (mkExt "Min" (minKeep A args)) = some v := by
  obtain ⟨hsub, hdom⟩ := extKeep_spec (minSides A) (args := args)
    (dom := fun a b => ∀ va vb, evalR ρ a = some va → evalR ρ b = some vb → va ≥ vb)
    (fun a ha b _ hwin hl va vb hva hvb =>
      have h0 : 0 ≤ va := hl.elim (fun h => ((isPositiveF_sound hA _ a va (hwf a ha) hva).of_beq h).le)
        fun h => (isNonnegative_sound hA hva).of_beq h
      ((isNegative_sound hA hvb).of_beq hwin).le.trans h0)
    (fun a ha b _ hwin hl va vb hva hvb =>
      ((isNonpositive_sound hA hvb).of_beq hwin).trans
        ((isPositiveF_sound hA _ a va (hwf a ha) hva).of_beq hl).le)
  rw [minKeep_eq]
  exact extRule_value extHead_min hsub hdom hv

end SymVerif.C35
