/-
Kernel evaluation of the multinomial loop on the small tables: it ends without error and writes the right number
of entries.  That the entries are distinct and survive sorting holds for every table (`C09Multinomial.lean`).
-/
import SymVerif.Lemmas.C09Multinomial

namespace SymVerif
namespace Multinomial

theorem multinomial_small_length :
    ∀ m ∈ [2, 3, 4, 5], ∀ n ∈ [0, 1, 2, 3, 4, 5, 6],
      (match multinomial m n with
       | .ok r => decide (r.length = Nat.choose (n + m - 1) (m - 1))
       | .error _ => false) = true := by
  decide +kernel

/-- totality and completeness for the small tables (kernel evaluation of the model): no error, and the table
has exactly `C(n + m − 1, m − 1)` distinct keys, hence (with `multinomial_sound`, and by a count of the compositions that is not formalised) every
composition of `n` into `m` parts occurs. -/
theorem multinomial_small_complete :
    ∀ m ∈ [2, 3, 4, 5], ∀ n ∈ [0, 1, 2, 3, 4, 5, 6],
      (match multinomial m n with
       | .ok r => decide ((sortTab r).length = Nat.choose (n + m - 1) (m - 1)) && decide ((sortTab r).map (·.1)).Nodup
       | .error _ => false) = true := by
  intro m hm n hn
  have h := multinomial_small_length m hm n hn
  cases hr : multinomial m n with
  | error e => rw [hr] at h; exact h
  | ok r =>
    -- the written keys are distinct, so sorting keeps every entry
    rw [hr] at h
    simp only [decide_eq_true_eq] at h
    simp only [sortTab_length (multinomial_keys_nodup hr), h, (sortTab_keys r).1, decide_true, Bool.and_self]

/-- non-vacuity: `(a + b + c)^4` -/
example : multinomial 3 4 = .ok [([0, 0, 4], 1), ([0, 1, 3], 4), ([1, 0, 3], 4), ([0, 2, 2], 6), ([1, 1, 2], 12),
    ([2, 0, 2], 6), ([0, 3, 1], 4), ([1, 2, 1], 12), ([2, 1, 1], 12), ([3, 0, 1], 4), ([0, 4, 0], 1), ([1, 3, 0], 4),
    ([2, 2, 0], 6), ([3, 1, 0], 4), ([4, 0, 0], 1)] := by decide +kernel

end Multinomial
end SymVerif
