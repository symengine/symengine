import SymVerif.Lemmas.C21Eval
import Mathlib.Algebra.Order.BigOperators.Group.Finset
import Mathlib.Algebra.Polynomial.Inductions

/-! C21: `UIntDict::mul` (Kronecker substitution with signed-digit decoding) computes the product. -/
open Polynomial
namespace SymVerif.C21
open SymVerif.UPoly

theorem bitLength_spec (t : Nat) : t < 2 ^ bitLength t := by
  induction t using Nat.strong_induction_on with
  | _ t ih =>
    rw [bitLength]
    by_cases h : t = 0
    · simp [h]
    · simp only [h, dite_false]
      have := ih (t / 2) (by omega)
      rw [pow_succ]; omega

theorem foldl_max_spec (l : List (Nat × Int)) (init : Nat) :
    init ≤ l.foldl (fun cur p => if p.2.natAbs > cur then p.2.natAbs else cur) init ∧
    ∀ p ∈ l, p.2.natAbs ≤ l.foldl (fun cur p => if p.2.natAbs > cur then p.2.natAbs else cur) init := by
  induction l generalizing init with
  | nil => simp
  | cons q t ih =>
    simp only [List.foldl_cons]
    have := ih (if q.2.natAbs > init then q.2.natAbs else init)
    refine ⟨?_, ?_⟩
    · refine le_trans ?_ this.1
      split <;> omega
    · intro p hp
      rcases List.mem_cons.1 hp with h | h
      · rw [h]
        refine le_trans ?_ this.1
        split <;> omega
      · exact this.2 p h

theorem maxAbsCoef_spec {d : Dict Int} (hne : d ≠ []) :
    ∃ m, maxAbsCoef d = .ok m ∧ ∀ p ∈ d, |p.2| ≤ (m : Int) := by
  cases d with
  | nil => exact absurd rfl hne
  | cons q t =>
    obtain ⟨k, c⟩ := q
    refine ⟨_, rfl, ?_⟩
    intro p hp
    have := (foldl_max_spec ((k, c) :: t) c.natAbs).2 p hp
    rw [← Int.natCast_natAbs]
    exact_mod_cast this

theorem evalBitLoop_eq (x : Nat) (l : List (Nat × Int)) (last : Nat) (res : Int) :
    evalBitLoop x l last res = evalLoop ((2 : Int) ^ x) l last res := by
  induction l generalizing last res with
  | nil => rw [evalBitLoop, evalLoop, rpow_eq, Int.shiftLeft_eq, ← pow_mul]
  | cons p t ih =>
    rw [evalBitLoop, evalLoop, ih, rpow_eq, Int.shiftLeft_eq, ← pow_mul, add_comm, mul_comm]

theorem evalBit_spec {d : Dict Int} (hs : Sorted d) (hne : d ≠ []) (x : Nat) :
    evalBit d x = .ok ((toPoly d).eval ((2 : Int) ^ x)) := by
  -- `eval_bit` is the unguarded `eval` at `2^x`
  rw [← evalWith_spec false hs hne]
  unfold evalBit evalWith
  cases d.reverse with
  | nil => rfl
  | cons p t => exact congrArg Except.ok (evalBitLoop_eq x _ _ _)

theorem abs_coeff_le {d : Dict Int} (hs : Sorted d) {M : Int} (hM : 0 ≤ M)
    (h : ∀ q ∈ d, |q.2| ≤ M) (k : Nat) : |(toPoly d).coeff k| ≤ M := by
  rcases coeff_toPoly_cases hs k with h' | h'
  · rw [h', abs_zero]; exact hM
  · exact h (k, _) h'

theorem coeff_mul_bound {p q : Int[X]} {dp : Nat} {A Bc : Int} (hA : 0 ≤ A) (hBc : 0 ≤ Bc)
    (hp : ∀ i, |p.coeff i| ≤ A) (hp0 : ∀ i, dp < i → p.coeff i = 0) (hq : ∀ j, |q.coeff j| ≤ Bc)
    (k : Nat) : |(p * q).coeff k| ≤ ((dp + 1 : Nat) : Int) * (A * Bc) := by
  rw [coeff_mul, Finset.Nat.sum_antidiagonal_eq_sum_range_succ_mk]
  calc |∑ i ∈ Finset.range k.succ, p.coeff i * q.coeff (k - i)|
      ≤ ∑ i ∈ Finset.range k.succ, |p.coeff i * q.coeff (k - i)| := Finset.abs_sum_le_sum_abs _ _
    _ ≤ ∑ i ∈ Finset.range k.succ, (if i ≤ dp then A * Bc else 0) := by
        apply Finset.sum_le_sum
        intro i _
        by_cases hi : i ≤ dp
        · rw [if_pos hi, abs_mul]
          exact mul_le_mul (hp i) (hq _) (abs_nonneg _) hA
        · rw [if_neg hi, hp0 i (by omega)]; simp
    _ = ∑ i ∈ (Finset.range k.succ).filter (fun i => i ≤ dp), A * Bc := by
        rw [Finset.sum_filter]
    _ = (((Finset.range k.succ).filter (fun i => i ≤ dp)).card : Int) * (A * Bc) := by
        rw [Finset.sum_const, nsmul_eq_mul]
    _ ≤ ((dp + 1 : Nat) : Int) * (A * Bc) := by
        apply mul_le_mul_of_nonneg_right _ (mul_nonneg hA hBc)
        have : ((Finset.range k.succ).filter (fun i => i ≤ dp)).card ≤ (Finset.range (dp + 1)).card := by
          apply Finset.card_le_card
          intro i hi
          have := (Finset.mem_filter.1 hi).2
          exact Finset.mem_range.2 (by omega)
        rw [Finset.card_range] at this
        exact_mod_cast this

/-- an integer polynomial whose coefficients are smaller than `B` and which vanishes at `B` is zero
    (uniqueness of signed base-`B` digits) -/
theorem eq_zero_of_eval_eq_zero (B : Int) (hB : 0 < B) :
    ∀ (n : Nat) (D : Int[X]), D.natDegree ≤ n → (∀ k, |D.coeff k| < B) → D.eval B = 0 → D = 0 := by
  intro n
  induction n with
  | zero =>
    intro D hdeg hc he
    rw [eq_C_of_natDegree_le_zero hdeg] at he ⊢
    rw [eval_C] at he
    rw [he, C_0]
  | succ n ih =>
    intro D hdeg hc he
    have hD := divX_mul_X_add D
    have he' : D.divX.eval B * B + D.coeff 0 = 0 := by
      rw [← hD, eval_add, eval_mul, eval_X, eval_C] at he; exact he
    have hdvd : B ∣ D.coeff 0 :=
      ⟨-(D.divX.eval B), by rw [mul_neg, mul_comm]; exact eq_neg_of_add_eq_zero_right he'⟩
    have h0 : D.coeff 0 = 0 := Int.eq_zero_of_abs_lt_dvd hdvd (hc 0)
    have he2 : D.divX.eval B = 0 := by
      rw [h0, add_zero] at he'
      exact (mul_eq_zero.1 he').resolve_right (ne_of_gt hB)
    have := ih D.divX (by rw [natDegree_divX_eq_natDegree_tsub_one]; omega)
      (fun k => by rw [coeff_divX]; exact hc _) he2
    rw [← hD, this, h0, zero_mul, C_0, add_zero]

theorem abs_digit_le {H t c : Int} (ht0 : 0 ≤ t) (ht : t < 2 * H) (hc0 : 0 ≤ c) (hc1 : c ≤ 1) :
    (t < H → |t + c| ≤ H) ∧ (H ≤ t → |t - 2 * H + c| ≤ H) :=
  ⟨fun h => abs_le.2 ⟨by omega, by omega⟩, fun h => abs_le.2 ⟨by omega, by omega⟩⟩

/-- one round of the decoding loop: a signed base-`2^(n+1)` digit `dg` and the carry `c'` into the next round
    (`>>>`, `&&&` read as `/`, `%`) -/
theorem decode_digit (n : Nat) (sgn : Int) {sval carry : Nat} (deg : Nat) (r : Dict Int)
    (h : ¬ (sval = 0 ∧ carry = 0)) (hc : carry ≤ 1) :
    ∃ (c' : Nat) (dg : Int), c' ≤ 1 ∧ |dg| ≤ 2 ^ n ∧
      (sval : Int) + carry = dg + 2 ^ (n + 1) * (((sval / 2 ^ (n + 1) : Nat) : Int) + c') ∧
      2 * (sval / 2 ^ (n + 1)) + c' < 2 * sval + carry ∧
      decode n sgn sval carry deg r
        = decode n sgn (sval / 2 ^ (n + 1)) c' (deg + 1)
            (if sgn * dg ≠ 0 then setKey r deg (sgn * dg) else r) := by
  rw [decode, dif_neg h]
  have e1 : (1 <<< (n + 1) : Nat) = 2 ^ (n + 1) := by rw [Nat.shiftLeft_eq, Nat.one_mul]
  have e2 : (2 : Nat) ^ (n + 1) / 2 = 2 ^ n := by rw [Nat.pow_succ, Nat.mul_div_cancel _ (by decide)]
  simp only [e1, e2, Nat.and_two_pow_sub_one_eq_mod, Nat.shiftRight_eq_div_pow]
  have hmod : sval % 2 ^ (n + 1) < 2 ^ (n + 1) := Nat.mod_lt _ (Nat.pow_pos (by decide))
  have hdm := Nat.div_add_mod sval (2 ^ (n + 1))
  have hq : 2 * (sval / 2 ^ (n + 1)) ≤ sval := by
    have := decode_dec sval n  -- the model's own termination fact, stated with `>>>`
    rw [Nat.shiftRight_eq_div_pow] at this
    omega
  have hsv : (sval : Int) = 2 ^ (n + 1) * ((sval / 2 ^ (n + 1) : Nat) : Int) + ((sval % 2 ^ (n + 1) : Nat) : Int) := by
    exact_mod_cast hdm.symm
  generalize sval / 2 ^ (n + 1) = q at *
  generalize sval % 2 ^ (n + 1) = t at *
  have hBi : (2 : Int) ^ (n + 1) = 2 * 2 ^ n := by rw [pow_succ, mul_comm]
  have hci : (carry : Int) ≤ 1 := by exact_mod_cast hc
  have hti : (t : Int) < 2 * 2 ^ n := by rw [← hBi]; exact_mod_cast hmod
  by_cases hlt : t < 2 ^ n
  · have hlti : (t : Int) < 2 ^ n := by exact_mod_cast hlt
    refine ⟨0, (t : Int) + carry, Nat.zero_le _,
      (abs_digit_le (Int.natCast_nonneg t) hti (Int.natCast_nonneg carry) hci).1 hlti, ?_, by omega, ?_⟩
    · rw [hsv]; push_cast; ring
    · simp only [hlt, dite_true]
  · have hlti : (2 : Int) ^ n ≤ t := by exact_mod_cast Nat.le_of_not_lt hlt
    -- for the measure (the model's `decode_thresh` step)
    have hpos : sval ≠ 0 := fun h0 =>
      hlt ((Nat.add_eq_zero_iff.1 (h0 ▸ hdm)).2 ▸ Nat.pow_pos (by decide))
    refine ⟨1, (t : Int) - ((2 ^ (n + 1) : Nat) : Int) + carry, le_refl _, ?_, ?_, by omega, ?_⟩
    · push_cast; rw [hBi]
      exact (abs_digit_le (Int.natCast_nonneg t) hti (Int.natCast_nonneg carry) hci).2 hlti
    · rw [hsv]; push_cast; ring
    · simp only [hlt, dite_false]

/-- the loop invariant on the output dictionary once the digits below `deg` are written; `≤ M` is not strict
    (the digit `-2^(N-1)` occurs) -/
def Digits (M : Int) (deg : Nat) (r : Dict Int) : Prop :=
  Sorted r ∧ ∀ q ∈ r, q.1 < deg ∧ q.2 ≠ 0 ∧ |q.2| ≤ M

theorem Digits.canon {M : Int} {deg : Nat} {r : Dict Int} (h : Digits M deg r) :
    Canon r ∧ ∀ q ∈ r, |q.2| ≤ M :=
  ⟨⟨h.1, fun q hq => (h.2 q hq).2.1⟩, fun q hq => (h.2 q hq).2.2⟩

theorem digits_nil (M : Int) : Digits M 0 [] := ⟨sorted_nil, fun _ hq => nomatch hq⟩

theorem pushDigit_spec {M : Int} {deg : Nat} {r : Dict Int} (hr : Digits M deg r) {res : Int}
    (hres : |res| ≤ M) :
    Digits M (deg + 1) (if res ≠ 0 then setKey r deg res else r) ∧
    toPoly (if res ≠ 0 then setKey r deg res else r) = toPoly r + monomial deg res := by
  have hk : ∀ q ∈ r, q.1 < deg := fun q hq => (hr.2 q hq).1
  have hold : ∀ q ∈ r, q.1 < deg + 1 ∧ q.2 ≠ 0 ∧ |q.2| ≤ M :=
    fun q hq => ⟨Nat.lt_succ_of_lt (hk q hq), (hr.2 q hq).2⟩
  by_cases h : res = 0
  · rw [if_neg (not_not.2 h), h, monomial_zero_right, add_zero]
    exact ⟨⟨hr.1, hold⟩, rfl⟩
  · rw [if_pos h, setKey_append hk, toPoly_append, toPoly_cons, toPoly_nil, add_zero]
    refine ⟨⟨sorted_append_single hr.1 hk, ?_⟩, rfl⟩
    rw [List.forall_mem_append, List.forall_mem_singleton]
    exact ⟨hold, Nat.lt_succ_self _, h, hres⟩

/-- `m` only bounds the measure `2 * sval + carry` for the induction. -/
theorem decode_spec (n : Nat) {sgn : Int} (hsgn : |sgn| = 1) (m : Nat) :
    ∀ (sval carry deg : Nat) (r : Dict Int), 2 * sval + carry < m → carry ≤ 1 →
      Digits (2 ^ n) deg r →
      (∃ deg', Digits (2 ^ n) deg' (decode n sgn sval carry deg r)) ∧
      (toPoly (decode n sgn sval carry deg r)).eval ((2 : Int) ^ (n + 1))
        = (toPoly r).eval ((2 : Int) ^ (n + 1))
          + sgn * ((2 : Int) ^ (n + 1)) ^ deg * ((sval : Int) + (carry : Int)) := by
  induction m with
  | zero => exact fun _ _ _ _ hm => absurd hm (Nat.not_lt_zero _)
  | succ m ih =>
    intro sval carry deg r hm hc hr
    by_cases h0 : sval = 0 ∧ carry = 0
    · rw [decode, dif_pos h0, h0.1, h0.2]
      exact ⟨⟨deg, hr⟩, by rw [Nat.cast_zero, add_zero, mul_zero, add_zero]⟩
    · obtain ⟨c', dg, hc', hdg, hsum, hdec, heq⟩ := decode_digit n sgn deg r h0 hc
      have hres : |sgn * dg| ≤ 2 ^ n := by rw [abs_mul, hsgn, one_mul]; exact hdg
      obtain ⟨hr', hp⟩ := pushDigit_spec hr hres
      obtain ⟨hd, hev⟩ := ih (sval / 2 ^ (n + 1)) c' (deg + 1) _ (by omega) hc' hr'
      rw [heq]
      refine ⟨hd, ?_⟩
      rw [hev, hp, eval_add, eval_monomial, hsum]
      push_cast
      ring

theorem min_mul_bound {pa pb : Int[X]} {da db : Nat} {A Bc : Int} (hA : 0 ≤ A) (hBc : 0 ≤ Bc)
    (hpa : ∀ i, |pa.coeff i| ≤ A) (hpa0 : ∀ i, da < i → pa.coeff i = 0)
    (hpb : ∀ i, |pb.coeff i| ≤ Bc) (hpb0 : ∀ i, db < i → pb.coeff i = 0) (k : Nat) :
    |(pa * pb).coeff k| ≤ ((min (da + 1) (db + 1) : Nat) : Int) * (A * Bc) := by
  rcases Nat.le_total (da + 1) (db + 1) with h | h
  · rw [Nat.min_eq_left h]
    exact coeff_mul_bound hA hBc hpa hpa0 hpb k
  · rw [Nat.min_eq_right h, mul_comm pa pb, mul_comm A Bc]
    exact coeff_mul_bound hBc hA hpb hpb0 hpa k

theorem sgn_spec (s : Int) :
    |(if s < 0 then (-1 : Int) else 1)| = 1 ∧ (if s < 0 then (-1 : Int) else 1) * (s.natAbs : Int) = s := by
  split
  · rename_i h; exact ⟨by rw [abs_neg, abs_one], by rw [Int.ofNat_natAbs_of_nonpos (le_of_lt h)]; ring⟩
  · rename_i h; exact ⟨abs_one, by rw [Int.natAbs_of_nonneg (not_lt.1 h)]; ring⟩

/-- `UIntDict::mul` as repaired: never fails, returns a canonical dictionary, and it denotes the product -/
theorem kmul_ok : MulOK kmul := by
  intro a b ha hb
  unfold kmul kmulWith
  by_cases hae : a = []
  · subst hae
    exact ⟨[], rfl, canon_nil, by rw [toPoly_nil, zero_mul]⟩
  have hae' : a.isEmpty = false := by simpa [List.isEmpty_iff] using hae
  by_cases hbe : b = []
  · subst hbe
    refine ⟨[], ?_, canon_nil, by rw [toPoly_nil, mul_zero]⟩
    simp [hae']
  have hbe' : b.isEmpty = false := by simpa [List.isEmpty_iff] using hbe
  simp only [hae', hbe', Bool.and_false, Bool.false_eq_true, if_false]
  obtain ⟨ma, hma, hmab⟩ := maxAbsCoef_spec hae
  obtain ⟨mb, hmb, hmbb⟩ := maxAbsCoef_spec hbe
  simp only [hma, hmb]
  -- `n` is the as-found width, `N = n + 1` syntactically (so `match N` reduces): product coefficients are `< 2^n`, digits
  -- `≤ 2^n`, differences `< 2^N`: where D11's extra bit is spent
  generalize hn : bitLength (min (UPoly.degree a + 1) (UPoly.degree b + 1)) + bitLength ma + bitLength mb = n
  simp only [evalBit_spec ha.1 hae, evalBit_spec hb.1 hbe]
  set s : Int := (toPoly a).eval ((2 : Int) ^ (n + 1)) * (toPoly b).eval ((2 : Int) ^ (n + 1)) with hs
  set sgn : Int := if s < 0 then -1 else 1 with hsgn
  obtain ⟨hsgn', hsabs⟩ : |sgn| = 1 ∧ sgn * (s.natAbs : Int) = s := sgn_spec s
  obtain ⟨⟨_, hdig⟩, d4⟩ := decode_spec n hsgn' _ s.natAbs 0 0 [] (Nat.lt_succ_self _) (Nat.zero_le 1) (digits_nil _)
  obtain ⟨dc, d3⟩ := hdig.canon
  refine ⟨_, rfl, dc, ?_⟩
  -- the decoded polynomial and the product agree at 2^N
  have hev : (toPoly (decode n sgn s.natAbs 0 0 [])).eval ((2 : Int) ^ (n + 1))
      = (toPoly a * toPoly b).eval ((2 : Int) ^ (n + 1)) := by
    rw [d4, eval_mul]
    simp only [toPoly_nil, eval_zero, zero_add, pow_zero, mul_one, Nat.cast_zero, add_zero]
    exact hsabs
  -- coefficient bounds
  have hmaI : (0 : Int) ≤ ma := Int.natCast_nonneg ma
  have hmbI : (0 : Int) ≤ mb := Int.natCast_nonneg mb
  have hbound : ∀ k, |(toPoly a * toPoly b).coeff k| < (2 : Int) ^ n := by
    intro k
    have h1 := min_mul_bound hmaI hmbI
      (abs_coeff_le ha.1 hmaI hmab) (fun i hi => coeff_gt_degree ha.1 hi)
      (abs_coeff_le hb.1 hmbI hmbb) (fun i hi => coeff_gt_degree hb.1 hi) k
    refine lt_of_le_of_lt h1 ?_
    have h2 := bitLength_spec (min (UPoly.degree a + 1) (UPoly.degree b + 1))
    have h3 := bitLength_spec ma
    have h4 := bitLength_spec mb
    have : min (UPoly.degree a + 1) (UPoly.degree b + 1) * (ma * mb) < 2 ^ n := by
      rw [← hn, pow_add, pow_add, mul_assoc]
      exact Nat.mul_lt_mul'' h2 (Nat.mul_lt_mul'' h3 h4)
    exact_mod_cast this
  -- uniqueness of the signed digits
  have hD : toPoly (decode n sgn s.natAbs 0 0 []) - toPoly a * toPoly b = 0 := by
    apply eq_zero_of_eval_eq_zero ((2 : Int) ^ (n + 1)) (by positivity) _ _ (le_refl _)
    · intro k
      rw [coeff_sub]
      have h1 := abs_coeff_le dc.1 (by positivity) d3 k
      have h2 := hbound k
      have h3 := abs_sub (((toPoly (decode n sgn s.natAbs 0 0 [])).coeff k)) ((toPoly a * toPoly b).coeff k)
      rw [pow_succ, mul_two]
      exact lt_of_le_of_lt h3 (add_lt_add_of_le_of_lt h1 h2)
    · rw [eval_sub, hev, sub_self]
  exact sub_eq_zero.1 hD

end SymVerif.C21
