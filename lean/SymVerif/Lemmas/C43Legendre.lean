import Mathlib.NumberTheory.LegendreSymbol.JacobiSymbol
import SymVerif.Lemmas.C43Jacobi
import SymVerif.Lemmas.C43Powm
import SymVerif.Lemmas.C43PP
/-! C43, `mp_legendre` of mp_boost.cpp (Euler's criterion through `mp_powm`) against the specification.
Claimed theorem of the property: `legendre`. -/
namespace SymVerif.C43
open SymVerif NumberTheorySymbols

/-- `mp_legendre` = specification for every odd prime modulus that the specification's primality test
accepts: Euler's criterion `a^((p-1)/2) ≡ (a|p) (mod p)`. -/
theorem legendre_of_isPrime (a p : Int) (h2 : 2 < p) (hp : Nat.Prime p.toNat)
    (hprime : MpSpec.isPrime p.toNat = true) : MpBoost.legendre a p = MpSpec.legendre a p := by
  obtain ⟨q, rfl⟩ : ∃ q : Nat, p = (q : Int) := ⟨p.toNat, (Int.toNat_of_nonneg (by omega)).symm⟩
  rw [Int.toNat_natCast] at hp
  have : Fact q.Prime := ⟨hp⟩
  have hodd : (q : Int) % 2 = 1 := by
    rcases hp.eq_two_or_odd with h | h <;> omega
  have hq0 : (q : Int) ≠ 0 := by omega
  unfold MpBoost.legendre MpSpec.legendre
  rw [if_pos ⟨h2, hprime⟩, powm a _ (q : Int) hq0]
  have he : ((q : Int) - 1).tdiv 2 = ((q / 2 : Nat) : Int) := by
    rw [Int.tdiv_eq_ediv_of_nonneg (by omega)]; omega
  unfold MpSpec.powm
  rw [he, if_pos (Int.natCast_nonneg _), powmod_meaning _ _ _ hq0, Int.toNat_natCast]
  simp only
  rw [jacobi_meaning a (q : Int) hodd]
  congr 1
  rw [if_neg (show ¬ ((q : Int) < 0 ∧ a < 0) from fun h => absurd h.1 (by omega)), one_mul, Int.natAbs_natCast,
    ← jacobiSym.legendreSym.to_jacobiSym]
  show (if a ^ (q / 2) % (q : Int) ≤ 1 then a ^ (q / 2) % (q : Int) else -1) = legendreSym q a
  -- Euler's criterion in `ZMod q`
  have hEuler : a ^ (q / 2) % (q : Int) = legendreSym q a % (q : Int) := by
    have hz : ((a ^ (q / 2) % (q : Int) : Int) : ZMod q) = (legendreSym q a : ZMod q) := by
      rw [legendreSym.eq_pow, ZMod.intCast_mod]
      push_cast
      rfl
    rwa [ZMod.intCast_eq_intCast_iff', Int.emod_emod_of_dvd _ (dvd_refl _)] at hz
  rw [hEuler]
  have htri := jacobiSym.trichotomy a q
  rw [← jacobiSym.legendreSym.to_jacobiSym] at htri
  rcases htri with h | h | h <;> rw [h]
  · rfl
  · rw [Int.emod_eq_of_lt (by omega) (by omega)]; rfl
  · -- `(a|q) = -1` has the residue `q - 1 > 1`: the `else` arm
    have e : (-1 : Int) = ((q : Int) - 1) + (q : Int) * (-1) := by ring
    rw [e, Int.add_mul_emod_self_left, Int.emod_eq_of_lt (by omega) (by omega), if_neg (by omega)]

/-- **`mp_legendre` = specification** below 10^6, where the specification's primality test is exact -/
theorem legendre (a p : Int) (h2 : 2 < p) (hlt : p < 1000000) (hp : Nat.Prime p.toNat) :
    MpBoost.legendre a p = MpSpec.legendre a p :=
  legendre_of_isPrime a p h2 hp ((isPrime_iff (by omega)).mpr hp)

end SymVerif.C43
