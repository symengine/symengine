/-
The hypotheses bundle `OK` of the C02 order theorems; well-formed nodes of equal type code are of the same class
(`sameClass`, the case analysis of the later parts); the `compare` of the
generically modelled classes as "key first, then the stored fields".
-/
import SymVerif.Lemmas.Basic
import SymVerif.Lemmas.C02Leaf

namespace SymVerif
namespace Expr
open TC (Kind)

/-- the fragment on which the order theorems hold -/
def OK (a : Expr) : Prop := WF a = true ∧ noNaN a = true ∧ noSignedZero a = true

theorem OK.children {a : Expr} (h : OK a) : ∀ x ∈ children a, OK x := fun x hx =>
  ⟨WF_children h.1 x hx, allNodes_children _ h.2.1 x hx, allNodes_children _ h.2.2 x hx⟩

/-- position of the class of a node in `builtinCodes` (an `app` node: 15, the slot of the out-of-range code `TC.count`) -/
def cix : Expr → Nat
  | int _ => 0 | rat _ _ => 1 | cplx _ _ => 2 | dbl _ => 3 | cdbl _ _ => 4 | infty _ => 5 | nan => 6
  | sym _ => 7 | dummy _ _ => 8 | const _ => 9 | add _ _ => 10 | mul _ _ => 11 | pow _ _ => 12
  | fsym _ _ => 13 | bool _ => 14 | app _ _ => 15

/-- type codes by `cix`; at the index of `app` stands the code of a head outside the table, so that
`builtin_kind_none` keeps such a node out of `WF` (`WF_app_ofName`) -/
def builtinCodes : List Nat :=
  [TC.cInteger, TC.cRational, TC.cComplex, TC.cRealDouble, TC.cComplexDouble, TC.cInfty, TC.cNaN, TC.cSymbol,
   TC.cDummy, TC.cConstant, TC.cAdd, TC.cMul, TC.cPow, TC.cFunctionSymbol, TC.cBooleanAtom, TC.count]

/-- re-checked against the regenerated table: no built-in class (and not the out-of-range code of an
unknown head) is in the table of generically modelled classes -/
theorem builtin_kind_none : ∀ c ∈ builtinCodes, kindOfCode c = none := by decide +kernel

theorem builtinCodes_nodup : builtinCodes.Nodup := by decide

theorem tc_builtin {a : Expr} (h : cix a ≠ 15) : builtinCodes[cix a]? = some (typeCode a) := by
  cases a <;> first | rfl | exact absurd rfl h

theorem app_tc_not_builtin {a : Expr} (ia : cix a = 15) (hw : WF a = true) : typeCode a ∉ builtinCodes := by
  cases a <;> cases ia
  obtain ⟨k, hk, _⟩ := WF_app hw
  intro hm
  rw [kindOf, builtin_kind_none _ hm] at hk
  cases hk

theorem tc_eq_ctor {a b : Expr} (ha : WF a = true) (hb : WF b = true) (hc : typeCode a = typeCode b) :
    cix a = cix b := by
  by_cases ia : cix a = 15 <;> by_cases ib : cix b = 15
  · rw [ia, ib]
  · exact absurd (hc ▸ List.mem_of_getElem? (tc_builtin ib)) (app_tc_not_builtin ia ha)
  · exact absurd (hc ▸ List.mem_of_getElem? (tc_builtin ia)) (app_tc_not_builtin ib hb)
  · have e := tc_builtin ia
    rw [hc, ← tc_builtin ib] at e
    have lt : cix a < builtinCodes.length := (List.getElem?_eq_some_iff.mp (tc_builtin ia)).1
    exact (List.getElem?_inj lt builtinCodes_nodup).mp e

theorem snd_inj_of_nodup {α β : Type} : ∀ {l : List (α × β)}, (l.map Prod.snd).Nodup →
    ∀ {p q : α × β}, p ∈ l → q ∈ l → p.2 = q.2 → p = q
  | [], _, _, _, hp, _, _ => by simp at hp
  | x :: t, hn, p, q, hp, hq, e => by
    simp only [List.map_cons, List.nodup_cons, List.mem_map, not_exists, not_and] at hn
    rcases List.mem_cons.mp hp with rfl | hp' <;> rcases List.mem_cons.mp hq with rfl | hq'
    · rfl
    · exact absurd e.symm (hn.1 q hq')
    · exact absurd e (hn.1 p hp')
    · exact snd_inj_of_nodup hn.2 hp' hq' e

theorem table_codes_nodup : (TC.table.map Prod.snd).Nodup := by
  have : TC.table.map Prod.snd = List.range TC.count := by decide
  rw [this]; exact List.nodup_range

theorem ofName_inj {h h' : String} {c : Nat} (e : ofName h = some c) (e' : ofName h' = some c) : h = h' := by
  have m := List.mem_of_lookup e
  have m' := List.mem_of_lookup e'
  have := snd_inj_of_nodup table_codes_nodup m m' rfl
  exact congrArg Prod.fst this

theorem WF_app_ofName {h : String} {as : List Expr} (hw : WF (app h as) = true) : ∃ c, ofName h = some c := by
  obtain ⟨k, hk, _⟩ := WF_app hw
  cases e : ofName h with
  | some c => exact ⟨c, rfl⟩
  | none =>
    simp only [kindOf, typeCode, e, Option.getD_none] at hk
    rw [builtin_kind_none TC.count (by simp [builtinCodes])] at hk; cases hk

theorem head_eq_of_tc {h h' : String} {as bs : List Expr} (hw : WF (app h as) = true)
    (hw' : WF (app h' bs) = true) (hc : typeCode (app h as) = typeCode (app h' bs)) : h = h' := by
  obtain ⟨c, e⟩ := WF_app_ofName hw
  obtain ⟨c', e'⟩ := WF_app_ofName hw'
  simp only [typeCode, e, e', Option.getD_some] at hc
  subst hc
  exact ofName_inj e e'

inductive SameClass : Expr → Expr → Prop
  | int x y : SameClass (int x) (int y)
  | rat n d n' d' : SameClass (rat n d) (rat n' d')
  | cplx r i r' i' : SameClass (cplx r i) (cplx r' i')
  | dbl x y : SameClass (dbl x) (dbl y)
  | cdbl r i r' i' : SameClass (cdbl r i) (cdbl r' i')
  | infty x y : SameClass (infty x) (infty y)
  | nan : SameClass nan nan
  | sym x y : SameClass (sym x) (sym y)
  | dummy n i m j : SameClass (dummy n i) (dummy m j)
  | const x y : SameClass (const x) (const y)
  | add c ts c' ts' : SameClass (add c ts) (add c' ts')
  | mul c fs c' fs' : SameClass (mul c fs) (mul c' fs')
  | pow b e b' e' : SameClass (pow b e) (pow b' e')
  | fsym n as m bs : SameClass (fsym n as) (fsym m bs)
  | app h as bs : SameClass (app h as) (app h bs)
  | bool x y : SameClass (bool x) (bool y)

theorem sameClass {a b : Expr} (ha : WF a = true) (hb : WF b = true) (hc : typeCode a = typeCode b) :
    SameClass a b := by
  have hx := tc_eq_ctor ha hb hc
  cases a <;> cases b <;> cases hx
  case app.app h as h' bs => cases head_eq_of_tc ha hb hc; exact .app h as bs
  all_goals constructor

theorem allFind_iff : ∀ {l l' : List (Expr × Expr)}, allFind l l' = true ↔
    ∀ p ∈ l, ∃ q ∈ l', hash q.1 = hash p.1 ∧ beq' p.1 q.1 = true ∧ beq' p.2 q.2 = true
  | [], l' => by simp [allFind]
  | (k, v) :: t, l' => by
    simp only [allFind, Bool.and_eq_true, List.any_eq_true, allFind_iff (l := t), List.mem_cons,
      forall_eq_or_imp, beq_iff_eq, and_assoc]

theorem cmpArgs_self : ∀ {l : List Expr}, (∀ x ∈ l, cmp x x = 0) → cmpArgs l l = 0
  | [], _ => by simp [cmpArgs]
  | a :: t, h => by
    rw [cmpArgs_cons, lex_of_eq_zero (h a (List.mem_cons_self ..))]
    exact cmpArgs_self (fun x hx => h x (List.mem_cons_of_mem _ hx))

theorem beqArgs_length : ∀ {l l' : List Expr}, beqArgs l l' = true → l.length = l'.length
  | [], [] => by simp
  | [], _ :: _ => by simp [beqArgs]
  | _ :: _, [] => by simp [beqArgs]
  | a :: t, b :: t' => by
    simp only [beqArgs, Bool.and_eq_true, List.length_cons, Nat.add_right_cancel_iff]
    exact fun h => beqArgs_length h.2

theorem arityOK_interval {args : List Expr} (h : arityOK Kind.interval args = true) :
    ∃ s e lo ro, args = [s, e, bool lo, bool ro] := by
  unfold arityOK at h
  split at h <;> first | exact ⟨_, _, _, _, rfl⟩ | contradiction

theorem arityOK_one {args : List Expr} (h : arityOK Kind.one args = true) : ∃ x, args = [x] := by
  match args, h with
  | [x], _ => exact ⟨x, rfl⟩

theorem arityOK_two {args : List Expr} (h : arityOK Kind.two args = true) : ∃ x y, args = [x, y] := by
  match args, h with
  | [x, y], _ => exact ⟨x, y, rfl⟩

theorem arityOK_lex {n : Nat} {args : List Expr} (h : arityOK (Kind.lex n) args = true) : args.length = n := by
  simpa [arityOK] using h

/-- the four flag tests of `Interval::compare` order the intervals by a rank: left-open before left-closed (weight 2),
then right-closed before right-open (weight 1) -/
def ivRank (lo ro : Bool) : Nat := (if lo then 0 else 2) + (if ro then 1 else 0)

/-- what `compare` looks at before the stored fields: the size (multi-argument functions, sets), the
rank of the open/closed flags (Interval), nothing for a class of fixed arity -/
def appKey : Kind → List Expr → Nat
  | Kind.multi, l => l.length
  | Kind.set, l => l.length
  | Kind.interval, [_, _, bool lo, bool ro] => ivRank lo ro
  | _, _ => 0

/-- on nodes of the right arity every class compare is "key first, then the loop over the stored
fields" (`cArgs`), except that TwoArgBasic has its own loop (`cTwo`) -/
theorem appCmp_eq {k : Kind} {as bs : List Expr} (ha : arityOK k as = true) (hb : arityOK k bs = true)
    (cArgs cTwo : Int) : appCmp (some k) as bs cArgs cTwo =
      lex (cmpNat (appKey k as) (appKey k bs)) (if k = Kind.two then cTwo else cArgs) := by
  cases k with
  | one =>
    obtain ⟨x, rfl⟩ := arityOK_one ha
    obtain ⟨y, rfl⟩ := arityOK_one hb
    rfl
  | two =>
    obtain ⟨x1, x2, rfl⟩ := arityOK_two ha
    obtain ⟨y1, y2, rfl⟩ := arityOK_two hb
    rfl
  | multi => exact sizeGuard_eq ..
  | set => exact sizeGuard_eq ..
  | lex n =>
    simp only [appCmp, arityOK_lex ha, arityOK_lex hb, beq_self_eq_true, Bool.and_self, ↓reduceIte]
    rfl
  | interval =>
    obtain ⟨s, e, lo, ro, rfl⟩ := arityOK_interval ha
    obtain ⟨s', e', lo', ro', rfl⟩ := arityOK_interval hb
    cases lo <;> cases lo' <;> cases ro <;> cases ro' <;> rfl

theorem appKey_length {k : Kind} {as bs : List Expr} (ha : arityOK k as = true) (hb : arityOK k bs = true)
    (h : appKey k as = appKey k bs) : as.length = bs.length := by
  cases k with
  | one =>
    obtain ⟨x, rfl⟩ := arityOK_one ha
    obtain ⟨y, rfl⟩ := arityOK_one hb
    rfl
  | two =>
    obtain ⟨x1, x2, rfl⟩ := arityOK_two ha
    obtain ⟨y1, y2, rfl⟩ := arityOK_two hb
    rfl
  | multi => exact h
  | set => exact h
  | lex n => rw [arityOK_lex ha, arityOK_lex hb]
  | interval =>
    obtain ⟨s, e, lo, ro, rfl⟩ := arityOK_interval ha
    obtain ⟨s', e', lo', ro', rfl⟩ := arityOK_interval hb
    rfl

theorem cmp_app_wf {h : String} {as bs : List Expr} (wa : WF (app h as) = true) (wb : WF (app h bs) = true) :
    ∃ k, kindOf (app h as) = some k ∧ kindOf (app h bs) = some k ∧ arityOK k as = true ∧ arityOK k bs = true ∧
      cmp (app h as) (app h bs) =
        lex (cmpLin (appKey k as) (appKey k bs)) (if k = Kind.two then cmpTwo as bs else cmpArgs as bs) := by
  obtain ⟨k, hk, ha⟩ := WF_app wa
  obtain ⟨k', hk', hb⟩ := WF_app wb
  cases Option.some.inj (hk.symm.trans hk')
  exact ⟨k, hk, hk', ha, hb, by rw [cmp_app h as bs, hk, appCmp_eq ha hb, cmpNat_eq]⟩

end Expr
end SymVerif
