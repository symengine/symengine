import SymVerif.Lemmas.C05Num
import SymVerif.Lemmas.C05Div
/-!
add / sub / mul / div of exact numbers: total, exact value, normalised result.  Each proof goes
through the nine kind pairs; in a cell the `Rep` term follows the `mpq` formula of the C++ method
that the double dispatch reaches, and the `gq` lemma says that this formula is the complex operation.
-/
namespace SymVerif.C05
open SymVerif.Num
open Q (Rep)

variable {F : Type} [FloatOps F]

theorem add_good {a b : Num F} {za zb : ℂ} (ha : Good a za) (hb : Good b zb) :
    ∃ r, Num.add a b = .ok r ∧ Good r (za + zb) := by
  obtain ⟨n, rfl, rfl⟩ | ⟨q, x, hq, -, rfl, rfl⟩ | ⟨re, im, x, y, hre, him, -, rfl, rfl⟩ := ha.cases <;>
  obtain ⟨m, rfl, rfl⟩ | ⟨p, x', hp, -, rfl, rfl⟩ | ⟨re', im', x', y', hre', him', -, rfl, rfl⟩ := hb.cases <;>
  refine ⟨_, rfl, ?_⟩
  -- the nine cells row by row: `a` Integer, Rational, Complex; in each row `b` Integer, Rational, Complex (also below)
  · exact (Good.int (n + m)).cast (by rw [gq_add, add_zero, Int.cast_add])
  -- a lower kind on the left is handed to the method of the right operand
  · exact (fromMpq_rep (hp.add (.ofInt n))).cast (by rw [add_comm (gq _ 0), gq_add, add_zero])
  · exact (cFromMpq_rep (hre'.add (.ofInt n)) him').cast (by rw [add_comm (gq _ 0), gq_add, add_zero])
  · exact (fromMpq_rep (hq.add (.ofInt m))).cast (by rw [gq_add, add_zero])
  · exact (fromMpq_rep (hq.add hp)).cast (by rw [gq_add, add_zero])
  · exact (cFromMpq_rep (hre'.add hq) him').cast (by rw [add_comm (gq _ 0), gq_add, add_zero])
  · exact (cFromMpq_rep (hre.add (.ofInt m)) him).cast (by rw [gq_add, add_zero])
  · exact (cFromMpq_rep (hre.add hp) him).cast (by rw [gq_add, add_zero])
  · exact (cFromMpq_rep (hre.add hre') (him.add him')).cast (gq_add ..).symm

theorem sub_good {a b : Num F} {za zb : ℂ} (ha : Good a za) (hb : Good b zb) :
    ∃ r, Num.sub a b = .ok r ∧ Good r (za - zb) := by
  obtain ⟨n, rfl, rfl⟩ | ⟨q, x, hq, -, rfl, rfl⟩ | ⟨re, im, x, y, hre, him, -, rfl, rfl⟩ := ha.cases <;>
  obtain ⟨m, rfl, rfl⟩ | ⟨p, x', hp, -, rfl, rfl⟩ | ⟨re', im', x', y', hre', him', -, rfl, rfl⟩ := hb.cases <;>
  refine ⟨_, rfl, ?_⟩
  · exact (Good.int (n - m)).cast (by rw [gq_sub, sub_zero, Int.cast_sub])
  · exact (fromMpq_rep ((Rep.ofInt n).sub hp)).cast (by rw [gq_sub, sub_zero])
  -- Integer or Rational minus Complex (`Complex::rsubcomp`) negates the imaginary part
  · exact (cFromMpq_rep ((Rep.ofInt n).sub hre') him'.neg).cast (by rw [gq_sub, zero_sub])
  · exact (fromMpq_rep (hq.sub (.ofInt m))).cast (by rw [gq_sub, sub_zero])
  · exact (fromMpq_rep (hq.sub hp)).cast (by rw [gq_sub, sub_zero])
  · exact (cFromMpq_rep (hq.sub hre') him'.neg).cast (by rw [gq_sub, zero_sub])
  · exact (cFromMpq_rep (hre.sub (.ofInt m)) him).cast (by rw [gq_sub, sub_zero])
  · exact (cFromMpq_rep (hre.sub hp) him).cast (by rw [gq_sub, sub_zero])
  · exact (cFromMpq_rep (hre.sub hre') (him.sub him')).cast (gq_sub ..).symm

theorem mul_good {a b : Num F} {za zb : ℂ} (ha : Good a za) (hb : Good b zb) :
    ∃ r, Num.mul a b = .ok r ∧ Good r (za * zb) := by
  obtain ⟨n, rfl, rfl⟩ | ⟨q, x, hq, -, rfl, rfl⟩ | ⟨re, im, x, y, hre, him, -, rfl, rfl⟩ := ha.cases <;>
  obtain ⟨m, rfl, rfl⟩ | ⟨p, x', hp, -, rfl, rfl⟩ | ⟨re', im', x', y', hre', him', -, rfl, rfl⟩ := hb.cases <;>
  refine ⟨_, rfl, ?_⟩
  · exact (Good.int (n * m)).cast (by rw [gq_mul_real, zero_mul, Int.cast_mul])
  · exact (fromMpq_rep (hp.mul (.ofInt n))).cast (by rw [mul_comm (gq _ 0), gq_mul_real, zero_mul])
  · exact (cFromMpq_rep (hre'.mul (.ofInt n)) (him'.mul (.ofInt n))).cast
      (by rw [mul_comm (gq _ 0), gq_mul_real])
  · exact (fromMpq_rep (hq.mul (.ofInt m))).cast (by rw [gq_mul_real, zero_mul])
  · exact (fromMpq_rep (hq.mul hp)).cast (by rw [gq_mul_real, zero_mul])
  · exact (cFromMpq_rep (hre'.mul hq) (him'.mul hq)).cast (by rw [mul_comm (gq _ 0), gq_mul_real])
  · exact (cFromMpq_rep (hre.mul (.ofInt m)) (him.mul (.ofInt m))).cast (gq_mul_real ..).symm
  · exact (cFromMpq_rep (hre.mul hp) (him.mul hp)).cast (gq_mul_real ..).symm
  · exact (cFromMpq_rep ((hre.mul hre').sub (him.mul him')) ((hre.mul him').add (him.mul hre'))).cast
      (gq_mul ..).symm

theorem div_good {a b : Num F} {za zb : ℂ} (ha : Good a za) (hb : Good b zb) (hb0 : b ≠ .int 0) :
    ∃ r, Num.div a b = .ok r ∧ Good r (za / zb) := by
  obtain ⟨m, rfl, rfl⟩ | ⟨p, x', hp, hd, rfl, rfl⟩ | ⟨re', im', x', y', hre', him', hi, rfl, rfl⟩ :=
    hb.cases
  · -- an Integer divisor: `Integer::divint`, `Rational::div`, `Complex::div`
    have hm : m ≠ 0 := fun e => hb0 (e ▸ rfl)
    have hx : (m : ℚ) ≠ 0 := Int.cast_ne_zero.mpr hm
    obtain ⟨n, rfl, rfl⟩ | ⟨q, x, hq, -, rfl, rfl⟩ | ⟨re, im, x, y, hre, him, -, rfl, rfl⟩ := ha.cases
    · -- `intDiv` wraps `divint` in `.ok`, so the zero test sits under it
      exact ⟨_, congrArg _ (if_neg (not_beq_of_ne hm)), (fromMpq_rep (.make n hm)).cast
        (by rw [gq_div_real hx, zero_div])⟩
    · exact ⟨_, if_neg (not_beq_of_ne hm), (fromMpq_rep (hq.div (.ofInt m) hm)).cast
        (by rw [gq_div_real hx, zero_div])⟩
    · exact ⟨_, if_neg (not_beq_of_ne hm), (cFromMpq_rep (hre.div (.ofInt m) hm) (him.div (.ofInt m) hm)).cast
        (gq_div_real hx).symm⟩
  · -- a Rational divisor: `Rational::rdiv`, `Rational::div`, `Complex::div`
    have hp0 := Q.canon_num_ne_zero hp.canon hd
    have hx := hp.ne_zero hp0
    obtain ⟨n, rfl, rfl⟩ | ⟨q, x, hq, -, rfl, rfl⟩ | ⟨re, im, x, y, hre, him, -, rfl, rfl⟩ := ha.cases
    · exact ⟨_, if_neg (not_beq_of_ne hp0), (fromMpq_rep ((Rep.ofInt n).div hp hp0)).cast
        (by rw [gq_div_real hx, zero_div])⟩
    · exact ⟨_, if_neg (not_beq_of_ne hp0), (fromMpq_rep (hq.div hp hp0)).cast (by rw [gq_div_real hx, zero_div])⟩
    · exact ⟨_, if_neg (not_beq_of_ne hp0), (cFromMpq_rep (hre.div hp hp0) (him.div hp hp0)).cast
        (gq_div_real hx).symm⟩
  · -- a Complex divisor: `Complex::rdiv` (its Rational row is the D10 patch), `Complex::div`
    have h2 := hre'.modSq_num_ne_zero him' hi
    have hm := hre'.modSq him'
    have hy := him'.ne_zero hi
    obtain ⟨n, rfl, rfl⟩ | ⟨q, x, hq, -, rfl, rfl⟩ | ⟨re, im, x, y, hre, him, -, rfl, rfl⟩ := ha.cases
    · exact ⟨_, if_neg (not_beq_of_ne h2), (cFromMpq_rep ((hre'.mul (.ofInt n)).div hm h2)
        ((him'.mul (Rep.ofInt n).neg).div hm h2)).cast (gq_real_div hy).symm⟩
    · exact ⟨_, if_neg (not_beq_of_ne h2), (cFromMpq_rep ((hre'.mul hq).div hm h2) ((him'.mul hq.neg).div hm h2)).cast
        (gq_real_div hy).symm⟩
    · exact ⟨_, if_neg (not_beq_of_ne h2), (cFromMpq_rep (((hre.mul hre').add (him.mul him')).div hm h2)
        (((hre.neg.mul him').add (him.mul hre')).div hm h2)).cast (gq_div hy).symm⟩

end SymVerif.C05
