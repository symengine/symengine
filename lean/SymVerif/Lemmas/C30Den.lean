import SymVerif.Lemmas.C30Alg
/-!
C30 — denotation of returned expression trees in a field with a root function, and soundness of the
evaluator `toRP` (Model/SolveCert.lean):  `toRP e = some p → den e = ev p`.

`rt d x` is *any* function with `rt d x ^ d = x` (e.g. the principal `d`-th root in ℂ); an expression
`b ^ (n/d)` denotes `(rt d b) ^ n`, `b ^ n` denotes the integer power, the imaginary unit is `rt 2 (-1)`.
Only `rt 2` on rational arguments is ever used (`powVal` rejects `d ≠ 2`); the general `d` in `powDen` and `hrt` is there so
that `den` is defined for every tree.
-/
namespace SymVerif.C30
open SymVerif SymVerif.Solve SymVerif.Solve.RP

variable {K : Type*} [Field K] [CharZero K]

/-- `x ^ e` for an exponent expression; both powers are integer powers of a field (`zpow`), so `0 ^ (-1)` denotes 0 -/
def powDen (rt : ℕ → K → K) (x : K) : Expr → K
  | .int n => x ^ n
  | .rat n d => (rt d x) ^ n
  | _ => 0

mutual
  /-- the number denoted by an expression tree (0 outside the arithmetic fragment) -/
  def den (rt : ℕ → K → K) : Expr → K
    | .int n => (n : K)
    | .rat n d => ((mkRat n d : ℚ) : K)
    | .cplx re im => ((qToRat re : ℚ) : K) + ((qToRat im : ℚ) : K) * rt 2 (-1)
    | .add c ts => den rt c + denSum rt ts
    | .mul c fs => den rt c * denProd rt fs
    | .pow b e => powDen rt (den rt b) e
    | _ => 0
  def denSum (rt : ℕ → K → K) : List (Expr × Expr) → K
    | [] => 0
    | (k, v) :: t => den rt k * den rt v + denSum rt t
  def denProd (rt : ℕ → K → K) : List (Expr × Expr) → K
    | [] => 1
    | (b, e) :: t => powDen rt (den rt b) e * denProd rt t
end

/-- the square-root function on rationals induced by `rt` -/
def sqOf (rt : ℕ → K → K) : ℚ → K := fun r => rt 2 (r : K)

variable (rt : ℕ → K → K) (hrt : ∀ (d : ℕ) (x : K), d ≠ 0 → rt d x ^ d = x)

include hrt in
theorem sqOf_mul_self (r : ℚ) : sqOf rt r * sqOf rt r = (r : K) := by
  rw [← pow_two]
  exact hrt 2 _ two_ne_zero

theorem ratLit_sound (b : Expr) (r : ℚ) (h : ratLit b = some r) : den rt b = (r : K) := by
  cases b with
  | int n => cases h; rw [den]; exact (Rat.cast_intCast n).symm
  | rat n d => cases h; rw [den]
  | _ => cases h

theorem zpow_toNat (x : K) {n : ℤ} (hn : 0 ≤ n) : x ^ n.toNat = x ^ n := by
  rw [← zpow_natCast, Int.toNat_of_nonneg hn]

theorem inv_pow_toNat_neg (x : K) {n : ℤ} (hn : n ≤ 0) : x⁻¹ ^ (-n).toNat = x ^ n := by
  rw [zpow_toNat _ (neg_nonneg.2 hn), zpow_neg, inv_zpow, inv_inv]

include hrt in
/-- `x`, `pb`, `lit` stand for `den rt b`, `toRP b`, `ratLit b` of the two callers in the mutual block below (`toRP`'s `.pow` case,
`prodFacs`' cons case); `hpb` is a function so that `toRP_sound b` is handed over unapplied and the recursion stays structural -/
theorem powVal_sound {x : K} {pb : Option RP} {lit : Option ℚ} {e : Expr} {q : RP}
    (hpb : ∀ p, pb = some p → x = ev (sqOf rt) p)
    (hlit : ∀ r, lit = some r → x = (r : K))
    (h : powVal pb lit e = some q) : powDen rt x e = ev (sqOf rt) q := by
  have hsq := sqOf_mul_self rt hrt
  cases e with
  | int n =>
    simp only [powVal] at h
    simp only [powDen]
    split_ifs at h with hn
    · obtain ⟨p, rfl, rfl⟩ := Option.map_eq_some_iff.1 h
      rw [ev_pow _ hsq, ← hpb p rfl, zpow_toNat x hn]
    · simp only [Option.bind_eq_bind, Option.bind_eq_some_iff, Option.pure_def, Option.some.injEq] at h
      obtain ⟨p, rfl, i, hi, rfl⟩ := h
      have hinv := inv?_sound _ hsq p i hi
      rw [← hpb p rfl] at hinv
      rw [ev_pow _ hsq, eq_inv_of_mul_eq_one_right hinv, inv_pow_toNat_neg x (not_le.1 hn).le]
  | rat n d =>
    cases lit with
    | none => cases h
    | some r =>
      by_cases hc : d ≠ 2 ∨ r = 0 ∨ n % 2 ≠ 1
      · simp only [powVal, if_pos hc] at h
        cases h
      simp only [powVal, if_neg hc, Option.some.injEq] at h
      subst h
      push Not at hc
      obtain ⟨rfl, hr0, hodd⟩ := hc
      -- `n = 2k + 1`: with `s = √r`, `s ^ n = s · (s²) ^ k = s · r ^ k`
      obtain ⟨k, rfl⟩ := Int.odd_iff.2 hodd
      have hk : (2 * k + 1 - 1) / 2 = k := by rw [add_sub_cancel_right, Int.mul_ediv_cancel_left _ two_ne_zero]
      have hs0 : sqOf rt r ≠ 0 := left_ne_zero_of_mul (a := sqOf rt r) (b := sqOf rt r) (by
        rw [hsq r]; exact Rat.cast_ne_zero.2 hr0)
      have hval : ((if 0 ≤ k then r ^ k.toNat else (1 / r) ^ (-k).toNat : ℚ) : K) = (r : K) ^ k := by
        split_ifs with hk0
        · rw [zpow_toNat r hk0, Rat.cast_zpow]
        · rw [one_div, inv_pow_toNat_neg r (not_le.1 hk0).le, Rat.cast_zpow]
      rw [ev_mul _ hsq, ev_atom, ev_ofRat, hk, hval, hlit r rfl]
      show sqOf rt r ^ (2 * k + 1) = _
      rw [zpow_add_one₀ hs0, zpow_mul, zpow_two, hsq r, mul_comm]
  | _ => cases h

include hrt in
mutual
  theorem toRP_sound : ∀ (e : Expr) (p : RP), toRP e = some p → den rt e = ev (sqOf rt) p
    | .int n, p, h => by
      simp only [toRP, Option.some.injEq] at h; subst h; simp [den]
    | .rat n d, p, h => by
      simp only [toRP, Option.some.injEq] at h; subst h; simp [den]
    | .cplx re im, p, h => by
      simp only [toRP, Option.some.injEq] at h; subst h
      rw [ev_add, ev_mul _ (sqOf_mul_self rt hrt), ev_ofRat, ev_ofRat, ev_atom]
      simp [den, sqOf]  -- the imaginary unit: `rt 2 (-1)` is `sqOf rt (-1)`, as `((-1 : ℚ) : K) = -1`
    | .add c ts, p, h => by
      simp only [toRP, Option.bind_eq_bind, Option.bind_eq_some_iff, Option.pure_def, Option.some.injEq] at h
      obtain ⟨pc, hc, ps, hs, rfl⟩ := h
      rw [ev_add, ← toRP_sound c pc hc, ← sumTerms_sound ts ps hs, den]
    | .mul c fs, p, h => by
      simp only [toRP, Option.bind_eq_bind, Option.bind_eq_some_iff, Option.pure_def, Option.some.injEq] at h
      obtain ⟨pc, hc, ps, hs, rfl⟩ := h
      rw [ev_mul _ (sqOf_mul_self rt hrt), ← toRP_sound c pc hc, ← prodFacs_sound fs ps hs, den]
    | .pow b e, p, h => by
      simp only [toRP] at h
      simp only [den]
      exact powVal_sound rt hrt (toRP_sound b) (ratLit_sound rt b) h
    | .dbl _, _, h | .cdbl _ _, _, h | .infty _, _, h | .nan, _, h | .sym _, _, h | .dummy _ _, _, h
    | .const _, _, h | .fsym _ _, _, h | .app _ _, _, h | .bool _, _, h => by simp [toRP] at h
  theorem sumTerms_sound : ∀ (ts : List (Expr × Expr)) (p : RP), sumTerms ts = some p →
      denSum rt ts = ev (sqOf rt) p
    | [], p, h => by
      simp only [sumTerms, Option.some.injEq] at h; subst h; simp [denSum]
    | (k, v) :: t, p, h => by
      simp only [sumTerms, Option.bind_eq_bind, Option.bind_eq_some_iff, Option.pure_def, Option.some.injEq] at h
      obtain ⟨pk, hk, pv, hv, pt, ht, rfl⟩ := h
      rw [ev_add, ev_mul _ (sqOf_mul_self rt hrt), ← toRP_sound k pk hk, ← toRP_sound v pv hv,
        ← sumTerms_sound t pt ht, denSum]
  theorem prodFacs_sound : ∀ (fs : List (Expr × Expr)) (p : RP), prodFacs fs = some p →
      denProd rt fs = ev (sqOf rt) p
    | [], p, h => by
      simp only [prodFacs, Option.some.injEq] at h; subst h; simp [denProd]
    | (b, e) :: t, p, h => by
      simp only [prodFacs, Option.bind_eq_bind, Option.bind_eq_some_iff, Option.pure_def, Option.some.injEq] at h
      obtain ⟨px, hx, pt, ht, rfl⟩ := h
      rw [ev_mul _ (sqOf_mul_self rt hrt), ← prodFacs_sound t pt ht, denProd,
        powVal_sound rt hrt (toRP_sound b) (ratLit_sound rt b) hx]
end

end SymVerif.C30
