import SymVerif.Lemmas.C46Inv
/-!
C46: the executable model (`Array` stack, `Frozen` table indexed by the stack depth, bounds-checked)
simulates the abstract algorithm; in particular no index leaves `Frozen` / `F`.
-/
namespace SymVerif.C46
open SymVerif.LDE

theorem getF_ok {F : Array Bool} {i : ℕ} (h : i < F.size) : getF F i = .ok (fz F i) := by
  simp [getF, fz, h, Array.getD_eq_getD_getElem?]

theorem setF_ok {F : Array Bool} {i : ℕ} (h : i < F.size) :
    setF F i = .ok (F.setIfInBounds i true) := by
  simp [setF, h, Array.setIfInBounds]

theorem setRow_ok {fr : Array (Array Bool)} {r : ℕ} (F : Array Bool) (h : r < fr.size) :
    setRow fr r F = .ok (fr.set r F h) := by
  simp [setRow, h]

theorem take_set_gt {α : Type} (l : List α) (n m : ℕ) (a : α) (h : m ≤ n) :
    (l.set n a).take m = l.take m := by
  rw [List.take_set_of_le h]

/-- the concrete stack and table represent the abstract stack `L` (top first): the entry with `k`
entries below it is `P[k]`, and its frozen set is row `k` of `Frozen` -/
def Rel (P : Array Vec) (fr : Array (Array Bool)) : List Ent → Prop
  | [] => P = #[]
  | (t, F) :: rest => ∃ P', P = P'.push t ∧ fr[rest.length]? = some F ∧ Rel P' fr rest

theorem Rel.size {P : Array Vec} {fr : Array (Array Bool)} {L : List Ent} (h : Rel P fr L) :
    P.size = L.length := by
  induction L generalizing P with
  | nil => rw [h]; rfl
  | cons e L ih =>
    obtain ⟨P', rfl, -, h'⟩ := h
    rw [Array.size_push, ih h', List.length_cons]

/-- rows at or above the depth of the stack are free to change -/
theorem Rel.frame {P : Array Vec} {fr : Array (Array Bool)} {L : List Ent} (h : Rel P fr L)
    {n : ℕ} (hn : L.length ≤ n) (F : Array Bool) (hlt : n < fr.size) : Rel P (fr.set n F hlt) L := by
  induction L generalizing P with
  | nil => exact h
  | cons e L ih =>
    obtain ⟨P', rfl, hrow, h'⟩ := h
    have hn' : L.length < n := hn
    exact ⟨P', rfl, by rw [Array.getElem?_set_ne hlt (Nat.ne_of_gt hn'), hrow], ih h' hn'.le⟩

/-- `P.push_back(t); Frozen[n-1] = F` with `n - 1` the old depth -/
theorem Rel.push {P : Array Vec} {fr : Array (Array Bool)} {L : List Ent} (h : Rel P fr L)
    (t : Vec) (F : Array Bool) (hlt : L.length < fr.size) :
    Rel (P.push t) (fr.set L.length F hlt) ((t, F) :: L) :=
  ⟨P, rfl, Array.getElem?_set_self hlt, h.frame le_rfl F hlt⟩

theorem Rel.init (q : ℕ) (hq : 0 < q) :
    Rel (initSt q).P (initSt q).frozen [(List.replicate q 0, Array.replicate q false)] :=
  ⟨#[], rfl, by simp [initSt, hq], rfl⟩

theorem innerLoop_succ (A : List Vec) (product : Vec) (basis : List Vec) (tZero : Bool) (rem i : ℕ)
    (s : Inner) (hi : i < s.F.size) :
    innerLoop A product basis tZero (rem + 1) i s =
      (let T := if i > 0 then incAt (incAt s.T i 1) (i - 1) (-1) else incAt s.T i 1
      if fz s.F i == false && ((decide (colDot A product i < 0) && isMinimum T basis) || tZero) then
        (setRow s.frozen s.n s.F).bind fun frozen =>
        innerLoop A product basis tZero rem (i + 1)
          ⟨T, s.F.setIfInBounds i true, s.n + 1, s.P.push T, frozen⟩
      else innerLoop A product basis tZero rem (i + 1) { s with T := T }) := by
  simp only [innerLoop, getF_ok hi, setF_ok hi, bind, Except.bind, Nat.add_sub_cancel]

/-- The `for (i < q)` loop from index `i` on, started in `s` with the abstract stack `L`: sizes `q`, the
stack represented, `s.n` its depth and at most the number of frozen components of `s.F` (so `Frozen[n]` is
in range when a child is pushed).  `s.T`: the C++ keeps one `T` and moves the unit (`incAt_move`), so at
index `i > 0` it still carries the unit of index `i - 1`. -/
theorem sim_inner (A : List Vec) (product : Vec) (basis : List Vec) (tZero : Bool) (t : Vec) (q : ℕ) :
    ∀ (rem i : ℕ) (s : Inner) (L : List Ent), i + rem = q → s.F.size = q → s.frozen.size = q →
      Rel s.P s.frozen L → s.n = L.length → s.n ≤ cnt s.F →
      s.T = (if i = 0 then t else incAt t (i - 1) 1) →
      ∃ r, innerLoop A product basis tZero rem i s = .ok r ∧ r.frozen.size = q ∧
        Rel r.P r.frozen ((akids (kcond A product basis tZero t) t rem i s.F).reverse ++ L) := by
  intro rem
  induction rem with
  | zero =>
    intro i s L _ _ hfr hrel _ _ _
    exact ⟨s, rfl, hfr, hrel⟩
  | succ rem ih =>
    intro i s L hi hF hfr hrel hn hcnt hT
    obtain ⟨T, F, n, P, fr⟩ := s
    dsimp only at hF hfr hrel hn hcnt hT ⊢
    subst hn
    have hiq : i < F.size := by omega
    have hT' : (if i > 0 then incAt (incAt T i 1) (i - 1) (-1) else incAt T i 1) = incAt t i 1 := by
      cases i with
      | zero => simp at hT; simp [hT]
      | succ i' =>
        simp only [Nat.add_sub_cancel, Nat.succ_ne_zero, if_false] at hT
        simp only [Nat.add_sub_cancel, gt_iff_lt, Nat.zero_lt_succ, if_true]
        rw [hT]; exact incAt_move t i'
    rw [akids, innerLoop_succ _ _ _ _ _ _ _ hiq]
    dsimp only
    rw [hT']
    by_cases hc : (fz F i == false && kcond A product basis tZero t i) = true
    · rw [if_pos hc, List.reverse_cons, List.append_assoc, List.singleton_append]
      unfold kcond at hc
      have hfz : fz F i = false := beq_iff_eq.mp (Bool.and_eq_true_iff.mp hc).1
      have hnq : L.length < fr.size := by
        have := cnt_lt_of_false hiq hfz; omega
      obtain ⟨r, hr, hrel'⟩ := ih (i + 1)
        ⟨incAt t i 1, F.setIfInBounds i true, L.length + 1, P.push (incAt t i 1), fr.set L.length F hnq⟩
        ((incAt t i 1, F) :: L)
        (by omega) (Array.size_setIfInBounds.trans hF) ((Array.size_set hnq).trans hfr)
        (hrel.push _ _ hnq) rfl
        ((cnt_set hiq hfz).symm ▸ Nat.succ_le_succ hcnt) (if_neg (Nat.succ_ne_zero i)).symm
      rw [if_pos hc, setRow_ok F hnq]
      exact ⟨r, hr, hrel'⟩
    · rw [if_neg hc]
      unfold kcond at hc
      obtain ⟨r, hr, hrel'⟩ := ih (i + 1) ⟨incAt t i 1, F, L.length, P, fr⟩ L
        (by omega) hF hfr hrel rfl hcnt (if_neg (Nat.succ_ne_zero i)).symm
      rw [if_neg hc]
      exact ⟨r, hr, hrel'⟩

/-- `step` on a stack with top `t`; the index `n` of the C++ `Frozen[n]` is `P.size` -/
theorem step_push (A : List Vec) (q : ℕ) (P : Array Vec) (t : Vec) (fr : Array (Array Bool))
    (bs : List Vec) :
    step A q ⟨P.push t, fr, bs⟩ =
      (if isZero (mulVec A t) && !isZero t then .ok ⟨P, fr, t :: bs⟩
      else do
        let F ← getRow fr P.size
        let r ← innerLoop A (mulVec A t) bs (isZero t) q 0 ⟨t, F, P.size, P, fr⟩
        .ok ⟨r.P, r.frozen, bs⟩) := by
  simp only [step, Array.size_push, Nat.add_sub_cancel, Array.pop_push,
    Array.getD_eq_getD_getElem?, Array.getElem?_push_size, Option.getD_some]

theorem sim_step (A : List Vec) (q : ℕ) (s : St) (t : Vec) (F : Array Bool) (rest : List Ent)
    (hq : s.frozen.size = q) (hrel : Rel s.P s.frozen ((t, F) :: rest))
    (hinv : AInv A q ((t, F) :: rest) s.basis) :
    ∃ s', step A q s = .ok s' ∧ s'.frozen.size = q ∧
      Rel s'.P s'.frozen (astep A q ((t, F) :: rest, s.basis)).1 ∧
      s'.basis = (astep A q ((t, F) :: rest, s.basis)).2 := by
  obtain ⟨P, fr, bs⟩ := s
  obtain ⟨-, hFs, -⟩ : t.length = q ∧ F.size = q ∧ ∀ i, 0 ≤ cmp t i :=
    hinv.shape (t, F) List.mem_cons_self
  have hdepth : rest.length ≤ cnt F := hinv.depth.1
  obtain ⟨P', rfl, hrow, hrel'⟩ := hrel
  have hgetRow : getRow fr rest.length = .ok F := by
    obtain ⟨hlt, rfl⟩ := Array.getElem?_eq_some_iff.mp hrow
    rw [getRow, dif_pos hlt]
  rw [step_push, hrel'.size, hgetRow, astep]
  by_cases hc : (isZero (mulVec A t) && !isZero t) = true
  · rw [if_pos hc, if_pos hc]
    exact ⟨_, rfl, hq, hrel', rfl⟩
  · rw [if_neg hc, if_neg hc]
    obtain ⟨r, hr, hrq, hrel''⟩ := sim_inner A (mulVec A t) bs (isZero t) t q q 0
      ⟨t, F, rest.length, P', fr⟩ rest (by omega) hFs hq hrel' rfl hdepth rfl
    exact ⟨⟨r.P, r.frozen, bs⟩, by simp only [hr, bind, Except.bind], hrq, hrel'', rfl⟩

theorem sim_main (A : List Vec) (q : ℕ) (hA : ∀ r ∈ A, r.length = q) :
    ∀ (fuel : ℕ) (s : St) (L : List Ent), s.frozen.size = q → Rel s.P s.frozen L → AInv A q L s.basis →
      mainLoop A q fuel s = .error .fuel ∨
        ∃ out, mainLoop A q fuel s = .ok out ∧ AInv A q [] out.reverse := by
  intro fuel
  induction fuel with
  | zero => intro s L _ _ _; left; rfl
  | succ fuel ih =>
    intro s L hq hrel hinv
    match L, hrel, hinv with
    | [], hrel, hinv =>
      right
      have h0 : s.P.size = 0 := hrel.size
      refine ⟨s.basis.reverse, ?_, by simpa using hinv⟩
      simp [mainLoop, h0]
    | (t, F) :: rest, hrel, hinv =>
      have hpos : s.P.size > 0 := by rw [hrel.size]; exact Nat.succ_pos _
      obtain ⟨s', hs', hq', hrel', hb'⟩ := sim_step A q s t F rest hq hrel hinv
      have hinv' := hinv.step hA
      rw [← hb'] at hinv'
      have := ih s' _ hq' hrel' hinv'
      simp only [mainLoop, hpos, if_true, hs', bind, Except.bind]
      exact this

end SymVerif.C46
