/-
C31: series_atan, series_atanh (integrals of `S'/(1 ± S²)`) and the first-order expansion of
`fat σ S = ∫ S'/(1 + σS²)`, on which series_tan / series_tanh and the uniqueness of their results rest.
-/
import SymVerif.Lemmas.C31Newton

namespace SymVerif.C31
open SymVerif.Series PowerSeries

/-- formal arctangent of a series with zero constant term -/
noncomputable def fatan (S : ℚ⟦X⟧) : ℚ⟦X⟧ := integ (d⁄dX ℚ S * (1 + S * S)⁻¹)
noncomputable def fatanh (S : ℚ⟦X⟧) : ℚ⟦X⟧ := integ (d⁄dX ℚ S * (1 - S * S)⁻¹)

/-- `∫ S'/(1 + σ S²)`: `σ = 1` is atan, `σ = -1` is atanh -/
noncomputable def fat (σ : ℚ) (S : ℚ⟦X⟧) : ℚ⟦X⟧ := integ (d⁄dX ℚ S * (1 + C σ * (S * S))⁻¹)

theorem toPS_powPos_two (s : Poly) (n : ℕ) : EqMod n (toPS (powPos s 2 n)) (toPS s * toPS s) := by
  rw [← pow_two]; exact toPS_powPos s 2 n one_le_two

theorem fatan_eq_fat (S : ℚ⟦X⟧) : fatan S = fat 1 S := by
  unfold fatan fat; rw [RingHom.map_one, one_mul]
theorem fatanh_eq_fat (S : ℚ⟦X⟧) : fatanh S = fat (-1) S := by
  unfold fatanh fat
  rw [RingHom.map_neg, RingHom.map_one, neg_one_mul, ← sub_eq_add_neg]

theorem constantCoeff_fat (σ : ℚ) (S : ℚ⟦X⟧) : constantCoeff (fat σ S) = 0 := constantCoeff_integ _

/-- first-order expansion of `fat σ`; `A = 1 + σR²` is the reciprocal of its derivative at `R` -/
theorem fat_expands (σ : ℚ) : Expands (fat σ) (fun R => 1 + C σ * (R * R)) 0 := by
  have hu : ∀ {R : ℚ⟦X⟧}, constantCoeff R = 0 → constantCoeff (1 + C σ * (R * R)) ≠ 0 := fun hR =>
    constantCoeff_one_add_ne_zero (by rw [map_mul, constantCoeff_mul_self hR, mul_zero])
  refine ⟨hu, fun {k R d} hk hR hd => ?_⟩
  set A := 1 + C σ * (R * R) with hA
  set Y := R + d * A with hY
  have hd0 : constantCoeff d = 0 := constantCoeff_of_eqMod_zero hk hd
  have hYc : constantCoeff Y = 0 := by rw [hY, RingHom.map_add, RingHom.map_mul, hR, hd0, zero_mul, add_zero]
  have hAc : constantCoeff A ≠ 0 := hu hR
  have hBc : constantCoeff (1 + C σ * (Y * Y)) ≠ 0 := hu hYc
  -- Y' - (R'/A + d')·(1 + σY²) is a combination of d·d and d'·d
  have key : d⁄dX ℚ Y - (d⁄dX ℚ R * A⁻¹ + d⁄dX ℚ d) * (1 + C σ * (Y * Y))
      = -(d * d) * (C σ * d⁄dX ℚ R * A) - (d⁄dX ℚ d * d) * (2 * C σ * R * A + C σ * d * A * A) := by
    rw [hY, hA]
    simp only [map_add, Derivation.leibniz, derivative_one, derivative_C, smul_eq_mul]
    rw [← hA]
    linear_combination (-(d⁄dX ℚ R * (1 + 2 * C σ * R * d + C σ * d * d * A))) * PowerSeries.inv_mul_cancel A hAc
  obtain ⟨n, rfl⟩ : ∃ n, k = n + 1 := ⟨k - 1, by omega⟩
  -- `d ≡ 0` mod `X^k` gives `d' ≡ 0` only mod `X^(k-1)`: the products vanish mod `X^(2k-1)`; `eqMod_of_derivative` gives the 1 back
  have h1 : EqMod (n + (n + 1)) (d⁄dX ℚ d * d) 0 := eqMod_mul_zero hd.derivative_zero hd
  have h2 : EqMod (n + (n + 1)) (d * d) 0 := (eqMod_sq_of_eqMod hd).mono (by omega)
  have hYB : EqMod (n + (n + 1)) (d⁄dX ℚ Y) ((d⁄dX ℚ R * A⁻¹ + d⁄dX ℚ d) * (1 + C σ * (Y * Y))) := by
    have := (h2.neg.mul_right (C σ * d⁄dX ℚ R * A)).sub (h1.mul_right (2 * C σ * R * A + C σ * d * A * A))
    rwa [← key, neg_zero, zero_mul, zero_mul, sub_zero, eqMod_sub_zero] at this
  have : 2 * (n + 1) = (n + (n + 1)) + 1 := by ring
  rw [this]
  apply eqMod_of_derivative
  · rw [RingHom.map_add, constantCoeff_fat,
      constantCoeff_fat, hd0, add_zero]
  · rw [map_add, fat, fat, derivative_integ, derivative_integ]
    have := hYB.mul_right (1 + C σ * (Y * Y))⁻¹
    rwa [mul_assoc, PowerSeries.mul_inv_cancel _ hBc, mul_one] at this

theorem fat_inj (σ : ℚ) : ∀ (n : ℕ) {G T : ℚ⟦X⟧}, constantCoeff G = 0 → constantCoeff T = 0 →
    EqMod n (fat σ G) (fat σ T) → EqMod n G T :=
  fun _ _ _ hG hT h => (fat_expands σ).inj hG hT h

theorem fatan_zero : fatan 0 = 0 := by
  unfold fatan; rw [map_zero, zero_mul, integ_zero]

/-- `1/(1+X²)`, with the signs written as `atanFast` writes them at the next index -/
theorem inv_one_add_X_sq : (1 + X * X : ℚ⟦X⟧)⁻¹ =
    PowerSeries.mk fun n => if (n + 1) % 2 = 1 then (if (n + 1) % 4 = 1 then (1 : ℚ) else -1) else 0 := by
  symm
  rw [PowerSeries.eq_inv_iff_mul_eq_one (constantCoeff_one_add_ne_zero (constantCoeff_mul_self constantCoeff_X))]
  ext n
  rw [mul_add, mul_one, map_add, ← mul_assoc]
  match n with
  | 0 => rw [coeff_zero_mul_X, add_zero, coeff_mk, coeff_zero_one]; rfl
  | 1 => rw [coeff_succ_mul_X, coeff_zero_mul_X, add_zero, coeff_mk, coeff_one]; rfl
  | n + 2 =>
    rw [coeff_succ_mul_X, coeff_succ_mul_X, coeff_mk, coeff_mk, coeff_one, if_neg (Nat.succ_ne_zero _),
      Nat.add_right_comm n 2 1, Nat.add_mod_right]
    -- both parity tests now read `(n + 1) % 2 = 1`, so one `split` decides them together
    split
    next hodd =>
      by_cases h4 : (n + 1) % 4 = 1
      · rw [if_pos h4, if_neg (by omega)]; exact neg_add_cancel 1
      · rw [if_neg h4, if_pos (by omega)]; exact add_neg_cancel 1
    next => exact add_zero 0

theorem toPS_atanFast (prec : ℕ) : EqMod prec (toPS (atanFast prec)) (fatan X) := by
  intro k hk
  rw [coeff_toPS]
  unfold atanFast fatan
  rw [getD_map_range, if_pos hk]
  cases k with
  | zero => rw [coeff_zero_integ]; rfl
  | succ k =>
    rw [coeff_succ_integ, derivative_X, one_mul, inv_one_add_X_sq, coeff_mk]
    simp only [beq_iff_eq, ite_div, zero_div, Nat.cast_succ]

/-- the common general branch of series_atan / series_atanh (`h` is its model text verbatim): `p` is the
denominator `D` to the order of the inversion -/
theorem integ_quot_spec {s p g : Poly} {prec : ℕ} {D : ℚ⟦X⟧} (hp : ¬(prec == 0) = true)
    (hD : EqMod (prec - 1) (toPS p) D) (hD0 : constantCoeff (toPS s) = 0 → constantCoeff D ≠ 0)
    (h : (do
      let ip ← invert p (prec - 1)
      if coeff s 0 == 0 then pure (integrate (mulTrunc (diff s) ip (prec - 1)))
      else .error .notRational) = .ok g) :
    constantCoeff (toPS s) = 0 ∧ EqMod prec (toPS g) (integ (d⁄dX ℚ (toPS s) * D⁻¹)) := by
  obtain ⟨ip, hip, h⟩ := bind_ok.mp h
  split at h
  · next hc =>
    obtain rfl := Except.ok.inj h
    have hS := constantCoeff_of_beq hc
    obtain ⟨n, rfl⟩ := Nat.exists_eq_succ_of_ne_zero fun h0 => hp (beq_iff_eq.mpr h0)
    refine ⟨hS, ?_⟩
    rw [toPS_integrate]
    apply EqMod.integ
    refine (toPS_mulTrunc _ _ _).trans ?_
    rw [toPS_diff]
    exact EqMod.mul_left _ (invert_eqMod hip hD (hD0 hS))
  · cases h

/-- **series_atan**: the result is `∫ S'/(1+S²)` modulo `X^prec` (zero constant term implied by success) -/
theorem series_atan_spec (s g : Poly) (prec : ℕ) (h : seriesAtan s prec = .ok g) :
    constantCoeff (toPS s) = 0 ∧ EqMod prec (toPS g) (fatan (toPS s)) := by
  unfold seriesAtan at h
  split at h
  · next h0 =>
    cases h
    rw [toPS_of_isZero h0, fatan_zero, toPS_nil]
    exact ⟨map_zero _, EqMod.refl _ _⟩
  · split at h
    · next hv =>
      cases h
      rw [toPS_of_isVar hv]
      exact ⟨constantCoeff_X, toPS_atanFast prec⟩
    · split at h
      · cases h
      · next hp =>
        refine integ_quot_spec hp ?_ (fun hS => ?_) h
        · rw [toPS_padd, toPS_one, add_comm]
          exact (EqMod.refl _ _).add (toPS_powPos_two s _)
        · exact constantCoeff_one_add_ne_zero (constantCoeff_mul_self hS)

/-- **series_atanh**: the result is `∫ S'/(1-S²)` modulo `X^prec` (zero constant term implied by success) -/
theorem series_atanh_spec (s g : Poly) (prec : ℕ) (h : seriesAtanh s prec = .ok g) :
    constantCoeff (toPS s) = 0 ∧ EqMod prec (toPS g) (fatanh (toPS s)) := by
  unfold seriesAtanh at h
  split at h
  · cases h
  · next hp =>
    refine integ_quot_spec hp ?_ (fun hS => ?_) h
    · rw [toPS_psub, toPS_one]
      exact (EqMod.refl _ _).sub (toPS_powPos_two s _)
    · rw [sub_eq_add_neg]
      exact constantCoeff_one_add_ne_zero (by rw [map_neg, constantCoeff_mul_self hS, neg_zero])

end SymVerif.C31
