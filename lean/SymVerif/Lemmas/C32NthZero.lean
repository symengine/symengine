import Mathlib.Data.Nat.Factorization.Basic
import Mathlib.Tactic.Ring
import SymVerif.Model.NTheory
/-! The `a ≡ 0 (mod p^k)` branch of `_nthroot_mod_prime_power` (all roots): the `n`-th roots of 0 below `p^k` are the
multiples of `p^c`, `c = ⌈k/n⌉` (`nthRoot_zero_iff_multiple`), and these are what the code lists
(`zero_branch_exponent`, `spreadRoots_zero_mem`). -/
namespace SymVerif.C32
open SymVerif.NTheory

theorem spreadLoop_mem (pkm : Int) : ∀ (f : Nat) (root : Int) (acc : List Int) (x : Int),
    x ∈ spreadLoop pkm f root acc ↔ x ∈ acc ∨ ∃ i : Nat, i < f ∧ x = root + i * pkm := by
  intro f
  induction f with
  | zero => intro root acc x; simp [spreadLoop]
  | succ f ih =>
    intro root acc x
    unfold spreadLoop
    rw [ih]
    constructor
    · rintro (h | ⟨i, hi, rfl⟩)
      · rcases List.mem_cons.mp h with rfl | h
        · exact Or.inr ⟨0, by omega, by simp⟩
        · exact Or.inl h
      · exact Or.inr ⟨i + 1, by omega, by push_cast; ring⟩
    · rintro (h | ⟨i, hi, rfl⟩)
      · exact Or.inl (List.mem_cons_of_mem _ h)
      · cases i with
        | zero => exact Or.inl (by simp)
        | succ j => exact Or.inr ⟨j, by omega, by push_cast; ring⟩

theorem spreadRoots_zero_mem (pm : Nat) (pkm x : Int) :
    x ∈ spreadRoots [0] pm pkm ↔ ∃ i : Nat, i < pm ∧ x = i * pkm := by
  unfold spreadRoots
  simp only [List.foldl_cons, List.foldl_nil, List.mem_reverse]
  rw [spreadLoop_mem]
  simp

/-- The exponent `m` chosen by the code is `k - c` with `c = (k-1)/n + 1 = ⌈k/n⌉`: when `n ≥ k` the
    quotient `(k-1)/n` vanishes, so both branches agree. -/
theorem zero_branch_exponent (n : Int) (k : Nat) (hk : 1 ≤ k) :
    (if n ≥ (k : Int) then k - 1 else k - 1 - (k - 1) / n.toNat) = k - ((k - 1) / n.toNat + 1) := by
  split
  · rw [Nat.div_eq_of_lt (by omega)]
  · rw [Nat.sub_sub, Nat.add_comm]

/-- `c = (k-1)/N + 1` is `⌈k/N⌉`: `c ≤ k ≤ N c` and `N (c-1) < k` -/
theorem ceilDiv_bounds (k N : Nat) (hk : 1 ≤ k) (hN : 1 ≤ N) :
    (k - 1) / N + 1 ≤ k ∧ k ≤ N * ((k - 1) / N + 1) ∧ N * ((k - 1) / N + 1 - 1) < k := by
  have h1 : (k - 1) / N ≤ k - 1 := Nat.div_le_self _ _
  have h2 : k - 1 < N * ((k - 1) / N + 1) := Nat.lt_mul_div_succ _ hN
  have h3 : N * ((k - 1) / N) ≤ k - 1 := Nat.mul_div_le _ _
  rw [Nat.add_sub_cancel]
  omega

/-- `c` is `⌈k/N⌉`: the three hypotheses on it are `ceilDiv_bounds` -/
theorem nthRoot_zero_iff_multiple {p : Nat} (hp : p.Prime) {k N c : Nat} (hck : c ≤ k)
    (h1 : k ≤ N * c) (h2 : N * (c - 1) < k) (y : Nat) :
    y < p ^ k ∧ p ^ k ∣ y ^ N ↔ ∃ i, i < p ^ (k - c) ∧ y = i * p ^ c := by
  have hpk : p ^ k = p ^ (k - c) * p ^ c := by rw [← pow_add, Nat.sub_add_cancel hck]
  constructor
  · rintro ⟨hy, hd⟩
    rcases Nat.eq_zero_or_pos y with rfl | hpos
    · exact ⟨0, Nat.pow_pos hp.pos, (zero_mul _).symm⟩
    · have hle : k ≤ N * y.factorization p := by
        have := (hp.pow_dvd_iff_le_factorization (Nat.pow_pos hpos).ne').mp hd
        rwa [Nat.factorization_pow, Finsupp.smul_apply, smul_eq_mul] at this
      have hcv : c ≤ y.factorization p := by
        by_contra hlt
        have := Nat.mul_le_mul_left N (show y.factorization p ≤ c - 1 by omega)
        omega
      obtain ⟨i, rfl⟩ := (hp.pow_dvd_iff_le_factorization hpos.ne').mpr hcv
      rw [hpk, mul_comm (p ^ c)] at hy
      exact ⟨i, Nat.lt_of_mul_lt_mul_right hy, mul_comm _ _⟩
  · rintro ⟨i, hi, rfl⟩
    refine ⟨?_, ?_⟩
    · rw [hpk]
      exact Nat.mul_lt_mul_of_pos_right hi (Nat.pow_pos hp.pos)
    · rw [mul_pow, ← pow_mul]
      exact Dvd.dvd.mul_left (pow_dvd_pow p (by rwa [mul_comm])) _

end SymVerif.C32
