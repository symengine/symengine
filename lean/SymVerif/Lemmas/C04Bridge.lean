/-
C04: the natural operand predicate implies the one used by the Add theorems:
an exact expression that satisfies the C03 invariant (`inv`, i.e. what the library's constructors
produce) and is a safe summand (`addOperandSafe`) has a normal representation from which
`Add::from_dict` rebuilds it (`addOperandOK`).
-/
import SymVerif.Lemmas.C03Add
import SymVerif.Lemmas.C04Add

namespace SymVerif.AC
open SymVerif SymVerif.Arith

theorem exOK_of_numOK_exact {v : Expr} (h : NumOK v) (hx : exact v = true) : ExOK v := by
  have hn := h.1
  refine ⟨?_, h.2⟩
  cases v <;> first | rfl | contradiction

theorem mulCanonTop_length {c : Expr} {d : Dict} (h : mulCanonTop c d = true) :
    d.length ≠ 0 ∧ (numIsOne c = true → d.length ≠ 1) := by
  unfold mulCanonTop at h
  simp only [Bool.and_eq_true, Bool.or_eq_true, bne_iff_ne, ne_eq, Bool.not_eq_true'] at h
  exact ⟨h.1.1.2, fun h1 => h.1.2.resolve_right (by simp [h1])⟩

theorem addCanonTop_length {c : Expr} {d : Dict} (h : addCanonTop c d = true) :
    d.length ≠ 0 ∧ (d.length = 1 → numIsZero c = false) := by
  unfold addCanonTop at h
  simp only [Bool.and_eq_true, Bool.or_eq_true, bne_iff_ne, ne_eq, Bool.not_eq_true'] at h
  exact ⟨h.1.1.2, fun h1 => h.1.2.resolve_left (by simp [h1])⟩

theorem termOK_of_key {t : Expr} (hk : AddKeyOK t) (hx : exact t = true) (hna : isAdd t = false) :
    termOK t = true := by
  have hn := hk.notNum
  unfold termOK
  simp only [hx, hn, hna, Bool.not_false, Bool.and_self, Bool.true_and]
  cases t with
  | mul c fs =>
    obtain ⟨h1, _, h3, _, _⟩ := inv_mul_iff.mp hk.inv
    have hone : numIsOne c = true := hk.mulOne c fs rfl
    have hc : c = .int 1 := numIsOne_canon (inv_canon h1) hone
    subst hc
    -- a canonical product with coefficient 1 has neither no factor nor one
    obtain ⟨h0, h1'⟩ := mulCanonTop_length h3
    have := h1' rfl
    simp [isIntLit]
    omega
  | pow b e =>
    obtain ⟨_, _, h3, _⟩ := inv_pow_iff.mp hk.inv
    unfold powCanonTop at h3
    split at h3
    · have : e.isNum = false := by simpa using h3
      show (!isIntLit e 1) = true
      rw [isIntLit_of_not_num this]
      rfl
    · simp only [Bool.and_eq_true, Bool.not_eq_true'] at h3
      -- the clause `!isIntLit e 1` of `powCanonTop`
      simp [h3.1.1.1.1.1.2]
  | _ => rfl

theorem AOK_add {c : Expr} {ts : Dict} (hi : inv (.add c ts) = true) (hx : exact (.add c ts) = true)
    (hs : addOperandSafe (.add c ts) = true) : AOK (.add c ts) := by
  obtain ⟨hc, hd, hno⟩ := inv_add_dict hi
  simp only [exact, Bool.and_eq_true] at hx
  have hxp := (exactPairs_iff ts).mp hx.2
  simp only [addOperandSafe, List.all_eq_true, Bool.not_eq_true'] at hs
  have hcx := exOK_of_numOK_exact hc hx.1
  refine ⟨⟨hcx, ⟨hd.sorted, ?_⟩, ?_⟩, ?_⟩
  · show ∀ p ∈ ts, ExOK p.2 ∧ gq p.2 ≠ 0
    intro p hp
    have he := hd.ent p hp
    have hv := exOK_of_numOK_exact he.num (hxp p hp).2
    exact ⟨hv, (numIsZero_false_iff hv).mp he.nz⟩
  · intro p hp
    have he := hd.ent p hp
    rcases he.key with e | hk
    · exact absurd e (hno p hp)
    · exact termOK_of_key hk (hxp p hp).1 (hs p hp)
  · show addFromDict c ts = .ok (.add c ts)
    obtain ⟨_, _, h3, _⟩ := inv_add_iff.mp hi
    obtain ⟨h0, h1⟩ := addCanonTop_length h3
    match ts, h0, h1 with
    | [], h0, _ => simp at h0
    | [(k, v)], _, h1 =>
      simp [addFromDict, h1 rfl]
    | _ :: _ :: _, _, _ => rfl

theorem mulFromDict_nz_many {c : Expr} (p q : Expr × Expr) (r : Dict) (hz : numIsZero c = false) :
    mulFromDict c (p :: q :: r) = .mul c (p :: q :: r) := by
  simp [mulFromDict, hz]

/-- `as_coef_term` splits `a = c*t` and `from_dict {t: c}` multiplies it back, arm by arm of `asCoefTerm` and
`mulFromDict`: coefficient 1, one factor with exponent 1, one factor, two factors or more, not a Mul -/
theorem asCoefTerm_rebuild {a c t : Expr} (hi : inv a = true) (hx : exact a = true) (hs : addOperandSafe a = true)
    (haa' : isAdd a = false) (hn' : a.isNum = false) (hct : asCoefTerm a = .ok (c, t))
    (hmcn : c.isNum = true) (hcz : numIsZero c = false) :
    exact c = true ∧ exact t = true ∧ isAdd t = false ∧ addFromDict zero [(t, c)] = .ok a := by
  have one_case : ∀ {x y : Expr}, asCoefTerm a = .ok (x, y) → (c = x ∧ t = y) := by
    intro x y h; rw [hct] at h; cases h; exact ⟨rfl, rfl⟩
  by_cases hm : isMul a = true
  · obtain ⟨mc, fs, rfl⟩ := isMul_iff.mp hm
    obtain ⟨h1, hent, h3, _, hfac⟩ := inv_mul_iff.mp hi
    simp only [exact, Bool.and_eq_true] at hx
    by_cases hc1 : isIntLit mc 1 = true
    · have : asCoefTerm (.mul mc fs) = .ok (one, .mul mc fs) := by simp [asCoefTerm, hc1]
      obtain ⟨rfl, rfl⟩ := one_case this
      exact ⟨rfl, by simp [exact, hx], rfl, addFromDict_zero_one _⟩
    · have hc1' : isIntLit mc 1 = false := by simpa using hc1
      obtain ⟨rfl, rfl⟩ := one_case (asCoefTerm_mul hc1')
      have hmc0 := isIntLit_zero_of_nz hcz
      have hlen : fs.length ≠ 0 := (mulCanonTop_length h3).1
      match fs, hlen, hx, hfac, hs with
      | [], hlen, _, _, _ => simp at hlen
      | [(k, e)], _, hx, hfac, hs =>
        have hf := hfac (k, e) List.mem_cons_self
        simp only [exactPairs, Bool.and_eq_true] at hx
        -- the one place where `addOperandSafe` is used for an operand that is not a sum: `c*(sum)` would give a sum as the term
        simp only [addOperandSafe, Bool.not_eq_true', Bool.and_eq_false_iff] at hs
        rw [mulFromDict_one_single]
        by_cases he1 : isIntLit e 1 = true
        · have hee := isIntLit_iff.mp he1
          subst hee
          have hka : isAdd k = false := by
            rcases hs with h | h
            · exact h
            · simp [isIntLit] at h
          simp only [isIntLit, beq_self_eq_true, if_true]
          refine ⟨hx.1, hx.2.1.1, hka, ?_⟩
          rw [addFromDict_zero_single hmcn hmc0 hc1']
          -- `k` is neither a Mul nor a Pow (factorOK with an Integer exponent)
          cases k <;> first | rfl | simp [factorOK, isInteger, isNumZero, Expr.isNum, numIsZero] at hf
        · have he1' : isIntLit e 1 = false := by simpa using he1
          simp only [he1', Bool.false_eq_true, if_false]
          exact ⟨hx.1, by simp [exact, hx.2.1.1, hx.2.1.2], rfl, addFromDict_zero_single hmcn hmc0 hc1'⟩
      | p :: q :: r, _, hx, _, _ =>
        rw [mulFromDict_one_many]
        refine ⟨hx.1, by simp [exact, one, hx.2], rfl, ?_⟩
        rw [addFromDict_zero_single hmcn hmc0 hc1']
        exact congrArg _ (mulFromDict_nz_many p q r hcz)
  · have hm' : isMul a = false := by simpa using hm
    obtain ⟨rfl, rfl⟩ := one_case (asCoefTerm_other hm' haa' hn')
    exact ⟨rfl, hx, haa', addFromDict_zero_one _⟩

theorem AOK_of_inv {a : Expr} (hi : inv a = true) (hx : exact a = true) (hs : addOperandSafe a = true) :
    AOK a := by
  rcases add_cases a with ⟨c, ts, rfl⟩ | haa'
  · exact AOK_add hi hx hs
  by_cases hn : a.isNum = true
  · exact AOK_num (exOK_of_numOK_exact ⟨hn, inv_canon hi⟩ hx)
  have hn' : a.isNum = false := by simpa using hn
  obtain ⟨c, t, hct⟩ := asCoefTerm_succeeds haa'
  obtain ⟨hcnum, hcase⟩ := asCoefTerm_ok hi hct
  rcases hcase with ⟨h, _, _⟩ | ⟨_, hkey, hcz⟩
  · rw [hn'] at h; cases h
  have hr := repr_of_asCoefTerm haa' hn' hct
  obtain ⟨hcx, htx, hta, hfd⟩ := asCoefTerm_rebuild hi hx hs haa' hn' hct hcnum.1 hcz
  have hcex := exOK_of_numOK_exact hcnum hcx
  refine ⟨?_, ?_⟩
  · rw [hr]
    exact NR_single (termOK_of_key hkey htx hta) hcex ((numIsZero_false_iff hcex).mp hcz)
  · rw [hr]
    exact hfd

end SymVerif.AC
