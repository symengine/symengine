import SymVerif.Lemmas.C25Dup
import SymVerif.Lemmas.C25Canon
/-!
C25 — `CSRMatrix::from_coo`: canonical result whose dense meaning is the coordinate list with
duplicates summed; no out-of-range access when the coordinates are inside the matrix.
-/
namespace SymVerif.C25
open SymVerif.CSR Finset

theorem fromCoo_spec (row col : Nat) (ts : List Triple) (h : ∀ t ∈ ts, t.1 < row ∧ t.2.1 < col) :
    ∃ m, fromCoo row col ts = .ok m ∧ CanonCSR m ∧ m.row = row ∧ m.col = col ∧
      ∀ i c, i < row → dense m i c = cooSum ts i c := by
  have hrowlt : ∀ t ∈ ts, t.1 < row := fun t ht => (h t ht).1
  have hbrow := starts_row ts row hrowlt
  obtain ⟨p1, e1, s1, g1⟩ := cooCount_spec ts (Array.replicate (row + 1) 0)
    (fun t ht => by rw [Array.size_replicate]; exact Nat.lt_succ_of_lt (hrowlt t ht))
  rw [Array.size_replicate] at s1 g1
  have g1' : ∀ r, r ≤ row → p1[r]! = cnt ts r := by
    intro r hr
    rw [g1 r (Nat.lt_succ_of_le hr), replicate_get! _ _ _ (Nat.lt_succ_of_le hr), Nat.zero_add]
  obtain ⟨p2, e2, s2, g2⟩ := cumsumLoop_spec row p1 (by rw [s1]; exact Nat.le_succ row)
  have g2' : ∀ r, r < row → p2[r]! = starts (cnt ts) r := by
    intro r hr
    rw [g2 r hr]
    exact Finset.sum_congr rfl (fun r' hr' =>
      g1' r' (Nat.le_of_lt (Nat.lt_trans (Finset.mem_Ico.mp hr').2 hr)))
  have s2' : p2.size = row + 1 := s2.trans s1
  have hrow2 : row < p2.size := s2' ▸ Nat.lt_succ_self row
  have g3 : ∀ r, r ≤ row → (p2.set row ts.length hrow2)[r]! = starts (cnt ts) r := by
    intro r hr
    rw [set_get!]
    by_cases hrr : r = row
    · rw [if_pos hrr, hrr, hbrow]
    · rw [if_neg hrr]; exact g2' r (Nat.lt_of_le_of_ne hr hrr)
  obtain ⟨p4, j1, x1, e4, s4, sj1, sx1, hends, hbuckets⟩ :=
    scatter_spec row ts.length (starts (cnt ts)) (Nat.le_of_eq hbrow) ts (p2.set row ts.length hrow2)
      (Array.replicate ts.length 0) (Array.replicate ts.length 0) (fun _ => [])
      (by rw [Array.size_set]; exact s2') Array.size_replicate Array.size_replicate hrowlt
      (Buckets.start (fun r hr => g3 r (Nat.le_of_lt hr)) (fun _ _ => rfl))
  -- every cursor ran to the end of its bucket, so `p4[r]` is the start of bucket `r + 1` (`hends`);
  -- `shiftLoop` moves the pointers back one place (`g5'`)
  obtain ⟨p5, e5, s5, hfirst, hshift⟩ := shiftLoop_spec (row + 1) p4 (Nat.le_of_eq s4.symm)
  have g5' : ∀ r, r ≤ row → p5[r]! = starts (cnt ts) r := by
    intro r hr
    cases r with
    | zero => rw [hfirst (Nat.succ_pos row), starts_zero]
    | succ r => rw [hshift r (Nat.succ_lt_succ hr), hends r hr]
  have s5' : p5.size = row + 1 := s5.trans s4
  obtain ⟨hp05, hlast5, hmono5⟩ := starts_ptr g5' hbrow
  obtain ⟨j2, x2, e6, sj2, sx2, _, srt⟩ :=
    sortRows_spec p5 row ts.length s5' hmono5 (Nat.le_of_eq hlast5) row 0 j1 x1 (Nat.zero_add _) sj1 sx1
  obtain ⟨p6, j3, x3, e7, hrows, hcanon⟩ :=
    sumDuplicates_rows p5 j2 x2 row s5' hp05 hmono5
      (by rw [hlast5, sj2]) (by rw [hlast5, sx2])
  have hrow : ∀ r, r < row → seg j3 x3 p6[r]! p6[r + 1]!
      = dedupL (((ts.filter (·.1 = r)).map (·.2)).mergeSort keyLe) := fun r hr => by
    rw [hrows r hr, srt r (Nat.zero_le _) hr, g5' r (Nat.le_of_lt hr), g5' (r + 1) hr, hbuckets r hr,
      List.nil_append]
  have hcan := hcanon col (fun r hr => by
    rw [hrow r hr]
    refine RowOk.dedupL (keyLe_sorted _) (fun a ha => ?_)
    obtain ⟨t, ht, rfl⟩ := List.mem_map.mp ((List.mergeSort_perm _ _).mem_iff.mp ha)
    exact (h t (List.mem_filter.mp ht).1).2)
  unfold fromCoo
  simp only [e1, ok_bind, e2, wr_lt _ hrow2, e4, e5, e6, e7, mk_of_canon hcan]
  refine ⟨_, rfl, hcan, rfl, rfl, fun i c hi => ?_⟩
  rw [dense_eq_rowSum]
  show rowSum c (seg j3 x3 p6[i]! p6[i + 1]!) = _
  rw [hrow i hi, rowSum_dedupL, rowSum_perm (List.mergeSort_perm _ _), rowSum_bucket]

end SymVerif.C25
