/-
The sign visitors answer soundly (`Sound`), for every fuel: a symbol through the fact table of the query, a constant
by its positivity, a number by its sign; ZeroVisitor looks through Abs / Conjugate / Sign, PositiveVisitor adds up the
signs of the terms of an Add (`posFold_sound`).
-/
import SymVerif.Lemmas.C34Args

namespace SymVerif.C34
open SymVerif SymVerif.Queries

variable {ρ : String → ℝ} {A : Assumptions}

theorem appSem_eq_zero_iff {h : String} {x v : ℝ} (hh : h = "Abs" ∨ h = "Conjugate" ∨ h = "Sign")
    (hv : appSem h (some [x]) = some v) : (v = 0 ↔ x = 0) := by
  rcases hh with rfl | rfl | rfl
  · simp [appSem] at hv; subst hv; exact abs_eq_zero
  · simp [appSem] at hv; subst hv; exact Iff.rfl
  · simp [appSem] at hv; subst hv; exact Real.sign_eq_zero_iff

theorem isZeroF_sound (hA : FactsSat ρ A) :
    ∀ (fuel : Nat) (e : Expr) (v : ℝ), evalR ρ e = some v → Sound (isZeroF A fuel e) (v = 0) := by
  intro fuel
  induction fuel with
  | zero => intro e v _; exact .i
  | succ n ih =>
    intro e v hv
    cases e with
    | sym s => cases evalR_sym hv; exact hA.sound .zero s
    | const c => exact ⟨nofun, fun _ => (constVal_pos hv).ne'⟩
    | int k | rat k d => exact .ofBool (numIsZero_iff rfl hv)
    | app h args =>
      match args with
      | [a] =>
        simp only [isZeroF]
        split
        · rename_i hc
          obtain ⟨x, hx, hs⟩ := evalR_app_single hv
          exact (ih a x hx).congr (appSem_eq_zero_iff (by simpa [zeroArgHeads] using hc) hs).symm
        · exact .i
      | [] | _ :: _ :: _ => exact .i
    -- the visitor has no rule for these; the remaining constructors have no real value
    | add _ _ | mul _ _ | pow _ _ => exact .i
    | _ => simp [evalR] at hv

theorem isNegative_sound (hA : FactsSat ρ A) {e : Expr} {v : ℝ} (hv : evalR ρ e = some v) :
    Sound (isNegative A e) (v < 0) := by
  cases e with
  | sym s => cases evalR_sym hv; exact hA.sound .neg s
  | const c => exact ⟨nofun, fun _ => (constVal_pos hv).le.not_gt⟩
  | int k | rat k d => exact .ofBool (numIsNeg_iff rfl hv)
  | add _ _ | mul _ _ | pow _ _ | app _ _ => exact .i
  | _ => simp [evalR] at hv

theorem isNonnegative_sound (hA : FactsSat ρ A) {e : Expr} {v : ℝ} (hv : evalR ρ e = some v) :
    Sound (isNonnegative A e) (0 ≤ v) := by
  cases e with
  | sym s => cases evalR_sym hv; exact hA.sound .nonneg s
  | const c => exact ⟨fun _ => (constVal_pos hv).le, nofun⟩
  | int k | rat k d => exact .ofBool (not_numIsNeg_iff rfl hv)
  | add _ _ | mul _ _ | pow _ _ | app _ _ => exact .i
  | _ => simp [evalR] at hv

theorem isNonpositive_sound (hA : FactsSat ρ A) {e : Expr} {v : ℝ} (hv : evalR ρ e = some v) :
    Sound (isNonpositive A e) (v ≤ 0) := by
  cases e with
  | sym s => cases evalR_sym hv; exact hA.sound .nonpos s
  | const c => exact ⟨nofun, fun _ => (constVal_pos hv).not_ge⟩
  | int k | rat k d => exact .ofBool (not_numIsPos_iff rfl hv)
  | add _ _ | mul _ _ | pow _ _ | app _ _ => exact .i
  | _ => simp [evalR] at hv

theorem posStep_true {vpos vneg : Bool} {pk nk : Tri} {st : Bool × Bool} :
    ((posStep vpos vneg pk nk st).1 = true → st.1 = true ∧ ((vpos = true ∧ pk = .t) ∨ (vneg = true ∧ nk = .t))) ∧
    ((posStep vpos vneg pk nk st).2 = true → st.2 = true ∧ ((vneg = true ∧ pk = .t) ∨ (vpos = true ∧ nk = .t))) := by
  unfold posStep
  split
  · rename_i hc
    exact ⟨fun h => ⟨h, by simpa using hc⟩, nofun⟩
  split
  · rename_i hc
    exact ⟨nofun, fun h => ⟨h, by simpa using hc⟩⟩
  · exact ⟨nofun, nofun⟩

/-- Invariant of the loop of `PositiveVisitor::bvisit(const Add &)`: `can_be_true` survives only if every term is a positive
    number times a positive key or a negative number times a negative key.  The weak bound is what the induction gets from
    the (possibly empty) tail, the strict one what the caller uses. -/
theorem posFold_sound {pk nk : Expr → Tri} :
    ∀ (ts : List (Expr × Expr)) (st : Bool × Bool) (vs : ℝ),
      (∀ p ∈ ts, ∀ vk, evalR ρ p.1 = some vk → (pk p.1 = .t → 0 < vk) ∧ (nk p.1 = .t → vk < 0)) →
      evalTerms ρ ts = some vs →
      ((posFold pk nk ts st).1 = true → st.1 = true ∧ 0 ≤ vs ∧ (ts ≠ [] → 0 < vs)) ∧
      ((posFold pk nk ts st).2 = true → st.2 = true ∧ vs ≤ 0 ∧ (ts ≠ [] → vs < 0)) := by
  intro ts
  induction ts with
  | nil =>
    intro st vs _ h
    simp [evalTerms] at h; subst h
    simp [posFold]
  | cons p t ih =>
    obtain ⟨k, v⟩ := p
    intro st vs hkeys h
    obtain ⟨vk, vv, vt, hk, hvv, ht, rfl⟩ := evalTerms_cons_some.mp h
    simp only [posFold]
    have hkk := hkeys (k, v) (by simp) vk hk
    have := ih (posStep (numIsPos v) (numIsNeg v) (pk k) (nk k) st) vt
      (fun p hp => hkeys p (List.mem_cons_of_mem _ hp)) ht
    constructor
    · intro h1
      obtain ⟨hs, hvt, _⟩ := this.1 h1
      obtain ⟨hst, hor⟩ := posStep_true.1 hs
      have hterm : 0 < vk * vv := by
        rcases hor with ⟨hp, hpk'⟩ | ⟨hn, hnk'⟩
        · exact mul_pos (hkk.1 hpk') (numIsPos_sound hp hvv)
        · exact mul_pos_of_neg_of_neg (hkk.2 hnk') (numIsNeg_sound hn hvv)
      exact ⟨hst, by linarith, fun _ => by linarith⟩
    · intro h1
      obtain ⟨hs, hvt, _⟩ := this.2 h1
      obtain ⟨hst, hor⟩ := posStep_true.2 hs
      have hterm : vk * vv < 0 := by
        rcases hor with ⟨hn, hpk'⟩ | ⟨hp, hnk'⟩
        · exact mul_neg_of_pos_of_neg (hkk.1 hpk') (numIsNeg_sound hn hvv)
        · exact mul_neg_of_neg_of_pos (hkk.2 hnk') (numIsPos_sound hp hvv)
      exact ⟨hst, by linarith, fun _ => by linarith⟩

theorem posResult_sound {st : Bool × Bool} :
    (posResult st = .t → st.1 = true) ∧ (posResult st = .f → st.2 = true) := by
  obtain ⟨a, b⟩ := st
  cases a <;> cases b <;> simp [posResult]

theorem isPositiveF_sound (hA : FactsSat ρ A) :
    ∀ (fuel : Nat) (e : Expr) (v : ℝ), wf e = true → evalR ρ e = some v → Sound (isPositiveF A fuel e) (0 < v) := by
  intro fuel
  induction fuel with
  | zero => intro e v _ _; exact .i
  | succ n ih =>
    intro e v hw hv
    cases e with
    | sym s => cases evalR_sym hv; exact hA.sound .pos s
    | const c => exact ⟨fun _ => constVal_pos hv, nofun⟩
    | int k | rat k d => exact .ofBool (numIsPos_iff rfl hv)
    | add c ts =>
      simp only [isPositiveF]
      obtain ⟨_, hnum, _, hne', hts⟩ := wf_add.mp hw
      obtain ⟨vc, vs, hc, hs, rfl⟩ := evalR_add_some.mp hv
      have hfold := posFold_sound (ρ := ρ) (pk := isPositiveF A n) (nk := isNegative A) ts
        (!numIsNeg c, !numIsPos c) vs
        (fun p hp vk hk => ⟨(ih p.1 vk (hts p hp).1 hk).of_t, (isNegative_sound hA hk).of_t⟩) hs
      constructor
      · intro hr
        obtain ⟨hc1, _, hpos⟩ := hfold.1 (posResult_sound.1 hr)
        linarith [hpos hne', (not_numIsNeg_iff hnum hc).mp hc1]
      · intro hr
        obtain ⟨hc2, _, hneg⟩ := hfold.2 (posResult_sound.2 hr)
        linarith [hneg hne', (not_numIsPos_iff hnum hc).mp hc2]
    | mul _ _ | pow _ _ | app _ _ => exact .i
    | _ => simp [evalR] at hv

end SymVerif.C34
