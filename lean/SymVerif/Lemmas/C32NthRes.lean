import Mathlib.RingTheory.ZMod.UnitsCyclic
import Mathlib.GroupTheory.SpecificGroups.Cyclic
/-! `n`-th powers in a finite cyclic group, for the solvability test `_is_nthroot_mod1`. -/
namespace SymVerif.C32

/-- in a finite cyclic group, `u` is an `n`-th power iff `u^(N / gcd(N, n)) = 1`, `N = |G|` -/
theorem cyclic_pow_iff {G : Type*} [CommGroup G] [Fintype G] [IsCyclic G] (u : G) (n : ℕ) :
    (∃ v : G, v ^ n = u) ↔ u ^ (Fintype.card G / Nat.gcd (Fintype.card G) n) = 1 := by
  rw [← Nat.card_eq_fintype_card]
  have hdN : Nat.card G / (Nat.card G).gcd n ∣ Nat.card G := Nat.div_dvd_of_dvd (Nat.gcd_dvd_left ..)
  -- the `n`-th powers lie in the kernel of `x ↦ x^(N/d)`, and both subgroups have `N/d` elements
  have hle : (powMonoidHom n : G →* G).range ≤ (powMonoidHom (Nat.card G / (Nat.card G).gcd n)).ker := by
    rintro _ ⟨v, rfl⟩
    obtain ⟨c, hc⟩ := Nat.gcd_dvd_right (Nat.card G) n
    rw [MonoidHom.mem_ker, powMonoidHom_apply, powMonoidHom_apply, ← pow_mul]
    nth_rw 1 [hc]
    rw [mul_right_comm, Nat.mul_div_cancel' (Nat.gcd_dvd_left ..), pow_mul, pow_card_eq_one', one_pow]
  have := Subgroup.eq_of_le_of_card_ge hle (by
    rw [IsCyclic.card_powMonoidHom_ker, IsCyclic.card_powMonoidHom_range, Nat.gcd_eq_right hdN])
  exact (SetLike.ext_iff.mp this u)

end SymVerif.C32
