/-
C16 — the precedence-climbing parser re-reads the flattening of every well-parenthesised tree.

Everything is said for every sufficiently large fuel (`Ev`, Lemmas/C17Fuel.lean), which is how `parse_flat` is
stated; the parser's answers are never compared across two amounts of fuel.
-/
import SymVerif.Model.StrParse
import SymVerif.Lemmas.C17Fuel

namespace SymVerif.StrP

/-- the left binding power of the first token (0 if it is not a binary operator) -/
def headBp : List Tok → Nat
  | [] => 0
  | t :: _ => match binOfTok t with
    | some o => lbp o
    | none => 0

/-- the first token is not `(` (an identifier followed by `(` is a call) -/
def noLp : List Tok → Bool
  | .lp :: _ => false
  | _ => true

theorem binOfTok_opTok (o : BinOp) : binOfTok (opTok o) = some o := by cases o <;> rfl

theorem opTok_ne_lp (o : BinOp) (r : List Tok) : noLp (opTok o :: r) = true := by cases o <;> rfl

theorem loop_stop {m : Nat} {r : List Tok} (lhs : PExpr) (h : headBp r ≤ m) (f : Nat) :
    pLoop (f + 1) m lhs r = .ok (lhs, r) := by
  rw [pLoop.eq_def]
  simp only
  cases r with
  | nil => rfl
  | cons t r' =>
    simp only
    cases hb : binOfTok t with
    | none => rfl
    | some o =>
      simp only
      have : ¬ (lbp o > m) := by
        simp only [headBp, hb] at h
        omega
      simp only [this, if_false]

theorem expr_of_prefix_loop {m : Nat} {ts r : List Tok} {l : PExpr} {v}
    (h1 : Ev (pPrefix · ts) (l, r)) (h2 : Ev (pLoop · m l r) v) : Ev (pExpr · m ts) v :=
  Ev.step2 h1 h2 fun f e1 e2 => by rw [pExpr.eq_def]; simp only; rw [e1]; exact e2

theorem le_rbp (o : BinOp) : 2 * level o - 1 ≤ rbp o := by
  unfold rbp
  split <;> omega

theorem lt_lv_le_edge {m : Nat} (t : PExpr) (h : m < 2 * lv t) : m ≤ edge t := by
  cases t with
  | bin o a b =>
    have := le_rbp o
    simp only [lv] at h
    simp only [edge]
    omega
  | _ => simp only [lv] at h; simp only [edge, ubp, edgeAtom]; omega

theorem level_pos (o : BinOp) : 0 < level o := by cases o <;> decide +kernel
theorem levelNeg_pos : 0 < levelNeg := by decide +kernel

theorem lv_pos (t : PExpr) : 0 < lv t := by
  cases t with
  | bin o a b => exact level_pos o
  | neg c => exact levelNeg_pos
  | _ => simp [lv, levelAtom]

theorem prefix_id {s : String} {r : List Tok} (h : noLp r = true) (f : Nat) :
    pPrefix (f + 1) (.id s :: r) = .ok (.id s, r) := by
  rw [pPrefix.eq_def]
  simp only
  cases r with
  | nil => rfl
  | cons t r' =>
    cases t <;> first | rfl | (simp [noLp] at h)

/-- the invariant of the round trip: reading `flat t` in front of `r` at tolerance `m` is running the loop on `t` -/
def Reads (t : PExpr) : Prop :=
  ∀ (m : Nat) (r : List Tok) (v : PExpr × List Tok),
    m < 2 * lv t → headBp r ≤ edge t → noLp r = true → Ev (pLoop · m t r) v → Ev (pExpr · m (flat t ++ r)) v

theorem operand_of {c : PExpr} (ih : Reads c)
    {k : Nat} {r : List Tok} (hk : k < 2 * lv c) (he : headBp r ≤ k) (hnl : noLp r = true) :
    Ev (pExpr · k (flat c ++ r)) (c, r) :=
  ih k r (c, r) hk (Nat.le_trans he (lt_lv_le_edge c hk)) hnl (Ev.step0 (loop_stop c he))

theorem whole_of {c : PExpr} (ih : Reads c) {r : List Tok} (he : headBp r = 0) (hnl : noLp r = true) :
    Ev (pExpr · 0 (flat c ++ r)) (c, r) := operand_of ih (Nat.mul_pos (by decide) (lv_pos c)) (Nat.le_of_eq he) hnl

mutual
  theorem parse_tree : (t : PExpr) → WP t = true → Reads t
    | .num s, _, m, r, v, _, _, _, hL => by
      simpa [flat] using expr_of_prefix_loop (Ev.step0 fun f => by rw [pPrefix.eq_def]) hL
    | .id s, _, m, r, v, _, _, hnl, hL => by
      simpa [flat] using expr_of_prefix_loop (Ev.step0 (prefix_id hnl)) hL
    | .neg c, hw, m, r, v, _, he, hnl, hL => by
      simp only [WP, Bool.and_eq_true, decide_eq_true_eq] at hw
      have h1 := operand_of (parse_tree c hw.1) hw.2 he hnl
      have hp : Ev (pPrefix · (.minus false :: (flat c ++ r))) (.neg c, r) :=
        Ev.step1 h1 fun f e => by rw [pPrefix.eq_def]; simp only; rw [e]
      simpa [flat] using expr_of_prefix_loop hp hL
    | .paren c, hw, m, r, v, _, _, _, hL => by
      simp only [WP] at hw
      have h1 := whole_of (r := .rp :: r) (parse_tree c hw) rfl rfl
      have hp : Ev (pPrefix · (.lp :: (flat c ++ .rp :: r))) (.paren c, r) :=
        Ev.step1 h1 fun f e => by rw [pPrefix.eq_def]; simp only; rw [e]
      simpa [flat] using expr_of_prefix_loop hp hL
    | .call g args, hw, m, r, v, _, _, _, hL => by
      simp only [WP, Bool.and_eq_true, Bool.not_eq_true', List.isEmpty_eq_false_iff] at hw
      have hp : Ev (pPrefix · (.id g :: .lp :: (flatArgs args ++ .rp :: r))) (.call g args, r) :=
        Ev.step1 (args_read args hw.1 hw.2 r) fun f e => by rw [pPrefix.eq_def]; simp only; rw [e]
      simpa [flat] using expr_of_prefix_loop hp hL
    | .bin o a b, hw, m, r, v, hm, he, hnl, hL => by
      simp only [WP, Bool.and_eq_true, decide_eq_true_eq] at hw
      obtain ⟨⟨⟨⟨hwa, hwb⟩, hla⟩, hea⟩, hlb⟩ := hw
      -- `hlb`: the call at `rbp o` reads all of `b`; `hla`: `a` may be entered at `m`; `hea`: `a`'s own loop stops in front of `o`
      simp only [lv] at hm
      simp only [edge] at he
      have hlbp : lbp o = 2 * level o := rfl
      have h1 := operand_of (parse_tree b hwb) hlb he hnl
      have hloop : Ev (pLoop · m a (opTok o :: (flat b ++ r))) v :=
        Ev.step2 h1 hL fun f e1 e2 => by
          rw [pLoop.eq_def]
          simp only [binOfTok_opTok]
          rw [if_pos (by omega), e1]
          exact e2
      have := parse_tree a hwa m (opTok o :: (flat b ++ r)) v (by omega)
        (by simp only [headBp, binOfTok_opTok]; exact hea) (opTok_ne_lp o _) hloop
      simpa [flat, List.append_assoc] using this
  theorem args_read : (args : List PExpr) → args ≠ [] → WPs args = true → ∀ (r : List Tok),
      Ev (pArgs · (flatArgs args ++ .rp :: r)) (args, r)
    | [], hne, _, _ => absurd rfl hne
    | a :: t, _, hw, r => by
      simp only [WPs, Bool.and_eq_true] at hw
      obtain ⟨hwa, hwt⟩ := hw
      cases t with
      | nil =>
        have h1 := whole_of (r := .rp :: r) (parse_tree a hwa) rfl rfl
        simp only [flatArgs, flatRest, List.append_nil]
        exact Ev.step1 h1 fun f e => by rw [pArgs.eq_def]; simp only; rw [e]
      | cons b t' =>
        have h2 := args_read (b :: t') (by simp) hwt r
        have h1 := whole_of (r := .comma :: (flatArgs (b :: t') ++ .rp :: r)) (parse_tree a hwa) rfl rfl
        have e : flatArgs (a :: b :: t') ++ .rp :: r = flat a ++ .comma :: (flatArgs (b :: t') ++ .rp :: r) := by
          simp [flatArgs, flatRest, List.append_assoc]
        rw [e]
        exact Ev.step2 h1 h2 fun f e1 e2 => by rw [pArgs.eq_def]; simp only; rw [e1]; simp only; rw [e2]
end

theorem parse_args : (args : List PExpr) → args ≠ [] → WPs args = true → ∀ (r : List Tok),
      ∃ f, pArgs f (flatArgs args ++ .rp :: r) = .ok (args, r) :=
  fun args hne hw r => (args_read args hne hw r).exists_fuel

end SymVerif.StrP

namespace SymVerif.C16
open SymVerif SymVerif.Expr SymVerif.StrP

/-- **the syntactic round trip**: the parser re-reads the flattening of every well-parenthesised tree as that tree,
for every sufficiently large fuel -/
theorem parse_flat (t : PExpr) (h : WP t = true) : ∃ f0, ∀ f, f0 ≤ f → parseToks f (flat t) = .ok t := by
  have h0 := whole_of (r := []) (parse_tree t h) rfl rfl
  simp only [List.append_nil] at h0
  exact h0.map fun f e => by simp [parseToks, e]

end SymVerif.C16
