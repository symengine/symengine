import SymVerif.Lemmas.C25Get
/-!
C25 — `CSRMatrix::set`: the two-sided binary search, the `p_` shifts, and the one relation `Splice`
behind its four branches: in row `i` the `d` positions from `k` are replaced by `d'` new ones (no-op
0/0, insert 0/1, erase 1/0, overwrite 1/1).  `Splice.spec` gives canonicity and the dense update.
-/
namespace SymVerif.C25
open SymVerif.CSR Finset

/-- the search window `[k, e)` inside the row `[lo0, hi0)` keeps everything of the row before `k`
below `c` and everything from `e` on at least `c`; the result is the position where `c` is or goes -/
theorem setSearch_spec {j : Array Nat} (c : Nat) {lo0 hi0 : Nat} (hs : SortedOn j lo0 hi0)
    (hj : hi0 ≤ j.size) :
    ∀ fuel k e, e < k + fuel → lo0 ≤ k → k ≤ e → e ≤ hi0 →
      (∀ a, lo0 ≤ a → a < k → j[a]! < c) → (∀ a, e ≤ a → a < hi0 → c ≤ j[a]!) →
      ∃ r, setSearch j c fuel k e = .ok r ∧ k ≤ r ∧ r ≤ e ∧
        (∀ a, lo0 ≤ a → a < r → j[a]! < c) ∧ (∀ a, r ≤ a → a < hi0 → c ≤ j[a]!) := by
  intro fuel
  induction fuel with
  | zero => intro k e h _ h'; omega
  | succ f ih =>
    intro k e hf hk hke he hlow hhigh
    unfold setSearch
    by_cases hlt : k < e
    · have hm1 : k ≤ (k + e) / 2 := by omega
      have hm2 : (k + e) / 2 < e := by omega
      have hm3 : (k + e) / 2 = k → e = k + 1 := by omega
      simp only [hlt, if_true]
      generalize (k + e) / 2 = mid at hm1 hm2 hm3
      by_cases hmk : mid = k
      · subst mid
        obtain rfl : e = k + 1 := hm3 rfl
        have hkj : k < j.size := Nat.lt_of_lt_of_le he hj
        simp only [if_true, rd_lt hkj, ok_bind, pure_ok]
        by_cases hjk : j[k]! < c
        · exact ⟨k + 1, by rw [if_pos hjk], hke, Nat.le_refl _, hs.lt_below he hjk, hhigh⟩
        · exact ⟨k, by rw [if_neg hjk], Nat.le_refl _, hke, hlow,
            hs.le_above hk (Nat.le_of_not_lt hjk)⟩
      · clear hm3
        obtain ⟨m1, rfl⟩ : ∃ m1, mid = m1 + 1 := ⟨mid - 1, by omega⟩
        have hmj : m1 + 1 < j.size := by omega
        have hmj1 : m1 < j.size := Nat.lt_of_succ_lt hmj
        simp only [hmk, if_false, Nat.add_sub_cancel, rd_lt hmj, rd_lt hmj1, ok_bind, pure_ok]
        by_cases hc1 : j[m1 + 1]! ≥ c ∧ j[m1]! < c
        · rw [if_pos hc1]
          exact ⟨m1 + 1, rfl, hm1, Nat.le_of_lt hm2, hs.lt_below (by omega) hc1.2,
            hs.le_above (Nat.le_trans hk hm1) hc1.1⟩
        · rw [if_neg hc1]
          by_cases hc2 : j[m1]! ≥ c
          · rw [if_pos hc2]
            have hkm : k ≤ m1 := by omega
            obtain ⟨r, e1, r1, r2, r3, r4⟩ := ih k m1 (by omega) hk hkm (by omega) hlow
              (hs.le_above (by omega) hc2)
            exact ⟨r, e1, r1, by omega, r3, r4⟩
          · rw [if_neg hc2]
            have hjm : j[m1 + 1]! < c :=
              Nat.lt_of_not_le (fun h => hc1 ⟨h, Nat.lt_of_not_le hc2⟩)
            obtain ⟨r, e1, r1, r2, r3, r4⟩ := ih (m1 + 2) e (by omega) (by omega) hm2 he
              (hs.lt_below (by omega) hjm) hhigh
            exact ⟨r, e1, by omega, r2, r3, r4⟩
    · rw [if_neg hlt]
      exact ⟨k, rfl, Nat.le_refl _, hke, hlow,
        fun a h1 h2 => hhigh a (Nat.le_trans (Nat.le_of_not_lt hlt) h1) h2⟩

theorem bumpLoop_spec (f : Nat → Except Err Nat) (g : Nat → Nat) :
    ∀ n l (p : Array Nat), l + n = p.size →
      (∀ a, l ≤ a → a < p.size → f p[a]! = .ok (g p[a]!)) →
      ∃ p', bumpLoop f n l p = .ok p' ∧ p'.size = p.size ∧
        (∀ a, a < l → p'[a]! = p[a]!) ∧ ∀ a, l ≤ a → a < p.size → p'[a]! = g p[a]! := by
  intro n l p hl hf
  obtain ⟨p', h1, h2, h3, _, h5⟩ := sweep_spec (bumpLoop f) (fun _ v => g v) (fun _ v => f v = .ok (g v))
    (fun _ _ => rfl) (fun n l a h hq => by
      rw [bumpLoop]; simp only [rd_lt h, ok_bind, hq, wr_lt _ h])
    n l p (Nat.le_of_eq hl) (fun k hk1 hk2 => hf k hk1 (hl ▸ hk2))
  exact ⟨p', h1, h2, h3, fun a ha1 ha2 => h5 a ha1 (hl ▸ ha2)⟩

theorem RowOk.insert {col : Nat} {A B : List (Nat × Q)} {a : Nat × Q} (h : RowOk col (A ++ B))
    (ha : a.1 < col) (hA : ∀ b ∈ A, b.1 < a.1) (hB : ∀ b ∈ B, a.1 < b.1) : RowOk col (A ++ a :: B) := by
  obtain ⟨h1, h2, h3⟩ := List.pairwise_append.mp h.1
  refine ⟨List.pairwise_append.mpr ⟨h1, List.pairwise_cons.mpr ⟨hB, h2⟩, fun b hb b' hb' => ?_⟩,
    fun b hb => ?_⟩
  · rcases List.mem_cons.mp hb' with rfl | hb'
    · exact hA b hb
    · exact h3 b hb b' hb'
  · rcases List.mem_append.mp hb with hb | hb
    · exact h.2 b (List.mem_append_left _ hb)
    · rcases List.mem_cons.mp hb with rfl | hb
      · exact ha
      · exact h.2 b (List.mem_append_right _ hb)

/-- `m'` is `m` with the `d` stored positions from `k` on, which belong to row `i`, replaced by `d'`
new ones: the later entries of `p` move by `d' - d`, and so does what `j`, `x` hold from `k + d` on.
The fields say it additively (`… + d = … + d'`) because `d' - d` is `-1` for an erasure -/
structure Splice (m m' : Mat) (i k d d' : Nat) : Prop where
  row : m'.row = m.row
  col : m'.col = m.col
  psize : m'.p.size = m.p.size
  p_le : ∀ a, a ≤ i → m'.p[a]! = m.p[a]!
  p_gt : ∀ a, i < a → a ≤ m.row → m'.p[a]! + d = m.p[a]! + d'
  jsize : m'.j.size + d = m.j.size + d'
  xsize : m'.x.size = m'.j.size
  below : ∀ a, a < k → m'.j[a]! = m.j[a]! ∧ m'.x[a]! = m.x[a]!
  above : ∀ a, k ≤ a → m'.j[a + d']! = m.j[a + d]! ∧ m'.x[a + d']! = m.x[a + d]!
  irow : i < m.row
  klo : m.p[i]! ≤ k
  khi : k + d ≤ m.p[i + 1]!

namespace Splice

theorem rowL_eq {m m' : Mat} {i k d d' : Nat} (H : Splice m m' i k d d') (hmono : MonoTo m.p m.row)
    {r : Nat} (hr : r < m.row) :
    rowL m' r = if r = i then
        seg m.j m.x m.p[i]! k ++ seg m'.j m'.x k (k + d') ++ seg m.j m.x (k + d) m.p[i + 1]!
      else rowL m r := by
  -- an old pointer `v` and the new one `u`, in the form `seg_shift d d'` wants
  have key : ∀ {u v : Nat}, u + d = v + d' → k + d ≤ v → ∃ t, v = t + d ∧ u = t + d' ∧ k ≤ t :=
    fun {u v} h1 h2 => ⟨v - d, by omega, by omega, by omega⟩
  unfold rowL
  rcases Nat.lt_trichotomy r i with hlt | rfl | hgt
  · rw [H.p_le r (Nat.le_of_lt hlt), H.p_le (r + 1) hlt, if_neg (Nat.ne_of_lt hlt)]
    exact seg_congr (fun a _ ha => H.below a (Nat.lt_of_lt_of_le ha
      (Nat.le_trans (hmono (r + 1) i hlt (Nat.le_of_lt H.irow)) H.klo)))
  · obtain ⟨t, ht, ht', hkt⟩ := key (H.p_gt (r + 1) (Nat.lt_succ_self r) hr) H.khi
    rw [if_pos rfl, H.p_le r (Nat.le_refl r), ht', ht,
      seg_append k H.klo (Nat.le_trans hkt (Nat.le_add_right _ _)),
      seg_append (k + d') (Nat.le_add_right _ _) (Nat.add_le_add_right hkt _),
      seg_congr (fun a _ ha => H.below a ha), seg_shift d d' (fun a ha _ => H.above a ha),
      List.append_assoc]
  · have h3 := Nat.le_trans H.khi (hmono (i + 1) r hgt (Nat.le_of_lt hr))
    obtain ⟨s, hs, hs', hks⟩ := key (H.p_gt r hgt (Nat.le_of_lt hr)) h3
    obtain ⟨t, ht, ht', _⟩ := key (H.p_gt (r + 1) (Nat.lt_succ_of_lt hgt) hr)
      (Nat.le_trans h3 (hmono r (r + 1) (Nat.le_succ r) hr))
    rw [if_neg (Nat.ne_of_gt hgt), hs', ht', hs, ht]
    exact seg_shift d d' (fun a ha _ => H.above a (Nat.le_trans hks ha))

/-- column `c` is not stored in row `i` outside the old slice; the new slice is empty (then `e = 0`) or
the one pair `(c, e)` -/
theorem spec {m m' : Mat} {i k d d' c : Nat} {e : Q} (H : Splice m m' i k d d') (h : CanonCSR m)
    (hc : c < m.col) (hd' : d' ≤ 1) (he : d' = 0 → e = 0)
    (hlow : ∀ a, m.p[i]! ≤ a → a < k → m.j[a]! < c)
    (hold : ∀ a, k ≤ a → a < k + d → m.j[a]! = c)
    (hhigh : ∀ a, k + d ≤ a → a < m.p[i + 1]! → c < m.j[a]!)
    (hnew : ∀ a, k ≤ a → a < k + d' → m'.j[a]! = c ∧ m'.x[a]! = e) :
    CanonCSR m' ∧ m'.row = m.row ∧ m'.col = m.col ∧
      ∀ r c', r < m.row → dense m' r c' = if r = i ∧ c' = c then e else dense m r c' := by
  have hi := H.irow
  have hlo := H.klo
  have hk := H.khi
  have hA : ∀ a ∈ seg m.j m.x m.p[i]! k, a.1 < c := forall_mem_seg.mpr hlow
  have hB : ∀ a ∈ seg m.j m.x (k + d) m.p[i + 1]!, c < a.1 := forall_mem_seg.mpr hhigh
  have hO : ∀ a ∈ seg m.j m.x k (k + d), a.1 = c := forall_mem_seg.mpr hold
  have hrow : rowL m i = seg m.j m.x m.p[i]! k ++ seg m.j m.x k (k + d)
      ++ seg m.j m.x (k + d) m.p[i + 1]! := by
    rw [rowL, seg_append k hlo (by omega : k ≤ m.p[i + 1]!),
      seg_append (k + d) (Nat.le_add_right _ _) hk, List.append_assoc]
  -- the new slice, and the new row `i`: drop the old slice, then put the new pair in (if any)
  have hN : seg m'.j m'.x k (k + d') = if d' = 0 then [] else [(c, e)] := by
    rcases Nat.le_one_iff_eq_zero_or_eq_one.mp hd' with rfl | rfl
    · rw [if_pos rfl, Nat.add_zero, seg_self]
    · obtain ⟨e1, e2⟩ := hnew k (Nat.le_refl k) (Nat.lt_succ_self k)
      rw [if_neg Nat.one_ne_zero, seg_cons (Nat.lt_succ_self k), seg_self, e1, e2]
  have hNs : ∀ c', rowSum c' (seg m'.j m'.x k (k + d')) = pairVal c' (c, e) := fun c' => by
    rw [hN]
    split
    · rename_i h0; rw [he h0, pairVal_zero]; rfl
    · rw [rowSum_cons, rowSum_nil, add_zero]
  have hAB : RowOk m.col (seg m.j m.x m.p[i]! k ++ seg m.j m.x (k + d) m.p[i + 1]!) :=
    (h.rowOk hi).sublist (hrow ▸ (List.sublist_append_left _ _).append (List.Sublist.refl _))
  have hrowOk : RowOk m.col (seg m.j m.x m.p[i]! k ++ seg m'.j m'.x k (k + d')
      ++ seg m.j m.x (k + d) m.p[i + 1]!) := by
    rw [hN]
    split
    · rwa [List.append_nil]
    · rw [List.append_assoc]
      exact RowOk.insert hAB hc hA hB
  refine ⟨CanonCSR.of_rows (by rw [H.psize, H.row]; exact h.psize) H.xsize
    (by rw [H.p_le 0 (Nat.zero_le i)]; exact h.p0) ?plast (fun a b hab hb => ?pmono) (fun r hr => ?rows),
    H.row, H.col, fun r c' hr => ?dense⟩
  case plast =>
    have := H.p_gt m.row hi (Nat.le_refl _)
    have := H.jsize
    have := h.plast
    rw [H.row]; omega
  case pmono =>
    rw [H.row] at hb
    have h1 := h.pmono a b hab hb
    by_cases ha : a ≤ i
    · rw [H.p_le a ha]
      by_cases hb' : b ≤ i
      · rwa [H.p_le b hb']
      · -- row `i` holds the `d` old positions, so moving `p[b]` down by `d` does not pass `p[i]`
        have hroom : m.p[i]! + d ≤ m.p[i + 1]! := Nat.le_trans (Nat.add_le_add_right hlo d) hk
        have := H.p_gt b (Nat.lt_of_not_le hb') hb
        have := h.pmono a i ha (Nat.le_of_lt hi)
        have := h.pmono (i + 1) b (Nat.lt_of_not_le hb') hb
        omega
    · have := H.p_gt a (Nat.lt_of_not_le ha) (Nat.le_trans hab hb)
      have := H.p_gt b (Nat.lt_of_lt_of_le (Nat.lt_of_not_le ha) hab) hb
      omega
  case rows =>
    rw [H.row] at hr
    rw [H.rowL_eq h.pmono hr, H.col]
    split
    · exact hrowOk
    · exact h.rowOk hr
  case dense =>
    rw [dense_eq_rowSum, dense_eq_rowSum, H.rowL_eq h.pmono hr]
    by_cases hri : r = i
    · subst hri
      rw [if_pos rfl, hrow, rowSum_append, rowSum_append, rowSum_append, rowSum_append, hNs]
      by_cases hcc : c' = c
      · subst hcc
        rw [if_pos ⟨rfl, rfl⟩, rowSum_of_ne (fun a ha => Nat.ne_of_lt (hA a ha)),
          rowSum_of_ne (fun a ha => Nat.ne_of_gt (hB a ha)), zero_add, add_zero, pairVal_self]
      · rw [if_neg (fun h => hcc h.2), pairVal_ne _ (Ne.symm hcc), rowSum_of_ne (l := seg m.j m.x k (k + d))
          (fun a ha => (hO a ha).trans_ne (Ne.symm hcc))]
    · rw [if_neg hri, if_neg (fun h => hri h.1)]

theorem refl {m : Mat} {i k : Nat} (hx : m.x.size = m.j.size) (hi : i < m.row) (hk1 : m.p[i]! ≤ k)
    (hk2 : k ≤ m.p[i + 1]!) : Splice m m i k 0 0 :=
  { row := rfl, col := rfl, psize := rfl, p_le := fun _ _ => rfl, p_gt := fun _ _ _ => rfl,
    jsize := rfl, xsize := hx, below := fun _ _ => ⟨rfl, rfl⟩, above := fun _ _ => ⟨rfl, rfl⟩,
    irow := hi, klo := hk1, khi := hk2 }

theorem overwrite {m : Mat} {i k : Nat} (e : Q) (hx : m.x.size = m.j.size) (hkx : k < m.x.size)
    (hi : i < m.row) (hk1 : m.p[i]! ≤ k) (hk2 : k < m.p[i + 1]!) :
    Splice m { m with x := m.x.set k e hkx } i k 1 1 :=
  { row := rfl, col := rfl, psize := rfl, p_le := fun _ _ => rfl, p_gt := fun _ _ _ => rfl,
    jsize := rfl, xsize := (Array.size_set hkx).trans hx, irow := hi, klo := hk1, khi := hk2,
    below := fun _ ha => ⟨rfl, set_get!_ne m.x k e hkx (Nat.ne_of_lt ha)⟩,
    above := fun _ ha => ⟨rfl, set_get!_ne m.x k e hkx (Nat.ne_of_gt (Nat.lt_succ_of_le ha))⟩ }

/-- `hpsize hplo hphi` have the shape in which `bumpLoop_spec` returns them -/
theorem insert {m : Mat} {i k : Nat} (c : Nat) (e : Q) {p' : Array Nat} (hps : m.p.size = m.row + 1)
    (hx : m.x.size = m.j.size)
    (hpsize : p'.size = m.p.size) (hplo : ∀ a, a < i + 1 → p'[a]! = m.p[a]!)
    (hphi : ∀ a, i + 1 ≤ a → a < m.p.size → p'[a]! = m.p[a]! + 1) (hkj : k ≤ m.j.size)
    (hkx : k ≤ m.x.size) (hi : i < m.row) (hk1 : m.p[i]! ≤ k) (hk2 : k ≤ m.p[i + 1]!) :
    Splice m { m with p := p', j := m.j.insertIdx k c hkj, x := m.x.insertIdx k e hkx } i k 0 1 :=
  { row := rfl, col := rfl, psize := hpsize, irow := hi, klo := hk1, khi := hk2,
    p_le := fun a ha => hplo a (Nat.lt_succ_of_le ha),
    p_gt := fun a ha1 ha2 => hphi a ha1 (hps ▸ Nat.lt_succ_of_le ha2),
    jsize := Array.size_insertIdx (h := hkj),
    xsize := by
      show (m.x.insertIdx k e hkx).size = (m.j.insertIdx k c hkj).size
      rw [Array.size_insertIdx, Array.size_insertIdx, hx],
    below := fun _ ha => ⟨insertIdx_get!_lt m.j k c hkj ha, insertIdx_get!_lt m.x k e hkx ha⟩,
    above := fun _ ha => ⟨insertIdx_get!_succ m.j k c hkj ha, insertIdx_get!_succ m.x k e hkx ha⟩ }

theorem erase {m : Mat} {i k : Nat} {p' : Array Nat} (hps : m.p.size = m.row + 1)
    (hx : m.x.size = m.j.size)
    (hpsize : p'.size = m.p.size) (hplo : ∀ a, a < i + 1 → p'[a]! = m.p[a]!)
    (hphi : ∀ a, i + 1 ≤ a → a < m.p.size → p'[a]! = m.p[a]! - 1)
    (hpos : ∀ a, i + 1 ≤ a → a < m.p.size → 0 < m.p[a]!) (hkj : k < m.j.size) (hkx : k < m.x.size)
    (hi : i < m.row) (hk1 : m.p[i]! ≤ k) (hk2 : k < m.p[i + 1]!) :
    Splice m { m with p := p', j := m.j.eraseIdx k hkj, x := m.x.eraseIdx k hkx } i k 1 0 :=
  { row := rfl, col := rfl, psize := hpsize, irow := hi, klo := hk1, khi := hk2,
    p_le := fun a ha => hplo a (Nat.lt_succ_of_le ha),
    p_gt := fun a ha1 ha2 => by
      have ha : a < m.p.size := hps ▸ Nat.lt_succ_of_le ha2
      show p'[a]! + 1 = m.p[a]! + 0
      rw [hphi a ha1 ha, Nat.sub_add_cancel (hpos a ha1 ha), Nat.add_zero],
    jsize := by
      show (m.j.eraseIdx k hkj).size + 1 = m.j.size + 0
      rw [Array.size_eraseIdx, Nat.sub_add_cancel (Nat.lt_of_le_of_lt (Nat.zero_le k) hkj), Nat.add_zero],
    xsize := by
      show (m.x.eraseIdx k hkx).size = (m.j.eraseIdx k hkj).size
      rw [Array.size_eraseIdx, Array.size_eraseIdx, hx],
    below := fun _ ha => ⟨eraseIdx_get!_lt m.j k hkj ha, eraseIdx_get!_lt m.x k hkx ha⟩,
    above := fun _ ha => ⟨eraseIdx_get!_ge m.j k hkj ha, eraseIdx_get!_ge m.x k hkx ha⟩ }

end Splice

/-- `CSRMatrix::set`, all four branches: overwrite, insert, erase (value zero on a stored position),
no-op (value zero on an absent position) -/
theorem set_spec {m : Mat} (h : CanonCSR m) {i c : Nat} (hi : i < m.row) (hc : c < m.col) (e : Q) :
    ∃ m', CSR.set m i c e = .ok m' ∧ CanonCSR m' ∧ m'.row = m.row ∧ m'.col = m.col ∧
      ∀ i' c', i' < m.row → dense m' i' c' = if i' = i ∧ c' = c then e else dense m i' c' := by
  have hr := h.row_le hi
  have hps := h.psize
  obtain ⟨k, hk, hk1, hk2, hlow, hhigh⟩ :=
    setSearch_spec c (h.sorted i hi) hr.2 (m.p[i + 1]! - m.p[i]! + 1) m.p[i]! m.p[i + 1]!
      (by omega) (Nat.le_refl _) hr.1 (Nat.le_refl _)
      (fun a h1 h2 => absurd h2 (Nat.not_lt.mpr h1)) (fun a h1 h2 => absurd h2 (Nat.not_lt.mpr h1))
  unfold CSR.set
  simp only [hi, hc, and_self, not_true_eq_false, if_false, (h.rd_row hi).1, (h.rd_row hi).2, ok_bind, hk]
  by_cases hit : k < m.p[i + 1]! ∧ m.j[k]! = c
  · -- column `c` is stored at `k`: the old slice is `[k, k + 1)`
    obtain ⟨hin, hjk⟩ := hit
    have hkj : k < m.j.size := Nat.lt_of_lt_of_le hin hr.2
    have hkx : k < m.x.size := by rw [h.xsize]; exact hkj
    have hold : ∀ a, k ≤ a → a < k + 1 → m.j[a]! = c := forall_single hjk
    have hhigh' : ∀ a, k + 1 ≤ a → a < m.p[i + 1]! → c < m.j[a]! := fun a a1 a2 =>
      hjk ▸ h.sorted i hi k a hk1 a1 a2
    simp only [hin, if_true, rd_lt hkj, ok_bind, pure_ok, hjk, beq_self_eq_true]
    by_cases he : e = 0
    · subst he
      have hpos : ∀ a, i + 1 ≤ a → a < m.p.size → 0 < m.p[a]! := fun a ha1 ha2 =>
        Nat.lt_of_le_of_lt (Nat.zero_le k)
          (Nat.lt_of_lt_of_le hin (h.pmono (i + 1) a ha1 (by omega)))
      obtain ⟨p', hrun, hpsize, hplo, hphi⟩ := bumpLoop_spec decr (· - 1) (m.row - i) (i + 1) m.p
        (by omega) (fun a ha1 ha2 => by rw [decr, if_neg (Nat.ne_of_gt (hpos a ha1 ha2))])
      simp only [ne_eq, not_true_eq_false, if_false, del, hkx, hkj, dite_true, ok_bind, hrun]
      exact ⟨_, rfl, (Splice.erase hps h.xsize hpsize hplo hphi hpos hkj hkx hi hk1 hin).spec h hc
        (Nat.zero_le 1) (fun _ => rfl) hlow hold hhigh' (fun a a1 a2 => by omega)⟩
    · simp only [he, ne_eq, not_false_eq_true, if_true, wr_lt _ hkx, ok_bind]
      exact ⟨_, rfl, (Splice.overwrite e h.xsize hkx hi hk1 hin).spec h hc (Nat.le_refl 1)
        (fun h0 => absurd h0 Nat.one_ne_zero) hlow hold hhigh'
        (forall_single ⟨hjk, set_get!_eq m.x k e hkx⟩)⟩
  · -- column `c` is not stored in row `i` (the old slice is empty): all of the row from `k` on is larger;
    -- `k + 0` is how `Splice.spec` spells the end of an old slice of length 0
    have hhigh' : ∀ a, k + 0 ≤ a → a < m.p[i + 1]! → c < m.j[a]! := by
      intro a ha1 ha2
      have hin : k < m.p[i + 1]! := Nat.lt_of_le_of_lt ha1 ha2
      have hkc : c < m.j[k]! :=
        Nat.lt_of_le_of_ne (hhigh k (Nat.le_refl k) hin) (fun h' => hit ⟨hin, h'.symm⟩)
      exact (h.sorted i hi).lt_above hk1 hkc a ha1 ha2
    have hold : ∀ a, k ≤ a → a < k + 0 → m.j[a]! = c := fun a a1 a2 => by omega
    have hmiss : (if k < m.p[i + 1]! then (do let jk ← rd m.j k; pure (jk == c)) else pure false :
        Except Err Bool) = .ok false := by
      by_cases hin : k < m.p[i + 1]!
      · rw [if_pos hin, rd_lt (Nat.lt_of_lt_of_le hin hr.2)]
        show Except.ok (m.j[k]! == c) = _
        rw [beq_false_of_ne (fun h' => hit ⟨hin, h'⟩)]
      · rw [if_neg hin]; rfl
    rw [hmiss]
    by_cases he : e = 0
    · subst he
      simp only [ne_eq, not_true_eq_false, if_false, Bool.false_eq_true, ok_bind, pure_ok]
      exact ⟨m, rfl, (Splice.refl h.xsize hi hk1 hk2).spec h hc (Nat.zero_le 1) (fun _ => rfl)
        hlow hold hhigh' (fun a a1 a2 => by omega)⟩
    · obtain ⟨p', hrun, hpsize, hplo, hphi⟩ := bumpLoop_spec incr (· + 1) (m.row - i) (i + 1) m.p
        (by omega) (fun a _ _ => rfl)
      have hkj' : k ≤ m.j.size := Nat.le_trans hk2 hr.2
      have hkx' : k ≤ m.x.size := by rw [h.xsize]; exact hkj'
      simp only [he, ne_eq, not_false_eq_true, if_true, Bool.false_eq_true, if_false, ins, hkx', hkj',
        dite_true, ok_bind, hrun]
      exact ⟨_, rfl, (Splice.insert c e hps h.xsize hpsize hplo hphi hkj' hkx' hi hk1 hk2).spec h hc
        (Nat.le_refl 1) (fun h0 => absurd h0 Nat.one_ne_zero) hlow hold hhigh'
        (forall_single ⟨insertIdx_get!_eq m.j k c hkj', insertIdx_get!_eq m.x k e hkx'⟩)⟩

end SymVerif.C25
