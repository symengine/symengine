/-
Soundness of the rational-function normaliser `SymVerif.NF` (Model/NF.lean), for the certificate checkers of
C07, C09, C10, C11, C17 and the rewriting proofs of C36, C37.  In this order:

  evalGI, evalMono, evalPoly      value of a coefficient, monomial, polynomial in a commutative ring `K` with a chosen
                                  `I`; `evalPoly_padd / _pmul / _ppow / …`: the list operations are the ring operations
  Rep I ρ f v                     (`K` a field) the fraction `f` represents the value `v`:
                                  `den ≠ 0 ∧ num = v · den` after evaluation
  rep_addF / rep_mulF / …         the fraction operations are homomorphic; `equivF_sound`: cross multiplication
                                  accepts only fractions that represent the same value
  powVal, add2, mul2, evalK       denotation `evalK I ρ : Expr → Option K` of the integer-exponent exact fragment,
                                  built from three operations on partial values
  add2_some … bind_powVal_one     what a defined `add2 / mul2 / powVal` says about its parts, when `powVal` is defined,
                                  `intLit_eq_some`, then the units `some 0`, `some 1`, exponent `1` of the three
                                  operations (used where trees are rewritten: C17, C36, C37)
  ORep I ρ f x                    `f` represents the partial value `x : Option K` wherever it is defined;
                                  `ORep.add2 / .mul2 / .powVal` follow the operations `evalK` is built from
  normT_rep, normT_sound          (`K` of characteristic 0) ORep (normT e) (evalK e),
                                  i.e. evalK e = some v → Rep (normT e) v
  norm_sound, equiv_sound         the checker `NF.equiv` accepts only trees with equal values
-/
import Mathlib.Algebra.Field.Basic
import Mathlib.Algebra.CharZero.Defs
import Mathlib.Algebra.Order.Ring.Int
import Mathlib.Data.Int.Cast.Lemmas
import Mathlib.Tactic.Ring
import Mathlib.Tactic.LinearCombination
import Mathlib.Tactic.FieldSimp
import SymVerif.Model.NF

namespace SymVerif
namespace NF

-- for the test `v = 0` in `powVal` over an arbitrary field; hence `powVal`, `evalK` and what is built on them are noncomputable
open Classical

section Ring
variable {K : Type*} [CommRing K]

def evalGI (I : K) (c : GI) : K := (c.re : K) + (c.im : K) * I

def evalMono (ρ : String → K) : Mono → K
  | [] => 1
  | (a, i) :: t => ρ a ^ i * evalMono ρ t

def evalPoly (I : K) (ρ : String → K) : Poly → K
  | [] => 0
  | (m, c) :: t => evalGI I c * evalMono ρ m + evalPoly I ρ t

variable (I : K) (ρ : String → K)

theorem evalGI_add (a b : GI) : evalGI I (GI.add a b) = evalGI I a + evalGI I b := by
  simp only [evalGI, GI.add, Int.cast_add]; ring

theorem evalGI_neg (a : GI) : evalGI I (GI.neg a) = - evalGI I a := by
  simp only [evalGI, GI.neg, Int.cast_neg]; ring

theorem evalGI_mul (hI : I * I = -1) (a b : GI) :
    evalGI I (GI.mul a b) = evalGI I a * evalGI I b := by
  simp only [evalGI, GI.mul, Int.cast_add, Int.cast_sub, Int.cast_mul]
  linear_combination (-(a.im : K) * (b.im : K)) * hI

theorem evalGI_isZero {c : GI} (h : c.isZero = true) : evalGI I c = 0 := by
  obtain ⟨re, im⟩ := c
  simp only [GI.isZero, Bool.and_eq_true, beq_iff_eq] at h
  simp [evalGI, h.1, h.2]

@[simp] theorem evalGI_one : evalGI I GI.one = 1 := by simp [evalGI, GI.one]
@[simp] theorem evalGI_ofInt (n : Int) : evalGI I (GI.ofInt n) = (n : K) := by simp [evalGI, GI.ofInt]

theorem evalMono_mmul (m n : Mono) : evalMono ρ (mmul m n) = evalMono ρ m * evalMono ρ n := by
  fun_induction mmul m n with
  | case1 m => simp [evalMono]
  | case2 a i s => simp [evalMono]
  | case3 a i s j t ih => simp only [evalMono, ih, pow_add]; ring -- same variable: the exponents add
  | case4 a i s b j t _ _ ih => simp only [evalMono, ih]; ring -- heads differ: the smaller name is emitted
  | case5 a i s b j t _ _ ih => simp only [evalMono, ih]; ring

theorem evalPoly_padd (p q : Poly) : evalPoly I ρ (padd p q) = evalPoly I ρ p + evalPoly I ρ q := by
  fun_induction padd p q with
  | case1 q => simp [evalPoly]
  | case2 m c s => simp [evalPoly]
  | case3 c s m d t hz ih =>
    -- equal monomials whose coefficients cancel: the term is dropped
    have hcd : evalGI I c + evalGI I d = 0 := evalGI_add I c d ▸ evalGI_isZero I hz
    simp only [evalPoly, ih]
    linear_combination (-(evalMono ρ m)) * hcd
  | case4 c s m d t hz ih => -- equal monomials: the coefficients are added
    simp only [evalPoly, ih, evalGI_add]; ring
  | case5 m c s n d t _ _ ih => simp only [evalPoly, ih]; ring -- heads differ: the one that comes first is emitted
  | case6 m c s n d t _ _ ih => simp only [evalPoly, ih]; ring

theorem evalPoly_pneg (p : Poly) : evalPoly I ρ (pneg p) = - evalPoly I ρ p := by
  induction p with
  | nil => simp [pneg, evalPoly]
  | cons t s ih => obtain ⟨m, c⟩ := t; simp only [pneg, evalPoly, ih, evalGI_neg]; ring

theorem evalPoly_pmulTerm (hI : I * I = -1) (m : Mono) (c : GI) (q : Poly) :
    evalPoly I ρ (pmulTerm m c q) = evalGI I c * evalMono ρ m * evalPoly I ρ q := by
  induction q with
  | nil => simp [pmulTerm, evalPoly]
  | cons t s ih =>
    obtain ⟨n, d⟩ := t
    simp only [pmulTerm]
    split
    · rename_i hz
      have hcd : evalGI I c * evalGI I d = 0 := evalGI_mul I hI c d ▸ evalGI_isZero I hz
      simp only [evalPoly, ih]
      linear_combination (-(evalMono ρ m * evalMono ρ n)) * hcd
    · simp only [evalPoly, ih, evalGI_mul I hI, evalMono_mmul]; ring

theorem evalPoly_pmul (hI : I * I = -1) (p q : Poly) :
    evalPoly I ρ (pmul p q) = evalPoly I ρ p * evalPoly I ρ q := by
  induction p with
  | nil => simp [pmul, evalPoly]
  | cons t s ih =>
    obtain ⟨m, c⟩ := t
    simp only [pmul, evalPoly_padd, evalPoly_pmulTerm I ρ hI, ih, evalPoly]; ring

@[simp] theorem evalPoly_pone : evalPoly I ρ pone = 1 := by simp [pone, evalPoly, evalMono]
@[simp] theorem evalPoly_pzero : evalPoly I ρ pzero = 0 := by simp [pzero, evalPoly]

theorem evalPoly_pconst (c : GI) : evalPoly I ρ (pconst c) = evalGI I c := by
  unfold pconst; split
  · rename_i h; simp [evalPoly, evalGI_isZero I h]
  · simp [evalPoly, evalMono]

@[simp] theorem evalPoly_patom (s : String) : evalPoly I ρ (patom s) = ρ s := by
  simp [patom, evalPoly, evalMono]

theorem evalPoly_ppow (hI : I * I = -1) (p : Poly) (n : Nat) :
    evalPoly I ρ (ppow p n) = evalPoly I ρ p ^ n := by
  induction n with
  | zero => simp [ppow]
  | succ n ih => simp only [ppow, evalPoly_pmul I ρ hI, ih, pow_succ]; ring

theorem evalPoly_psub (p q : Poly) : evalPoly I ρ (psub p q) = evalPoly I ρ p - evalPoly I ρ q := by
  simp only [psub, evalPoly_padd, evalPoly_pneg]; ring

end Ring

section Field
variable {K : Type*} [Field K] (I : K) (ρ : String → K)

/-- the fraction `f` represents the value `v` under the assignment `ρ` -/
def Rep (f : Frac) (v : K) : Prop :=
  evalPoly I ρ f.den ≠ 0 ∧ evalPoly I ρ f.num = v * evalPoly I ρ f.den

variable {I ρ}

theorem rep_constF (c : GI) : Rep I ρ (constF c) (evalGI I c) := by
  simp [Rep, constF, evalPoly_pconst]

theorem rep_zeroF : Rep I ρ zeroF 0 := by simp [Rep, zeroF]
theorem rep_oneF : Rep I ρ oneF 1 := by simp [Rep, oneF]
theorem rep_atomF (s : String) : Rep I ρ (atomF s) (ρ s) := by simp [Rep, atomF]

theorem rep_quotF (n d : GI) (h : evalGI I d ≠ 0) : Rep I ρ (quotF n d) (evalGI I n / evalGI I d) := by
  refine ⟨by simpa [quotF, evalPoly_pconst] using h, ?_⟩
  simp only [quotF, evalPoly_pconst]
  field_simp

theorem evalPoly_pmul_ne_zero (hI : I * I = -1) {p q : Poly} (hp : evalPoly I ρ p ≠ 0) (hq : evalPoly I ρ q ≠ 0) :
    evalPoly I ρ (pmul p q) ≠ 0 := by
  rw [evalPoly_pmul I ρ hI]; exact mul_ne_zero hp hq

theorem rep_addF (hI : I * I = -1) {f g : Frac} {a b : K} (hf : Rep I ρ f a) (hg : Rep I ρ g b) :
    Rep I ρ (addF f g) (a + b) := by
  obtain ⟨hf0, hf⟩ := hf
  obtain ⟨hg0, hg⟩ := hg
  unfold addF
  split
  · rename_i hden
    refine ⟨hf0, ?_⟩
    simp only [evalPoly_padd, hf, hg, ← hden]; ring
  · refine ⟨evalPoly_pmul_ne_zero hI hf0 hg0, ?_⟩
    simp only [evalPoly_padd, evalPoly_pmul I ρ hI, hf, hg]; ring

theorem rep_negF {f : Frac} {a : K} (hf : Rep I ρ f a) : Rep I ρ (negF f) (-a) := by
  obtain ⟨hf0, hf⟩ := hf
  refine ⟨hf0, ?_⟩
  simp only [negF, evalPoly_pneg, hf]; ring

theorem rep_subF (hI : I * I = -1) {f g : Frac} {a b : K} (hf : Rep I ρ f a) (hg : Rep I ρ g b) :
    Rep I ρ (subF f g) (a - b) := by
  have := rep_addF hI hf (rep_negF hg)
  simpa [subF, sub_eq_add_neg] using this

theorem rep_mulF (hI : I * I = -1) {f g : Frac} {a b : K} (hf : Rep I ρ f a) (hg : Rep I ρ g b) :
    Rep I ρ (mulF f g) (a * b) := by
  obtain ⟨hf0, hf⟩ := hf
  obtain ⟨hg0, hg⟩ := hg
  refine ⟨evalPoly_pmul_ne_zero hI hf0 hg0, ?_⟩
  simp only [mulF, evalPoly_pmul I ρ hI, hf, hg]; ring

theorem rep_invF {f : Frac} {a : K} (hf : Rep I ρ f a) (ha : a ≠ 0) : Rep I ρ (invF f) a⁻¹ := by
  obtain ⟨hf0, hf⟩ := hf
  refine ⟨by simp only [invF, hf]; exact mul_ne_zero ha hf0, ?_⟩
  simp only [invF, hf]
  field_simp

theorem rep_divF (hI : I * I = -1) {f g : Frac} {a b : K} (hf : Rep I ρ f a) (hg : Rep I ρ g b)
    (hb : b ≠ 0) : Rep I ρ (divF f g) (a / b) := by
  have := rep_mulF hI hf (rep_invF hg hb)
  simpa [divF, div_eq_mul_inv] using this

theorem rep_npowF (hI : I * I = -1) {f : Frac} {a : K} (hf : Rep I ρ f a) (n : Nat) :
    Rep I ρ (npowF f n) (a ^ n) := by
  obtain ⟨hf0, hf⟩ := hf
  refine ⟨by simpa [npowF, evalPoly_ppow I ρ hI] using pow_ne_zero n hf0, ?_⟩
  simp only [npowF, evalPoly_ppow I ρ hI, hf, mul_pow]

theorem rep_powF (hI : I * I = -1) {f : Frac} {a : K} (hf : Rep I ρ f a) (n : Int)
    (ha : n < 0 → a ≠ 0) : Rep I ρ (powF f n) (a ^ n) := by
  unfold powF
  split
  · rename_i hn
    have h : a ^ n = a⁻¹ ^ n.natAbs := by
      rw [inv_pow, ← zpow_natCast, ← zpow_neg, Int.ofNat_natAbs_of_nonpos hn.le, neg_neg]
    rw [h]; exact rep_npowF hI (rep_invF hf (ha hn)) n.natAbs
  · rename_i hn
    have h : a ^ n = a ^ n.natAbs := by rw [← zpow_natCast, Int.natAbs_of_nonneg (by omega)]
    rw [h]; exact rep_npowF hI hf n.natAbs

/-- the checker accepts only fractions that represent the same value -/
theorem equivF_sound (hI : I * I = -1) {f g : Frac} {a b : K} (hf : Rep I ρ f a) (hg : Rep I ρ g b)
    (h : equivF f g = true) : a = b := by
  obtain ⟨hf0, hf⟩ := hf
  obtain ⟨hg0, hg⟩ := hg
  have h1 : pmul f.num g.den = pmul g.num f.den := by simpa [equivF] using h
  have h2 := congrArg (evalPoly I ρ) h1
  simp only [evalPoly_pmul I ρ hI, hf, hg] at h2
  have h3 : a * (evalPoly I ρ f.den * evalPoly I ρ g.den) = b * (evalPoly I ρ f.den * evalPoly I ρ g.den) := by
    linear_combination h2
  exact mul_right_cancel₀ (mul_ne_zero hf0 hg0) h3

theorem rep_unique {f : Frac} {a b : K} (hf : Rep I ρ f a) (hg : Rep I ρ f b) : a = b := by
  obtain ⟨hf0, hf⟩ := hf
  obtain ⟨_, hg⟩ := hg
  exact mul_right_cancel₀ hf0 (hf.symm.trans hg)

end Field

section Sem
variable {K : Type*} [Field K] (I : K) (ρ : String → K)

/-- value of `b ^ n` for an integer literal `n`; undefined for `0 ^ negative` -/
noncomputable def powVal (v : K) (n : Int) : Option K :=
  if n < 0 ∧ v = 0 then none else some (v ^ n)

noncomputable def add2 : Option K → Option K → Option K
  | some a, some b => some (a + b)
  | _, _ => none

noncomputable def mul2 : Option K → Option K → Option K
  | some a, some b => some (a * b)
  | _, _ => none

mutual
  /-- Denotation of an expression tree of the integer-exponent exact fragment in the field `K`.
  `I` interprets the imaginary unit, `ρ` assigns a value to every atom (keyed by `Expr.dumpCanon`).
  `none`: outside the fragment (floats, infinities, NaN, booleans), malformed number leaves, or a
  zero base under a negative exponent. -/
  noncomputable def evalK : Expr → Option K
    | .int n => some (n : K)
    | .rat n d => if d = 0 then none else some ((n : K) / (d : K))
    | .cplx re im =>
      if re.den = 0 ∨ im.den = 0 then none
      else some ((re.num : K) / (re.den : K) + I * ((im.num : K) / (im.den : K)))
    | .add c ts => add2 (evalK c) (evalTerms ts)
    | .mul c fs => mul2 (evalK c) (evalFacs fs)
    | .pow b e =>
      match intLit? e with
      | some n => (evalK b).bind (fun v => powVal v n)
      | none => some (ρ (Expr.dumpCanon (.pow b e)))
    | .dbl _ => none
    | .cdbl _ _ => none
    | .infty _ => none
    | .nan => none
    | .bool _ => none
    | .sym n => some (ρ (Expr.dumpCanon (.sym n)))
    | .dummy n i => some (ρ (Expr.dumpCanon (.dummy n i)))
    | .const n => some (ρ (Expr.dumpCanon (.const n)))
    | .fsym n args => some (ρ (Expr.dumpCanon (.fsym n args)))
    | .app h args => some (ρ (Expr.dumpCanon (.app h args)))
  /-- `Σ kᵢ·vᵢ` over the entries of an `Add` dictionary -/
  noncomputable def evalTerms : List (Expr × Expr) → Option K
    | [] => some 0
    | (k, v) :: t => add2 (mul2 (evalK k) (evalK v)) (evalTerms t)
  /-- `Π bᵢ^eᵢ` over the entries of a `Mul` dictionary -/
  noncomputable def evalFacs : List (Expr × Expr) → Option K
    | [] => some 1
    | (b, e) :: t =>
      match intLit? e with
      | some n => mul2 ((evalK b).bind (fun v => powVal v n)) (evalFacs t)
      | none => mul2 (some (ρ (Expr.dumpCanon (.pow b e)))) (evalFacs t)
end

variable {I ρ}

theorem add2_some {x y : Option K} {v : K} (h : add2 x y = some v) :
    ∃ a b, x = some a ∧ y = some b ∧ v = a + b := by
  cases x <;> cases y <;> simp [add2] at h
  exact ⟨_, _, rfl, rfl, h.symm⟩

theorem mul2_some {x y : Option K} {v : K} (h : mul2 x y = some v) :
    ∃ a b, x = some a ∧ y = some b ∧ v = a * b := by
  cases x <;> cases y <;> simp [mul2] at h
  exact ⟨_, _, rfl, rfl, h.symm⟩

theorem powVal_some {a v : K} {n : Int} (h : powVal a n = some v) : (n < 0 → a ≠ 0) ∧ v = a ^ n := by
  unfold powVal at h
  split at h
  · cases h
  · rename_i hn
    simp only [Option.some.injEq] at h
    exact ⟨fun h1 h2 => hn ⟨h1, h2⟩, h.symm⟩

theorem bind_powVal_some {x : Option K} {v : K} {n : Int} (h : x.bind (fun a => powVal a n) = some v) :
    ∃ a, x = some a ∧ (n < 0 → a ≠ 0) ∧ v = a ^ n := by
  cases x with
  | none => simp at h
  | some a => exact ⟨a, rfl, powVal_some (by simpa using h)⟩

theorem powVal_of {a : K} {n : Int} (h : n < 0 → a ≠ 0) : powVal a n = some (a ^ n) :=
  if_neg fun hn => h hn.1 hn.2

theorem powVal_of_nonneg {a : K} {n : Int} (h : 0 ≤ n) : powVal a n = some (a ^ n) :=
  powVal_of fun hn => absurd hn (by omega)

theorem powVal_of_ne {a : K} (h : a ≠ 0) (n : Int) : powVal a n = some (a ^ n) := powVal_of fun _ => h

theorem powVal_one (a : K) : powVal a 1 = some a := by rw [powVal_of (fun h => absurd h (by decide)), zpow_one]

theorem intLit_eq_some {e : Expr} {n : Int} (h : intLit? e = some n) : e = .int n := by
  cases e with
  | int m => exact congrArg Expr.int (Option.some.inj h)
  | _ => cases h

/-! Unit laws.  With them the value of a small raw tree is one equation between partial values, e.g.
`evalK (.add (.int 0) [(x, .int 1), (y, .int 1)]) = add2 (evalK x) (evalK y)` (`C17.evalK_add`); `add2_some` then gives
both "defined, with this value" and "defined only if the parts are". -/

theorem add2_zero_left (o : Option K) : add2 (some 0) o = o := by cases o <;> simp [add2]

theorem add2_zero_right (o : Option K) : add2 o (some 0) = o := by cases o <;> simp [add2]

theorem mul2_one_left (o : Option K) : mul2 (some 1) o = o := by cases o <;> simp [mul2]

theorem mul2_one_right (o : Option K) : mul2 o (some 1) = o := by cases o <;> simp [mul2]

theorem bind_powVal_one (o : Option K) : (o.bind fun v => powVal v 1) = o := by
  cases o <;> simp [powVal_one]

/-- the fraction `f` represents the partial value `x` wherever `x` is defined -/
def ORep (I : K) (ρ : String → K) (f : Frac) (x : Option K) : Prop := ∀ v, x = some v → Rep I ρ f v

theorem ORep.of {f : Frac} {v : K} (h : Rep I ρ f v) : ORep I ρ f (some v) := by
  rintro _ ⟨⟩; exact h

theorem ORep.undef (f : Frac) : ORep I ρ f none := by rintro _ ⟨⟩

theorem ORep.ite {c : Prop} [Decidable c] {f : Frac} {v : K} (h : ¬c → Rep I ρ f v) :
    ORep I ρ f (if c then Option.none else Option.some v) := by
  split
  · exact .undef f
  · rename_i hc; exact .of (h hc)

theorem ORep.add2 (hI : I * I = -1) {f g : Frac} {x y : Option K} (hf : ORep I ρ f x) (hg : ORep I ρ g y) :
    ORep I ρ (addF f g) (add2 x y) := by
  intro v h
  obtain ⟨a, b, rfl, rfl, rfl⟩ := add2_some h
  exact rep_addF hI (hf a rfl) (hg b rfl)

theorem ORep.mul2 (hI : I * I = -1) {f g : Frac} {x y : Option K} (hf : ORep I ρ f x) (hg : ORep I ρ g y) :
    ORep I ρ (mulF f g) (mul2 x y) := by
  intro v h
  obtain ⟨a, b, rfl, rfl, rfl⟩ := mul2_some h
  exact rep_mulF hI (hf a rfl) (hg b rfl)

theorem ORep.powVal (hI : I * I = -1) {f : Frac} {x : Option K} (hf : ORep I ρ f x) (n : Int) :
    ORep I ρ (powF f n) (x.bind fun v => powVal v n) := by
  intro v h
  obtain ⟨a, rfl, hz, rfl⟩ := bind_powVal_some h
  exact rep_powF hI (hf a rfl) n hz

theorem ORep.equivF_sound (hI : I * I = -1) {f g : Frac} {x y : Option K} {a b : K} (hf : ORep I ρ f x)
    (hg : ORep I ρ g y) (h : equivF f g = true) (hx : x = some a) (hy : y = some b) : a = b :=
  NF.equivF_sound hI (hf a hx) (hg b hy) h

-- the denominators of number leaves are `Nat`s (`.rat n d`, `Q.den`): `d ≠ 0` must give `(d : K) ≠ 0` (`rep_rat`, `rep_cplxF`)
variable [CharZero K]

theorem rep_rat (n : Int) (d : Nat) (hd : d ≠ 0) :
    Rep I ρ (quotF (GI.ofInt n) (GI.ofInt d)) ((n : K) / (d : K)) := by
  have hd' : (d : K) ≠ 0 := Nat.cast_ne_zero.mpr hd
  have := rep_quotF (I := I) (ρ := ρ) (GI.ofInt n) (GI.ofInt d) (by simpa using hd')
  simpa using this

theorem rep_cplxF (re im : Q) (h1 : re.den ≠ 0) (h2 : im.den ≠ 0) :
    Rep I ρ (cplxF re im) ((re.num : K) / (re.den : K) + I * ((im.num : K) / (im.den : K))) := by
  have hr : (re.den : K) ≠ 0 := Nat.cast_ne_zero.mpr h1
  have hi : (im.den : K) ≠ 0 := Nat.cast_ne_zero.mpr h2
  refine ⟨?_, ?_⟩
  · simp only [cplxF, evalPoly_pconst, evalGI]
    push_cast
    rw [zero_mul, add_zero]
    exact mul_ne_zero hr hi
  · simp only [cplxF, evalPoly_pconst, evalGI]
    push_cast
    field_simp [hr, hi]
    ring

-- `normTerms_rep`, `normFacs_rep` need `[CharZero K]` only through `normT_rep`, which the linter does not see
set_option linter.unusedSectionVars false in
mutual
  theorem normT_rep (hI : I * I = -1) : ∀ (e : Expr), ORep I ρ (normT e) (evalK I ρ e)
    | .int n => by simp only [evalK, normT]; exact .of (evalGI_ofInt I n ▸ rep_constF (GI.ofInt n))
    | .rat n d => by
      simp only [evalK, normT]
      exact ORep.ite fun hd => rep_rat n d hd
    | .cplx re im => by
      simp only [evalK, normT]
      exact ORep.ite fun hd => rep_cplxF re im (not_or.1 hd).1 (not_or.1 hd).2
    | .add c ts => by
      simp only [evalK, normT]; exact (normT_rep hI c).add2 hI (normTerms_rep hI ts)
    | .mul c fs => by
      simp only [evalK, normT]; exact (normT_rep hI c).mul2 hI (normFacs_rep hI fs)
    | .pow b e => by
      simp only [evalK, normT]
      cases intLit? e with
      | some n => exact (normT_rep hI b).powVal hI n
      | none => exact .of (rep_atomF _)
    | .dbl _ | .cdbl _ _ | .infty _ | .nan | .bool _ => by simp only [evalK]; exact .undef _
    | .sym _ | .dummy _ _ | .const _ | .fsym _ _ | .app _ _ => by
      simp only [evalK, normT]; exact .of (rep_atomF _)
  theorem normTerms_rep (hI : I * I = -1) :
      ∀ (ts : List (Expr × Expr)), ORep I ρ (normTerms ts) (evalTerms I ρ ts)
    | [] => by simp only [evalTerms, normTerms]; exact .of (rep_zeroF)
    | (k, c) :: t => by
      simp only [evalTerms, normTerms]
      exact ((normT_rep hI k).mul2 hI (normT_rep hI c)).add2 hI (normTerms_rep hI t)
  theorem normFacs_rep (hI : I * I = -1) :
      ∀ (fs : List (Expr × Expr)), ORep I ρ (normFacs fs) (evalFacs I ρ fs)
    | [] => by simp only [evalFacs, normFacs]; exact .of (rep_oneF)
    | (b, e) :: t => by
      simp only [evalFacs, normFacs]
      cases intLit? e with
      | some n => exact ((normT_rep hI b).powVal hI n).mul2 hI (normFacs_rep hI t)
      | none => exact (ORep.of (rep_atomF _)).mul2 hI (normFacs_rep hI t)
end

theorem normT_sound (hI : I * I = -1) : ∀ (e : Expr) (v : K), evalK I ρ e = some v → Rep I ρ (normT e) v :=
  normT_rep hI

theorem normTerms_sound (hI : I * I = -1) :
      ∀ (ts : List (Expr × Expr)) (v : K), evalTerms I ρ ts = some v → Rep I ρ (normTerms ts) v :=
  normTerms_rep hI

theorem normFacs_sound (hI : I * I = -1) :
      ∀ (fs : List (Expr × Expr)) (v : K), evalFacs I ρ fs = some v → Rep I ρ (normFacs fs) v :=
  normFacs_rep hI

-- soundness does not use the error scan `firstErr` (it only makes `equiv` refuse): `normT` is total, and `ORep` asks
-- nothing where `evalK` is `none`
theorem norm_ok {e : Expr} {f : Frac} (h : norm e = .ok f) : f = normT e := by
  unfold norm at h
  split at h
  · cases h
  · cases h; rfl

/-- **Soundness of `NF.norm`**: a normal form represents the value of the expression wherever the
expression has a value. -/
theorem norm_sound (hI : I * I = -1) {e : Expr} {f : Frac} {v : K}
    (h : norm e = .ok f) (hv : evalK I ρ e = some v) : Rep I ρ f v := by
  rw [norm_ok h]; exact normT_sound hI e v hv

theorem equiv_of_equivF {a b : Expr} (ha : firstErr a = none) (hb : firstErr b = none)
    (h : equivF (normT a) (normT b) = true) : equiv a b = true := by
  simp only [equiv, norm, ha, hb, h]

/-- **Soundness of `NF.equiv`**: for every field `K` of characteristic 0, every square root `I` of
`-1` in `K` and every assignment `ρ` of the atoms, expressions accepted by `equiv` have equal values
wherever both are defined. -/
theorem equiv_sound (hI : I * I = -1) {a b : Expr} {va vb : K}
    (h : equiv a b = true) (ha : evalK I ρ a = some va) (hb : evalK I ρ b = some vb) : va = vb := by
  unfold equiv at h
  split at h
  · rename_i f g hf hg
    exact equivF_sound hI (norm_sound hI hf ha) (norm_sound hI hg hb) h
  · cases h

end Sem

end NF
end SymVerif
