/-
C03 helper lemmas: the recognisers of the model name a constructor; arithmetic on canonical numeric
leaves yields canonical numeric leaves.
-/
import SymVerif.Lemmas.C03Dict

namespace SymVerif.Arith

theorem isInteger_iff {e : Expr} : isInteger e = true ↔ ∃ n, e = .int n := by
  cases e <;> simp [isInteger]

theorem isRational_iff {e : Expr} : isRational e = true ↔ ∃ n d, e = .rat n d := by
  cases e <;> simp [isRational]

theorem isComplex_iff {e : Expr} : isComplex e = true ↔ ∃ re im, e = .cplx re im := by
  cases e <;> simp [isComplex]

theorem isMul_iff {e : Expr} : isMul e = true ↔ ∃ c fs, e = .mul c fs := by
  cases e <;> simp [isMul]

theorem isPow_iff {e : Expr} : isPow e = true ↔ ∃ b x, e = .pow b x := by
  cases e <;> simp [isPow]

theorem isMul_eq_false {e : Expr} (h : ∀ c fs, e = .mul c fs → False) : isMul e = false :=
  Bool.eq_false_iff.mpr fun hm => by obtain ⟨c, fs, rfl⟩ := isMul_iff.mp hm; exact h c fs rfl

theorem isPow_eq_false {e : Expr} (h : ∀ b x, e = .pow b x → False) : isPow e = false :=
  Bool.eq_false_iff.mpr fun hp => by obtain ⟨b, x, rfl⟩ := isPow_iff.mp hp; exact h b x rfl

theorem isIntLit_iff {e : Expr} {n : Int} : isIntLit e n = true ↔ e = .int n := by
  cases e <;> simp [isIntLit]

theorem exactList_iff : ∀ l : List Expr, exactList l = true ↔ ∀ a ∈ l, exact a = true
  | [] => by simp [exactList]
  | a :: t => by simp [exactList, exactList_iff t]

theorem isNumZero_eq (e : Expr) : isNumZero e = numIsZero e := by cases e <;> rfl

theorem isExactNum_cases {e : Expr} (h : isExactNum e = true) :
    (∃ n, e = .int n) ∨ (∃ n d, e = .rat n d) ∨ ∃ re im, e = .cplx re im := by
  cases e <;> simp [isExactNum] at h ⊢

theorem isExactNum_eq (e : Expr) : (isInteger e || isRational e || isComplex e) = isExactNum e := by
  cases e <;> rfl

theorem nonNum_class {e : Expr} (h : e.isNum = false) :
    isInteger e = false ∧ isRational e = false ∧ isComplex e = false := by
  cases e <;> first | exact ⟨rfl, rfl, rfl⟩ | cases h

theorem isNum_of_isInteger {e : Expr} (h : isInteger e = true) : e.isNum = true := by
  obtain ⟨_, rfl⟩ := isInteger_iff.mp h; rfl

theorem Q.canon_iff {q : Q} : Q.canon q = true ↔ q.den ≠ 0 ∧ Nat.gcd q.num.natAbs q.den = 1 := by
  simp [Q.canon]

theorem Q.norm_canon (n : Int) (d : Nat) (hd : d ≠ 0) : Q.canon (Q.norm n d) = true := by
  have hg : 0 < Nat.gcd n.natAbs d := Nat.gcd_pos_of_pos_right _ (Nat.pos_of_ne_zero hd)
  have hg0 : (Nat.gcd n.natAbs d == 0) = false := by
    simp; omega
  simp only [Q.norm, hg0]
  rw [Q.canon_iff]
  simp only [Bool.false_eq_true, ↓reduceIte]
  constructor
  · have : Nat.gcd n.natAbs d ≤ d := Nat.gcd_le_right _ (Nat.pos_of_ne_zero hd)
    have := Nat.div_pos this hg
    omega
  · rw [Int.natAbs_ediv_of_dvd (Int.ofNat_dvd_left.mpr (Nat.gcd_dvd_left _ _)), Int.natAbs_natCast]
    exact Nat.coprime_div_gcd_div_gcd hg

theorem Q.add_canon {a b : Q} (ha : Q.canon a = true) (hb : Q.canon b = true) :
    Q.canon (Q.add a b) = true := by
  rw [Q.canon_iff] at ha hb
  exact Q.norm_canon _ _ (Nat.mul_ne_zero ha.1 hb.1)

theorem Q.mul_canon {a b : Q} (ha : Q.canon a = true) (hb : Q.canon b = true) :
    Q.canon (Q.mul a b) = true := by
  rw [Q.canon_iff] at ha hb
  exact Q.norm_canon _ _ (Nat.mul_ne_zero ha.1 hb.1)

theorem Q.neg_canon {a : Q} (ha : Q.canon a = true) : Q.canon (Q.neg a) = true := by
  rw [Q.canon_iff] at ha ⊢
  simpa [Q.neg] using ha

theorem Q.sub_canon {a b : Q} (ha : Q.canon a = true) (hb : Q.canon b = true) :
    Q.canon (Q.sub a b) = true := Q.add_canon ha (Q.neg_canon hb)

theorem Q.zero_canon : Q.canon Q.zero = true := by decide
theorem Q.one_canon : Q.canon Q.one = true := by decide
theorem Q.ofInt_canon (n : Int) : Q.canon (Q.ofInt n) = true := by
  simp [Q.canon, Q.ofInt]

theorem Q.inv_canon {a : Q} (ha : Q.canon a = true) (hn : a.num ≠ 0) : Q.canon (Q.inv a) = true := by
  rw [Q.canon_iff] at ha ⊢
  unfold Q.inv
  split
  · refine ⟨by simp; omega, ?_⟩
    simp only [Int.natAbs_neg, Int.natAbs_natCast]
    rw [Nat.gcd_comm]; exact ha.2
  · refine ⟨by simp; omega, ?_⟩
    simp only [Int.natAbs_natCast]
    rw [Nat.gcd_comm]; exact ha.2

theorem Q.powNat_canon {a : Q} (ha : Q.canon a = true) (k : Nat) : Q.canon (Q.powNat a k) = true := by
  rw [Q.canon_iff] at ha ⊢
  refine ⟨?_, ?_⟩
  · simp only [Q.powNat]
    exact Nat.pos_iff_ne_zero.mp (Nat.pow_pos (Nat.pos_of_ne_zero ha.1))
  · simp only [Q.powNat, Int.natAbs_pow]
    exact Nat.pow_gcd_pow_of_gcd_eq_one ha.2

/-- a canonical Number of any class, Infty and NaN included: what `numAdd`, `numMul`, `numPowInt` return, hence
the coefficients -/
def NumOK (e : Expr) : Prop := e.isNum = true ∧ canon e = true

/-- a canonical Integer, Rational or Complex: the Numbers on which `toGQ` answers -/
def ExOK (e : Expr) : Prop := isExactNum e = true ∧ canon e = true

theorem ExOK.numOK {e : Expr} (h : ExOK e) : NumOK e := by
  refine ⟨?_, h.2⟩
  have := h.1
  cases e <;> simp_all [isExactNum, Expr.isNum]

theorem canon_int (n : Int) : canon (.int n) = true := by simp [canon, canonTop]
theorem canon_rat (n : Int) (d : Nat) : canon (.rat n d) = ratCanon n d := by simp [canon, canonTop]
theorem ratCanon_iff {n : Int} {d : Nat} :
    ratCanon n d = true ↔ d ≠ 0 ∧ d ≠ 1 ∧ Nat.gcd n.natAbs d = 1 := by
  simp [ratCanon, and_assoc]

theorem ratCanon_of_canon {n : Int} {d : Nat} (h : canon (.rat n d) = true) : ratCanon n d = true :=
  canon_rat n d ▸ h

theorem ratCanon_num {n : Int} {d : Nat} (h : ratCanon n d = true) :
    n ≠ 0 ∧ n ≠ d ∧ n ≠ -d ∧ d ≠ 1 := by
  obtain ⟨_, hd1, hg⟩ := ratCanon_iff.mp h
  have h0 : n.natAbs ≠ 0 := fun e => hd1 (by rwa [e, Nat.gcd_zero_left] at hg)
  have hd : n.natAbs ≠ d := fun e => hd1 (by rwa [e, Nat.gcd_self] at hg)
  omega

theorem Q.canon_of_ratCanon {n : Int} {d : Nat} (h : ratCanon n d = true) :
    Q.canon ⟨n, d⟩ = true :=
  have ⟨h0, _, hg⟩ := ratCanon_iff.mp h
  Q.canon_iff.mpr ⟨h0, hg⟩

theorem canon_cplx (re im : Q) : canon (.cplx re im) = cplxCanon re im := by simp [canon, canonTop]
theorem canon_nan : canon .nan = true := by simp [canon, canonTop]
theorem canon_infty (d : Int) : canon (.infty d) = (d == 1 || d == 0 || d == -1) := by
  simp [canon, canonTop]

theorem ofQ_exOK {q : Q} (h : Q.canon q = true) : ExOK (ofQ q) := by
  rw [Q.canon_iff] at h
  unfold ofQ
  split
  · exact ⟨rfl, canon_int _⟩
  · rename_i h1
    refine ⟨rfl, ?_⟩
    rw [canon_rat]
    exact ratCanon_iff.mpr ⟨h.1, by simpa using h1, h.2⟩

theorem ofQ_rat {r : Int} {d : Nat} (hd : d ≠ 1) : ofQ ⟨r, d⟩ = .rat r d := by simp [ofQ, hd]

theorem ofGQ_exOK {re im : Q} (hr : Q.canon re = true) (hi : Q.canon im = true) :
    ExOK (ofGQ re im) := by
  unfold ofGQ
  split
  · exact ofQ_exOK hr
  · rename_i h1
    refine ⟨rfl, ?_⟩
    rw [canon_cplx]
    simpa [cplxCanon, hr, hi] using h1

theorem toGQ_canon {e : Expr} {re im : Q} (h : canon e = true) (hg : toGQ e = some (re, im)) :
    Q.canon re = true ∧ Q.canon im = true := by
  cases e <;> simp [toGQ] at hg
  · obtain ⟨rfl, rfl⟩ := hg
    exact ⟨Q.ofInt_canon _, Q.zero_canon⟩
  · obtain ⟨rfl, rfl⟩ := hg
    exact ⟨Q.canon_of_ratCanon (ratCanon_of_canon h), Q.zero_canon⟩
  · obtain ⟨rfl, rfl⟩ := hg
    rw [canon_cplx] at h
    simp [cplxCanon] at h
    exact ⟨h.1.2, h.2⟩

theorem toGQ_isSome_eq (e : Expr) : (toGQ e).isSome = isExactNum e := by
  cases e <;> simp [toGQ, isExactNum]

theorem exOK_toGQ {e : Expr} (h : ExOK e) :
    ∃ re im, toGQ e = some (re, im) ∧ Q.canon re = true ∧ Q.canon im = true := by
  have h1 := h.1
  rw [← toGQ_isSome_eq] at h1
  obtain ⟨⟨re, im⟩, hg⟩ := Option.isSome_iff_exists.mp h1
  exact ⟨re, im, hg, toGQ_canon h.2 hg⟩

theorem numOK_nan : NumOK .nan := ⟨rfl, canon_nan⟩
theorem numOK_infty0 : NumOK (.infty 0) := ⟨rfl, by rw [canon_infty]; rfl⟩

theorem inftyMulExact_cases {d : Int} {x r : Expr} (h : inftyMulExact d x = .ok r) :
    r = .infty d ∨ r = .infty (d * (-1)) ∨ r = .nan := by
  unfold inftyMulExact at h
  split at h
  · cases h
  · split at h
    · exact .inl (Except.ok.inj h).symm
    · split at h
      · exact .inr (.inl (Except.ok.inj h).symm)
      · exact .inr (.inr (Except.ok.inj h).symm)

theorem inftyMulExact_ok {d : Int} {x r : Expr} (hd : canon (.infty d) = true)
    (h : inftyMulExact d x = .ok r) : NumOK r := by
  rcases inftyMulExact_cases h with rfl | rfl | rfl
  · exact ⟨rfl, hd⟩
  · refine ⟨rfl, ?_⟩
    rw [canon_infty] at hd ⊢
    simp at hd ⊢
    omega
  · exact numOK_nan

theorem numAdd_ind {P : Expr → Prop} {a b r : Expr} (h : numAdd a b = .ok r)
    (hq : ∀ ar ai br bi, toGQ a = some (ar, ai) → toGQ b = some (br, bi) →
      P (ofGQ (Q.add ar br) (Q.add ai bi)))
    (hnan : P .nan) (hinf : ∀ d, a = .infty d ∨ b = .infty d → P (.infty d)) : P r := by
  unfold numAdd at h
  split at h   -- `match toGQ a, toGQ b`
  · rename_i ar ai br bi hga hgb
    exact Except.ok.inj h ▸ hq ar ai br bi hga hgb
  · split at h   -- `if !a.isNum || !b.isNum`
    · cases h
    · split at h   -- `match a, b`; each arm is `if isExactNum …` of the other argument
      · split at h   -- `.nan, _`
        · exact Except.ok.inj h ▸ hnan
        · cases h
      · split at h   -- `_, .nan`
        · exact Except.ok.inj h ▸ hnan
        · cases h
      · split at h   -- `.infty d, _`
        · exact Except.ok.inj h ▸ hinf _ (.inl rfl)
        · cases h
      · split at h   -- `_, .infty d`
        · exact Except.ok.inj h ▸ hinf _ (.inr rfl)
        · cases h
      · cases h

theorem numAdd_ok {a b r : Expr} (ha : canon a = true) (hb : canon b = true) (h : numAdd a b = .ok r) :
    NumOK r :=
  numAdd_ind h (fun _ _ _ _ hga hgb =>
    have ca := toGQ_canon ha hga
    have cb := toGQ_canon hb hgb
    (ofGQ_exOK (Q.add_canon ca.1 cb.1) (Q.add_canon ca.2 cb.2)).numOK) numOK_nan
    fun _ hd => ⟨rfl, hd.elim (· ▸ ha) (· ▸ hb)⟩

theorem numMul_ind {P : Expr → Prop} {a b r : Expr} (h : numMul a b = .ok r)
    (hq : ∀ ar ai br bi, toGQ a = some (ar, ai) → toGQ b = some (br, bi) →
      P (ofGQ (Q.sub (Q.mul ar br) (Q.mul ai bi)) (Q.add (Q.mul ar bi) (Q.mul ai br))))
    (hnan : P .nan)
    (hinf : ∀ d x, a = .infty d ∨ b = .infty d → inftyMulExact d x = .ok r → P r) : P r := by
  unfold numMul at h
  split at h   -- the same cascade as in `numAdd_ind`
  · rename_i ar ai br bi hga hgb
    exact Except.ok.inj h ▸ hq ar ai br bi hga hgb
  · split at h
    · cases h
    · split at h
      · split at h
        · exact Except.ok.inj h ▸ hnan
        · cases h
      · split at h
        · exact Except.ok.inj h ▸ hnan
        · cases h
      · split at h
        · exact hinf _ _ (.inl rfl) h
        · cases h
      · split at h
        · exact hinf _ _ (.inr rfl) h
        · cases h
      · cases h

theorem gqMul_exOK {ar ai br bi : Q} (ca : Q.canon ar = true ∧ Q.canon ai = true)
    (cb : Q.canon br = true ∧ Q.canon bi = true) :
    ExOK (ofGQ (Q.sub (Q.mul ar br) (Q.mul ai bi)) (Q.add (Q.mul ar bi) (Q.mul ai br))) :=
  ofGQ_exOK (Q.sub_canon (Q.mul_canon ca.1 cb.1) (Q.mul_canon ca.2 cb.2))
    (Q.add_canon (Q.mul_canon ca.1 cb.2) (Q.mul_canon ca.2 cb.1))

theorem numMul_ok {a b r : Expr} (ha : canon a = true) (hb : canon b = true) (h : numMul a b = .ok r) :
    NumOK r :=
  numMul_ind h (fun _ _ _ _ hga hgb => (gqMul_exOK (toGQ_canon ha hga) (toGQ_canon hb hgb)).numOK) numOK_nan
    fun _ _ hd hx => inftyMulExact_ok (hd.elim (· ▸ ha) (· ▸ hb)) hx

theorem exOK_numMul {a b r : Expr} (ha : ExOK a) (hb : ExOK b) (h : numMul a b = .ok r) : ExOK r := by
  obtain ⟨ar, ai, hga, ca⟩ := exOK_toGQ ha
  obtain ⟨br, bi, hgb, cb⟩ := exOK_toGQ hb
  simp only [numMul, hga, hgb] at h
  simp at h; subst h
  exact gqMul_exOK ca cb

theorem gqPowNat_canon : ∀ (fuel k : Nat) (re im : Q), Q.canon re = true → Q.canon im = true →
    Q.canon (gqPowNat re im fuel k).1 = true ∧ Q.canon (gqPowNat re im fuel k).2 = true
  | 0, _, _, _, _, _ => ⟨Q.one_canon, Q.zero_canon⟩
  | fuel + 1, k, re, im, hr, hi => by
    simp only [gqPowNat]
    split
    · exact ⟨Q.one_canon, Q.zero_canon⟩
    · have ih := gqPowNat_canon fuel (k / 2) (Q.sub (Q.mul re re) (Q.mul im im))
        (Q.mul (Q.ofInt 2) (Q.mul re im))
        (Q.sub_canon (Q.mul_canon hr hr) (Q.mul_canon hi hi))
        (Q.mul_canon (Q.ofInt_canon 2) (Q.mul_canon hr hi))
      generalize gqPowNat (Q.sub (Q.mul re re) (Q.mul im im)) (Q.mul (Q.ofInt 2) (Q.mul re im))
        fuel (k / 2) = p at ih
      obtain ⟨pr, pi⟩ := p   -- a named pair, so that the model's `let (hr, hi) := …` reduces
      simp only at ih ⊢
      split
      · exact ⟨Q.sub_canon (Q.mul_canon ih.1 hr) (Q.mul_canon ih.2 hi),
          Q.add_canon (Q.mul_canon ih.1 hi) (Q.mul_canon ih.2 hr)⟩
      · exact ih

theorem sign_natAbs_canon {j : Int} (hj : j ≠ 0) : Q.canon ⟨Int.sign j, j.natAbs⟩ = true := by
  rw [Q.canon_iff]
  refine ⟨by simp; omega, ?_⟩
  simp only
  rw [Int.natAbs_sign_of_ne_zero hj]; simp

/-- `canon a` stands inside the minor premises, so that the `isNum` instance needs no hypothesis on `a` -/
theorem numPowInt_ind {P : Expr → Prop} {a r : Expr} {n : Int} (h : numPowInt a n = .ok r)
    (hint : ∀ k, P (.int k)) (hinf : P (.infty 0))
    (hq : ∀ q, (canon a = true → Q.canon q = true) → P (ofQ q))
    (hgq : ∀ re im, (canon a = true → Q.canon re = true ∧ Q.canon im = true) → P (ofGQ re im)) :
    P r := by
  unfold numPowInt at h
  split at h
  · cases h   -- exponent beyond `expCap`
  · split at h
    · split at h   -- `a = .int b`
      · exact Except.ok.inj h ▸ hint _   -- `n ≥ 0`
      · dsimp only at h
        split at h
        · exact Except.ok.inj h ▸ hinf   -- `b = 0`
        · rename_i hj
          exact Except.ok.inj h ▸ hq _ fun _ => sign_natAbs_canon (by simpa using hj)
    · rename_i p q   -- `a = .rat p q`
      have hp : canon (.rat p q) = true → Q.canon (Q.powNat ⟨p, q⟩ n.natAbs) = true :=
        fun ha => Q.powNat_canon (Q.canon_of_ratCanon (ratCanon_of_canon ha)) n.natAbs
      split at h
      · exact Except.ok.inj h ▸ hq _ hp
      · refine Except.ok.inj h ▸ hq _ fun ha => Q.inv_canon (hp ha) ?_
        simp only [Q.powNat]
        exact Int.pow_ne_zero (ratCanon_num (ratCanon_of_canon ha)).1
    · rename_i re im   -- `a = .cplx re im`; 64 is the fuel the model passes to `gqPowNat`, `gqPowNat_canon` holds at any fuel
      have hp : canon (.cplx re im) = true → Q.canon (gqPowNat re im 64 n.natAbs).1 = true
          ∧ Q.canon (gqPowNat re im 64 n.natAbs).2 = true := fun hc =>
        have c := toGQ_canon hc (rfl : toGQ (.cplx re im) = some (re, im))
        gqPowNat_canon 64 n.natAbs re im c.1 c.2
      generalize gqPowNat re im 64 n.natAbs = pp at hp h
      obtain ⟨pr, pi⟩ := pp
      simp only at hp h
      split at h
      · exact Except.ok.inj h ▸ hgq _ _ hp
      · split at h
        · cases h
        · rename_i hm
          refine Except.ok.inj h ▸ hgq _ _ fun hc => ?_
          have hp := hp hc
          have hinv := Q.inv_canon (Q.add_canon (Q.mul_canon hp.1 hp.1) (Q.mul_canon hp.2 hp.2))
            (by simpa [Q.isZero] using hm)
          exact ⟨Q.mul_canon hp.1 hinv, Q.mul_canon (Q.neg_canon hp.2) hinv⟩
    · split at h <;> cases h

theorem numPowInt_ok {a r : Expr} {n : Int} (ha : canon a = true) (h : numPowInt a n = .ok r) :
    NumOK r :=
  numPowInt_ind h (fun k => ⟨rfl, canon_int k⟩) numOK_infty0
    (fun _ hq => (ofQ_exOK (hq ha)).numOK) fun _ _ hc => (ofGQ_exOK (hc ha).1 (hc ha).2).numOK

theorem numPow_eq_ok {a e r : Expr} (h : numPow a e = .ok r) :
    ∃ n, e = .int n ∧ numPowInt a n = .ok r := by
  unfold numPow at h
  split at h
  · exact ⟨_, rfl, h⟩
  · cases h

theorem numPow_ok {a e r : Expr} (ha : canon a = true) (h : numPow a e = .ok r) : NumOK r :=
  have ⟨_, _, hp⟩ := numPow_eq_ok h
  numPowInt_ok ha hp

theorem numIsOne_canon {v : Expr} (hc : canon v = true) (h : numIsOne v = true) : v = .int 1 := by
  cases v <;> simp [numIsOne] at h
  · subst h; rfl
  · exact absurd h (ratCanon_num (ratCanon_of_canon hc)).2.1

theorem numIsMinusOne_canon {v : Expr} (hc : canon v = true) (h : numIsMinusOne v = true) :
    v = .int (-1) := by
  cases v <;> simp [numIsMinusOne] at h
  · subst h; rfl
  · exact absurd h (ratCanon_num (ratCanon_of_canon hc)).2.2.1

theorem numIsZero_isInteger {v : Expr} (hc : canon v = true) (hz : numIsZero v = true) :
    isInteger v = true := by
  cases v <;> simp [numIsZero] at hz <;> simp [isInteger]
  -- left: a Rational with numerator 0, which is not canonical
  exact (ratCanon_num (ratCanon_of_canon hc)).1 hz

theorem exOK_ratCanon {n : Int} {d : Nat} (h : ExOK (.rat n d)) : ratCanon n d = true :=
  ratCanon_of_canon h.2

theorem ratCanon_neg {n : Int} {d : Nat} (h : ratCanon n d = true) : ratCanon (-n) d = true := by
  rw [ratCanon_iff] at h ⊢; simpa using h

theorem numOK_one : NumOK one := ⟨rfl, canon_int _⟩
theorem numOK_zero : NumOK zero := ⟨rfl, canon_int _⟩
theorem numOK_minusOne : NumOK minusOne := ⟨rfl, canon_int _⟩
theorem exOK_int (n : Int) : ExOK (.int n) := ⟨rfl, canon_int _⟩

theorem strong_of_isNum {e : Expr} (h : e.isNum = true) : strong e = true := by
  cases e <;> simp [Expr.isNum] at h <;> simp [strong]

theorem NumOK.inv {e : Expr} (h : NumOK e) : inv e = true := by
  simp [Arith.inv, h.2, strong_of_isNum h.1]

theorem gcd_fmod (a : Int) (d : Nat) :
    Nat.gcd (a.fmod d).natAbs d = Nat.gcd a.natAbs d := by
  rw [Int.fmod_eq_emod_of_nonneg a (by omega : (0 : Int) ≤ (d : Int))]
  have h1 : Int.gcd (a % (d : Int)) d = Int.gcd a d := by
    rw [Int.emod_def, Int.mul_comm]
    exact Int.gcd_sub_mul_right_left _ _ _
  simpa [Int.gcd_eq_natAbs_gcd_natAbs] using h1

/-- the step `let (q, r) := fdivmod n d; ex := ofQ ⟨r, d⟩` of `rpowrat` -/
theorem fmod_facts {nn : Int} {d : Nat} (h : ratCanon nn d = true) :
    Q.canon ⟨nn.fmod d, d⟩ = true ∧ 0 < nn.fmod d ∧ nn.fmod d < d := by
  obtain ⟨hd0, hd1, hg⟩ := ratCanon_iff.mp h
  have hg' := gcd_fmod nn d
  rw [hg] at hg'
  have hmod : nn.fmod d = nn % d := Int.fmod_eq_emod_of_nonneg nn (by omega)
  have hnn : 0 ≤ nn.fmod d := hmod ▸ Int.emod_nonneg _ (by omega)
  have hlt : nn.fmod d < d := hmod ▸ Int.emod_lt_of_pos _ (by omega)
  have hne : nn.fmod d ≠ 0 := by
    intro e
    rw [e] at hg'
    simp at hg'
    exact hd1 hg'
  exact ⟨by simp [Q.canon, hd0, hg'], by omega, hlt⟩

theorem numOK_imagUnit : NumOK imagUnit := by
  refine ⟨rfl, ?_⟩
  rw [imagUnit, canon_cplx]
  decide

theorem inv_infty0 : inv (.infty 0) = true := numOK_infty0.inv

end SymVerif.Arith
