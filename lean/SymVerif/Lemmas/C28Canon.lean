import SymVerif.Lemmas.C28Order
/-!
Canonical-form invariants.  `cppCanonical` restates `And/Or/Xor/Not::is_canonical` of logic.cpp on one node;
`wf` is the inductive invariant of everything the API can return: every node satisfies its `is_canonical`,
argument lists are sets (strictly sorted), and a `Not` node wraps only a class whose `logical_not` is the
default one (`Contains`, in the model `mem` and `fs`, and `Xor`).  On `wf` formulas `logical_not` is an involution, which is what makes the
complementary-literal tests of `and_or` / `logical_xor` and the `make_rcp` in `And::logical_not` canonical.
-/
namespace SymVerif.C28
open SymVerif.Logic SymVerif.Logic.B

def isConst : B → Bool
  | .tt | .ff => true
  | _ => false
def isAnd : B → Bool
  | .and _ => true
  | _ => false
def isOr : B → Bool
  | .or _ => true
  | _ => false
def isXor : B → Bool
  | .xor _ => true
  | _ => false
def isNot : B → Bool
  | .not _ => true
  | _ => false

/-- `is_canonical` of the node's class, literally as in logic.cpp for And, Or, Not; `Xor::is_canonical` tests an
    element and its `logical_not` against the EARLIER elements only, here against the whole list (the stronger demand) -/
def cppCanonical : B → Bool
  | .and l => decide (2 ≤ l.length) && l.all (fun a => !isConst a && !isAnd a && !decide (notB a ∈ l))
  | .or l => decide (2 ≤ l.length) && l.all (fun a => !isConst a && !isOr a && !decide (notB a ∈ l))
  | .xor l => decide (2 ≤ l.length) && decide l.Nodup
      && l.all (fun a => !isConst a && !isXor a && !decide (notB a ∈ l))
  | .not b => !isConst b && !isNot b
  | _ => true

def sortedB : List B → Bool
  | [] => true
  | [_] => true
  | a :: b :: t => B.lt a b && sortedB (b :: t)

/-- the shallow demands on an argument set of kind `same` (a recogniser of the enclosing class) -/
def argsOk (same : B → Bool) (l : List B) : Bool :=
  decide (2 ≤ l.length) && sortedB l && l.all (fun a => !isConst a && !same a && !decide (notB a ∈ l))

def notArgOk : B → Bool
  | .mem _ => true
  | .fs _ => true
  | .xor _ => true
  | _ => false

mutual
def wf : B → Bool
  | .and l => argsOk isAnd l && wfL l
  | .or l => argsOk isOr l && wfL l
  | .xor l => argsOk isXor l && wfL l
  | .not b => notArgOk b && wf b
  | _ => true
def wfL : List B → Bool
  | [] => true
  | a :: l => wf a && wfL l
end

theorem wfL_iff : ∀ l, wfL l = true ↔ ∀ a ∈ l, wf a = true
  | [] => by simp [wfL]
  | a :: l => by simp [wfL, wfL_iff l]

/-- a well-formed `Not` node wraps only a `Contains`, a FiniteSet membership or an `Xor` -/
theorem wf_not_cases {b : B} (h : wf (.not b) = true) :
    (∃ i, b = .mem i) ∨ (∃ l, b = .fs l) ∨ ∃ l, b = .xor l := by
  cases b <;> simp [wf, notArgOk] at h ⊢

theorem sortedB_iff : ∀ l, sortedB l = true ↔ Sorted l
  | [] => by simp [sortedB, Sorted]
  | [a] => by simp [sortedB, Sorted]
  | a :: b :: t => by
    have : Trans (fun a b : B => B.lt a b = true) (fun a b => B.lt a b = true) (fun a b => B.lt a b = true) :=
      ⟨lt_trans'⟩
    rw [Sorted, ← List.isChain_iff_pairwise, List.isChain_cons_cons, List.isChain_iff_pairwise, sortedB,
      Bool.and_eq_true, sortedB_iff (b :: t), Sorted]

theorem argsOk_iff (same : B → Bool) (l : List B) :
    argsOk same l = true ↔
      2 ≤ l.length ∧ Sorted l ∧ ∀ a ∈ l, isConst a = false ∧ same a = false ∧ notB a ∉ l := by
  simp [argsOk, sortedB_iff, and_assoc]

theorem argsOk_all {same : B → Bool} {l : List B} (h : argsOk same l = true) :
    l.all (fun a => !isConst a && !same a && !decide (notB a ∈ l)) = true :=
  (Bool.and_eq_true_iff.1 h).2

theorem wf_cppCanonical (b : B) (h : wf b = true) : cppCanonical b = true := by
  cases b with
  | and l | or l =>
    simp only [wf, Bool.and_eq_true] at h
    simp only [cppCanonical, Bool.and_eq_true, decide_eq_true_eq]
    exact ⟨((argsOk_iff _ _).1 h.1).1, argsOk_all h.1⟩
  | xor l =>
    simp only [wf, Bool.and_eq_true] at h
    simp only [cppCanonical, Bool.and_eq_true, decide_eq_true_eq]
    exact ⟨⟨((argsOk_iff _ _).1 h.1).1, sorted_nodup ((argsOk_iff _ _).1 h.1).2.1⟩, argsOk_all h.1⟩
  | not b =>
    obtain ⟨i, rfl⟩ | ⟨l, rfl⟩ | ⟨l, rfl⟩ := wf_not_cases h <;> rfl
  | _ => rfl

theorem notL_eq_map : ∀ l, notL l = l.map notB
  | [] => by simp [notL]
  | a :: l => by simp [notL, notL_eq_map l]

theorem mem_insAll_notL {x : B} {l : List B} : x ∈ insAll (notL l) [] ↔ ∃ a ∈ l, notB a = x := by
  rw [mem_insAll_nil, notL_eq_map, List.mem_map]

theorem isConst_notB (a : B) (h : wf a = true) : isConst (notB a) = isConst a := by
  cases a with
  | not b =>
    obtain ⟨i, rfl⟩ | ⟨l, rfl⟩ | ⟨l, rfl⟩ := wf_not_cases h <;> rfl
  | _ => rfl

mutual
theorem notB_invol : ∀ b, wf b = true → notB (notB b) = b
  | .tt, _ | .ff, _ | .rel _ _, _ | .mem _, _ | .fs _, _ | .xor _, _ => by simp [notB]
  | .not b, h => by
    obtain ⟨i, rfl⟩ | ⟨l, rfl⟩ | ⟨l, rfl⟩ := wf_not_cases h <;> rfl
  | .and l, h | .or l, h => by
    simp only [wf, Bool.and_eq_true, argsOk_iff] at h
    have ih := notL_invol l h.2
    simp only [notB]
    refine congrArg _ (sorted_ext _ _ (sorted_insAll _ _ sorted_nil) h.1.2.1 fun x => ?_)
    simp only [mem_insAll_notL]
    constructor
    · rintro ⟨y, ⟨a, ha, rfl⟩, rfl⟩
      rw [ih a ha]; exact ha
    · intro hx
      exact ⟨notB x, ⟨x, hx, rfl⟩, ih x hx⟩
theorem notL_invol : ∀ l, wfL l = true → ∀ a ∈ l, notB (notB a) = a
  | [], _ => by simp
  | b :: l, h => by
    simp only [wfL, Bool.and_eq_true] at h
    intro a ha
    rcases List.mem_cons.1 ha with hab | ha
    · rw [hab]; exact notB_invol b h.1
    · exact notL_invol l h.2 a ha
end

theorem notB_inj {a b : B} (ha : wf a = true) (hb : wf b = true) (h : notB a = notB b) : a = b := by
  rw [← notB_invol a ha, ← notB_invol b hb, h]

theorem notB_ne_self (a : B) : notB a ≠ a := by
  cases a with
  | not b => exact fun (e : b = .not b) => absurd (congrArg sizeOf e) (by simp)
  | rel i n => cases n <;> simp [notB]
  | _ => simp [notB]

theorem isAndOr_notB (a : B) (h : wf a = true) : isOr (notB a) = isAnd a ∧ isAnd (notB a) = isOr a := by
  cases a with
  | not b =>
    obtain ⟨i, rfl⟩ | ⟨l, rfl⟩ | ⟨l, rfl⟩ := wf_not_cases h <;> exact ⟨rfl, rfl⟩
  | _ => simp [notB, isOr, isAnd]

theorem length_ge_two_of_two_mem {l : List B} {a b : B} (ha : a ∈ l) (hb : b ∈ l) (hne : a ≠ b) :
    2 ≤ l.length := by
  match l, ha, hb with
  | [], ha, _ => simp at ha
  | [c], ha, hb =>
    simp only [List.mem_singleton] at ha hb
    exact absurd (ha.trans hb.symm) hne
  | _ :: _ :: _, _, _ => simp

/-- De Morgan image of a canonical argument set is a canonical argument set of the dual kind -/
theorem argsOk_notL (same dual : B → Bool) (l : List B)
    (hdual : ∀ a, wf a = true → dual (notB a) = same a)
    (h : argsOk same l = true) (hw : wfL l = true) (hwn : ∀ a ∈ l, wf (notB a) = true) :
    argsOk dual (insAll (notL l) []) = true ∧ wfL (insAll (notL l) []) = true := by
  refine ⟨?_, (wfL_iff _).2 fun x hx => by obtain ⟨a, ha, rfl⟩ := mem_insAll_notL.1 hx; exact hwn a ha⟩
  rw [argsOk_iff] at h ⊢
  rw [wfL_iff] at hw
  obtain ⟨hlen, hsort, hall⟩ := h
  refine ⟨?_, sorted_insAll _ _ sorted_nil, ?_⟩
  · match l, hlen, hsort, hw with  -- `[]`, `[_]`: excluded by `hlen`
    | a :: b :: t, _, hsort, hw =>
      have hab : a ≠ b := lt_ne ((List.pairwise_cons.1 hsort).1 b List.mem_cons_self)
      have h1 : notB a ∈ insAll (notL (a :: b :: t)) [] := mem_insAll_notL.2 ⟨a, by simp, rfl⟩
      have h2 : notB b ∈ insAll (notL (a :: b :: t)) [] := mem_insAll_notL.2 ⟨b, by simp, rfl⟩
      refine length_ge_two_of_two_mem h1 h2 ?_
      intro hh
      exact hab (notB_inj (hw a (by simp)) (hw b (by simp)) hh)
  · intro x hx
    obtain ⟨a, ha, rfl⟩ := mem_insAll_notL.1 hx
    have ha' := hall a ha
    refine ⟨?_, ?_, ?_⟩
    · rw [isConst_notB a (hw a ha)]; exact ha'.1
    · rw [hdual a (hw a ha)]; exact ha'.2.1
    · rw [notB_invol a (hw a ha)]  -- no complementary pair: `a = notB a'` would be one inside `l`
      intro hmem
      obtain ⟨a', ha'', heq⟩ := mem_insAll_notL.1 hmem
      exact (hall a' ha'').2.2 (heq ▸ ha)

mutual
theorem wf_notB : ∀ b, wf b = true → wf (notB b) = true
  | .tt, _ => by simp [notB, wf]
  | .ff, _ => by simp [notB, wf]
  | .rel i n, _ => by simp [notB, wf]
  | .mem i, _ => by simp [notB, wf, notArgOk]
  | .fs l, _ => by simp [notB, wf, notArgOk]
  | .xor l, h => by
    simp only [notB, wf, notArgOk, Bool.true_and]
    simpa [wf] using h
  | .not b, h => by
    simp only [wf, Bool.and_eq_true] at h
    simpa [notB] using h.2
  | .and l, h => by
    simp only [wf, Bool.and_eq_true] at h
    simpa only [notB, wf, Bool.and_eq_true] using
      argsOk_notL isAnd isOr l (fun a h => (isAndOr_notB a h).1) h.1 h.2 (wf_notL l h.2)
  | .or l, h => by
    simp only [wf, Bool.and_eq_true] at h
    simpa only [notB, wf, Bool.and_eq_true] using
      argsOk_notL isOr isAnd l (fun a h => (isAndOr_notB a h).2) h.1 h.2 (wf_notL l h.2)
theorem wf_notL : ∀ l, wfL l = true → ∀ a ∈ l, wf (notB a) = true
  | [], _ => by simp
  | b :: l, h => by
    simp only [wfL, Bool.and_eq_true] at h
    intro a ha
    rcases List.mem_cons.1 ha with hab | ha
    · rw [hab]; exact wf_notB b h.1
    · exact wf_notL l h.2 a ha
end

end SymVerif.C28
