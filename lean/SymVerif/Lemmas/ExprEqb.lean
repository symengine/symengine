/-
`Expr.eqb` (Model/ExprEq.lean), the structural comparison that the memo tables use as key test and the certificate
checkers as equality of results, decides equality of trees.  The `cplx` case needs `==` on `Q` to be equality:
the `LawfulBEq Q` instance is declared here, once, for every module that imports this one.
-/
import SymVerif.Model.ExprEq

namespace SymVerif

instance : LawfulBEq Q where
  eq_of_beq {a b} h := by
    obtain ⟨an, ad⟩ := a
    obtain ⟨bn, bd⟩ := b
    have h' : (an == bn && ad == bd) = true := h
    simp only [Bool.and_eq_true, beq_iff_eq] at h'
    rw [h'.1, h'.2]
  rfl {a} := by
    obtain ⟨an, ad⟩ := a
    show (an == an && ad == ad) = true
    simp

namespace Expr

mutual
  theorem eqb_eq : ∀ (a b : Expr), Expr.eqb a b = true → a = b
    | .int _, b, h | .dbl _, b, h | .infty _, b, h | .sym _, b, h | .const _, b, h | .bool _, b, h => by
      cases b <;> simp [Expr.eqb] at h
      rw [h]
    | .rat _ _, b, h | .cdbl _ _, b, h | .dummy _ _, b, h => by
      cases b <;> simp [Expr.eqb] at h
      rw [h.1, h.2]
    | .nan, b, h => by
      cases b <;> simp [Expr.eqb] at h
      rfl
    | .cplx x y, b, h => by
      cases b <;> simp only [Expr.eqb, Bool.and_eq_true, reduceCtorEq] at h
      rw [eq_of_beq h.1, eq_of_beq h.2]
    | .add c ts, b, h | .mul c ts, b, h => by
      cases b <;> simp only [Expr.eqb, Bool.and_eq_true, reduceCtorEq] at h
      rw [eqb_eq c _ h.1, eqbPairs_eq ts _ h.2]
    | .pow x y, b, h => by
      cases b <;> simp only [Expr.eqb, Bool.and_eq_true, reduceCtorEq] at h
      rw [eqb_eq x _ h.1, eqb_eq y _ h.2]
    | .fsym _ l, b, h | .app _ l, b, h => by
      cases b <;> simp only [Expr.eqb, Bool.and_eq_true, beq_iff_eq, reduceCtorEq] at h
      rw [h.1, eqbList_eq l _ h.2]
  theorem eqbList_eq : ∀ (a b : List Expr), Expr.eqbList a b = true → a = b
    | [], m, h => by
      cases m <;> simp [Expr.eqbList] at h
      rfl
    | a :: t, m, h => by
      cases m <;> simp only [Expr.eqbList, Bool.and_eq_true, reduceCtorEq] at h
      rw [eqb_eq a _ h.1, eqbList_eq t _ h.2]
  theorem eqbPairs_eq : ∀ (a b : List (Expr × Expr)), Expr.eqbPairs a b = true → a = b
    | [], m, h => by
      cases m <;> simp [Expr.eqbPairs] at h
      rfl
    | (a, b) :: t, m, h => by
      cases m with
      | nil => simp [Expr.eqbPairs] at h
      | cons p u =>
        obtain ⟨c, d⟩ := p
        simp only [Expr.eqbPairs, Bool.and_eq_true] at h
        rw [eqb_eq a _ h.1.1, eqb_eq b _ h.1.2, eqbPairs_eq t _ h.2]
end

mutual
  theorem eqb_refl : ∀ (a : Expr), Expr.eqb a a = true
    | .int _ | .rat _ _ | .cplx _ _ | .dbl _ | .cdbl _ _ | .infty _ | .nan | .sym _ | .dummy _ _ | .const _ | .bool _ => by
      simp [Expr.eqb]
    | .add c ts | .mul c ts => by simp [Expr.eqb, eqb_refl c, eqbPairs_refl ts]
    | .pow x y => by simp [Expr.eqb, eqb_refl x, eqb_refl y]
    | .fsym _ l | .app _ l => by simp [Expr.eqb, eqbList_refl l]
  theorem eqbList_refl : ∀ (a : List Expr), Expr.eqbList a a = true
    | [] => by simp [Expr.eqbList]
    | x :: t => by simp [Expr.eqbList, eqb_refl x, eqbList_refl t]
  theorem eqbPairs_refl : ∀ (a : List (Expr × Expr)), Expr.eqbPairs a a = true
    | [] => by simp [Expr.eqbPairs]
    | (x, y) :: t => by simp [Expr.eqbPairs, eqb_refl x, eqb_refl y, eqbPairs_refl t]
end

end Expr
end SymVerif
