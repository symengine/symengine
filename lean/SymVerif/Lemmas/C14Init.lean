/-
C14, `init` level: the program `initV` builds returns, for every input vector, the reference value
of every output (plain path); a visitor that clears its tables on entry behaves like a fresh one.
-/
import SymVerif.Lemmas.C14Tree
import SymVerif.Model.LLVMInit

namespace SymVerif.LLVMD
open SymVerif.EvalG

variable {α : Type}

/-- the symbol table of a fresh plain init -/
def tab0 (ins : List String) : SymTab α := { inputs := ins, off := 0, repl := [], staleRepl := [] }

/-- inputs bound to the values of the call -/
def bindEnv (ins : List String) (xs : List α) : String → Option α := fun n =>
  match indexOf? ins n with
  | some i => xs[i]?
  | none => none

/-- reference value of an expression: lower it (`apply`), evaluate the operator tree -/
def evalLR (cfg : Cfg α) (tab : SymTab α) (venv : String → Option α) (e : Expr) : RV α :=
  match lower (lowCtx cfg tab) cfg.fuel e with
  | .error err => .err err
  | .ok t => evalT cfg.L venv t

/-- `evalLR` as an `Except` (`evalLR` returns the run-time value type `RV`) -/
def evalL (cfg : Cfg α) (tab : SymTab α) (venv : String → Option α) (e : Expr) : Except Err α :=
  rvToExcept (evalLR cfg tab venv e)

theorem loads_length (i n : Nat) : (loads (α := α) i n).length = n := by
  induction n generalizing i with
  | zero => rfl
  | succ n ih => simp [loads, ih]

def loadVals (xs : List α) (i n : Nat) : List (RV α) :=
  (List.range' i n).map fun k => match xs[k]? with
    | some x => RV.f x
    | none => .err .badArg

theorem exec_loads (L : LOps α) (xs : List α) (regs : List (RV α)) (i n : Nat) :
    exec L xs regs (loads i n) = regs ++ loadVals xs i n := by
  induction n generalizing i regs with
  | zero => simp [loads, exec, loadVals]
  | succ n ih =>
    simp [loads, exec, loadVals, ih, stepVal, List.range'_succ]
    cases xs[i]? <;> rfl

theorem indexOf?_lt {l : List String} {s : String} {i : Nat} (h : indexOf? l s = some i) : i < l.length := by
  induction l generalizing i with
  | nil => simp [indexOf?] at h
  | cons a t ih =>
    simp only [indexOf?] at h
    split at h
    · cases h; simp
    · obtain ⟨j, ht, rfl⟩ := Option.map_eq_some_iff.mp h
      exact Nat.succ_lt_succ (ih ht)

/-- what `envOf` can hand out: this init's load of an input, or the value of a replacement symbol -/
theorem envOf_some {cfg : Cfg α} {tab : SymTab α} {name : String} {v : Val α} (h : envOf cfg tab name = some v) :
    (∃ i, indexOf? tab.inputs name = some i ∧ v = .reg (i - tab.off))
      ∨ tab.repl.lookup name = some v := by
  -- the last `match` of `resolve`, on its two lookups: whichever of them `bvisit(Symbol)` consults first, a value
  -- comes from one of them
  have key : ∀ (b : Bool) (inp rep : Option (Res α)), (match (if b then inp <|> rep else rep <|> inp) with
      | some r => r | none => Res.unbound) = .val v → inp = some (.val v) ∨ rep = some (.val v) := by
    intro b inp rep h
    cases b <;> cases inp <;> cases rep <;> simp_all
  unfold envOf at h
  split at h
  · next w hw =>
    cases h
    rcases key _ _ _ hw with h1 | h1
    · obtain ⟨i, hi, h1⟩ := Option.map_eq_some_iff.mp h1
      split at h1
      · cases h1  -- `i < tab.off`: a stale slot, not a value
      · cases h1; exact .inl ⟨i, hi, rfl⟩
    · right
      split at h1
      · next hl => cases h1; exact hl
      · split at h1 <;> cases h1  -- no replacement of that name: stale or unbound, not a value
  · cases h

theorem loadVals_get (xs : List α) (n i : Nat) (hi : i < n) (hx : i < xs.length) :
    (loadVals xs 0 n)[i]? = some (.f xs[i]) := by
  simp [loadVals, hi, List.getElem?_eq_getElem hx]

/-- `hxs`: with a short `xs` the load of a missing input is `.err .badArg` (`stepVal`) where `symVal` of the
unbound name is `.err .runtime`: the two sides would differ in the error. -/
theorem envOK_loads (cfg : Cfg α) (ins : List String) (xs : List α) (hxs : ins.length ≤ xs.length) :
    EnvOK (envOf cfg (tab0 ins)) (bindEnv ins xs) (loadVals xs 0 ins.length) := by
  intro name v hv
  rcases envOf_some hv with ⟨i, hi, rfl⟩ | hl
  · have hi' : indexOf? ins name = some i := hi
    have hlt := indexOf?_lt hi'
    have hx : i < xs.length := by omega
    have hsym : symVal (bindEnv ins xs) name = .f xs[i] := by
      simp [symVal, bindEnv, hi', List.getElem?_eq_getElem hx]
    refine ⟨by simp [Val.lt, loadVals, tab0, hlt], ?_⟩
    simp [valOf, tab0, loadVals_get xs _ i hlt hx, hsym]
  · cases hl

theorem applyE_ok {cfg : Cfg α} {tab : SymTab α} {e : Expr} {P P' : Prog α} {v : Val α}
    (h : applyE cfg tab e P = .ok (v, P')) :
    ∃ t, lower (lowCtx cfg tab) cfg.fuel e = .ok t ∧ compileT cfg.L (envOf cfg tab) t P = .ok (v, P') := by
  unfold applyE at h
  cases hl : lower (lowCtx cfg tab) cfg.fuel e with
  | error err => rw [hl] at h; cases h
  | ok t => rw [hl] at h; exact ⟨t, rfl, h⟩

/-- the output loop is `compileTs` on the lowered trees -/
theorem applyOuts_ok {cfg : Cfg α} {tab : SymTab α} :
    ∀ {outs : List Expr} {P P' : Prog α} {vs : List (Val α)}, applyOuts cfg tab outs P = .ok (vs, P') →
      ∃ ts, All2 (fun e t => lower (lowCtx cfg tab) cfg.fuel e = .ok t) outs ts
        ∧ compileTs cfg.L (envOf cfg tab) ts P = .ok (vs, P')
  | [], _, _, _, h => ⟨[], .nil, h⟩
  | e :: rest, P, P', vs, h => by
    simp only [applyOuts] at h
    cases he : applyE cfg tab e P with
    | error err => rw [he] at h; cases h
    | ok r =>
      obtain ⟨v, P1⟩ := r
      rw [he] at h
      simp only at h
      obtain ⟨t, hl, hc⟩ := applyE_ok he
      cases hr : applyOuts cfg tab rest P1 with
      | error err => rw [hr] at h; cases h
      | ok r2 =>
        obtain ⟨vs2, P2⟩ := r2
        obtain ⟨ts, hls, hcs⟩ := applyOuts_ok hr
        rw [hr] at h
        exact ⟨t :: ts, .cons hl hls, by simp only [compileTs, hc, hcs]; exact h⟩

theorem evalLR_map {cfg : Cfg α} {tab : SymTab α} (venv : String → Option α) {outs : List Expr} {ts : List (T α)}
    (h : All2 (fun e t => lower (lowCtx cfg tab) cfg.fuel e = .ok t) outs ts) :
    outs.map (evalLR cfg tab venv) = evalTs cfg.L venv ts := by
  induction h with
  | nil => rfl
  | cons hl _ ih => simp only [List.map, evalTs, evalLR, hl, ih]

theorem applyOuts_sim (cfg : Cfg α) (xs : List α) (tab : SymTab α) (venv : String → Option α)
    (outs : List Expr) (P : Prog α) (vs : List (Val α)) (P' : Prog α) (h : applyOuts cfg tab outs P = .ok (vs, P')) :
    ∃ ext, P' = P ++ ext ∧ ∀ regs, regs.length = P.length → EnvOK (envOf cfg tab) venv regs →
      All2 (Holds (exec cfg.L xs regs ext)) vs (outs.map (evalLR cfg tab venv)) := by
  obtain ⟨ts, hl, hc⟩ := applyOuts_ok h
  rw [evalLR_map venv hl]
  exact compileTs_sim cfg.L xs (envOf cfg tab) venv ts P vs P' hc

/-- What a successful `initV` did; the plain path is the CSE path with no replacements
(`cse.elim [] Prod.fst`).  The table literal is `initV`'s own `let tab0` (it depends on `S` and
`clearsState`), as the model writes it; `tab0 ins` is what it becomes in `initV_plain` (`htab`). -/
theorem initV_ok {cfg : Cfg α} {S S' : VState} {ins : List String} {outs : List Expr}
    {cse : Option (List (String × Expr) × List Expr)} {C : Compiled α}
    (h : initV cfg S ins outs cse = (S', .ok C)) :
    S' = {} ∧ ∃ tab1 P1 tabF,
      applyRepl cfg { inputs := ins, off := if cfg.clearsState then 0 else S.stalePtrs, repl := [],
                      staleRepl := if cfg.clearsState then [] else S.staleRepl }
        (cse.elim [] Prod.fst) (loads 0 ins.length) = (.ok (tab1, P1), tabF)
      ∧ applyOuts cfg tab1 (cse.elim outs fun p => p.2.take outs.length) P1 = .ok (C.outs, C.body) := by
  unfold initV at h
  cases cse with
  | none =>
    simp only at h
    cases ha : applyOuts cfg _ outs (loads 0 ins.length) with
    | error err => rw [ha] at h; cases h
    | ok r =>
      rw [ha] at h
      cases h
      exact ⟨rfl, _, _, _, rfl, ha⟩
  | some p =>
    obtain ⟨repl, reduced⟩ := p
    simp only at h
    cases hr : applyRepl cfg _ repl (loads 0 ins.length) with
    | mk r tabF =>
      rw [hr] at h
      cases r with
      | error err => cases h
      | ok r =>
        obtain ⟨tab1, P1⟩ := r
        simp only at h
        cases ha : applyOuts cfg tab1 (reduced.take outs.length) P1 with
        | error err => rw [ha] at h; cases h
        | ok r2 =>
          rw [ha] at h
          cases h
          exact ⟨rfl, tab1, P1, tabF, hr, ha⟩

/-- **Plain path.**  After a successful `init` without CSE on a visitor that clears its tables, `call xs`
returns the reference value of every output expression. -/
theorem initV_plain (cfg : Cfg α) (S S' : VState) (ins : List String) (outs : List Expr) (C : Compiled α)
    (hclr : cfg.clearsState = true)
    (hinit : initV cfg S ins outs none = (S', .ok C)) (xs : List α) (hxs : ins.length ≤ xs.length) :
    run cfg.L C xs = outs.map (evalL cfg (tab0 ins) (bindEnv ins xs)) := by
  have htab : ({ inputs := ins, off := if cfg.clearsState then 0 else S.stalePtrs, repl := [],
                 staleRepl := if cfg.clearsState then [] else S.staleRepl } : SymTab α) = tab0 ins := by
    simp [hclr, tab0]
  obtain ⟨_, tab1, P1, tabF, hr, ha⟩ := initV_ok hinit
  -- the CSE loop over no replacements leaves table and program as they are
  simp only [htab, Option.elim, applyRepl, Prod.mk.injEq, Except.ok.injEq] at hr ha
  obtain ⟨⟨rfl, rfl⟩, _⟩ := hr
  obtain ⟨ext, hext, hs⟩ := applyOuts_sim cfg xs (tab0 ins) (bindEnv ins xs) outs _ _ _ ha
  have hregs : exec cfg.L xs [] (loads 0 ins.length) = loadVals xs 0 ins.length := by
    simpa using exec_loads cfg.L xs [] 0 ins.length
  have hall := hs (loadVals xs 0 ins.length) (by simp [loadVals, loads_length]) (envOK_loads cfg ins xs hxs)
  simp only [run, hext, exec_append, hregs]
  rw [valsOf_holds hall]
  simp [evalL, List.map_map, Function.comp_def]

theorem initV_state_irrelevant (cfg : Cfg α) (hclr : cfg.clearsState = true) (S : VState)
    (ins : List String) (outs : List Expr) (cse : Option (List (String × Expr) × List Expr)) :
    initV cfg S ins outs cse = initV cfg {} ins outs cse := by
  simp [initV, hclr]

end SymVerif.LLVMD
