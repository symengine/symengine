/-
`sortStrs` (Model/SExp.lean), insertion sort on strings: the result is a permutation of the input, has the same members,
and is sorted.  Core Lean only.
Where a model prints the elements of a container whose iteration order depends on hashes or on `RCPBasicKeyLess`, it
prints the sorted list of their dumps, and the harness does the same with `std::sort` on the dump strings (`Hset::ds`,
`sorted_dumps` in harness/c42.cpp): the order is a canonical one for the comparison, not a model of the container's own order.
-/
import SymVerif.Model.SExp

namespace SymVerif

theorem insertStr_perm (s : String) (l : List String) : (insertStr s l).Perm (s :: l) := by
  induction l with
  | nil => simp [insertStr]
  | cons t ts ih =>
    unfold insertStr
    split
    · exact List.Perm.refl _
    · exact (List.Perm.cons t ih).trans (List.Perm.swap s t ts)

theorem sortStrs_cons (t : String) (ts : List String) : sortStrs (t :: ts) = insertStr t (sortStrs ts) := rfl

theorem sortStrs_perm (l : List String) : (sortStrs l).Perm l := by
  induction l with
  | nil => simp [sortStrs]
  | cons t ts ih =>
    rw [sortStrs_cons]
    exact (insertStr_perm t _).trans (List.Perm.cons t ih)

theorem mem_insertStr (s x : String) (l : List String) : x ∈ insertStr s l ↔ x = s ∨ x ∈ l :=
  (insertStr_perm s l).mem_iff.trans List.mem_cons

theorem mem_sortStrs (x : String) (l : List String) : x ∈ sortStrs l ↔ x ∈ l :=
  (sortStrs_perm l).mem_iff

theorem insertStr_sorted (s : String) (l : List String) (h : l.Pairwise (· ≤ ·)) :
    (insertStr s l).Pairwise (· ≤ ·) := by
  induction l with
  | nil => simp [insertStr]
  | cons t ts ih =>
    unfold insertStr
    split
    · rename_i hst
      rw [List.pairwise_cons]
      refine ⟨?_, h⟩
      intro a ha
      rcases List.mem_cons.mp ha with rfl | ha
      · exact hst
      · exact String.le_trans hst ((List.pairwise_cons.mp h).1 a ha)
    · rename_i hst
      have hts : t ≤ s := (String.le_total s t).resolve_left hst
      rw [List.pairwise_cons]
      refine ⟨?_, ih (List.pairwise_cons.mp h).2⟩
      intro a ha
      rcases (mem_insertStr s a ts).mp ha with rfl | ha
      · exact hts
      · exact (List.pairwise_cons.mp h).1 a ha

theorem sortStrs_sorted (l : List String) : (sortStrs l).Pairwise (· ≤ ·) := by
  induction l with
  | nil => simp [sortStrs]
  | cons t ts ih =>
    rw [sortStrs_cons]; exact insertStr_sorted t _ ih

end SymVerif
