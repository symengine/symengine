import SymVerif.Model.MatExpr
import SymVerif.Lemmas.Basic
import Mathlib.Algebra.Ring.Rat
import Mathlib.Algebra.BigOperators.Ring.Finset
import Mathlib.Tactic.Ring
/-!
Semantics of matrix expressions for C26: Gaussian rationals form a commutative ring, a matrix
value is a triple (rows, columns, entry function), `valOf` gives the value of an expression under
an environment (interpretation of matrix symbols and of dimension symbols) and `okOf` says that
all the sizes inside the expression fit.
-/
namespace SymVerif.MatExpr

namespace GQ

@[ext] theorem ext' {a b : GQ} (h1 : a.re = b.re) (h2 : a.im = b.im) : a = b := by
  cases a; cases b; simp_all

@[simp] theorem add_re (a b : GQ) : (a + b).re = a.re + b.re := rfl
@[simp] theorem add_im (a b : GQ) : (a + b).im = a.im + b.im := rfl
@[simp] theorem mul_re (a b : GQ) : (a * b).re = a.re * b.re - a.im * b.im := rfl
@[simp] theorem mul_im (a b : GQ) : (a * b).im = a.re * b.im + a.im * b.re := rfl
@[simp] theorem neg_re (a : GQ) : (-a).re = -a.re := rfl
@[simp] theorem neg_im (a : GQ) : (-a).im = -a.im := rfl
@[simp] theorem sub_re (a b : GQ) : (a - b).re = a.re - b.re := rfl
@[simp] theorem sub_im (a b : GQ) : (a - b).im = a.im - b.im := rfl
@[simp] theorem zero_re : (0 : GQ).re = 0 := rfl
@[simp] theorem zero_im : (0 : GQ).im = 0 := rfl
@[simp] theorem one_re : (1 : GQ).re = 1 := rfl
@[simp] theorem one_im : (1 : GQ).im = 0 := rfl

instance : CommRing GQ where
  add := (· + ·)
  zero := 0
  neg := Neg.neg
  sub := (· - ·)
  mul := (· * ·)
  one := 1
  nsmul := nsmulRec
  zsmul := zsmulRec
  add_assoc a b c := by ext <;> simp <;> ring
  zero_add a := by ext <;> simp
  add_zero a := by ext <;> simp
  add_comm a b := by ext <;> simp <;> ring
  neg_add_cancel a := by ext <;> simp
  sub_eq_add_neg a b := by ext <;> simp <;> ring
  mul_assoc a b c := by ext <;> simp <;> ring
  one_mul a := by ext <;> simp
  mul_one a := by ext <;> simp
  left_distrib a b c := by ext <;> simp <;> ring
  right_distrib a b c := by ext <;> simp <;> ring
  mul_comm a b := by ext <;> simp <;> ring
  zero_mul a := by ext <;> simp
  mul_zero a := by ext <;> simp

example (a b c : GQ) : (a + b) * c = c * b + a * c := by ring

@[simp] theorem isZero_iff (a : GQ) : a.isZero = true ↔ a = 0 := by
  simp [isZero]
@[simp] theorem isOne_iff (a : GQ) : a.isOne = true ↔ a = 1 := by
  simp [isOne]

end GQ

open MExpr

/-- a concrete matrix: number of rows, of columns, and the entries (only `f i j` with `i < r`,
    `j < c` matter) -/
structure Val where
  r : Nat
  c : Nat
  f : Nat → Nat → GQ

/-- equality of matrices: same shape, same entries inside the shape -/
def Val.Eqv (a b : Val) : Prop :=
  a.r = b.r ∧ a.c = b.c ∧ ∀ i j, i < a.r → j < a.c → a.f i j = b.f i j

infix:50 " ≃ " => Val.Eqv

theorem Val.Eqv.refl (a : Val) : a ≃ a := ⟨rfl, rfl, fun _ _ _ _ => rfl⟩
theorem Val.Eqv.symm {a b : Val} (h : a ≃ b) : b ≃ a :=
  ⟨h.1.symm, h.2.1.symm, fun i j hi hj => (h.2.2 i j (h.1 ▸ hi) (h.2.1 ▸ hj)).symm⟩
theorem Val.Eqv.trans {a b c : Val} (h1 : a ≃ b) (h2 : b ≃ c) : a ≃ c :=
  ⟨h1.1.trans h2.1, h1.2.1.trans h2.2.1, fun i j hi hj =>
    (h1.2.2 i j hi hj).trans (h2.2.2 i j (h1.1 ▸ hi) (h1.2.1 ▸ hj))⟩

structure Env where
  mat : String → Val
  dim : String → Nat

def Dim.eval (env : Env) : Dim → Nat
  | .nat n => n
  | .sym s => env.dim s

/-- entrywise sum of a list of matrices (shape of the first) -/
def sumV : List Val → Val
  | [] => ⟨0, 0, fun _ _ => 0⟩
  | v :: vs => ⟨v.r, v.c, fun i j => ((v :: vs).map fun w => w.f i j).sum⟩

/-- entrywise (Hadamard) product of a list of matrices (shape of the first) -/
def hadV : List Val → Val
  | [] => ⟨0, 0, fun _ _ => 0⟩
  | v :: vs => ⟨v.r, v.c, fun i j => ((v :: vs).map fun w => w.f i j).prod⟩

def mulV (a b : Val) : Val :=
  ⟨a.r, b.c, fun i j => ∑ k ∈ Finset.range a.c, a.f i k * b.f k j⟩

def prodV : List Val → Val
  | [] => ⟨0, 0, fun _ _ => 0⟩
  | [v] => v
  | v :: w :: rest => mulV v (prodV (w :: rest))

def smulV (s : GQ) (a : Val) : Val := ⟨a.r, a.c, fun i j => s * a.f i j⟩
def Val.transpose (a : Val) : Val := ⟨a.c, a.r, fun i j => a.f j i⟩
def Val.conj (a : Val) : Val := ⟨a.r, a.c, fun i j => (a.f i j).conj⟩

def SameDims (vs : List Val) : Prop := ∀ v ∈ vs, ∀ w ∈ vs, v.r = w.r ∧ v.c = w.c

/-- the columns of each matrix are the rows of the next -/
def ChainOk : List Val → Prop
  | [] => True
  | [_] => True
  | v :: w :: rest => v.c = w.r ∧ ChainOk (w :: rest)

/-- `F` folds a list of matrices entry by entry with `g`, in the shape of the first: `sumV` with `List.sum`, `hadV` with `List.prod`;
    of `[]` they are the 0×0 matrix by convention, never a value (`okOf` asks `≠ []`), hence `v :: t` only -/
def IsFold (g : List GQ → GQ) (F : List Val → Val) : Prop :=
  ∀ v t, F (v :: t) = ⟨v.r, v.c, fun i j => g ((v :: t).map fun w => w.f i j)⟩

theorem sumV_isFold : IsFold List.sum sumV := fun _ _ => rfl
theorem hadV_isFold : IsFold List.prod hadV := fun _ _ => rfl

theorem IsFold.head {g : List GQ → GQ} {F : List Val → Val} (hF : IsFold g F) {vs : List Val} (hne : vs ≠ []) :
    ∃ v ∈ vs, (F vs).r = v.r ∧ (F vs).c = v.c := by
  obtain ⟨v, t, rfl⟩ := List.exists_cons_of_ne_nil hne
  rw [hF]; exact ⟨v, .head _, rfl, rfl⟩

theorem IsFold.f {g : List GQ → GQ} {F : List Val → Val} (hF : IsFold g F) {vs : List Val} (hne : vs ≠ [])
    (i j : Nat) : (F vs).f i j = g (vs.map fun w => w.f i j) := by
  obtain ⟨v, t, rfl⟩ := List.exists_cons_of_ne_nil hne
  rw [hF]

mutual
  def valOf (env : Env) : MExpr → Val
    | ident n => ⟨n.eval env, n.eval env, fun i j => if i = j then 1 else 0⟩
    | zero r c => ⟨r.eval env, c.eval env, fun _ _ => 0⟩
    | diag d => ⟨d.length, d.length, fun i j => if i = j then d.getD i 0 else 0⟩
    | dense r c v => ⟨r, c, fun i j => ent v c i j⟩
    | sym n => env.mat n
    | add ts => sumV (valsOf env ts)
    | had fs => hadV (valsOf env fs)
    | mul s fs => smulV s (prodV (valsOf env fs))
    | transpose e => (valOf env e).transpose
    | conj e => (valOf env e).conj
  def valsOf (env : Env) : List MExpr → List Val
    | [] => []
    | e :: t => valOf env e :: valsOf env t
end

mutual
  /-- all the shapes inside the expression fit (the value is defined) -/
  def okOf (env : Env) : MExpr → Prop
    | ident _ => True
    | zero _ _ => True
    | diag _ => True
    | dense r c v => v.length = r * c
    | sym _ => True
    | add ts => ts ≠ [] ∧ okAll env ts ∧ SameDims (valsOf env ts)
    | had fs => fs ≠ [] ∧ okAll env fs ∧ SameDims (valsOf env fs)
    | mul _ fs => fs ≠ [] ∧ okAll env fs ∧ ChainOk (valsOf env fs)
    | transpose e => okOf env e
    | conj e => okOf env e
  def okAll (env : Env) : List MExpr → Prop
    | [] => True
    | e :: t => okOf env e ∧ okAll env t
end

theorem valsOf_eq_map (env : Env) (l : List MExpr) : valsOf env l = l.map (valOf env) := by
  induction l with
  | nil => simp [valsOf]
  | cons e t ih => simp [valsOf, ih]

theorem valsOf_ne_nil {env : Env} {l : List MExpr} (h : l ≠ []) : valsOf env l ≠ [] := by
  rw [valsOf_eq_map]; simpa using h

theorem mem_valsOf {env : Env} {l : List MExpr} {t : MExpr} (h : t ∈ l) : valOf env t ∈ valsOf env l :=
  valsOf_eq_map env l ▸ List.mem_map_of_mem h

/-- `okOf` must say "same shape" without a reference shape, hence the pairwise `SameDims`; the proofs pass at once to
    this form (`allDims_of_sameDims`, `sameDims_of_allDims`) -/
def AllDims (R C : Nat) (vs : List Val) : Prop := ∀ v ∈ vs, v.r = R ∧ v.c = C

theorem allDims_of_sameDims {v : Val} {vs : List Val} (h : SameDims (v :: vs)) :
    AllDims v.r v.c (v :: vs) := by
  intro a ha
  exact h a ha v (by simp)

theorem IsFold.allDims {g : List GQ → GQ} {F : List Val → Val} (hF : IsFold g F) {vs : List Val} (hne : vs ≠ [])
    (h : SameDims vs) : AllDims (F vs).r (F vs).c vs := by
  obtain ⟨v, t, rfl⟩ := List.exists_cons_of_ne_nil hne
  rw [hF]; exact allDims_of_sameDims h

theorem IsFold.dims {g : List GQ → GQ} {F : List Val → Val} (hF : IsFold g F) {env : Env} {l : List MExpr}
    (hne : l ≠ []) (hd : SameDims (valsOf env l)) :
    ∀ t ∈ l, (F (valsOf env l)).r = (valOf env t).r ∧ (F (valsOf env l)).c = (valOf env t).c := fun _ ht =>
  have h := hF.allDims (valsOf_ne_nil hne) hd _ (mem_valsOf ht)
  ⟨h.1.symm, h.2.symm⟩

theorem allDims_cons {R C : Nat} {v : Val} {vs : List Val} :
    AllDims R C (v :: vs) ↔ (v.r = R ∧ v.c = C) ∧ AllDims R C vs :=
  List.forall_mem_cons

theorem allDims_append {R C : Nat} {vs ws : List Val} :
    AllDims R C (vs ++ ws) ↔ AllDims R C vs ∧ AllDims R C ws :=
  List.forall_mem_append

theorem sameDims_of_allDims {R C : Nat} {vs : List Val} (h : AllDims R C vs) : SameDims vs := by
  intro a ha b hb
  exact ⟨(h a ha).1.trans (h b hb).1.symm, (h a ha).2.trans (h b hb).2.symm⟩

theorem IsFold.r_c {g : List GQ → GQ} {F : List Val → Val} (hF : IsFold g F) {R C : Nat} {vs : List Val}
    (hne : vs ≠ []) (h : AllDims R C vs) : (F vs).r = R ∧ (F vs).c = C := by
  obtain ⟨v, hv, h1, h2⟩ := hF.head hne
  exact ⟨h1.trans (h v hv).1, h2.trans (h v hv).2⟩

theorem IsFold.f_valsOf {g : List GQ → GQ} {F : List Val → Val} (hF : IsFold g F) {env : Env} {l : List MExpr}
    (hne : l ≠ []) (i j : Nat) : (F (valsOf env l)).f i j = g (l.map fun t => (valOf env t).f i j) := by
  rw [hF.f (valsOf_ne_nil hne), valsOf_eq_map, List.map_map]; rfl

theorem valsOf_append (env : Env) (l1 l2 : List MExpr) :
    valsOf env (l1 ++ l2) = valsOf env l1 ++ valsOf env l2 := by simp [valsOf_eq_map]

theorem prodV_r (v : Val) (l : List Val) : (prodV (v :: l)).r = v.r := by
  cases l <;> simp [prodV, mulV]

theorem prodV_c (l : List Val) (hne : l ≠ []) : (prodV l).c = (l.getLast hne).c := by
  induction l with
  | nil => exact absurd rfl hne
  | cons v t ih =>
    cases t with
    | nil => simp [prodV]
    | cons w rest =>
      simp only [prodV, mulV]
      rw [ih (by simp)]
      simp

theorem dimMatch_t {env : Env} {a b : Dim} (h : dimMatch a b = .t) : a.eval env = b.eval env := by
  cases a <;> cases b <;> simp [dimMatch] at h <;> simp [Dim.eval, h]

theorem dimMatch_f {env : Env} {a b : Dim} (h : dimMatch a b = .f) : a.eval env ≠ b.eval env := by
  cases a <;> cases b <;> simp only [dimMatch] at h <;> (try split at h) <;> simp_all [Dim.eval]

theorem okAll_iff (env : Env) (l : List MExpr) : okAll env l ↔ ∀ e ∈ l, okOf env e := by
  induction l with
  | nil => simp [okAll]
  | cons e t ih => simp [okAll, ih]

theorem okAll_append (env : Env) (l1 l2 : List MExpr) :
    okAll env (l1 ++ l2) ↔ okAll env l1 ∧ okAll env l2 := by
  simp only [okAll_iff]; exact List.forall_mem_append

def Val.IsZero (v : Val) : Prop := ∀ i j, i < v.r → j < v.c → v.f i j = 0
def Val.IsSquare (v : Val) : Prop := v.r = v.c
def Val.IsDiagonal (v : Val) : Prop :=
  v.r = v.c ∧ ∀ i j, i < v.r → j < v.c → i ≠ j → v.f i j = 0
def Val.IsSymmetric (v : Val) : Prop :=
  v.r = v.c ∧ ∀ i j, i < v.r → j < v.c → v.f i j = v.f j i
def Val.IsLower (v : Val) : Prop :=
  v.r = v.c ∧ ∀ i j, i < v.r → j < v.c → i < j → v.f i j = 0
def Val.IsUpper (v : Val) : Prop :=
  v.r = v.c ∧ ∀ i j, i < v.r → j < v.c → j < i → v.f i j = 0
def Val.IsReal (v : Val) : Prop := ∀ i j, i < v.r → j < v.c → (v.f i j).im = 0
def Val.IsToeplitz (v : Val) : Prop :=
  ∀ i j, i + 1 < v.r → j + 1 < v.c → v.f i j = v.f (i + 1) (j + 1)

def Val.Holds (p : Pred) (v : Val) : Prop :=
  match p with
  | .zero => v.IsZero
  | .diagonal => v.IsDiagonal
  | .symmetric => v.IsSymmetric
  | .lower => v.IsLower
  | .upper => v.IsUpper
  | .real => v.IsReal
  | .square => v.IsSquare
  | .toeplitz => v.IsToeplitz

theorem mkFlat_succ (n c : Nat) (f : Nat → Nat → GQ) :
    mkFlat (n + 1) c f = mkFlat n c f ++ (List.range c).map (fun j => f n j) := by
  simp [mkFlat, List.range_succ, List.flatMap_append]

theorem length_mkFlat (r c : Nat) (f : Nat → Nat → GQ) : (mkFlat r c f).length = r * c := by
  induction r with
  | zero => simp [mkFlat]
  | succ n ih =>
    rw [mkFlat_succ, List.length_append, ih, List.length_map, List.length_range, Nat.succ_mul]

theorem ent_mkFlat {r c : Nat} (f : Nat → Nat → GQ) {i j : Nat} (hi : i < r) (hj : j < c) :
    ent (mkFlat r c f) c i j = f i j := by
  induction r with
  | zero => omega
  | succ n ih =>
    rw [mkFlat_succ]
    unfold ent
    by_cases h : i < n
    · have hlt : i * c + j < (mkFlat n c f).length := by
        rw [length_mkFlat]; exact idx_lt h hj
      have := ih h
      unfold ent at this
      rw [List.getD_eq_getElem?_getD, List.getElem?_append_left hlt,
        ← List.getD_eq_getElem?_getD]
      exact this
    · have hin : i = n := by omega
      subst hin
      have hge : (mkFlat i c f).length ≤ i * c + j := by rw [length_mkFlat]; omega
      rw [List.getD_eq_getElem?_getD, List.getElem?_append_right hge, length_mkFlat]
      simp [hj]

theorem getD_zipWith {f : GQ → GQ → GQ} (hf : f 0 0 = 0) {a b : List GQ} (h : a.length = b.length) (k : Nat) :
    (List.zipWith f a b).getD k 0 = f (a.getD k 0) (b.getD k 0) := by
  simp only [List.getD_eq_getElem?_getD, List.getElem?_zipWith]
  by_cases hk : k < a.length
  · have hk' : k < b.length := h ▸ hk
    simp [List.getElem?_eq_getElem hk, List.getElem?_eq_getElem hk']
  · have hk' : ¬ k < b.length := h ▸ hk
    simp [List.getElem?_eq_none (Nat.le_of_not_lt hk), List.getElem?_eq_none (Nat.le_of_not_lt hk'), hf]

theorem ite_ok {ε α : Type} {c : Prop} [Decidable c] {x r : α} {e : ε}
    (h : (if c then .ok x else .error e : Except ε α) = .ok r) : c ∧ x = r := by
  split at h
  · exact ⟨‹c›, Except.ok.inj h⟩
  · cases h

/-- the `make_rcp` wrappers only assert canonical form: what they return is the node itself -/
theorem assert_ok {c : Bool} {x r : MExpr} (h : (if c then .ok x else .error .assert : Except Err MExpr) = .ok r) :
    r = x :=
  (ite_ok h).2.symm

theorem mkAdd_ok {l : List MExpr} {r : MExpr} (h : mkAdd l = .ok r) : r = add l := assert_ok h
theorem mkHad_ok {l : List MExpr} {r : MExpr} (h : mkHad l = .ok r) : r = had l := assert_ok h
theorem mkDense_ok {r c : Nat} {v : List GQ} {e : MExpr} (h : mkDense r c v = .ok e) : e = dense r c v := assert_ok h
theorem mkDiag_ok {d : List GQ} {e : MExpr} (h : mkDiag d = .ok e) : e = diag d := assert_ok h
theorem mkTranspose_ok {a e : MExpr} (h : mkTranspose a = .ok e) : e = transpose a := assert_ok h
theorem mkConj_ok {a e : MExpr} (h : mkConj a = .ok e) : e = conj a := assert_ok h
theorem mkMul_ok {s : GQ} {l : List MExpr} {r : MExpr} (h : mkMul s l = .ok r) : r = mul s l := assert_ok h

end SymVerif.MatExpr
