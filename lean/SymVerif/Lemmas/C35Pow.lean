/-
Value lemmas for the Pow-of-Pow rule (exact exponent arithmetic, even powers) and for
SimplifyVisitor::simplify_pow (`rulePow_value`, `simplifyPow_value`).
-/
import SymVerif.Lemmas.C35Rules

namespace SymVerif.C35
open SymVerif SymVerif.Queries SymVerif.Refine SymVerif.C34

variable {ρ : String → ℝ} {A : Assumptions}

theorem evalR_qToNum {n : ℤ} {d : ℕ} (hd : d ≠ 0) :
    evalR ρ (qToNum n d) = some ((n : ℝ) / (d : ℝ)) := by
  unfold qToNum
  have hg : Nat.gcd n.natAbs d ≠ 0 := by
    intro h; exact hd (Nat.eq_zero_of_gcd_eq_zero_right h)
  set g := Nat.gcd n.natAbs d with hgdef
  have hgd : g ∣ d := Nat.gcd_dvd_right _ _
  have hgn : (g : ℤ) ∣ n := by
    have : g ∣ n.natAbs := Nat.gcd_dvd_left _ _
    exact Int.natCast_dvd.mpr this
  have hd' : d = d / g * g := (Nat.div_mul_cancel hgd).symm
  have hn' : n = n / (g : ℤ) * (g : ℤ) := (Int.ediv_mul_cancel hgn).symm
  have hgR : (g : ℝ) ≠ 0 := by exact_mod_cast hg
  have hdg : d / g ≠ 0 := by
    intro h0; rw [h0, Nat.zero_mul] at hd'; exact hd hd'
  have hdgR : ((d / g : ℕ) : ℝ) ≠ 0 := by exact_mod_cast hdg
  have key : (n : ℝ) / (d : ℝ) = ((n / (g : ℤ) : ℤ) : ℝ) / ((d / g : ℕ) : ℝ) := by
    have h1 : (n : ℝ) = ((n / (g : ℤ) : ℤ) : ℝ) * (g : ℝ) := by exact_mod_cast hn'
    have h2 : (d : ℝ) = ((d / g : ℕ) : ℝ) * (g : ℝ) := by exact_mod_cast hd'
    rw [h1, h2]
    field_simp
  simp only [beq_iff_eq, hg, if_false]
  split
  · rename_i h1
    simp only [evalR]
    rw [key, h1]
    simp
  · simp only [evalR, hdg, if_false]
    rw [key]

theorem numToQ_val {x : Expr} {n : ℤ} {d : ℕ} (hw : wf x = true) (h : numToQ x = some (n, d)) :
    d ≠ 0 ∧ evalR ρ x = some ((n : ℝ) / (d : ℝ)) := by
  cases x with
  | int k =>
    simp [numToQ] at h
    obtain ⟨rfl, rfl⟩ := h
    simp [evalR]
  | rat k e =>
    simp [numToQ] at h
    obtain ⟨rfl, rfl⟩ := h
    have he : e ≠ 0 := by have := (wf_rat.mp hw).1; omega
    exact ⟨he, by simp [evalR, he]⟩
  | _ => simp [numToQ] at h

theorem numMul_val {ρ : String → ℝ} {x y p : Expr} {vx vy : ℝ} (hwx : wf x = true) (hwy : wf y = true)
    (hx : evalR ρ x = some vx) (hy : evalR ρ y = some vy) (h : numMul x y = some p) :
    evalR ρ p = some (vx * vy) := by
  unfold numMul at h
  split at h
  · rename_i n1 d1 n2 d2 h1 h2
    cases h
    obtain ⟨hd1, hv1⟩ := numToQ_val (ρ := ρ) hwx h1
    obtain ⟨hd2, hv2⟩ := numToQ_val (ρ := ρ) hwy h2
    rw [hx] at hv1
    rw [hy] at hv2
    cases hv1
    cases hv2
    rw [evalR_qToNum (Nat.mul_ne_zero hd1 hd2)]
    congr 1
    push_cast
    rw [div_mul_div_comm]
  · cases h

/-- The repaired Pow-of-Pow rule (`asIs = false`).  Of canonicity the proof needs `hc`: the outer exponent `x` is no integer
    literal (so the inner power is positive, `powSem_nonint_pos`) and the inner exponent is not the literal 0. -/
theorem rulePow_value {ρ : String → ℝ} {A : Assumptions} (hA : FactsSat ρ A) {b x r : Expr} {v : ℝ}
    (hw : wf (.pow b x) = true) (hc : powNonCanon b x = false)
    (hr : rulePow false A b x = some r) (hv : evalR ρ (.pow b x) = some v) : evalR ρ r = some v := by
  unfold rulePow at hr
  split at hr
  case h_2 => cases hr
  rename_i ib ie
  split at hr
  case isFalse => cases hr
  -- the guard (numbers, not complex, `is_real` base) is not used: `numMul` succeeds only on exact numbers
  obtain ⟨hwb, hwx⟩ := wf_pow.mp hw
  obtain ⟨hwib, hwie⟩ := wf_pow.mp hwb
  have hxi : ∀ n, x ≠ .int n := fun n hn => by subst hn; simp [powNonCanon] at hc
  obtain ⟨y, hy, hv⟩ := evalR_pow_some.mp hv
  obtain ⟨vib, hib, hy⟩ := evalR_pow_some.mp hy
  have hypos := powSem_nonint_pos hxi hv
  rw [powSem_of_pos hypos] at hv
  obtain ⟨vx, hvx, rfl⟩ := Option.map_eq_some_iff.mp hv
  -- both cases end alike: a new base with a positive value `c`, `c ^ vie` the inner power, and the exact product
  -- of the exponents
  have fin : ∀ (base : Expr) (c vie : ℝ) (p : Expr), 0 < c → evalR ρ base = some c → evalR ρ ie = some vie →
      y = c ^ vie → numMul x ie = some p → evalR ρ (.pow base p) = some (y ^ vx) := by
    intro base c vie p hcpos hbase hvie hyc hp
    rw [evalR_pow_some]
    refine ⟨c, hbase, ?_⟩
    rw [powSem_of_pos hcpos, numMul_val hwx hwie hvx hvie hp, Option.map_some, hyc, pow_rule_pos hcpos, mul_comm]
  split at hr
  · rename_i hpos
    have hvpos : 0 < vib := (isPositiveF_sound hA _ ib vib hwib hib).of_beq hpos
    obtain ⟨p, hp, rfl⟩ := Option.map_eq_some_iff.mp hr
    rw [powSem_of_pos hvpos] at hy
    obtain ⟨vie, hvie, rfl⟩ := Option.map_eq_some_iff.mp hy
    exact fin ib vib vie p hvpos hib hvie rfl hp
  · split at hr
    case isFalse => cases hr
    rename_i hev
    obtain ⟨p, hp, rfl⟩ := Option.map_eq_some_iff.mp hr
    obtain ⟨k, rfl, hk⟩ : ∃ k, ie = .int k ∧ Even k := by
      cases ie <;> simp [isEvenInt] at hev
      exact ⟨_, rfl, Int.even_iff.mpr hev⟩
    have hk0 : k ≠ 0 := fun h0 => by subst h0; cases x <;> simp [powNonCanon] at hc
    rw [powSem_int] at hy
    split at hy
    · cases hy
    cases hy
    have hvne : vib ≠ 0 := fun h0 => by rw [h0, zero_zpow k hk0] at hypos; exact lt_irrefl 0 hypos
    refine fin (.app "Abs" [ib]) |vib| k p (abs_pos.mpr hvne) (by simp [evalR_app_one, hib, appSem]) (by simp [evalR])
      ?_ hp
    rw [Real.rpow_intCast, hk.zpow_abs]

theorem recip_value {h h' : String} {u : Expr} {v : ℝ} {ve : Option ℝ}
    (hv : powSem (evalR ρ (.app h [u])) (.int (-1)) ve = some v)
    (hrec : ∀ x y, appSem h (some [x]) = some y → y ≠ 0 → appSem h' (some [x]) = some y⁻¹) :
    evalR ρ (.app h' [u]) = some v := by
  cases hb : evalR ρ (.app h [u]) with
  | none => rw [hb] at hv; cases hv
  | some y =>
    obtain ⟨x, hx, hs⟩ := evalR_app_single hb
    rw [hb] at hv
    obtain ⟨hne, rfl⟩ := powSem_neg_one hv
    rw [evalR_app_one, hx]
    exact hrec x y hs hne

/-- `csc(u)**-1 = sin(u)`, `sec(u)**-1 = cos(u)`, `cot(u)**-1 = tan(u)` wherever the left side has a value -/
theorem simplifyPow_value {ρ : String → ℝ} {x b : Expr} {v : ℝ}
    (hv : powSem (evalR ρ b) x (evalR ρ x) = some v) :
    powSem (evalR ρ (simplifyPow x b).2) (simplifyPow x b).1 (evalR ρ (simplifyPow x b).1) = some v := by
  unfold simplifyPow
  split
  · rw [powSem_one]
    refine recip_value hv fun x y hs _ => ?_
    simp only [appSem, String.reduceEq, ↓reduceIte] at hs ⊢
    split at hs <;> cases hs
    rw [inv_inv]
  · rw [powSem_one]
    refine recip_value hv fun x y hs _ => ?_
    simp only [appSem, String.reduceEq, ↓reduceIte] at hs ⊢
    split at hs <;> cases hs
    rw [inv_inv]
  · rw [powSem_one]
    refine recip_value hv fun x y hs hne => ?_
    simp only [appSem, String.reduceEq, ↓reduceIte] at hs ⊢
    split at hs <;> cases hs
    rw [if_neg (div_ne_zero_iff.mp hne).1, inv_div]
  · exact hv

end SymVerif.C35
