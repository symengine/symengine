import SymVerif.Model.MpSpec
import SymVerif.Model.MpBoost
import SymVerif.Lemmas.GmpSpec
/-! C43, division families: the floor/ceiling fix-ups of `mp_fdiv_qr` / `mp_cdiv_qr` (mp_boost.cpp)
on top of Boost's truncated `divide_qr` give GMP's `fdiv`/`cdiv` results for all four sign combinations.
Claimed theorems of the property: `fdiv_qr`, `fdiv_q`, `fdiv_r`, `cdiv_q`, `tdiv_qr`.  In all C43 modules a claimed theorem
`MpBoost.f = MpSpec.f` carries the name of `f` in snake case (`fdiv_qr`, `root`, `invert` …; `boost_tdivQ_spec` is the
exception): inside `namespace SymVerif.C43` such a name in a `rw` is the theorem. -/
namespace SymVerif.C43
open SymVerif

theorem tdiv_tmod_facts (a b : Int) (hb : b ≠ 0) :
    a.tmod b + b * a.tdiv b = a ∧ (b < 0 → b < a.tmod b ∧ a.tmod b < -b) ∧
    (0 < b → -b < a.tmod b ∧ a.tmod b < b) ∧ (0 ≤ a → 0 ≤ a.tmod b) ∧ (a ≤ 0 → a.tmod b ≤ 0) := by
  have hlt := GmpSpec.tmod_natAbs_lt a hb
  exact ⟨Int.tmod_add_mul_tdiv a b, by omega, by omega, Int.tmod_nonneg b, GmpSpec.tmod_nonpos b⟩

/-- `mp_fdiv_qr` returns `(⌊a/b⌋, a - b⌊a/b⌋)` for all four sign combinations: in each branch of the two
tests of the code the result satisfies `a = r + b q` with `r` between `0` and `b`, which determines it -/
theorem fdiv_qr (a b : Int) (hb : b ≠ 0) :
    MpBoost.fdivQr a b = (MpSpec.fdivQ a b, MpSpec.fdivR a b) := by
  obtain ⟨hq, hlt, hlt', hpos, hneg⟩ := tdiv_tmod_facts a b hb
  unfold MpBoost.fdivQr MpBoost.divideQr MpSpec.fdivQ MpSpec.fdivR
  generalize a.tdiv b = q0, a.tmod b = r0 at *
  simp only [Bool.or_eq_true, Bool.and_eq_true, decide_eq_true_eq, bne_iff_ne, ne_eq]
  -- for `omega` the products `b * q0` and `b * (q0 - 1)` are unrelated atoms; this links them
  have hm : b * (q0 - 1) = b * q0 - b := by rw [Int.mul_sub, Int.mul_one]
  symm
  rcases Int.lt_or_gt_of_ne hb with hbn | hbp
  · have hr := hlt hbn
    split <;> split <;> rw [Prod.mk.injEq, Int.fdiv_fmod_unique' hbn] <;> omega
  · have hr := hlt' hbp
    split <;> split <;> rw [Prod.mk.injEq, Int.fdiv_fmod_unique hbp] <;> omega

theorem fdiv_q (a b : Int) (hb : b ≠ 0) : MpBoost.fdivQ a b = MpSpec.fdivQ a b := by
  simp [MpBoost.fdivQ, fdiv_qr a b hb]

theorem fdiv_r (a b : Int) (hb : b ≠ 0) : MpBoost.fdivR a b = MpSpec.fdivR a b := by
  simp [MpBoost.fdivR, fdiv_qr a b hb]

/-- `mp_cdiv_qr` is `mp_fdiv_qr` of `-a` with the quotient negated: the two tests of the code are mirror images -/
theorem cdivQ_eq_neg_fdivQ (a b : Int) : MpBoost.cdivQ a b = -MpBoost.fdivQ (-a) b := by
  unfold MpBoost.cdivQ MpBoost.fdivQ MpBoost.cdivQr MpBoost.fdivQr MpBoost.divideQr
  simp only [Int.neg_tdiv, Int.neg_tmod, Bool.or_eq_true, Bool.and_eq_true, decide_eq_true_eq, bne_iff_ne, ne_eq,
    apply_ite Prod.fst, ite_self]
  split <;> split <;> omega

/-- `mp_cdiv_q` (through `mp_cdiv_qr`) returns `⌈a/b⌉ = -⌊-a/b⌋` for all four sign combinations -/
theorem cdiv_q (a b : Int) (hb : b ≠ 0) : MpBoost.cdivQ a b = MpSpec.cdivQ a b := by
  rw [cdivQ_eq_neg_fdivQ, fdiv_q _ _ hb]; rfl

/-- `mp_tdiv_qr`, `mp_tdiv_q`, `operator/`, `operator%` are Boost's truncated division itself -/
theorem tdiv_qr (a b : Int) : MpBoost.tdivQr a b = (MpSpec.tdivQ a b, MpSpec.tdivR a b) := rfl
theorem boost_tdivQ_spec (a b : Int) : MpBoost.tdivQ a b = MpSpec.tdivQ a b := rfl

end SymVerif.C43
