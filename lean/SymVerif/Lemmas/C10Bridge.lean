/-
Bridge between the two semantics used by C10 / C11:

  NF.evalK I ρ'   (Lemmas/NFSound.lean)  atoms = arbitrary values attached to canonical dump *strings*
  C10.evalR ρ     (Lemmas/C10Real.lean)  real functions, symbols through ρ

`atomVal ρ` attaches to every dump string the real value of a tree with that dump.  Under `DumpFaithful ρ`
(trees with the same canonical dump have the same real value; a hypothesis, not proved)
the string semantics at `atomVal ρ` coincides with the real semantics on every tree that is `RealDef`ined.
Consequence (`equiv_real`): a certificate accepted by `NF.equiv` is an equality of *real values*.

Trap: over all trees `DumpFaithful ρ` holds for no `ρ`: `.app "+" [.int 1]` and `.add (.int 1) []` both dump as `(+ 1)` and
have the real values 0 and 1.  So `atomVal_dump`, `evalK_evalR`, `equiv_real` and the end-to-end theorems built on them
(`certificate_real`, `library_result_is_derivative` in `Props/C10.lean`, `library_result_has_value` in `Props/C11.lean`) say
nothing as stated; the condition meant, for the trees that occur on the wire, is not in the definition.
-/
import Mathlib.Data.Complex.Basic
import SymVerif.Lemmas.NFSound
import SymVerif.Lemmas.C10Real

namespace SymVerif
namespace C10
open SymVerif Expr NF

/-- trees with the same canonical dump have the same real value (false for every `ρ` over all trees: head comment) -/
def DumpFaithful (ρ : String → ℝ) : Prop :=
  ∀ a b : Expr, Expr.dumpCanon a = Expr.dumpCanon b → evalR ρ a = evalR ρ b

/-- the value attached to a dump string: the real value of some tree with that dump -/
noncomputable def atomVal (ρ : String → ℝ) (s : String) : ℂ :=
  open Classical in
  if h : ∃ a : Expr, Expr.dumpCanon a = s then ((evalR ρ (Classical.choose h) : ℝ) : ℂ) else 0

theorem atomVal_dump {ρ : String → ℝ} (hf : DumpFaithful ρ) (a : Expr) :
    atomVal ρ (Expr.dumpCanon a) = ((evalR ρ a : ℝ) : ℂ) := by
  unfold atomVal
  have h : ∃ b : Expr, Expr.dumpCanon b = Expr.dumpCanon a := ⟨a, rfl⟩
  rw [dif_pos h]
  rw [hf _ _ (Classical.choose_spec h)]

mutual
  /-- the tree has a value in the string semantics: number leaves well formed, no `0 ^ negative` -/
  def RealDef (ρ : String → ℝ) : Expr → Prop
    | .int _ => True
    | .rat _ d => d ≠ 0
    | .cplx _ _ => False
    | .dbl _ => False
    | .cdbl _ _ => False
    | .infty _ => False
    | .nan => False
    | .bool _ => False
    | .add c ts => RealDef ρ c ∧ RealDefTerms ρ ts
    | .mul c fs => RealDef ρ c ∧ RealDefFacs ρ fs
    | .pow b e =>
      match intLit? e with
      | some n => RealDef ρ b ∧ (n < 0 → evalR ρ b ≠ 0)
      | none => True
    | _ => True
  def RealDefTerms (ρ : String → ℝ) : List (Expr × Expr) → Prop
    | [] => True
    | (k, v) :: t => RealDef ρ k ∧ RealDef ρ v ∧ RealDefTerms ρ t
  def RealDefFacs (ρ : String → ℝ) : List (Expr × Expr) → Prop
    | [] => True
    | (b, e) :: t =>
      (match intLit? e with
       | some n => RealDef ρ b ∧ (n < 0 → evalR ρ b ≠ 0)
       | none => True) ∧ RealDefFacs ρ t
end

theorem powVal_real (v : ℝ) (n : Int) (h : n < 0 → v ≠ 0) :
    powVal ((v : ℝ) : ℂ) n = some (((v ^ n : ℝ)) : ℂ) := by
  rw [powVal_of fun hn hv => h hn (by exact_mod_cast hv), Complex.ofReal_zpow]

/-- an entry with an integer-literal exponent: the same value in both semantics (`pow` node and `Mul` entry) -/
theorem powEntry_evalR {ρ : String → ℝ} {b e : Expr} {n : Int} (he : intLit? e = some n)
    (hb : evalK Complex.I (atomVal ρ) b = some ((evalR ρ b : ℝ) : ℂ)) (h0 : n < 0 → evalR ρ b ≠ 0) :
    ((evalK Complex.I (atomVal ρ) b).bind fun v => powVal v n)
      = some ((powV (evalR ρ b) e (evalR ρ e) : ℝ) : ℂ) := by
  rw [hb, Option.bind_some, powVal_real _ n h0, intLit_eq_some he, powV_int]

section
variable {ρ : String → ℝ} (hf : DumpFaithful ρ)
-- the linter reports `hf` unused in `evalTerms_evalR`: it reaches it through the mutual call of `evalK_evalR`
include hf

mutual
  theorem evalK_evalR : ∀ (e : Expr), RealDef ρ e →
      evalK Complex.I (atomVal ρ) e = some ((evalR ρ e : ℝ) : ℂ)
    | .int n, _ => by simp [evalK, evalR]
    | .rat n d, h => by
      simp only [RealDef] at h
      simp [evalK, evalR, h]
    | .cplx _ _, h | .dbl _, h | .cdbl _ _, h | .infty _, h | .nan, h | .bool _, h => by simp [RealDef] at h
    | .sym _, _ | .dummy _ _, _ | .const _, _ | .fsym _ _, _ | .app _ _, _ =>
        by simp only [evalK]; rw [atomVal_dump hf]
    | .add c ts, h => by
      simp only [RealDef] at h
      simp only [evalK, evalR, evalK_evalR c h.1, evalTerms_evalR ts h.2, add2]
      -- `rfl`, not `simp`: the two `+` differ by instance path (`Complex.instField` through `evalK`'s `[Field K]` against `Complex.instAdd`)
      push_cast; rfl
    | .mul c fs, h => by
      simp only [RealDef] at h
      simp only [evalK, evalR, evalK_evalR c h.1, evalFacs_evalR fs h.2, mul2]
      push_cast; rfl
    | .pow b e, h => by
      simp only [RealDef] at h
      simp only [evalK]
      cases he : intLit? e with
      | none =>
        show some (atomVal ρ _) = _
        rw [atomVal_dump hf]
      | some n =>
        simp only [he] at h
        simp only [powEntry_evalR he (evalK_evalR b h.1) h.2, evalR]
  theorem evalTerms_evalR : ∀ (ts : List (Expr × Expr)), RealDefTerms ρ ts →
      evalTerms Complex.I (atomVal ρ) ts = some ((evalTermsR ρ ts : ℝ) : ℂ)
    | [], _ => by simp [evalTerms, evalTermsR]
    | (k, v) :: t, h => by
      simp only [RealDefTerms] at h
      simp only [evalTerms, evalTermsR, evalK_evalR k h.1, evalK_evalR v h.2.1, evalTerms_evalR t h.2.2, add2, mul2]
      push_cast; rfl
  theorem evalFacs_evalR : ∀ (fs : List (Expr × Expr)), RealDefFacs ρ fs →
      evalFacs Complex.I (atomVal ρ) fs = some ((evalFacsR ρ fs : ℝ) : ℂ)
    | [], _ => by simp [evalFacs, evalFacsR]
    | (b, e) :: t, h => by
      simp only [RealDefFacs] at h
      simp only [evalFacs, evalFacsR]
      cases he : intLit? e with
      | none =>
        simp only [evalFacs_evalR t h.2, mul2]
        rw [atomVal_dump hf]
        simp [evalR]
      | some n =>
        have h1 := h.1
        simp only [he] at h1
        simp only [powEntry_evalR he (evalK_evalR b h1.1) h1.2, evalFacs_evalR t h.2, mul2]
        push_cast; rfl
end

/-- **A certificate is an equality of real values**: if `NF.equiv a b` and both trees are defined, they have the same
real value at `ρ` — under `hf`, which no `ρ` satisfies (Trap in the head comment). -/
theorem equiv_real {a b : Expr} (h : NF.equiv a b = true) (ha : RealDef ρ a) (hb : RealDef ρ b) :
    evalR ρ a = evalR ρ b := by
  have := NF.equiv_sound (I := Complex.I) (ρ := atomVal ρ) Complex.I_mul_I h (evalK_evalR hf a ha) (evalK_evalR hf b hb)
  exact_mod_cast this

end

end C10
end SymVerif
