/-
Precedence climbing round trip (token level) for `Model/Parser.lean`.

`Doc` is a *printed form*: a concrete syntax tree that records every parenthesis pair and every use of the
implicit-multiplication tokens.  `Doc.toks` is the token sequence, `Doc.ast` the tree the printed form stands for.
`Doc.OK bp d` says that the parentheses present in `d` are sufficient w.r.t. the binding powers `bp`
(any number of redundant pairs may be present).  Main result, with the enclosing loop as a continuation and stated, like
`parseArgs_docs'` beside it, for all fuels from a bound on, so that sub-answers meet without carrying an answer from one
fuel to another:

  parseExpr_doc :  OK d → LeftOK m d → the token after `d` is not captured →
                   (∀ g ≥ f, parseLoop g m (ast d) rest = ok v) → ∀ g ≥ f + need d, parseExpr g m (toks d ++ rest) = ok v

and `parseTokens_doc : OK d → LeftOK 0 d → parseTokens bp (toks d ++ [eof]) = ok (ast d)`.  The round trip does not use
the fuel monotonicity `mono_all` at the beginning of the file, a fact of its own (all that is proved of `parsePairs`: `Doc` has
no Piecewise).
Core Lean only (no Mathlib).
-/
import SymVerif.Model.Parser
import SymVerif.Lemmas.C17Fuel

namespace SymVerif
namespace Parser

section Mono
variable (bp : BP)

/-- an `ok` answer of any of the five parser functions at fuel `f` is still the answer at fuel `f + 1`
(conjuncts in the order `parseExpr`, `parseLoop`, `parsePrefix`, `parseArgs`, `parsePairs`) -/
def MonoAt (f : Nat) : Prop :=
  (∀ m ts v, parseExpr bp f m ts = .ok v → parseExpr bp (f + 1) m ts = .ok v) ∧
  (∀ m lhs ts v, parseLoop bp f m lhs ts = .ok v → parseLoop bp (f + 1) m lhs ts = .ok v) ∧
  (∀ ts v, parsePrefix bp f ts = .ok v → parsePrefix bp (f + 1) ts = .ok v) ∧
  (∀ ts v, parseArgs bp f ts = .ok v → parseArgs bp (f + 1) ts = .ok v) ∧
  (∀ ts v, parsePairs bp f ts = .ok v → parsePairs bp (f + 1) ts = .ok v)

theorem okE_mono {γ : Type} {x x' : Except Err (PExpr × List Tok)} {k k' : PExpr → List Tok → Except Err γ}
    {v : γ} (h : (match (generalizing := false) x with
      | .error e => .error e | .ok (a, b) => k a b : Except Err γ) = .ok v)
    (hx : ∀ a, x = .ok a → x' = .ok a) (hk : ∀ a b, k a b = .ok v → k' a b = .ok v) :
    (match (generalizing := false) x' with | .error e => .error e | .ok (a, b) => k' a b : Except Err γ) = .ok v := by
  cases x with
  | error e => cases h
  | ok a => rw [hx a rfl]; exact hk a.1 a.2 h

-- `okE_mono` with an unchanged continuation, at the result types of `parseArgs` and `parsePairs`: stated apart
-- because each `match` of the model is its own matcher constant, which a statement over a type variable does not meet
theorem okA_mono {γ : Type} {x x' : Except Err (List PExpr × List Tok)}
    {k : List PExpr → List Tok → Except Err γ} {v : γ}
    (h : (match (generalizing := false) x with
      | .error e => .error e | .ok (a, b) => k a b : Except Err γ) = .ok v)
    (hx : ∀ a, x = .ok a → x' = .ok a) :
    (match (generalizing := false) x' with | .error e => .error e | .ok (a, b) => k a b : Except Err γ) = .ok v := by
  cases x with
  | error e => cases h
  | ok a => rw [hx a rfl]; exact h

theorem okR_mono {γ : Type} {x x' : Except Err (List (PExpr × PExpr) × List Tok)}
    {k : List (PExpr × PExpr) → List Tok → Except Err γ} {v : γ}
    (h : (match (generalizing := false) x with
      | .error e => .error e | .ok (a, b) => k a b : Except Err γ) = .ok v)
    (hx : ∀ a, x = .ok a → x' = .ok a) :
    (match (generalizing := false) x' with | .error e => .error e | .ok (a, b) => k a b : Except Err γ) = .ok v := by
  cases x with
  | error e => cases h
  | ok a => rw [hx a rfl]; exact h

theorem mono_all (f : Nat) : MonoAt bp f := by
  induction f with
  | zero =>
    refine ⟨?_, ?_, ?_, ?_, ?_⟩ <;> intros <;> rename_i h <;>
      simp [parseExpr, parseLoop, parsePrefix, parseArgs, parsePairs] at h
  | succ f ih =>
    obtain ⟨ihE, ihL, ihP, ihA, ihR⟩ := ih
    refine ⟨?_, ?_, ?_, ?_, ?_⟩
    · intro m ts v h
      rw [parseExpr.eq_def] at h ⊢
      exact okE_mono h (ihP _) (fun _ _ => ihL _ _ _ _)
    · intro m lhs ts v h
      rw [parseLoop.eq_def] at h ⊢
      simp only at h ⊢
      cases ts with
      | nil => exact h
      | cons t r =>
        simp only at h ⊢
        cases hb : binOfTok t with
        | none => rw [hb] at h; exact h
        | some o =>
          rw [hb] at h
          simp only at h ⊢
          exact ok_ite h (okE_mono · (ihE _ _) fun _ _ => ihL _ _ _ _) id
    · intro ts v h
      rw [parsePrefix.eq_def] at h ⊢
      simp only at h ⊢
      split at h
      · -- `.op c`: `(`, `-`, `+`, `~`, else an error
        exact ok_ite h (okE_mono · (ihE _ _) fun _ _ => id) fun h =>
          ok_ite h (okE_mono · (ihE _ _) fun _ _ => id) fun h =>
          ok_ite h (okE_mono · (ihE _ _) fun _ _ => id) fun h =>
          ok_ite h (okE_mono · (ihE _ _) fun _ _ => id) id
      · exact h                                         -- `.num`
      · exact okE_mono h (ihE _ _) (fun _ _ => id)       -- `.imul`, `.pow`
      · exact h                                         -- `.imul`
      · exact okA_mono h (ihA _)                        -- `.ident`, `(`: a call
      · exact h                                         -- `.ident`
      · exact okR_mono h (ihR _)                        -- `.pwise`, `(`
      · cases h                                         -- anything else
    · intro ts v h
      rw [parseArgs.eq_def] at h ⊢
      refine okE_mono h (ihE _ _) (fun e r h => ?_)
      split at h
      · exact okA_mono h (ihA _)
      · exact h
      · cases h
    · intro ts v h
      rw [parsePairs.eq_def] at h ⊢
      simp only at h ⊢
      split at h
      · refine okE_mono h (ihE _ _) (fun v1 r1 h => ?_)
        split at h
        · refine okE_mono h (ihE _ _) (fun c r3 h => ?_)
          split at h
          · exact okR_mono h (ihR _)
          · exact h
          · cases h
        · cases h
      · cases h

theorem parseExpr_mono {f g m ts v} (h : parseExpr bp f m ts = .ok v) (hfg : f ≤ g) :
    parseExpr bp g m ts = .ok v :=
  ok_mono_of_succ (fun f => (mono_all bp f).1 m ts) h hfg

theorem parseLoop_mono {f g m lhs ts v} (h : parseLoop bp f m lhs ts = .ok v) (hfg : f ≤ g) :
    parseLoop bp g m lhs ts = .ok v :=
  ok_mono_of_succ (fun f => (mono_all bp f).2.1 m lhs ts) h hfg

theorem parsePairs_mono {f g ts v} (h : parsePairs bp f ts = .ok v) (hfg : f ≤ g) :
    parsePairs bp g ts = .ok v :=
  ok_mono_of_succ (fun f => (mono_all bp f).2.2.2.2 ts) h hfg

end Mono

def tokOfBin : BinOp → Tok
  | .add => .op 43 | .sub => .op 45 | .mul => .op 42 | .div => .op 47 | .pow => .pow
  | .lt => .op 60 | .gt => .op 62 | .ne => .ne | .le => .le | .ge => .ge | .eq => .eq
  | .or => .op 124 | .and => .op 38 | .xor => .op 94

def tokOfUn : UnOp → Tok
  | .neg => .op 45 | .pos => .op 43 | .not => .op 126

theorem binOfTok_tokOfBin (o : BinOp) : binOfTok (tokOfBin o) = some o := by
  cases o <;> rfl

inductive Doc where
  | num (text : Bytes)                    -- a NUMERIC token
  | ident (s : Bytes)                     -- an IDENTIFIER token
  | imul (text : Bytes)                   -- an IMPLICIT_MUL token used as a leaf:  2x
  | imulPow (text : Bytes) (e : Doc)      -- IMPLICIT_MUL POW expr:  2x**e
  | paren (d : Doc)                       -- ( d )
  | un (o : UnOp) (d : Doc)
  | bin (o : BinOp) (l r : Doc)
  | call (f : Bytes) (args : List Doc)    -- f(a, b, ...)
  deriving Repr, Inhabited

/-- separator after an argument: `,` if more arguments follow, else the closing parenthesis -/
def sepTok (t : List Doc) : Tok := if t.isEmpty then .op 41 else .op 44

mutual
  def Doc.toks : Doc → List Tok
    | .num t => [.num t]
    | .ident s => [.ident s]
    | .imul t => [.imul t]
    | .imulPow t e => .imul t :: .pow :: e.toks
    | .paren d => .op 40 :: (d.toks ++ [.op 41])
    | .un o d => tokOfUn o :: d.toks
    | .bin o l r => l.toks ++ tokOfBin o :: r.toks
    | .call f args => .ident f :: .op 40 :: Doc.argToks args
  def Doc.argToks : List Doc → List Tok
    | [] => []
    | a :: t => a.toks ++ sepTok t :: Doc.argToks t
end

mutual
  def Doc.ast : Doc → PExpr
    | .num t => parseNumeric t
    | .ident s => .ident s
    | .imul t => Parser.imulLeaf t
    | .imulPow t e => Parser.imulPow t e.ast
    | .paren d => d.ast
    | .un o d => .un o d.ast
    | .bin o l r => .bin o l.ast r.ast
    | .call f args => .call f (Doc.asts args)
  def Doc.asts : List Doc → List PExpr
    | [] => []
    | a :: t => a.ast :: Doc.asts t
end

section PP
variable (bp : BP)

/-- every operator on the left spine of the bare form binds tighter than `m`: the form can be read by
`parseExpr m` without being cut short -/
def LeftOK (m : Nat) : Doc → Prop
  | .bin o l _ => bp.lbp o > m ∧ LeftOK m l
  | _ => True

/-- a following token `t`, if it is a binary operator, binds no tighter than `k`: the pending construct of
tolerance `k` is reduced before `t` is consumed -/
def CapOK (bp : BP) (t : Tok) (k : Nat) : Prop :=
  match binOfTok t with
  | some o' => bp.lbp o' ≤ k
  | none => True

instance (bp : BP) (t : Tok) (k : Nat) : Decidable (CapOK bp t k) := by
  unfold CapOK; split <;> infer_instance

theorem CapOK.le {bp : BP} {t : Tok} {k : Nat} (h : CapOK bp t k) : ∀ o, binOfTok t = some o → bp.lbp o ≤ k := by
  intro o ho; unfold CapOK at h; rw [ho] at h; exact h

theorem capOK_of_none {bp : BP} {t : Tok} {k : Nat} (h : binOfTok t = none) : CapOK bp t k := by
  unfold CapOK; rw [h]; trivial

/-- a following token `t` is not swallowed by a construct that is still open at the right end of the form; at a bare
`imul` or `ident` that is the look-ahead of `parsePrefix` (`2x **`, `f (` begin other constructs) -/
def NoCapture (t : Tok) : Doc → Prop
  | .bin o _ r => CapOK bp t (bp.rbp o) ∧ NoCapture t r
  | .un u x => CapOK bp t (bp.ubp u) ∧ NoCapture t x
  | .imulPow _ e => CapOK bp t (bp.rbp .pow) ∧ NoCapture t e
  | .imul _ => t ≠ .pow
  | .ident _ => t ≠ .op 40
  | _ => True

mutual
  /-- the parentheses present are sufficient; a call has an argument, because `parseArgs` reads an expression before it
  looks for `)` -/
  def OK : Doc → Prop
    | .num _ => True
    | .ident _ => True
    | .imul _ => True
    | .imulPow _ e => OK e ∧ LeftOK bp (bp.rbp .pow) e
    | .paren d => OK d ∧ LeftOK bp 0 d
    | .un u x => OK x ∧ LeftOK bp (bp.ubp u) x
    | .bin o l r => OK l ∧ OK r ∧ LeftOK bp (bp.rbp o) r ∧ NoCapture bp (tokOfBin o) l
    | .call _ args => args ≠ [] ∧ OKs args
  def OKs : List Doc → Prop
    | [] => True
    | a :: t => OK a ∧ LeftOK bp 0 a ∧ OKs t
end

mutual
  /-- fuel that certainly suffices for the form: at most 4 per token (`need_le_aux`), which is where the fuel
  `4 * ts.length + 4` of `parseTokens` comes from (4 everywhere for that bound; the proofs use 3 at a prefix form and 2
  at `bin`) -/
  def need : Doc → Nat
    | .num _ => 2
    | .ident _ => 2
    | .imul _ => 2
    | .imulPow _ e => need e + 4
    | .paren d => need d + 4
    | .un _ x => need x + 4
    | .bin _ l r => need l + need r + 4
    | .call _ args => needs args + 4
  def needs : List Doc → Nat
    | [] => 0
    | a :: t => need a + needs t + 4
end

/-- tokens that never continue or capture anything: `)`, `,`, END_OF_FILE -/
theorem noCapture_of_inert (t : Tok) (h1 : binOfTok t = none) (h2 : t ≠ .pow) (h3 : t ≠ .op 40) :
    ∀ d : Doc, NoCapture bp t d
  | .num _ => trivial
  | .ident _ => h3
  | .imul _ => h2
  | .imulPow _ e => ⟨capOK_of_none h1, noCapture_of_inert t h1 h2 h3 e⟩
  | .paren _ => trivial
  | .un _ x => ⟨capOK_of_none h1, noCapture_of_inert t h1 h2 h3 x⟩
  | .bin _ _ r => ⟨capOK_of_none h1, noCapture_of_inert t h1 h2 h3 r⟩
  | .call _ _ => trivial

theorem parseLoop_stop (m : Nat) (lhs : PExpr) (rest : List Tok)
    (h : ∀ t ∈ rest.head?, CapOK bp t m) :
    ∀ g, 1 ≤ g → parseLoop bp g m lhs rest = .ok (lhs, rest)
  | g + 1, _ => by
    rw [parseLoop.eq_def]
    simp only
    cases rest with
    | nil => rfl
    | cons t r =>
      simp only
      cases hb : binOfTok t with
      | none => rfl
      | some o =>
        simp only
        have hle : bp.lbp o ≤ m := (h t rfl).le o hb
        rw [if_neg (Nat.not_lt.mpr hle)]

theorem parsePrefix_num (f : Nat) (s : Bytes) (r : List Tok) :
    parsePrefix bp (f + 1) (.num s :: r) = .ok (parseNumeric s, r) := by
  rw [parsePrefix.eq_def]

theorem parsePrefix_ident (f : Nat) (s : Bytes) (r : List Tok) (h : ∀ t ∈ r.head?, t ≠ .op 40) :
    parsePrefix bp (f + 1) (.ident s :: r) = .ok (.ident s, r) := by
  -- the side condition of the `match` equation (the call pattern comes first); the closing `simp only` finds it
  have h' : ∀ r', r ≠ .op 40 :: r' := fun r' e => h _ (e ▸ rfl) rfl
  rw [parsePrefix.eq_def]
  simp only

theorem parsePrefix_imul (f : Nat) (s : Bytes) (r : List Tok) (h : ∀ t ∈ r.head?, t ≠ .pow) :
    parsePrefix bp (f + 1) (.imul s :: r) = .ok (imulLeaf s, r) := by
  -- as in `parsePrefix_ident`: the pattern with `.pow` comes first
  have h' : ∀ r', r ≠ .pow :: r' := fun r' e => h _ (e ▸ rfl) rfl
  rw [parsePrefix.eq_def]
  simp only

theorem parsePrefix_imulPow (f : Nat) (s : Bytes) (r : List Tok) :
    parsePrefix bp (f + 1) (.imul s :: .pow :: r) =
      (match parseExpr bp f (bp.rbp .pow) r with
       | .error e => .error e
       | .ok (e, r') => .ok (imulPow s e, r')) := by
  rw [parsePrefix.eq_def]
  rfl

theorem parsePrefix_paren (f : Nat) (r : List Tok) :
    parsePrefix bp (f + 1) (.op 40 :: r) =
      (match parseExpr bp f 0 r with
       | .error e => .error e
       | .ok (e, r') =>
         match r' with
         | .op 41 :: r'' => .ok (e, r'')
         | _ => .error .parse) := by
  rw [parsePrefix.eq_def]
  rfl

theorem parsePrefix_un (f : Nat) (u : UnOp) (r : List Tok) :
    parsePrefix bp (f + 1) (tokOfUn u :: r) =
      (match parseExpr bp f (bp.ubp u) r with
       | .error e => .error e
       | .ok (e, r') => .ok (.un u e, r')) := by
  rw [parsePrefix.eq_def]
  cases u <;> rfl

theorem parsePrefix_call (f : Nat) (s : Bytes) (r : List Tok) :
    parsePrefix bp (f + 1) (.ident s :: .op 40 :: r) =
      (match parseArgs bp f r with
       | .error e => .error e
       | .ok (args, r') => .ok (.call s args, r')) := by
  rw [parsePrefix.eq_def]
  rfl

theorem parseExpr_succ (f m : Nat) (ts : List Tok) :
    parseExpr bp (f + 1) m ts =
      (match parsePrefix bp f ts with
       | .error e => .error e
       | .ok (lhs, r) => parseLoop bp f m lhs r) := by
  rw [parseExpr.eq_def]
  rfl

theorem parseLoop_succ_cons (f m : Nat) (lhs : PExpr) (t : Tok) (r : List Tok) (o : BinOp)
    (ho : binOfTok t = some o) (hm : bp.lbp o > m) :
    parseLoop bp (f + 1) m lhs (t :: r) =
      (match parseExpr bp f (bp.rbp o) r with
       | .error e => .error e
       | .ok (rhs, r') => parseLoop bp f m (.bin o lhs rhs) r') := by
  rw [parseLoop.eq_def]
  simp only [ho, if_pos hm]
  rfl

theorem parseArgs_succ (f : Nat) (ts : List Tok) :
    parseArgs bp (f + 1) ts =
      (match parseExpr bp f 0 ts with
       | .error e => .error e
       | .ok (e, r) =>
         match r with
         | .op 44 :: r' =>
           match parseArgs bp f r' with
           | .error e => .error e
           | .ok (es, r'') => .ok (e :: es, r'')
         | .op 41 :: r' => .ok ([e], r')
         | _ => .error .parse) := by
  rw [parseArgs.eq_def]
  rfl

/-- `a + 2`: `parseExpr (g + 2)` hands `g + 1` to `parsePrefix` and to `parseLoop`, and `hp` speaks of
`parsePrefix (g + 1)` because every unfolding lemma `parsePrefix_*` does. -/
theorem parseExpr_of_prefix (a : Nat) {f m : Nat} {ts r : List Tok} {lhs : PExpr} {v}
    (hp : ∀ g, a ≤ g → parsePrefix bp (g + 1) ts = .ok (lhs, r))
    (hl : ∀ g, f ≤ g → parseLoop bp g m lhs r = .ok v) : ∀ g, f + (a + 2) ≤ g → parseExpr bp g m ts = .ok v
  | g + 2, hg => by rw [parseExpr_succ, hp g (by omega)]; exact hl (g + 1) (by omega)

/-- In operand position, where the following token ends the operand, `d` is read and nothing more (the loop after it
stops).  `ih` is `parseExpr_doc d`: a hypothesis because the lemma is used inside the mutual recursion below.  `hs` has the
shape of the compound clauses of `NoCapture`, so the cases `un`, `bin`, `imulPow` pass their own `hn` unchanged. -/
theorem parseExpr_operand {d : Doc}
    (ih : ∀ (m : Nat) (rest : List Tok) (f : Nat) (v : PExpr × List Tok), LeftOK bp m d →
      (∀ t ∈ rest.head?, NoCapture bp t d) → (∀ g, f ≤ g → parseLoop bp g m d.ast rest = .ok v) →
      ∀ g, f + need d ≤ g → parseExpr bp g m (d.toks ++ rest) = .ok v)
    {k : Nat} {rest : List Tok} (hl : LeftOK bp k d)
    (hs : ∀ t ∈ rest.head?, CapOK bp t k ∧ NoCapture bp t d) (g : Nat) (hg : need d + 1 ≤ g) :
    parseExpr bp g k (d.toks ++ rest) = .ok (d.ast, rest) :=
  ih k rest 1 _ hl (fun t ht => (hs t ht).2) (parseLoop_stop bp k _ rest fun t ht => (hs t ht).1) g (by omega)

/-- the hypothesis `hs` of `parseExpr_operand` when the operand is followed by `)`, `,` or END_OF_FILE -/
theorem inert_stops (t : Tok) (rest : List Tok) (h1 : binOfTok t = none) (h2 : t ≠ .pow) (h3 : t ≠ .op 40) (d : Doc)
    (k : Nat) : ∀ t' ∈ (t :: rest).head?, CapOK bp t' k ∧ NoCapture bp t' d := by
  rintro _ ⟨⟩
  exact ⟨capOK_of_none h1, noCapture_of_inert bp t h1 h2 h3 d⟩

/-- the two prefix forms that wrap one operand, `Doc.un` and `Doc.imulPow`; `hp` is the unfolding lemma -/
theorem parseExpr_of_wrap (W : PExpr → PExpr) (k : Nat) (pre : List Tok) {d : Doc} {rest : List Tok} {f m : Nat} {v}
    (hp : ∀ g r, parsePrefix bp (g + 1) (pre ++ r) =
      (match parseExpr bp g k r with | .error e => .error e | .ok (e, r') => .ok (W e, r')))
    (hd : ∀ g, need d + 1 ≤ g → parseExpr bp g k (d.toks ++ rest) = .ok (d.ast, rest))
    (hl : ∀ g, f ≤ g → parseLoop bp g m (W d.ast) rest = .ok v) :
    ∀ g, f + (need d + 4) ≤ g → parseExpr bp g m (pre ++ (d.toks ++ rest)) = .ok v :=
  fun g hg => parseExpr_of_prefix bp (need d + 1) (fun g' hg' => by rw [hp, hd g' hg']) hl g (by omega)

mutual
  /-- **Precedence-climbing round trip.**  A printed form with sufficient parentheses, read by `parseExpr m` in a
  context where its left spine binds tighter than `m` and the next token is not captured by its right end, is
  consumed entirely and yields its tree as the left operand of the enclosing loop.  The loop is a hypothesis, not
  part of an equation `parseExpr … = ok (ast d, rest)`, for the case `bin o l r`: `l` is read by a `parseExpr` whose
  own loop goes on to consume `o r`, so the induction hypothesis for `l` has to say what happens after `l`. -/
  theorem parseExpr_doc : ∀ (d : Doc), OK bp d → ∀ (m : Nat) (rest : List Tok) (f : Nat) (v : PExpr × List Tok),
      LeftOK bp m d → (∀ t ∈ rest.head?, NoCapture bp t d) → (∀ g, f ≤ g → parseLoop bp g m d.ast rest = .ok v) →
      ∀ g, f + need d ≤ g → parseExpr bp g m (d.toks ++ rest) = .ok v
    | .num t, _, m, rest, f, v, _, _, hl =>
      parseExpr_of_prefix bp 0 (fun g _ => parsePrefix_num bp g t rest) hl
    | .ident s, _, m, rest, f, v, _, hn, hl =>
      parseExpr_of_prefix bp 0 (fun g _ => parsePrefix_ident bp g s rest hn) hl
    | .imul s, _, m, rest, f, v, _, hn, hl =>
      parseExpr_of_prefix bp 0 (fun g _ => parsePrefix_imul bp g s rest hn) hl
    | .imulPow s e, hok, m, rest, f, v, _, hn, hl =>
      parseExpr_of_wrap bp (imulPow s) (bp.rbp .pow) [.imul s, .pow] (fun g r => parsePrefix_imulPow bp g s r)
        (parseExpr_operand bp (parseExpr_doc e hok.1) hok.2 hn) hl
    | .paren d, hok, m, rest, f, v, _, _, hl => fun g hg => by
      have hd := parseExpr_operand bp (parseExpr_doc d hok.1) hok.2
        (inert_stops bp (.op 41) rest rfl (by simp) (by simp) d 0)
      refine parseExpr_of_prefix bp (need d + 1) (ts := (Doc.paren d).toks ++ rest)
        (fun g' hg' => ?_) hl g (by simp only [need] at hg; omega)
      simp only [Doc.toks, List.cons_append, List.append_assoc, List.nil_append]
      rw [parsePrefix_paren, hd g' hg']
      rfl
    | .un u x, hok, m, rest, f, v, _, hn, hl =>
      parseExpr_of_wrap bp (.un u) (bp.ubp u) [tokOfUn u] (fun g r => parsePrefix_un bp g u r)
        (parseExpr_operand bp (parseExpr_doc x hok.1) hok.2 hn) hl
    | .bin o l r, hok, m, rest, f, v, hleft, hn, hl => fun g hg => by
      obtain ⟨hokl, hokr, hlr, hcl⟩ := hok
      have hr := parseExpr_operand bp (parseExpr_doc r hokr) (rest := rest) hlr hn
      have hloop : ∀ g', f + need r + 2 ≤ g' →
          parseLoop bp g' m l.ast (tokOfBin o :: (r.toks ++ rest)) = .ok v
        | g' + 1, hg' => by
          rw [parseLoop_succ_cons bp g' m l.ast (tokOfBin o) (r.toks ++ rest) o (binOfTok_tokOfBin o) hleft.1,
            hr g' (by omega)]
          exact hl g' (by omega)
      have heq : (Doc.bin o l r).toks ++ rest = l.toks ++ tokOfBin o :: (r.toks ++ rest) := by
        simp only [Doc.toks, List.append_assoc, List.cons_append]
      rw [heq]
      exact parseExpr_doc l hokl m _ _ v hleft.2 (by rintro _ ⟨⟩; exact hcl) hloop g
        (by simp only [need] at hg; omega)
    | .call fn args, hok, m, rest, f, v, _, _, hl => fun g hg => by
      have ha := parseArgs_docs' args hok.1 hok.2 rest
      refine parseExpr_of_prefix bp (needs args + 1) (ts := (Doc.call fn args).toks ++ rest)
        (fun g' hg' => ?_) hl g (by simp only [need] at hg; omega)
      simp only [Doc.toks, List.cons_append]
      rw [parsePrefix_call, ha g' (by omega)]; rfl
  theorem parseArgs_docs' : ∀ (args : List Doc), args ≠ [] → OKs bp args → ∀ (rest : List Tok) (g : Nat),
      needs args + 1 ≤ g → parseArgs bp g (Doc.argToks args ++ rest) = .ok (Doc.asts args, rest)
    | [], h, _, _, _, _ => absurd rfl h
    | a :: t, _, hok, rest, g + 1, hg => by
      obtain ⟨hoka, hla, hokt⟩ := hok
      obtain ⟨hs1, hs2, hs3⟩ : binOfTok (sepTok t) = none ∧ sepTok t ≠ .pow ∧ sepTok t ≠ .op 40 := by
        unfold sepTok; split <;> simp [binOfTok]
      have ha' := parseExpr_operand bp (parseExpr_doc a hoka) hla
        (inert_stops bp (sepTok t) (Doc.argToks t ++ rest) hs1 hs2 hs3 a 0) g
        (by simp only [needs] at hg; omega)
      have heq : Doc.argToks (a :: t) ++ rest = a.toks ++ sepTok t :: (Doc.argToks t ++ rest) := by
        simp only [Doc.argToks, List.append_assoc, List.cons_append]
      rw [heq, parseArgs_succ, ha']
      cases t with
      | nil =>
        simp [sepTok, Doc.argToks, Doc.asts]
      | cons b t' =>
        have ht := parseArgs_docs' (b :: t') (by simp) hokt rest g (by simp only [needs] at hg ⊢; omega)
        simp only [sepTok, List.isEmpty_cons, Bool.false_eq_true, if_false]
        rw [ht]
        simp [Doc.asts]
end

theorem parseArgs_docs : ∀ (args : List Doc), args ≠ [] → OKs bp args → ∀ (rest : List Tok),
      parseArgs bp (needs args + 1) (Doc.argToks args ++ rest) = .ok (Doc.asts args, rest) :=
  fun args h hok rest => parseArgs_docs' bp args h hok rest _ (Nat.le_refl _)

mutual
  theorem need_le_aux : ∀ d : Doc, need d ≤ 4 * d.toks.length
    | .num _ => by simp [need, Doc.toks]
    | .ident _ => by simp [need, Doc.toks]
    | .imul _ => by simp [need, Doc.toks]
    | .imulPow _ e => by
      have := need_le_aux e
      simp only [need, Doc.toks, List.length_cons]; omega
    | .paren d => by
      have := need_le_aux d
      simp only [need, Doc.toks, List.length_cons, List.length_append, List.length_nil]; omega
    | .un _ x => by
      have := need_le_aux x
      simp only [need, Doc.toks, List.length_cons]; omega
    | .bin _ l r => by
      have h1 := need_le_aux l
      have h2 := need_le_aux r
      simp only [need, Doc.toks, List.length_cons, List.length_append]; omega
    | .call _ args => by
      have := needs_le_aux args
      simp only [need, Doc.toks, List.length_cons]; omega
  theorem needs_le_aux : ∀ args : List Doc, needs args ≤ 4 * (Doc.argToks args).length
    | [] => by simp [needs, Doc.argToks]
    | a :: t => by
      have h1 := need_le_aux a
      have h2 := needs_le_aux t
      simp only [needs, Doc.argToks, List.length_cons, List.length_append]; omega
end

/-- **Token-level round trip**: the token sequence of a printed form followed by END_OF_FILE parses to the tree
the form stands for. -/
theorem parseTokens_doc (d : Doc) (hok : OK bp d) (hl : LeftOK bp 0 d) :
    parseTokens bp (d.toks ++ [.eof]) = .ok d.ast := by
  have h := parseExpr_operand bp (parseExpr_doc bp d hok) hl
    (inert_stops bp .eof [] rfl (by simp) (by simp) d 0) (4 * (d.toks ++ [Tok.eof]).length + 4) (by
      have := need_le_aux d
      simp only [List.length_append, List.length_cons, List.length_nil]
      omega)
  unfold parseTokens
  rw [h]

end PP

end Parser
end SymVerif
