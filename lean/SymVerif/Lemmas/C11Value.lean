/-
C11, the substitution lemma over ℝ:   ⟦subsE σ e⟧ρ = ⟦e⟧(ρ ∘ σ)   for symbol-keyed σ with arbitrary images.
`evalR` is the real semantics of C10 (`Lemmas/C10Real.lean`); function applications are interpreted, so the
lemma really says that substituting inside `sin(…)`, under powers etc. preserves the value.
It is proved for the plain substitution `mapSym` (`mapSym_value`) and carried to the visitor by `subsE_eq_mapSym`
(`Lemmas/C11Struct.lean`).
-/
import SymVerif.Lemmas.C10Real
import SymVerif.Lemmas.C11Struct

namespace SymVerif
namespace C11
open SymVerif Expr Diff Subs C10

/-- the assignment `ρ ∘ σ`: a key gets the value of its image, every other symbol keeps its value -/
noncomputable def comp (ρ : String → ℝ) (σ : Sigma) : String → ℝ :=
  fun s => match lookup σ (.sym s) with
    | some v => evalR ρ v
    | none => ρ s

/-- `powV` is `Real.rpow` at the value of the exponent, also for integer literals (substitution can turn an exponent into
a literal, `x ↦ 3`, so `mapSym_value` brings both sides to this form) -/
theorem powV_rpow (ρ : String → ℝ) (bv : ℝ) (e : Expr) : powV bv e (evalR ρ e) = bv ^ (evalR ρ e) := by
  cases e <;> simp [powV, evalR, Real.rpow_intCast]

mutual
  theorem mapSym_value (ρ : String → ℝ) (g : String → Expr) :
      ∀ (e : Expr), evalR ρ (mapSym g e) = evalR (fun s => evalR ρ (g s)) e
    | .sym n => by simp only [mapSym, evalR]
    | .add c ts => by simp only [mapSym, evalR, mapSym_value ρ g c, mapSymTerms_value ρ g ts]
    | .mul c fs => by simp only [mapSym, evalR, mapSym_value ρ g c, mapSymFacs_value ρ g fs]
    | .pow b e => by
      simp only [mapSym, evalR]
      rw [powV_rpow, powV_rpow, mapSym_value ρ g b, mapSym_value ρ g e]
    | .app h [a] => by simp only [mapSym, mapSymList, evalR, mapSym_value ρ g a]
    -- `evalR` is 0 on these heads whatever the arguments: both sides are 0
    | .app h [] | .app h (_ :: _ :: _) | .fsym _ _ => by simp [mapSym, mapSymList, evalR]
    | .int _ | .rat _ _ | .cplx _ _ | .dbl _ | .cdbl _ _ | .infty _ | .nan | .dummy _ _ | .const _ | .bool _ =>
        by simp only [mapSym, evalR]
  theorem mapSymTerms_value (ρ : String → ℝ) (g : String → Expr) : ∀ (l : List (Expr × Expr)),
      evalTermsR ρ (mapSymPairs g l) = evalTermsR (fun s => evalR ρ (g s)) l
    | [] => by simp only [mapSymPairs, evalTermsR]
    | (k, c) :: t => by
      simp only [mapSymPairs, evalTermsR, mapSym_value ρ g k, mapSym_value ρ g c, mapSymTerms_value ρ g t]
  theorem mapSymFacs_value (ρ : String → ℝ) (g : String → Expr) : ∀ (l : List (Expr × Expr)),
      evalFacsR ρ (mapSymPairs g l) = evalFacsR (fun s => evalR ρ (g s)) l
    | [] => by simp only [mapSymPairs, evalFacsR]
    | (b, e) :: t => by
      simp only [mapSymPairs, evalFacsR]
      rw [powV_rpow, powV_rpow, mapSym_value ρ g b, mapSym_value ρ g e, mapSymFacs_value ρ g t]
end

theorem comp_eq (ρ : String → ℝ) (σ : Sigma) : comp ρ σ = fun s => evalR ρ (image σ s) := by
  funext s
  unfold comp image
  cases lookup σ (.sym s) <;> simp [evalR]

/-- **Substitution lemma (model, over ℝ).**  For a symbol-keyed map σ (images arbitrary trees) the value of
the substituted tree at `ρ` is the value of the original tree at `ρ ∘ σ` — for `subs` and for
`xreplace`/`msubs`/`ssubs` (`pp = false`) alike. -/
theorem subs_value (pp : Bool) (ρ : String → ℝ) (σ : Sigma) (hs : symKeyed σ = true) (e : Expr) :
    evalR ρ (subsE pp σ e) = evalR (comp ρ σ) e := by
  rw [subsE_eq_mapSym pp hs, comp_eq, mapSym_value]

section
variable (pp : Bool) (ρ : String → ℝ) (σ : Sigma) (hs : symKeyed σ = true)
include hs

theorem subsTerms_value : ∀ (l : List (Expr × Expr)),
      evalTermsR ρ (subsTerms pp σ l) = evalTermsR (comp ρ σ) l :=
  fun l => by rw [subsTerms_eq_mapSym pp hs, comp_eq, mapSymTerms_value]

theorem subsFacs_value : ∀ (l : List (Expr × Expr)),
      evalFacsR ρ (subsFacs pp σ l) = evalFacsR (comp ρ σ) l :=
  fun l => by rw [subsFacs_eq_mapSym pp hs, comp_eq, mapSymFacs_value]

end

end C11
end SymVerif
