import Mathlib.Data.Nat.Prime.Basic
import Mathlib.Data.Nat.Sqrt
import Mathlib.Data.Int.ModEq
import Mathlib.Tactic.LinearCombination
/-! What GMP documents for `mpz_gcdext`, `mpz_probab_prime_p`, … is written down twice, in the GMP layer of
`Model/NTheory.lean` (C32) and in `Model/MpSpec.lean` (C43): each model file is core-only and linked into its own
driver, so `NTheory.egcd`/`MpSpec.natXgcd` and `NTheory.noDivisorFrom`/`MpSpec.trialLoop` are two copies of one
definition.  The facts here are stated for any function that satisfies the defining equations; each copy
supplies them by unfolding.  (`trialLoop_iff` is named after `MpSpec.trialLoop`; in `NTheory` the same loop is
`noDivisorFrom`, while `NTheory.trialLoop` is the factor search, about which nothing is proved.)  Then a few
facts about truncated division on `Int` and the fix-up of a remainder to `% m`. -/
namespace SymVerif.GmpSpec

theorem xgcd_spec {f : Nat → Nat → Nat × Int × Int}
    (hf : ∀ a b, f a b = if b = 0 then (a, 1, 0) else
      ((f b (a % b)).1, (f b (a % b)).2.2, (f b (a % b)).2.1 - (a / b : Nat) * (f b (a % b)).2.2))
    (a b : Nat) :
    (f a b).1 = Nat.gcd a b ∧ (a : Int) * (f a b).2.1 + (b : Int) * (f a b).2.2 = (Nat.gcd a b : Int) := by
  induction b using Nat.strongRecOn generalizing a with
  | ind b ih =>
    rw [hf]
    by_cases h : b = 0
    · subst h; simp
    · rw [if_neg h]
      obtain ⟨h1, h2⟩ := ih (a % b) (Nat.mod_lt _ (Nat.pos_of_ne_zero h)) b
      have hg : Nat.gcd b (a % b) = Nat.gcd a b := by rw [Nat.gcd_comm a b, Nat.gcd_rec b a, Nat.gcd_comm]
      rw [hg] at h1 h2
      refine ⟨h1, ?_⟩
      have hd : (a : Int) = b * (a / b : Nat) + (a % b : Nat) := by exact_mod_cast (Nat.div_add_mod a b).symm
      linear_combination h2 + (f b (a % b)).2.2 * hd

section
variable {n : Nat} {loop : Nat → Nat → Bool} (h0 : ∀ d, loop 0 d = true)
  (hs : ∀ f d, loop (f + 1) d = if d * d > n then true else if n % d == 0 then false else loop f (d + 1))
include h0 hs

theorem trialLoop_iff : ∀ (f d : Nat),
    loop f d = true ↔ ∀ k, d ≤ k → k < d + f → k * k ≤ n → n % k ≠ 0 := by
  intro f
  induction f with
  | zero =>
    intro d
    exact ⟨fun _ k h1 h2 => absurd h2 (by omega), fun _ => h0 d⟩
  | succ f ih =>
    intro d
    rw [hs]
    split
    · rename_i hsq
      refine iff_of_true rfl fun k hk _ hkk => ?_
      have : d * d ≤ k * k := Nat.mul_le_mul hk hk
      omega
    · rename_i hsq
      split
      · rename_i hdiv
        exact iff_of_false Bool.false_ne_true
          fun h => h d le_rfl (by omega) (by omega : d * d ≤ n) (beq_iff_eq.mp hdiv)
      · rename_i hdiv -- `[d, d + f + 1)` is `d` and `[d + 1, d + 1 + f)`
        rw [ih (d + 1)]
        constructor
        · intro h k hk1 hk2 hk3
          rcases Nat.eq_or_lt_of_le hk1 with rfl | hlt
          · exact mt beq_iff_eq.mpr hdiv
          · exact h k hlt (by omega) hk3
        · intro h k hk1 hk2 hk3
          exact h k (by omega) (by omega) hk3

/-- `f + 1`: the loop starts at `d = 2` and covers `k < 2 + f` -/
theorem trialPrime_iff {f : Nat} (hf : Nat.sqrt n ≤ f + 1) : (decide (n ≥ 2) && loop f 2) = true ↔ n.Prime := by
  rw [Bool.and_eq_true, trialLoop_iff h0 hs, Nat.prime_def_le_sqrt, decide_eq_true_eq]
  refine and_congr_right fun _ => ⟨fun h m hm1 hm2 hd => ?_, fun h k hk1 _ hk3 hmod => ?_⟩
  · exact h m hm1 (by omega : m < 2 + f) (Nat.le_sqrt.mp hm2) (Nat.mod_eq_zero_of_dvd hd)
  · exact h k hk1 (Nat.le_sqrt.mpr hk3) (Nat.dvd_of_mod_eq_zero hmod)

end

theorem tmod_modEq (x c : Int) : x.tmod c ≡ x [ZMOD c] := by
  rw [Int.ModEq, Int.tmod_def, Int.sub_mul_emod_self_left]

theorem tmod_two_eq_zero_iff (n : Int) : n.tmod 2 = 0 ↔ n % 2 = 0 :=
  Int.dvd_iff_tmod_eq_zero.symm.trans (Int.dvd_iff_emod_eq_zero)

theorem tmod_natAbs_lt (a : Int) {b : Int} (h : b ≠ 0) : (a.tmod b).natAbs < b.natAbs := by
  rw [Int.natAbs_tmod]; exact Nat.mod_lt _ (Int.natAbs_pos.mpr h)

theorem tmod_nonpos {a : Int} (b : Int) (h : a ≤ 0) : a.tmod b ≤ 0 := by
  have h1 : 0 ≤ (-a).tmod b := Int.tmod_nonneg b (by omega)
  rw [Int.neg_tmod] at h1
  omega

theorem tdiv_natAbs_decomp (r0 r1 : Int) :
    r0.natAbs = (r0.tdiv r1).natAbs * r1.natAbs + (r0.tmod r1).natAbs := by
  rw [Int.natAbs_tdiv, Int.natAbs_tmod]
  exact (Nat.div_add_mod' r0.natAbs r1.natAbs).symm

theorem tmod_mul_self_nonneg (r0 r1 : Int) : 0 ≤ r0.tmod r1 * r0 := by
  rcases Int.le_total 0 r0 with h | h
  · exact Int.mul_nonneg (Int.tmod_nonneg r1 h) h
  · exact mul_nonneg_of_nonpos_of_nonpos (tmod_nonpos r1 h) h

theorem tdiv_sign (r0 r1 : Int) : 0 ≤ r0.tdiv r1 * (r0 * r1) := by
  rcases Int.le_total 0 r0 with h0 | h0 <;> rcases Int.le_total 0 r1 with h1 | h1
  · exact mul_nonneg (Int.tdiv_nonneg h0 h1) (mul_nonneg h0 h1)
  · exact mul_nonneg_of_nonpos_of_nonpos (Int.tdiv_nonpos_of_nonneg_of_nonpos h0 h1)
      (mul_nonpos_of_nonneg_of_nonpos h0 h1)
  · have h := Int.tdiv_nonneg (Int.neg_nonneg_of_nonpos h0) h1
    rw [Int.neg_tdiv] at h
    exact mul_nonneg_of_nonpos_of_nonpos (Int.nonpos_of_neg_nonneg h) (mul_nonpos_of_nonpos_of_nonneg h0 h1)
  · exact mul_nonneg (Int.tdiv_nonneg_of_nonpos_of_nonpos h0 h1) (mul_nonneg_of_nonpos_of_nonpos h0 h1)

theorem tdiv_ne_zero_of_lt (r0 r1 : Int) (h1 : r1 ≠ 0) (h : r1.natAbs < r0.natAbs) : r0.tdiv r1 ≠ 0 := by
  rw [← Int.natAbs_pos, Int.natAbs_tdiv]
  exact Nat.div_pos h.le (Int.natAbs_pos.mpr h1)

theorem eq_emod_of_range {v w m : Int} (h0 : 0 ≤ v) (h1 : v < (m.natAbs : Int))
    (h : v ≡ w [ZMOD m]) : v = w % m := by
  unfold Int.ModEq at h
  rw [← h]
  rcases Int.lt_or_gt_of_ne (by omega : m ≠ 0) with hneg | hpos
  · rw [← Int.emod_neg]
    exact (Int.emod_eq_of_lt h0 (by omega)).symm
  · exact (Int.emod_eq_of_lt h0 (by omega)).symm

/-- the fix-up `if (r < 0) r += |m|` after a truncated or floored remainder `r` (`|r| < |m|`) gives `% m` -/
theorem fixup_eq_emod {r w m : Int} (hlt : r.natAbs < m.natAbs) (h : r ≡ w [ZMOD m]) :
    (if r < 0 then r + (m.natAbs : Int) else r) = w % m := by
  split
  · refine eq_emod_of_range (by omega) (by omega) (Int.modEq_iff_dvd.mpr ?_)
    rw [show w - (r + (m.natAbs : Int)) = (w - r) - (m.natAbs : Int) by omega]
    exact Int.dvd_sub (Int.modEq_iff_dvd.mp h) Int.dvd_natAbs_self
  · exact eq_emod_of_range (by omega) (by omega) h

theorem bezout_of_natAbs {a b x y g : Int} (h : (a.natAbs : Int) * x + (b.natAbs : Int) * y = g) :
    a * (a.sign * x) + b * (b.sign * y) = g := by
  rw [← mul_assoc, ← mul_assoc, Int.mul_sign_self, Int.mul_sign_self, h]

end SymVerif.GmpSpec
