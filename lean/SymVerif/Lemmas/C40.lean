import SymVerif.Model.RC
import SymVerif.Lemmas.Basic
/-! The invariant of the reference-count protocol: the stored count of every object equals the number of references
to it (handle slots and live parents) plus those in flight, `L` (`InvT s L`; `Inv`, at operation boundaries, is
`L = []`), live objects have positive counts, and children have smaller ids than their parents.  The primitives
keep it while they move references between `L` and the heap (`incref_ok`, `release_ok`, `drop_ok`). -/
namespace SymVerif.RC

/-- references to `o` stored in `p` (if `p` is live): the summand of `parentRefs` -/
def w (p : Obj) (o : Nat) : Nat := if p.live then p.children.count o else 0

/-- `InvT s L`: the invariant with a multiset `L` of references "in flight" (held by the
    running operation but not yet / no longer stored in a handle slot or an object).
    `pos` (no live object with count 0) is the "freed exactly at 0" half and does not follow from `counts`.
    `acyc` is never consumed by the safety proofs, only re-established: it is there for `rc_inv` and `no_leak`
    (reference counting leaks cycles); in the C++ it holds because members are fixed at construction from
    objects that exist already. -/
structure InvT (s : State) (L : List Nat) : Prop where
  counts : ∀ o, refs s o + L.count o = cnt s o
  pos : ∀ (o : Nat) (ob : Obj), s.objs[o]? = some ob → ob.live = true → 0 < ob.count
  acyc : ∀ (p : Nat) (ob : Obj), s.objs[p]? = some ob → ob.live = true → ∀ c ∈ ob.children, c < p

/-- The invariant at operation boundaries. -/
def Inv (s : State) : Prop := InvT s []

theorem InvT.congr {s : State} {L L' : List Nat} (h : ∀ o, L.count o = L'.count o) (i : InvT s L) :
    InvT s L' := ⟨fun o => by rw [← h o]; exact i.counts o, i.pos, i.acyc⟩

theorem InvT.of_objs {s : State} {L : List Nat} (hc : ∀ o, refs s o + L.count o = cnt s o)
    (ho : ∀ (p : Nat) (pb : Obj), s.objs[p]? = some pb → pb.live = true → 0 < pb.count ∧ ∀ c ∈ pb.children, c < p) :
    InvT s L :=
  ⟨hc, fun p pb h hl => (ho p pb h hl).1, fun p pb h hl => (ho p pb h hl).2⟩

theorem cnt_pos_iff {s : State} {o : Nat} :
    0 < cnt s o ↔ ∃ ob, s.objs[o]? = some ob ∧ ob.live = true ∧ 0 < ob.count ∧ cnt s o = ob.count := by
  unfold cnt
  cases h : s.objs[o]? with
  | none => simp
  | some ob =>
    by_cases hl : ob.live = true <;> simp [hl]

theorem cnt_of_live {s : State} {o : Nat} {ob : Obj} (h : s.objs[o]? = some ob) (hl : ob.live = true) :
    cnt s o = ob.count := by
  unfold cnt; rw [h]; exact if_pos hl

theorem childrenOf_of_get {s : State} {o : Nat} {ob : Obj} (h : s.objs[o]? = some ob) :
    childrenOf s o = ob.children := by
  unfold childrenOf; rw [h]

theorem obs_congr {s s' : State} {x : Nat} (h : s'.objs[x]? = s.objs[x]?) :
    isLive s' x = isLive s x ∧ cnt s' x = cnt s x ∧ childrenOf s' x = childrenOf s x := by
  unfold isLive cnt childrenOf; rw [h]; exact ⟨rfl, rfl, rfl⟩

theorem getObj_ok {s : State} {o : Nat} {ob : Obj} (h : s.objs[o]? = some ob) (hl : ob.live = true) :
    getObj s o = .ok ob := by
  simp [getObj, h, hl]

theorem InvT.live_of_ref {s : State} {L : List Nat} (i : InvT s L) {o : Nat}
    (h : 0 < refs s o + L.count o) :
    ∃ ob, s.objs[o]? = some ob ∧ ob.live = true ∧ 0 < ob.count := by
  rw [i.counts o] at h
  obtain ⟨ob, a, b, c, _⟩ := cnt_pos_iff.mp h
  exact ⟨ob, a, b, c⟩

theorem objs_setObj (s : State) (o : Nat) (ob' : Obj) (p : Nat) :
    (setObj s o ob').objs[p]? = if o = p then (if o < s.objs.length then some ob' else none) else s.objs[p]? :=
  List.getElem?_set

theorem parentRefs_setObj {s : State} {o : Nat} {ob : Obj} (ob' : Obj) (x : Nat) (h : s.objs[o]? = some ob) :
    parentRefs (setObj s o ob') x + w ob x = parentRefs s x + w ob' x :=
  List.sum_map_set (fun p => w p x) ob' h

theorem sumCounts_setObj {s : State} {o : Nat} {ob : Obj} (ob' : Obj) (h : s.objs[o]? = some ob) :
    sumCounts (setObj s o ob') + ob.count = sumCounts s + ob'.count :=
  List.sum_map_set (fun p => p.count) ob' h

/-- an observation of object `x` (`cnt`, `isLive`, `childrenOf`) after overwriting object `o` -/
theorem lookup_setObj {α : Type} (g : Obj → α) (d : α) {s : State} {o : Nat} {ob : Obj} (ob' : Obj) (x : Nat)
    (h : s.objs[o]? = some ob) :
    (match (setObj s o ob').objs[x]? with | some b => g b | none => d)
      = if x = o then g ob' else (match s.objs[x]? with | some b => g b | none => d) := by
  rw [objs_setObj]
  by_cases hx : x = o
  · subst hx; rw [if_pos rfl, if_pos (lt_of_getElem? h), if_pos rfl]
  · rw [if_neg (Ne.symm hx), if_neg hx]

theorem lookup_setObj_same {α : Type} (g : Obj → α) (d : α) {s : State} {o : Nat} {ob : Obj} (ob' : Obj) (x : Nat)
    (h : s.objs[o]? = some ob) (hg : g ob' = g ob) :
    (match (setObj s o ob').objs[x]? with | some b => g b | none => d)
      = (match s.objs[x]? with | some b => g b | none => d) := by
  rw [lookup_setObj g d ob' x h]
  split
  · next e => rw [e, h]; exact hg
  · rfl

theorem cnt_setObj {s : State} {o : Nat} {ob : Obj} (ob' : Obj) (x : Nat) (h : s.objs[o]? = some ob) :
    cnt (setObj s o ob') x = if x = o then (if ob'.live then ob'.count else 0) else cnt s x :=
  lookup_setObj (fun b => if b.live then b.count else 0) 0 ob' x h

theorem isLive_setObj {s : State} {o : Nat} {ob : Obj} (ob' : Obj) (x : Nat) (h : s.objs[o]? = some ob) :
    isLive (setObj s o ob') x = if x = o then ob'.live else isLive s x :=
  lookup_setObj Obj.live false ob' x h

/-- Overwriting a live object `ob` by `ob'`: the invariant survives when `ob'` is consistent in itself
(positive count and no new members if live) and the in-flight references make up for the change in
the count field and in the references `ob'` stores. -/
theorem InvT.overwrite {s : State} {L L' : List Nat} {o : Nat} {ob : Obj} (i : InvT s L)
    (h : s.objs[o]? = some ob) (hl : ob.live = true) {ob' : Obj}
    (hpos : ob'.live = true → 0 < ob'.count)
    (hkids : ob'.live = true → ∀ c ∈ ob'.children, c ∈ ob.children)
    (ho : L'.count o + w ob' o + ob.count = L.count o + w ob o + (if ob'.live then ob'.count else 0))
    (hne : ∀ x, x ≠ o → L'.count x + w ob' x = L.count x + w ob x) :
    InvT (setObj s o ob') L' := by
  refine InvT.of_objs (fun x => ?_) fun p pb hp hpl => ?_
  · have hpr := parentRefs_setObj ob' x h
    have hcx := i.counts x
    rw [cnt_setObj _ x h]
    unfold refs at hcx ⊢
    -- for `omega`: the handles of `setObj s o ob'` are those of `s`
    show s.handles.count (some x) + parentRefs (setObj s o ob') x + L'.count x = _
    by_cases hx : x = o
    · subst hx
      have hco := cnt_of_live h hl
      rw [if_pos rfl]
      omega
    · have := hne x hx
      rw [if_neg hx]
      omega
  · rw [objs_setObj] at hp
    by_cases e : o = p
    · subst e
      rw [if_pos rfl, if_pos (lt_of_getElem? h)] at hp
      cases hp
      exact ⟨hpos hpl, fun c hc => i.acyc o ob h hl c (hkids hpl c hc)⟩
    · rw [if_neg e] at hp
      exact ⟨i.pos p pb hp hpl, i.acyc p pb hp hpl⟩

theorem InvT.setCount {s : State} {L L' : List Nat} {o : Nat} {ob : Obj} (i : InvT s L)
    (h : s.objs[o]? = some ob) (hl : ob.live = true) (n : Nat) (hn : 0 < n)
    (ho : L'.count o + ob.count = L.count o + n) (hne : ∀ x, x ≠ o → L'.count x = L.count x) :
    InvT (setObj s o { ob with count := n }) L' := by
  refine i.overwrite h hl (fun _ => hn) (fun _ _ hc => hc) ?_ fun x hx => congrArg (· + w ob x) (hne x hx)
  show L'.count o + w ob o + ob.count = L.count o + w ob o + (if ob.live = true then n else 0)
  rw [if_pos hl]
  omega

/-- deleting an object whose last reference is in flight puts its members in flight -/
theorem InvT.kill {s : State} {R : List Nat} {o : Nat} {ob : Obj} (i : InvT s (o :: R))
    (h : s.objs[o]? = some ob) (hl : ob.live = true) (h1 : ob.count = 1) :
    InvT (setObj s o { ob with count := 0, live := false }) (ob.children ++ R) := by
  refine i.overwrite h hl nofun nofun ?_ fun x hx => ?_
  · simp [w, hl, h1, List.count_append]; omega
  · simp [w, hl, Ne.symm hx, List.count_append]; omega

theorem incref_ok {s : State} {L : List Nat} {o : Nat} {ob : Obj} (i : InvT s L)
    (h : s.objs[o]? = some ob) (hl : ob.live = true) :
    incref s o = .ok (setObj s o { ob with count := ob.count + 1 }) ∧
      InvT (setObj s o { ob with count := ob.count + 1 }) (o :: L) := by
  constructor
  · simp [incref, getObj_ok h hl]
  · refine i.setCount h hl (ob.count + 1) (by omega) ?_ fun x hx => List.count_cons_of_ne (Ne.symm hx)
    rw [List.count_cons_self]
    omega

/-- only count fields differ (handles, heap length, liveness and members are the same): what `incref` does.
The strongest of three state relations: `SameLive` ⇒ `Mono` ⇒ `Ext`. -/
structure SameLive (s s' : State) : Prop where
  handles : s'.handles = s.handles
  len : s'.objs.length = s.objs.length
  live : ∀ x, isLive s' x = isLive s x
  kids : ∀ x, childrenOf s' x = childrenOf s x

theorem SameLive.trans {a b c : State} (h1 : SameLive a b) (h2 : SameLive b c) : SameLive a c :=
  ⟨h2.handles.trans h1.handles, h2.len.trans h1.len, fun x => (h2.live x).trans (h1.live x),
   fun x => (h2.kids x).trans (h1.kids x)⟩

/-- states that only differ in count fields and in liveness going down: what `release`/`drop` do
(`release_ok`) -/
structure Mono (s s' : State) : Prop where
  handles : s'.handles = s.handles
  len : s'.objs.length = s.objs.length
  live : ∀ x, isLive s' x = true → isLive s x = true
  kids : ∀ x, childrenOf s' x = childrenOf s x

theorem Mono.refl (s : State) : Mono s s := ⟨rfl, rfl, fun _ h => h, fun _ => rfl⟩
theorem Mono.trans {a b c : State} (h1 : Mono a b) (h2 : Mono b c) : Mono a c :=
  ⟨h2.handles.trans h1.handles, h2.len.trans h1.len, fun x h => h1.live x (h2.live x h),
   fun x => (h2.kids x).trans (h1.kids x)⟩

theorem SameLive.mono {s s' : State} (m : SameLive s s') : Mono s s' :=
  ⟨m.handles, m.len, fun x h => by rw [← m.live x]; exact h, m.kids⟩

/-- states whose heap is an extension: nothing is resurrected, ids are not reused, and an
    object that is still live has the members it always had (immutability).  What the claimed theorems speak
    of: every operation yields it (`Good`); `alloc` and the handle primitives yield nothing stronger. -/
structure Ext (s s' : State) : Prop where
  len : s.objs.length ≤ s'.objs.length
  live : ∀ x, x < s.objs.length → isLive s' x = true → isLive s x = true
  kids : ∀ x, x < s.objs.length → isLive s' x = true → childrenOf s' x = childrenOf s x

theorem Ext.refl (s : State) : Ext s s := ⟨Nat.le_refl _, fun _ _ h => h, fun _ _ _ => rfl⟩
theorem Ext.trans {a b c : State} (h1 : Ext a b) (h2 : Ext b c) : Ext a c :=
  ⟨Nat.le_trans h1.len h2.len,
   fun x hx h => h1.live x hx (h2.live x (Nat.lt_of_lt_of_le hx h1.len) h),
   fun x hx h => (h2.kids x (Nat.lt_of_lt_of_le hx h1.len) h).trans
     (h1.kids x hx (h2.live x (Nat.lt_of_lt_of_le hx h1.len) h))⟩
theorem Mono.ext {s s' : State} (m : Mono s s') : Ext s s' :=
  ⟨by rw [m.len]; exact Nat.le_refl _, fun x _ h => m.live x h, fun x _ _ => m.kids x⟩

theorem childrenOf_setObj {s : State} {o : Nat} {ob : Obj} (ob' : Obj) (x : Nat) (h : s.objs[o]? = some ob) :
    childrenOf (setObj s o ob') x = if x = o then ob'.children else childrenOf s x :=
  lookup_setObj Obj.children [] ob' x h

theorem Mono.setObj {s : State} {o : Nat} {ob : Obj} (ob' : Obj) (h : s.objs[o]? = some ob)
    (hl : ob'.live = true → ob.live = true) (hk : ob'.children = ob.children) : Mono s (setObj s o ob') := by
  refine ⟨rfl, by simp [RC.setObj], fun x hx => ?_, fun x => lookup_setObj_same Obj.children [] ob' x h hk⟩
  rw [isLive_setObj _ x h] at hx
  by_cases e : x = o
  · subst e; simp at hx; unfold isLive; simp [h, hl hx]
  · simpa [e] using hx

theorem release_live {s : State} {o : Nat} {ob : Obj} (f : Nat) (todo : List Nat)
    (h : s.objs[o]? = some ob) (hl : ob.live = true) (hp : 0 < ob.count) :
    release (f + 1) s (o :: todo) =
      if ob.count = 1 then release f (setObj s o { ob with count := 0, live := false }) (ob.children ++ todo)
      else release f (setObj s o { ob with count := ob.count - 1 }) todo := by
  simp only [release, h]
  rw [if_neg (by simp [hl]), if_neg (by omega)]

theorem release_ok : ∀ (f : Nat) (s : State) (todo L : List Nat), InvT s (todo ++ L) → sumCounts s ≤ f →
    ∃ s', release f s todo = .ok s' ∧ InvT s' L ∧ Mono s s'
  | f, s, [], _, i, _ => ⟨s, release.eq_1 f s, i, Mono.refl s⟩
  | 0, s, o :: todo, L, i, hf => by
    exfalso
    obtain ⟨ob, h, _, hp⟩ := i.live_of_ref (o := o) (by simp; omega)
    have : ob.count ≤ sumCounts s := List.le_sum_map Obj.count h
    omega
  | f + 1, s, o :: todo, L, i, hf => by
    obtain ⟨ob, h, hl, hp⟩ := i.live_of_ref (o := o) (by simp; omega)
    rw [release_live f todo h hl hp]
    -- either branch overwrites `ob` by an object with a smaller count and goes on
    have step : ∀ (ob' : Obj) (todo' : List Nat), ob'.count < ob.count → (ob'.live = true → ob.live = true) →
        ob'.children = ob.children → InvT (setObj s o ob') (todo' ++ L) →
        ∃ s', release f (setObj s o ob') todo' = .ok s' ∧ InvT s' L ∧ Mono s s' := by
      intro ob' todo' hlt hl' hk inv1
      have hsum := sumCounts_setObj ob' h
      obtain ⟨s', hr, hi, hm⟩ := release_ok f _ todo' L inv1 (by omega)
      exact ⟨s', hr, hi, (Mono.setObj ob' h hl' hk).trans hm⟩
    by_cases h1 : ob.count = 1
    · rw [if_pos h1]
      refine step _ _ hp nofun rfl ?_
      rw [List.append_assoc]
      exact i.kill h hl h1
    · rw [if_neg h1]
      refine step _ _ (Nat.sub_lt hp Nat.one_pos) (fun _ => hl) rfl ?_
      refine i.setCount h hl (ob.count - 1) (by omega) ?_ fun x hx => (List.count_cons_of_ne (Ne.symm hx)).symm
      rw [List.cons_append, List.count_cons_self]
      omega

theorem drop_ok {s : State} {L : List Nat} {o : Nat} (i : InvT s (o :: L)) :
    ∃ s', drop s o = .ok s' ∧ InvT s' L ∧ Mono s s' :=
  release_ok (sumCounts s) s [o] L i (Nat.le_refl _)

end SymVerif.RC
