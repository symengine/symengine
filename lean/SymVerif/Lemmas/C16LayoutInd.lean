/-
C16 — the induction over expressions (`layout_ok`, by `Expr.induct_children`) that puts the per-function lemmas together, and
the claimed theorem `C16.paren_sound`.
-/
import SymVerif.Lemmas.C16LayoutComb
import SymVerif.Lemmas.C02Struct

namespace SymVerif.StrP
open Expr

theorem atom_GE (e : Expr) (s : String) (h : cprec e ≤ 4) : GE e (.id s) :=
  (W.leaf_id s).mono (need_le_17 _)

theorem layoutArgs_eq : ∀ l : List Expr, layoutArgs l = l.map layout
  | [] => rfl
  | a :: t => by simp [layoutArgs, layoutArgs_eq t]

theorem layoutPairs_eq : ∀ l : List (Expr × Expr), layoutPairs l = l.map fun kv => (kv.1, kv.2, layout kv.1, layout kv.2)
  | [] => rfl
  | (k, v) :: t => by simp [layoutPairs, layoutPairs_eq t]

theorem WPs_iff : ∀ {l : List PExpr}, WPs l = true ↔ ∀ t ∈ l, WP t = true
  | [] => by simp [WPs]
  | a :: t => by simp [WPs, WPs_iff (l := t)]

/-- `c`: the test on the coefficient / exponent under which it is omitted and the key printed bare (±1); `p`: the class the
key then must not have -/
theorem items_ok {l : List (Expr × Expr)} {c : Expr → Bool} {p : Nat}
    (ih : ∀ x ∈ Expr.flat l, GE x (layout x))
    (hkeys : (l.all fun kv => !(c kv.2) || cprec kv.1 != p) = true) :
    ∀ x ∈ layoutPairs l, ItemOK x ∧ (c x.2.1 = true → cprec x.1 ≠ p) := by
  rw [layoutPairs_eq]
  intro x hx
  obtain ⟨kv, hkv, rfl⟩ := List.mem_map.1 hx
  exact ⟨⟨ih _ (mem_flat.2 ⟨kv, hkv, .inl rfl⟩), ih _ (mem_flat.2 ⟨kv, hkv, .inr rfl⟩)⟩,
    fun h1 => by simpa [h1] using List.all_eq_true.1 hkeys _ hkv⟩

theorem args_ok {l : List Expr} (ih : ∀ x ∈ l, GE x (layout x)) : WPs (layoutArgs l) = true := by
  rw [layoutArgs_eq, WPs_iff]
  intro t ht
  obtain ⟨x, hx, rfl⟩ := List.mem_map.1 ht
  exact (ih x hx).1

theorem layout_ok : ∀ e : Expr, allNodes printableNode e = true → GE e (layout e) := by
  refine induct_children _ fun e ih h => ?_
  have hn := allNodes_self _ h
  replace ih : ∀ x ∈ children e, GE x (layout x) := fun x hx => ih x hx (allNodes_children _ h x hx)
  cases e with
  | int n => simp only [layout]; exact int_GE n
  | rat n d => simp only [layout]; exact rat_GE n d
  | cplx re im => simp only [layout]; exact cplx_GE re im
  | dbl b => simp only [layout]; exact dbl_GE b hn
  | cdbl r i => simp only [layout]; exact cdbl_GE r i
  | infty d =>
    simp only [layout, GE, cprec]
    split
    · exact (W.neg ((W.leaf_id _).mono (by decide))).mono (by decide)
    · split <;> exact W.leaf_id _
  | nan => simp only [layout]; exact atom_GE _ _ (Nat.le_refl 4)
  | sym n => simp only [layout]; exact atom_GE _ _ (Nat.le_refl 4)
  | dummy n i => simp only [layout]; exact atom_GE _ _ (Nat.le_refl 4)
  | const n => simp only [layout]; exact atom_GE _ _ (Nat.le_refl 4)
  | bool b => simp only [layout]; exact atom_GE _ _ (Nat.le_refl 4)
  | add c ts =>
    simp only [printableNode, Bool.and_eq_true] at hn
    simp only [layout]
    exact addP_ok c (layout c) (layoutPairs ts) (ih c (by simp [children])) (isNum_cprec hn.1.1)
      (items_ok (c := fun v => isInt v 1) (fun x hx => ih x (by simp [children, hx])) hn.2)
  | mul c fs =>
    simp only [printableNode, Bool.and_eq_true] at hn
    simp only [layout]
    exact mulP_ok c (layout c) (layoutPairs fs) (ih c (by simp [children]))
      (items_ok (c := fun v => isInt v 1 || isInt v (-1)) (fun x hx => ih x (by simp [children, hx])) hn.2)
  | pow b e =>
    simp only [layout]
    exact powP_ok (ih b (by simp [children])) (ih e (by simp [children]))
  | fsym n args =>
    simp only [layout]
    refine W.call n ?_ (args_ok ih)
    cases args with
    | nil => simp [printableNode] at hn
    | cons a t => exact List.cons_ne_nil _ _
  | app hd args =>
    simp only [layout]
    apply appP_ok hd args (layoutArgs args) (args_ok ih)
    · cases args with
      | nil =>
        simp only [printableNode] at hn
        split at hn <;> simp at hn
      | cons a t => simp [layoutArgs]
    · intro o ho
      simp only [printableNode, ho, Option.isSome_some, if_true] at hn
      split at hn
      · rename_i a b
        simp only [Bool.and_eq_true, bne_iff_ne, ne_eq] at hn
        refine ⟨layout a, layout b, by simp [layoutArgs], ?_, ?_⟩
        · have h1 : need 1 ≤ need (cprec a) := need_mono (by omega)
          exact Nat.le_trans h1 (ih a (by simp [children])).2
        · have h1 : need 1 ≤ need (cprec b) := need_mono (by omega)
          exact Nat.le_trans h1 (ih b (by simp [children])).2
      · simp at hn

theorem layoutPairs_ok : (l : List (Expr × Expr)) → allPairs printableNode l = true →
      ∀ x ∈ layoutPairs l, GE x.1 x.2.2.1 ∧ GE x.2.1 x.2.2.2 ∧ (x.1, x.2.1) ∈ l := fun l h => by
  rw [layoutPairs_eq]
  intro x hx
  obtain ⟨kv, hkv, rfl⟩ := List.mem_map.1 hx
  have hp := (allPairs_iff _).1 h
  exact ⟨layout_ok _ (hp _ (mem_flat.2 ⟨kv, hkv, .inl rfl⟩)), layout_ok _ (hp _ (mem_flat.2 ⟨kv, hkv, .inr rfl⟩)), hkv⟩

end SymVerif.StrP

namespace SymVerif.C16
open SymVerif SymVerif.Expr SymVerif.StrP

/-- for every printable expression the parenthesisation decisions of the printer
(`parenthesizeLT/LE` on the C++ precedence classes, the numerator/denominator split, sign merging) produce a
well-parenthesised tree. -/
theorem paren_sound (e : Expr) (h : printable e = true) : WP (layout e) = true := (layout_ok e h).1

end SymVerif.C16
