/-
C03: what the bookkeeping of `mul` needs of an invariant. `mul`, its two arms, the loop over a
dictionary and the two ways of multiplying an evaluated expression into the accumulator only move
coefficients and factors around; everything they use of the invariant is in the seven facts of
`Dom`. Their induction steps are proved once over `Dom`, each from the contracts of its callees;
`inv` (here) and "keys and exponents are Numbers" (C03Shape) are the two instances.
-/
import SymVerif.Lemmas.C03MulA

namespace SymVerif.Arith

theorem asBaseExp_factor {b e t : Expr} (hb : inv b = true) (hn : b.isNum = false)
    (h : asBaseExp b = .ok (e, t)) : inv t = true ∧ inv e = true ∧ factorOK t e = true := by
  unfold asBaseExp at h
  split at h
  · cases hn   -- the Rational arm: a Rational is a Number
  · cases h
    obtain ⟨h1, h2, _, h4⟩ := inv_pow_iff.mp hb
    exact ⟨h1, h2, h4⟩
  · cases h
  · rename_i hnp hnm
    cases h
    exact ⟨hb, numOK_one.inv, factorOK_atom hn (isMul_eq_false hnm) (isPow_eq_false hnp)⟩

theorem asBaseExp_pre {b e t : Expr} (hb : inv b = true) (hn : b.isNum = false)
    (h : asBaseExp b = .ok (e, t)) : Pre t e :=
  have ⟨h1, h2, h3⟩ := asBaseExp_factor hb hn h
  pre_of_factorOK h1 h2 h3

theorem iterOrder_mem {rv : Bool} {d : Dict} {p : Expr × Expr} (h : p ∈ iterOrder rv d) : p ∈ d := by
  unfold iterOrder at h
  split at h
  · exact List.mem_reverse.mp h
  · exact h

theorem absorb_none {n : Nat} {rv : Bool} {coef res : Expr} {d : Dict}
    (h : absorb n rv coef d res = .ok none) : res.isNum = false ∧ isMul res = false := by
  cases n with
  | zero => cases h
  | succ n =>
    unfold absorb at h
    split at h
    · obtain ⟨c1, hm, h⟩ := bind_eq_ok h
      cases h
    · rename_i hn
      split at h
      · obtain ⟨c1, hm, h⟩ := bind_eq_ok h
        obtain ⟨cd, hl, h⟩ := bind_eq_ok h
        cases h
      · rename_i hm
        exact ⟨Bool.eq_false_iff.mpr hn, isMul_eq_false hm⟩

/-- an invariant as the accumulator functions of `mul` see it -/
structure Dom where
  /-- values: operands and results of `mul`, `pow` -/
  V : Expr → Prop
  /-- the numeric coefficient of the accumulator -/
  Cn : Expr → Prop
  /-- the dictionary of the accumulator -/
  Dc : Dict → Prop
  /-- base and exponent that `dict_add_term_new` may be handed -/
  F : Expr → Expr → Prop
  one : Cn one
  nil : Dc []
  num : ∀ {b}, V b → b.isNum = true → Cn b
  numMul : ∀ {a b r}, Cn a → Cn b → numMul a b = .ok r → Cn r
  fromDict : ∀ {c d}, Cn c → Dc d → V (mulFromDict c d)
  mulParts : ∀ {c fs}, V (.mul c fs) → Cn c ∧ Dc fs ∧ ∀ p ∈ fs, F p.1 p.2
  baseExp : ∀ {b e t}, V b → b.isNum = false → asBaseExp b = .ok (e, t) → F t e

namespace Dom
variable (D : Dom) {n : Nat} {rv : Bool}

def S (c : Expr) (d : Dict) : Prop := D.Cn c ∧ D.Dc d

theorem S.fromDict {D : Dom} {c : Expr} {d : Dict} (h : D.S c d) : D.V (mulFromDict c d) := D.fromDict h.1 h.2
theorem S.ofMul {D : Dom} {c : Expr} {fs : Dict} (h : D.V (.mul c fs)) : D.S c fs :=
  ⟨(D.mulParts h).1, (D.mulParts h).2.1⟩
theorem S.mulNum {D : Dom} {c b c1 : Expr} {d : Dict} (hs : D.S c d) (hb : D.V b) (hn : b.isNum = true)
    (hm : Arith.numMul c b = .ok c1) : D.S c1 d := ⟨D.numMul hs.1 (D.num hb hn) hm, hs.2⟩

theorem iterParts {c : Expr} {fs : Dict} (h : D.V (.mul c fs)) (rv : Bool) :
    ∀ p ∈ iterOrder rv fs, D.F p.1 p.2 := fun p hp => (D.mulParts h).2.2 p (iterOrder_mem hp)

abbrev MulF (n : Nat) (rv : Bool) : Prop :=
  ∀ a b r, D.V a → D.V b → mulF n rv a b = .ok r → D.V r

abbrev MulOnto (n : Nat) (rv : Bool) : Prop :=
  ∀ c d b r, D.S c d → D.V b → mulOnto n rv c d b = .ok r → D.V r

abbrev MulStep (n : Nat) (rv : Bool) : Prop :=
  ∀ c d b c' d', D.S c d → D.V b → mulStep n rv c d b = .ok (c', d') → D.S c' d'

abbrev DatLoop (n : Nat) (rv : Bool) : Prop :=
  ∀ c d l c' d', D.S c d → (∀ p ∈ l, D.F p.1 p.2) → datLoop n rv c d l = .ok (c', d') → D.S c' d'

abbrev Absorb (n : Nat) (rv : Bool) : Prop :=
  ∀ c d res c' d', D.S c d → D.V res → absorb n rv c d res = .ok (some (c', d')) → D.S c' d'

abbrev MulInto (n : Nat) (rv : Bool) : Prop :=
  ∀ c d r c' d', D.S c d → D.V r → mulInto n rv c d r = .ok (c', d') → D.S c' d'

abbrev DatNew (n : Nat) (rv : Bool) : Prop :=
  ∀ c d e t c' d', D.S c d → D.F t e → datNew n rv c d e t = .ok (c', d') → D.S c' d'

theorem step_mulStep (hdatNew : D.DatNew n rv) : D.MulStep (n + 1) rv := by
  intro coef d b c' d' hs hb h
  unfold mulStep at h
  split at h
  · rename_i hn
    obtain ⟨c1, hm, h⟩ := bind_eq_ok h
    cases h
    exact hs.mulNum hb hn hm
  · rename_i hn
    obtain ⟨⟨e, t⟩, ha, h⟩ := bind_eq_ok h
    exact hdatNew coef d e t c' d' hs (D.baseExp hb (Bool.eq_false_iff.mpr hn) ha) h

theorem step_mulOnto (hmulStep : D.MulStep n rv) : D.MulOnto (n + 1) rv := by
  intro coef d b r hs hb h
  unfold mulOnto at h
  obtain ⟨⟨c1, d1⟩, hm, h⟩ := bind_eq_ok h
  exact Except.ok.inj h ▸ (hmulStep coef d b c1 d1 hs hb hm).fromDict

theorem step_mulF (hmulOnto : D.MulOnto n rv) (hmulStep : D.MulStep n rv)
    (hdatLoop : D.DatLoop n rv) : D.MulF (n + 1) rv := by
  intro a b r ha hb h
  unfold mulF at h
  split at h
  · rename_i ac ad bc bd
    have pa := D.mulParts ha
    -- both branches of the model's `if` end in the same loop; `fin` is its contract, and they differ only in where
    -- `Cn coef` comes from
    have fin : ∀ coef cd, D.Cn coef → datLoop n rv coef ad (iterOrder rv bd) = .ok cd →
        D.V (mulFromDict cd.1 cd.2) := fun coef cd hc hl => by
      have := hdatLoop coef ad (iterOrder rv bd) cd.1 cd.2 ⟨hc, pa.2.1⟩ (D.iterParts hb rv) hl
      exact D.fromDict this.1 this.2
    dsimp only at h
    split at h
    · obtain ⟨coef, hc, h⟩ := bind_eq_ok h
      obtain ⟨cd, hl, h⟩ := bind_eq_ok h
      exact Except.ok.inj h ▸ fin coef cd (D.numMul pa.1 (D.mulParts hb).1 hc) hl
    · obtain ⟨coef, hc, h⟩ := bind_eq_ok h
      obtain ⟨cd, hl, h⟩ := bind_eq_ok h
      exact Except.ok.inj h ▸ fin coef cd (Except.ok.inj hc ▸ D.one) hl
  · rename_i ac ad _
    exact hmulOnto ac ad b r (S.ofMul ha) hb h
  · rename_i bc bd _
    exact hmulOnto bc bd a r (S.ofMul hb) ha h
  · obtain ⟨⟨c1, d1⟩, h1, h⟩ := bind_eq_ok h
    obtain ⟨⟨c2, d2⟩, h2, h⟩ := bind_eq_ok h
    have s1 := hmulStep Arith.one [] a c1 d1 ⟨D.one, D.nil⟩ ha h1
    have s2 := hmulStep c1 d1 b c2 d2 s1 hb h2
    exact Except.ok.inj h ▸ s2.fromDict

theorem step_datLoop (hdatNew : D.DatNew n rv) (hdatLoop : D.DatLoop n rv) :
    D.DatLoop (n + 1) rv := by
  intro coef d l c' d' hs hl h
  cases l with
  | nil =>
    cases h
    exact hs
  | cons p r =>
    obtain ⟨k, v⟩ := p
    unfold datLoop at h
    obtain ⟨⟨c1, d1⟩, h1, h⟩ := bind_eq_ok h
    have s1 := hdatNew coef d v k c1 d1 hs (hl (k, v) (List.mem_cons_self ..)) h1
    exact hdatLoop c1 d1 r c' d' s1 (fun p hp => hl p (List.mem_cons_of_mem _ hp)) h

theorem step_absorb (hdatLoop : D.DatLoop n rv) : D.Absorb (n + 1) rv := by
  intro coef d res c' d' hs hr h
  unfold absorb at h
  split at h
  · rename_i hn
    obtain ⟨c1, hm, h⟩ := bind_eq_ok h
    cases h
    exact hs.mulNum hr hn hm
  · split at h
    · obtain ⟨c1, hm, h⟩ := bind_eq_ok h
      obtain ⟨⟨c2, d2⟩, hl, h⟩ := bind_eq_ok h
      cases h
      exact hdatLoop c1 d _ c' d' ⟨D.numMul hs.1 (D.mulParts hr).1 hm, hs.2⟩ (D.iterParts hr rv) hl
    · cases h

theorem step_mulInto (habsorb : D.Absorb n rv) (hdatNew : D.DatNew n rv) :
    D.MulInto (n + 1) rv := by
  intro coef d r c' d' hs hr h
  unfold mulInto at h
  obtain ⟨o, ha, h⟩ := bind_eq_ok h
  cases o with
  | some x =>
    cases h
    exact habsorb coef d r c' d' hs hr ha
  | none =>
    obtain ⟨⟨e, t⟩, hb, h⟩ := bind_eq_ok h
    exact hdatNew coef d e t c' d' hs (D.baseExp hr (absorb_none ha).1 hb) h

end Dom

/-- `invDom.S` is `St`, and `invDom.MulF n rv`, …, `invDom.DatNew n rv` unfold to the fields of `Spec n` at `rv` -/
def invDom : Dom where
  V a := inv a = true
  Cn := NumOK
  Dc := MulDictOK
  F := Pre
  one := numOK_one
  nil := .nil
  num hb hn := ⟨hn, inv_canon hb⟩
  numMul ha hb := numMul_ok ha.2 hb.2
  fromDict := mulFromDict_inv
  mulParts h :=
    have hd := inv_mul_dict h
    ⟨inv_mul_coef h, hd, fun p hp => pre_of_factorOK (hd.ent p hp).1 (hd.ent p hp).2 (hd.fac p hp)⟩
  baseExp := asBaseExp_pre

end SymVerif.Arith
