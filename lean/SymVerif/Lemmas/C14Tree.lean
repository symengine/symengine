/-
C14, simulation for operator trees: what `compileT` appends computes `evalT` in every register file in
which the environment is right.
-/
import SymVerif.Lemmas.C14Step

namespace SymVerif.LLVMD
open SymVerif.EvalG

variable {α : Type}

/-- the value a bound symbol must denote: the `.sym` clause of `evalT` (equal by `rfl`), its `.err .runtime` for an
unbound name included -/
def symVal (venv : String → Option α) (name : String) : RV α :=
  match venv name with
  | some x => .f x
  | none => .err .runtime

/-- the compile-time environment agrees with the value environment in register file `regs` -/
def EnvOK (env : String → Option (Val α)) (venv : String → Option α) (regs : List (RV α)) : Prop :=
  ∀ name v, env name = some v → Holds regs v (symVal venv name)

theorem EnvOK.exec {env : String → Option (Val α)} {venv : String → Option α} {regs : List (RV α)}
    (h : EnvOK env venv regs) (L : LOps α) (xs : List α) (A : Prog α) : EnvOK env venv (exec L xs regs A) :=
  fun name v hv => (h name v hv).exec L xs A

section
variable {L : LOps α} {env : String → Option (Val α)} {P P' : Prog α} {v : Val α}

-- The model's `match … with | .error e => .error e | .ok (a, b) => …` has pair patterns: `bind_ok` and a
-- generic lemma about such a `match` do not unify with its matchers; hence the inversions by hand.
theorem compileT_sym_ok {n : String} (h : compileT L env (.sym n) P = .ok (v, P')) : env n = some v ∧ P' = P := by
  simp only [compileT] at h
  cases hn : env n with
  | none => rw [hn] at h; cases h
  | some w => rw [hn] at h; cases h; exact ⟨rfl, rfl⟩

theorem compileT_op_ok {k : OpK} {args : List (T α)} (h : compileT L env (.op k args) P = .ok (v, P')) :
    ∃ vs P1, compileTs L env args P = .ok (vs, P1) ∧ emitOp L k vs P1 = .ok (v, P') := by
  simp only [compileT] at h
  cases hc : compileTs L env args P with
  | error e => rw [hc] at h; cases h
  | ok r => rw [hc] at h; exact ⟨r.1, r.2, rfl, h⟩

theorem compileT_pw_ok {c a b : T α} (h : compileT L env (.pw c a b) P = .ok (v, P')) :
    ∃ vc P1 ic P2 va P4 vb P5, compileT L env c P = .ok (vc, P1)
      ∧ mkFCmp L .one vc (.cf (zeroF L)) P1 = (ic, P2)
      ∧ compileT L env a (P2 ++ [.condbr ic]) = .ok (va, P4) ∧ compileT L env b P4 = .ok (vb, P5)
      ∧ v = .reg P5.length ∧ P' = P5 ++ [.phi ic va vb] := by
  simp only [compileT, emit] at h
  cases hc : compileT L env c P with
  | error e => rw [hc] at h; cases h
  | ok r =>
    obtain ⟨vc, P1⟩ := r
    rw [hc] at h
    simp only at h
    generalize hm : mkFCmp L .one vc (.cf (zeroF L)) P1 = icP at h
    cases ha : compileT L env a (icP.2 ++ [.condbr icP.1]) with
    | error e => rw [ha] at h; cases h
    | ok ra =>
      obtain ⟨va, P4⟩ := ra
      rw [ha] at h
      simp only at h
      cases hb : compileT L env b P4 with
      | error e => rw [hb] at h; cases h
      | ok rb =>
        obtain ⟨vb, P5⟩ := rb
        rw [hb] at h
        cases h
        exact ⟨vc, P1, icP.1, icP.2, va, P4, vb, P5, rfl, hm, ha, hb, rfl, rfl⟩

theorem compileTs_cons_ok {t : T α} {ts : List (T α)} {vs : List (Val α)}
    (h : compileTs L env (t :: ts) P = .ok (vs, P')) :
    ∃ v P1 vs2, compileT L env t P = .ok (v, P1) ∧ compileTs L env ts P1 = .ok (vs2, P') ∧ vs = v :: vs2 := by
  simp only [compileTs] at h
  cases ht : compileT L env t P with
  | error e => rw [ht] at h; cases h
  | ok r =>
    obtain ⟨v, P1⟩ := r
    rw [ht] at h
    simp only at h
    cases hts : compileTs L env ts P1 with
    | error e => rw [hts] at h; cases h
    | ok r2 =>
      obtain ⟨vs2, P2⟩ := r2
      rw [hts] at h
      cases h
      exact ⟨v, P1, vs2, rfl, hts, rfl⟩

end

/-- sequencing: the second part may assume, of the register file it starts in, what the first establishes -/
theorem sim_bind {env : String → Option (Val α)} {venv : String → Option α} {L : LOps α} {xs : List α}
    {P P1 P2 : Prog α} (Q1 Q2 : List (RV α) → Prop)
    (h1 : ∃ e, P1 = P ++ e ∧ ∀ regs, regs.length = P.length → EnvOK env venv regs → Q1 (exec L xs regs e))
    (h2 : ∃ e, P2 = P1 ++ e ∧ ∀ regs, regs.length = P1.length → EnvOK env venv regs → Q1 regs →
      Q2 (exec L xs regs e)) :
    ∃ e, P2 = P ++ e ∧ ∀ regs, regs.length = P.length → EnvOK env venv regs → Q2 (exec L xs regs e) := by
  obtain ⟨e1, rfl, hs1⟩ := h1
  obtain ⟨e2, rfl, hs2⟩ := h2
  refine ⟨e1 ++ e2, List.append_assoc .., fun regs hl he => ?_⟩
  rw [exec_append]
  exact hs2 _ (by rw [exec_length, hl, List.length_append]) (he.exec L xs e1) (hs1 regs hl he)

mutual
  /-- **Simulation.**  Whatever `compileT` appends to a program computes, in every register file
  in which the environment is right, the reference value of the tree. -/
  theorem compileT_sim (L : LOps α) (xs : List α) (env : String → Option (Val α)) (venv : String → Option α) :
      ∀ (t : T α) (P : Prog α) (v : Val α) (P' : Prog α), compileT L env t P = .ok (v, P') →
        ∃ ext, P' = P ++ ext ∧ ∀ regs, regs.length = P.length → EnvOK env venv regs →
          Holds (exec L xs regs ext) v (evalT L venv t)
    | .cst x, P, v, P', h => by
      simp only [compileT] at h
      cases h
      exact ⟨[], by simp, fun regs _ _ => Holds.cf regs x⟩
    | .sym n, P, v, P', h => by
      obtain ⟨hn, rfl⟩ := compileT_sym_ok h
      exact ⟨[], by simp, fun regs _ he => he n v hn⟩
    | .op k args, P, v, P', h => by
      obtain ⟨vs, P1, hc, h⟩ := compileT_op_ok h
      obtain ⟨e2, he2, hs2⟩ := emitOp_ok L xs k vs P1 (v, P') h
      exact sim_bind (fun r => All2 (Holds r) vs (evalTs L venv args)) (fun r => Holds r v (evalT L venv (.op k args)))
        (compileTs_sim L xs env venv args P vs P1 hc)
        ⟨e2, he2, fun regs hl _ h1 => by simpa [evalT] using hs2 regs _ hl h1⟩
    | .pw c a b, P, v, P', h => by
      obtain ⟨vc, P1, ic, P2, va, P4, vb, P5, hc, hm, ha, hb, rfl, rfl⟩ := compileT_pw_ok h
      -- the test of a Piecewise is the operator `.truth` on `[vc]`
      obtain ⟨e2, he2, hs2⟩ := emitOp_ok L xs .truth [vc] P1 (ic, P2) (congrArg Except.ok hm)
      -- each stage carries along what the earlier ones established: the phi needs the test and both arms
      let Qc := fun r => Holds r ic (rvFCmp L .one (evalT L venv c) (.f (zeroF L)))
      let Qa := fun r => Qc r ∧ Holds r va (evalT L venv a)
      let Qb := fun r => Qa r ∧ Holds r vb (evalT L venv b)
      have s2 := sim_bind (fun r => Holds r vc (evalT L venv c)) Qc (compileT_sim L xs env venv c P vc P1 hc)
        ⟨e2, he2, fun regs hl _ h1 => hs2 regs [evalT L venv c] hl (.cons h1 .nil)⟩
      have s3 := sim_bind Qc Qc s2 ⟨[.condbr ic], rfl, fun regs _ _ h => h.exec L xs _⟩
      have s4 := sim_bind Qc Qa s3 ((compileT_sim L xs env venv a _ va P4 ha).imp fun e4 h =>
        ⟨h.1, fun regs hl he hic => ⟨hic.exec L xs e4, h.2 regs hl he⟩⟩)
      have s5 := sim_bind Qa Qb s4 ((compileT_sim L xs env venv b P4 vb P5 hb).imp fun e5 h =>
        ⟨h.1, fun regs hl he hq => ⟨⟨hq.1.exec L xs e5, hq.2.exec L xs e5⟩, h.2 regs hl he⟩⟩)
      refine sim_bind Qb (fun r => Holds r (.reg P5.length) (evalT L venv (.pw c a b))) s5
        ⟨[.phi ic va vb], rfl, fun regs hl _ hq => ?_⟩
      obtain ⟨⟨hic, hva⟩, hvb⟩ := hq
      have hphi := Holds.emit L xs regs P5 (.phi ic va vb) hl
      simp only [emit] at hphi
      refine ⟨hphi.1, ?_⟩
      rw [hphi.2]
      simp only [stepVal, hic.2, hva.2, hvb.2, evalT]

  theorem compileTs_sim (L : LOps α) (xs : List α) (env : String → Option (Val α)) (venv : String → Option α) :
      ∀ (ts : List (T α)) (P : Prog α) (vs : List (Val α)) (P' : Prog α), compileTs L env ts P = .ok (vs, P') →
        ∃ ext, P' = P ++ ext ∧ ∀ regs, regs.length = P.length → EnvOK env venv regs →
          All2 (Holds (exec L xs regs ext)) vs (evalTs L venv ts)
    | [], P, vs, P', h => by
      simp only [compileTs] at h
      cases h
      exact ⟨[], by simp, fun regs _ _ => by simpa [exec, evalTs] using All2.nil⟩
    | t :: ts, P, vs, P', h => by
      obtain ⟨v, P1, vs2, ht, hts, rfl⟩ := compileTs_cons_ok h
      obtain ⟨e2, he2, hs2⟩ := compileTs_sim L xs env venv ts P1 vs2 _ hts
      exact sim_bind (fun r => Holds r v (evalT L venv t)) (fun r => All2 (Holds r) (v :: vs2) (evalTs L venv (t :: ts)))
        (compileT_sim L xs env venv t P v P1 ht)
        ⟨e2, he2, fun regs hl he h1 => by simpa [evalTs] using All2.cons (h1.exec L xs e2) (hs2 regs hl he)⟩
end

end SymVerif.LLVMD
