import SymVerif.Lemmas.C21Mul

/-! C21: `eval` is Horner's rule over the dictionary read from the top key down (`evalLoop_spec`); `diff_upoly` writes
its keys in increasing order, so every write appends (`diff_fold_spec`); `pow` is square-and-multiply over any
multiplication that meets `MulOK`. -/
-- as in C21Basic: some lemmas inherit `[DecidableEq R]` unused
set_option linter.unusedSectionVars false
open Polynomial
namespace SymVerif.C21
open SymVerif.UPoly

variable {R : Type} [CommRing R] [DecidableEq R]

theorem rpow_eq (x : R) (n : Nat) : rpow x n = x ^ n := by
  induction n with
  | zero => simp [rpow]
  | succ n ih => simp [rpow, ih, pow_succ]

/-- the Horner loop of `eval`: `l` is the dictionary in `rbegin()` order, `last` is `last_deg`; `hl` makes the
    unsigned `last - k` a true difference -/
theorem evalLoop_spec (x : R) (l : List (Nat × R)) (last : Nat) (res : R)
    (hd : l.Pairwise (fun p q => q.1 < p.1)) (hl : ∀ q ∈ l, q.1 ≤ last) :
    evalLoop x l last res = res * x ^ last + (l.map (fun p => p.2 * x ^ p.1)).sum := by
  induction l generalizing last res with
  | nil => simp [evalLoop, rpow_eq]
  | cons p t ih =>
    obtain ⟨k, c⟩ := p
    have ⟨h1, h2⟩ := List.pairwise_cons.1 hd
    have hk : k ≤ last := hl (k, c) List.mem_cons_self
    simp only [evalLoop]
    rw [ih k _ h2 (fun q hq => Nat.le_of_lt (h1 q hq)), rpow_eq]
    simp only [List.map_cons, List.sum_cons]
    have : x ^ (last - k) * x ^ k = x ^ last := by rw [← pow_add, Nat.sub_add_cancel hk]
    calc (c + x ^ (last - k) * res) * x ^ k + (t.map (fun p => p.2 * x ^ p.1)).sum
        = res * (x ^ (last - k) * x ^ k) + (c * x ^ k + (t.map (fun p => p.2 * x ^ p.1)).sum) := by ring
      _ = _ := by rw [this]

theorem eval_toPoly (d : Dict R) (x : R) :
    (toPoly d).eval x = (d.map (fun p => p.2 * x ^ p.1)).sum := by
  induction d with
  | nil => simp
  | cons p t ih => simp [ih, eval_monomial]

theorem evalSum_spec (d : Dict R) (x : R) : evalSum d x = (toPoly d).eval x := by
  have key : ∀ (acc : R), d.foldl (fun ans p => ans + p.2 * rpow x p.1) acc
      = acc + (d.map (fun p => p.2 * x ^ p.1)).sum := by
    induction d with
    | nil => simp
    | cons p t ih => intro acc; rw [List.foldl_cons, ih, rpow_eq, List.map_cons, List.sum_cons]; ring
  unfold evalSum
  rw [key, eval_toPoly, zero_add]

/-- for either `guard`: the code as found and the repaired code differ on the empty dictionary only -/
theorem evalWith_spec (guard : Bool) {d : Dict R} (hs : Sorted d) (hne : d ≠ []) (x : R) :
    evalWith guard d x = .ok ((toPoly d).eval x) := by
  unfold evalWith
  split
  · rename_i h
    exact absurd (List.reverse_eq_nil_iff.1 h) hne
  · rename_i k c t h
    have hdesc := List.pairwise_reverse.2 hs
    rw [h] at hdesc
    have hle : ∀ q ∈ (k, c) :: t, q.1 ≤ k :=
      List.forall_mem_cons.2 ⟨le_refl k, fun q hq => Nat.le_of_lt ((List.pairwise_cons.1 hdesc).1 q hq)⟩
    rw [evalLoop_spec x _ k 0 hdesc hle, eval_toPoly, ← h, List.map_reverse, List.sum_reverse,
      zero_mul, zero_add]

/-- `USymEnginePoly::eval` (as repaired) is polynomial evaluation, and never fails -/
theorem eval_spec {d : Dict R} (hs : Sorted d) (x : R) :
    UPoly.eval d x = .ok ((toPoly d).eval x) := by
  by_cases hne : d = []
  · rw [hne, toPoly_nil, eval_zero]; rfl
  · exact evalWith_spec true hs hne x

/-- the loop of `diff_upoly`: every new key `k - 1` lies above the keys written so far, so each
    `d[k-1] = …` appends -/
theorem diff_fold_spec (a d : Dict R) (hs : Sorted a) (hd : Sorted d)
    (hlt : ∀ q ∈ d, ∀ p ∈ a, q.1 + 1 < p.1) :
    Sorted (a.foldl (fun d p => if p.1 ≠ 0 then setKey d (p.1 - 1) (p.2 * (p.1 : R)) else d) d) ∧
    toPoly (a.foldl (fun d p => if p.1 ≠ 0 then setKey d (p.1 - 1) (p.2 * (p.1 : R)) else d) d)
      = toPoly d + derivative (toPoly a) := by
  induction a generalizing d with
  | nil => exact ⟨hd, by rw [List.foldl_nil, toPoly_nil, map_zero, add_zero]⟩
  | cons p t ih =>
    obtain ⟨k, c⟩ := p
    have ⟨h1, h2⟩ := sorted_cons.1 hs
    rw [List.foldl_cons, toPoly_cons, map_add, derivative_monomial]
    by_cases hk : k = 0
    · rw [if_neg (not_not.2 hk), hk, Nat.cast_zero, mul_zero, monomial_zero_right, zero_add]
      exact ih d h2 hd (fun q hq p hp => hlt q hq p (List.mem_cons_of_mem _ hp))
    · have hall : ∀ q ∈ d, q.1 < k - 1 := fun q hq =>
        Nat.lt_sub_of_add_lt (hlt q hq (k, c) List.mem_cons_self)
      have hlt' : ∀ q ∈ d ++ [(k - 1, c * (k : R))], ∀ p ∈ t, q.1 + 1 < p.1 := by
        intro q hq p hp
        have hkp : k < p.1 := h1 p hp
        rcases List.mem_append.1 hq with h | h
        · exact Nat.lt_trans (hlt q h (k, c) List.mem_cons_self) hkp
        · rw [List.mem_singleton.1 h, Nat.sub_add_cancel (Nat.pos_of_ne_zero hk)]
          exact hkp
      rw [if_pos hk, setKey_append hall]
      obtain ⟨s1, s2⟩ := ih _ h2 (sorted_append_single hd hall) hlt'
      exact ⟨s1, by rw [s2, toPoly_append, toPoly_singleton, add_assoc]⟩

/-- `diff_upoly` computes the formal derivative and returns a canonical dictionary -/
theorem diff_spec {a : Dict R} (hs : Sorted a) :
    toPoly (UPoly.diff a) = derivative (toPoly a) ∧ Canon (UPoly.diff a) := by
  have := diff_fold_spec a [] hs sorted_nil (fun q hq => nomatch hq)
  unfold UPoly.diff
  refine ⟨?_, canon_fromMap this.1⟩
  rw [toPoly_fromMap, this.2, toPoly_nil, zero_add]

theorem canon_one [Nontrivial R] : Canon (one : Dict R) := canon_singleton one_ne_zero

theorem toPoly_one : toPoly (one : Dict R) = 1 := by
  rw [one, toPoly_singleton, monomial_zero_one]

/-- the invariant speaks of the product `r' * t'`: the loop stops at `p = 1` and leaves the last `res * tmp` to `powWith` -/
theorem powLoop_spec {mul : Dict R → Dict R → Except Err (Dict R)} (hmul : MulOK mul)
    (p : Nat) : ∀ (tmp res : Dict R), 1 ≤ p → Canon tmp → Canon res →
    ∃ t' r', powLoop mul tmp res p = .ok (t', r') ∧ Canon t' ∧ Canon r' ∧
      toPoly r' * toPoly t' = toPoly res * toPoly tmp ^ p := by
  induction p using Nat.strong_induction_on with
  | _ p ih =>
    intro tmp res hp ht hr
    rw [powLoop]
    by_cases h1 : p = 1
    · subst h1
      exact ⟨tmp, res, by simp, ht, hr, by simp⟩
    · have h0 : p ≠ 0 := by omega
      simp only [h1, h0, dite_false]
      obtain ⟨t2, ht2, hct2, hpt2⟩ := hmul tmp tmp ht ht
      have hlt : p / 2 < p := by omega
      have hge : 1 ≤ p / 2 := by omega
      by_cases hev : p % 2 = 0
      · simp only [hev, if_true, ht2]
        obtain ⟨t', r', h, hc1, hc2, hpoly⟩ := ih (p / 2) hlt t2 res hge hct2 hr
        refine ⟨t', r', h, hc1, hc2, ?_⟩
        have hp2 : 2 * (p / 2) = p := by omega
        rw [hpoly, hpt2, ← pow_two, ← pow_mul, hp2]
      · simp only [hev, if_false]
        obtain ⟨r2, hr2, hcr2, hpr2⟩ := hmul res tmp hr ht
        simp only [hr2, ht2]
        obtain ⟨t', r', h, hc1, hc2, hpoly⟩ := ih (p / 2) hlt t2 r2 hge hct2 hcr2
        refine ⟨t', r', h, hc1, hc2, ?_⟩
        have hp2 : 2 * (p / 2) + 1 = p := by omega
        rw [hpoly, hpt2, hpr2, ← pow_two, ← pow_mul, mul_assoc, ← pow_succ', hp2]

/-- `ODictWrapper::pow` (as repaired) terminates for every exponent, never fails, and computes the power -/
theorem pow_spec [Nontrivial R] {mul : Dict R → Dict R → Except Err (Dict R)} (hmul : MulOK mul)
    {a : Dict R} (ha : Canon a) (p : Nat) :
    ∃ r, UPoly.pow mul a p = .ok r ∧ Canon r ∧ toPoly r = toPoly a ^ p := by
  unfold UPoly.pow powWith
  by_cases h0 : p = 0
  · subst h0
    exact ⟨one, by simp, canon_one, by simp [toPoly_one]⟩
  · have : (true && p == 0) = false := by simp [h0]
    simp only [this]
    obtain ⟨t', r', h, hc1, hc2, hpoly⟩ := powLoop_spec hmul p a one (by omega) ha canon_one
    simp only [h]
    obtain ⟨r, hr, hcr, hpr⟩ := hmul r' t' hc2 hc1
    exact ⟨r, by simpa using hr, hcr, by rw [hpr, hpoly, toPoly_one, one_mul]⟩

end SymVerif.C21
