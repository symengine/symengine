import SymVerif.Lemmas.C23Basic

/-!
C23: the division loop.

`divLoop` (the model, on `Array ℕ`, same index expressions as the C++) is first shown equal to a
list loop `divLoopL` that keeps the already final upper part `hi = dict_out[it+1 .. n]`; the
semantic proof is on `divLoopL`, with one invariant for both kinds of step: reading the entries at
positions `≥ m` as quotient `Q` and those below as remainder `R`, `A - Q * D - R` (`resid`) has no
coefficient at or above the current position. A step subtracts the multiple of `X^(it-m) * D`
(`it ≥ m`) or of `X^it` (`it < m`) that clears coefficient `it` (`coeff_sub_C_mul_eq_zero`).
-/
namespace SymVerif.C23
open Polynomial SymVerif.GF

variable {p : ℕ}

/-- list version of `divLoop`: `hi` is `dict_out[it+1 .. n]` -/
def divLoopL (p : ℕ) (a d : List ℕ) (inv n m : ℕ) : ℕ → List ℕ → List ℕ
  | 0, hi => hi
  | it + 1, hi =>
    let lb := m + it - n
    let ub := min (it + 1) m
    let s := sumFrom (fun j => (hi.getD (m - 1 - j) 0 : ℤ) * (d.getD j 0 : ℤ)) lb (ub - lb)
    let coeff : ℤ := (a.getD it 0 : ℤ) - s
    let coeff := if it ≥ m then coeff * (inv : ℤ) else coeff
    divLoopL p a d inv n m it ((coeff % (p : ℤ)).toNat :: hi)

theorem sumFrom_sub_eq_sum_Ico (f : ℕ → ℤ) (lb ub : ℕ) :
    sumFrom f lb (ub - lb) = ∑ j ∈ Finset.Ico lb ub, f j := by
  induction h : ub - lb generalizing lb with
  | zero => rw [Finset.Ico_eq_empty_of_le (Nat.le_of_sub_eq_zero h)]; rfl
  | succ k ih =>
    rw [sumFrom, ih (lb + 1) (by rw [← Nat.sub_sub, h, Nat.add_sub_cancel]),
      Finset.sum_eq_sum_Ico_succ_bot (Nat.lt_of_sub_eq_succ h)]

theorem toArray_getD (l : List ℕ) (i : ℕ) : (l.toArray).getD i 0 = l.getD i 0 := by
  rw [Array.getD_eq_getD_getElem?, List.getElem?_toArray, List.getD_eq_getElem?_getD]

theorem getD_append_right (l1 l2 : List ℕ) (i : ℕ) (h : l1.length ≤ i) :
    (l1 ++ l2).getD i 0 = l2.getD (i - l1.length) 0 := by
  rw [List.getD_eq_getElem?_getD, List.getD_eq_getElem?_getD, List.getElem?_append_right h]

theorem getD_append_left (l1 l2 : List ℕ) (i : ℕ) (h : i < l1.length) :
    (l1 ++ l2).getD i 0 = l1.getD i 0 := by
  rw [List.getD_eq_getElem?_getD, List.getD_eq_getElem?_getD, List.getElem?_append_left h]

theorem getD_drop (l : List ℕ) (k i : ℕ) : (l.drop k).getD i 0 = l.getD (k + i) 0 := by
  rw [List.getD_eq_getElem?_getD, List.getElem?_drop, ← List.getD_eq_getElem?_getD]

theorem divLoop_eq (a d : List ℕ) (inv n m : ℕ) (ha : a.length = n + 1) :
    ∀ (it1 : ℕ) (hi : List ℕ), hi.length + it1 = n + 1 →
      (divLoop p d.toArray inv n m it1 (a.take it1 ++ hi).toArray).toList = divLoopL p a d inv n m it1 hi := by
  intro it1
  induction it1 with
  | zero => intro hi _; rfl
  | succ it ih =>
    intro hi hlen
    have hit : it < a.length := ha.symm ▸ (hlen ▸ Nat.lt_add_left _ it.lt_succ_self)
    have htake : (a.take (it + 1)).length = it + 1 := List.length_take_of_le hit
    have e1 : ((a.take (it + 1) ++ hi).toArray).getD it 0 = a.getD it 0 := by
      rw [toArray_getD, getD_append_left _ _ _ (htake.symm ▸ it.lt_succ_self), List.getD_eq_getElem?_getD,
        List.getElem?_take_of_lt it.lt_succ_self, ← List.getD_eq_getElem?_getD]
    -- `dict_out[it - j + m]` lies in `hi = dict_out[it+1 .. n]`
    have e2 : sumFrom (fun j => (((a.take (it + 1) ++ hi).toArray.getD (it - j + m) 0 : ℕ) : ℤ)
          * ((d.toArray.getD j 0 : ℕ) : ℤ)) (m + it - n) (min (it + 1) m - (m + it - n))
        = sumFrom (fun j => (hi.getD (m - 1 - j) 0 : ℤ) * (d.getD j 0 : ℤ)) (m + it - n)
          (min (it + 1) m - (m + it - n)) := by
      rw [sumFrom_sub_eq_sum_Ico, sumFrom_sub_eq_sum_Ico]
      refine Finset.sum_congr rfl fun j hj => ?_
      obtain ⟨hj1, hj2⟩ := Nat.lt_min.mp (Finset.mem_Ico.mp hj).2
      have hidx : it - j + m = it + 1 + (m - 1 - j) := by
        rw [Nat.sub_sub, ← Nat.add_sub_assoc (Nat.add_comm 1 j ▸ hj2), Nat.add_right_comm, Nat.add_comm 1 j,
          Nat.add_sub_add_right, Nat.sub_add_comm (Nat.le_of_lt_succ hj1)]
      rw [toArray_getD, toArray_getD, hidx,
        getD_append_right _ _ _ (htake.le.trans (Nat.le_add_right _ _)), htake, Nat.add_sub_cancel_left]
    have e3 (c : ℕ) : (a.take (it + 1) ++ hi).set it c = a.take it ++ c :: hi := by
      have hl : (a.take it).length = it := List.length_take_of_le hit.le
      rw [List.take_succ_eq_append_getElem hit, List.append_assoc, List.set_append_right _ _ hl.le, hl,
        Nat.sub_self, List.singleton_append, List.set_cons_zero]
    simp only [divLoop, divLoopL]
    rw [e1, e2, List.setIfInBounds_toArray, e3]
    refine ih _ ?_
    rw [List.length_cons, Nat.add_right_comm]; exact hlen

/-- The inner loop computes a coefficient of a product: with `m = k0 + N + 1` the entries
`hi[m-1-j]`, `j ≤ N`, are those of `hi.drop k0` in reverse, and below `lb = m - hi.length` the index is
past the end of `hi`. -/
theorem sumFrom_eq_coeff_mul (hi d : List ℕ) (m k0 N : ℕ) (hm : k0 + N + 1 = m) :
    ((sumFrom (fun j => (hi.getD (m - 1 - j) 0 : ℤ) * (d.getD j 0 : ℤ)) (m - hi.length)
        (N + 1 - (m - hi.length)) : ℤ) : ZMod p)
      = (toPoly p (hi.drop k0) * toPoly p d).coeff N := by
  subst hm
  have hidx : ∀ j, j < N + 1 → k0 + N + 1 - 1 - j = k0 + (N - j) := fun j hj => by
    rw [Nat.add_sub_cancel, Nat.add_sub_assoc (Nat.le_of_lt_succ hj)]
  rw [sumFrom_sub_eq_sum_Ico, Int.cast_sum, mul_comm (toPoly p (hi.drop k0)), coeff_mul,
    Finset.Nat.sum_antidiagonal_eq_sum_range_succ fun i j => (toPoly p d).coeff i * (toPoly p (hi.drop k0)).coeff j]
  refine (Finset.sum_congr rfl fun j hj => ?_).trans (Finset.sum_subset (fun j hj =>
    Finset.mem_range.mpr (Finset.mem_Ico.mp hj).2) fun j hj hj' => ?_)
  · rw [coeff_toPoly, coeff_toPoly, getD_drop, ← hidx j (Finset.mem_Ico.mp hj).2, Int.cast_mul,
      Int.cast_natCast, Int.cast_natCast, mul_comm]
  · -- terms below the loop's lower bound vanish: their index is past the end of `hi`
    have hj1 := Finset.mem_range.mp hj
    have hj2 : j + hi.length < k0 + N + 1 := Nat.lt_sub_iff_add_lt.mp
      (Nat.lt_of_not_le fun h => hj' (Finset.mem_Ico.mpr ⟨h, hj1⟩))
    rw [coeff_toPoly (hi.drop k0), getD_drop, ← hidx j hj1, getD_of_le _ _ (Nat.le_sub_of_add_le
      (Nat.le_sub_of_add_le (Nat.add_comm j _ ▸ hj2))), Nat.cast_zero, mul_zero]

theorem coeff_sub_C_mul_eq_zero {R : Type*} [Ring R] {E T : R[X]} {c : R} {i : ℕ}
    (hE : ∀ k, i < k → E.coeff k = 0) (hT : ∀ k, i < k → T.coeff k = 0)
    (hc : c * T.coeff i = E.coeff i) : ∀ k, i ≤ k → (E - C c * T).coeff k = 0 := by
  intro k hk
  rw [coeff_sub, coeff_C_mul]
  rcases hk.eq_or_lt with rfl | h
  · rw [hc, sub_self]
  · rw [hE k h, hT k h, mul_zero, sub_zero]

section loop
-- explicit arguments of the lemmas below, in this order, as far as a statement mentions them
variable (a d : List ℕ) (inv n m : ℕ)

/-- What is left of `a` when `hi = dict_out[it1 .. n]` is read as quotient coefficients (positions
`≥ m`) and remainder coefficients (positions `< m`). The loop clears its coefficients from the top. -/
noncomputable def resid (p : ℕ) (a d : List ℕ) (m it1 : ℕ) (hi : List ℕ) : (ZMod p)[X] :=
  toPoly p a - X ^ (it1 - m) * (toPoly p (hi.drop (m - it1)) * toPoly p d)
    - X ^ it1 * toPoly p (hi.take (m - it1))

theorem resid_cons {it : ℕ} (c : ℕ) (hi : List ℕ) :
    resid p a d m it (c :: hi) = resid p a d m (it + 1) hi
      - C (c : ZMod p) * if m ≤ it then X ^ (it - m) * toPoly p d else X ^ it := by
  unfold resid
  split_ifs with h
  · rw [Nat.sub_eq_zero_of_le h, Nat.sub_eq_zero_of_le (Nat.le_succ_of_le h), List.drop_zero,
      List.drop_zero, List.take_zero, List.take_zero, toPoly_nil, toPoly_cons, Nat.succ_sub h, pow_succ]
    ring
  · have him := Nat.lt_of_not_le h
    have e : m - it = m - (it + 1) + 1 := (Nat.succ_pred_eq_of_pos (Nat.sub_pos_of_lt him)).symm
    rw [Nat.sub_eq_zero_of_le him.le, Nat.sub_eq_zero_of_le him, e, List.drop_succ_cons,
      List.take_succ_cons, toPoly_cons, pow_succ]
    ring

/-- The loop's `a[it] - s` is coefficient `it` of the residual, in both kinds of step: with
`N = min it (m - 1)` the inner sum is coefficient `N` of `toPoly (hi.drop (m - (it + 1))) * D`. -/
theorem coeff_resid_succ (hi : List ℕ) {it : ℕ} (hlen : hi.length + (it + 1) = n + 1) :
    (resid p a d m (it + 1) hi).coeff it
      = (((a.getD it 0 : ℤ) - sumFrom (fun j => (hi.getD (m - 1 - j) 0 : ℤ) * (d.getD j 0 : ℤ))
          (m + it - n) (min (it + 1) m - (m + it - n)) : ℤ) : ZMod p) := by
  obtain rfl : hi.length + it = n := Nat.succ.inj hlen
  unfold resid
  -- first the loop's lower bound `m + it - n` becomes `m - hi.length`, the form `sumFrom_eq_coeff_mul` has
  rw [Nat.add_sub_add_right, coeff_sub, coeff_sub, coeff_toPoly, coeff_X_pow_mul', coeff_X_pow_mul',
    if_neg (Nat.not_succ_le_self it), sub_zero, Int.cast_sub, Int.cast_natCast]
  cases m with
  -- `m = 0` (constant divisor, reached through `divmod` only): the inner loop is empty
  | zero => rw [Nat.sub_zero, if_neg (Nat.not_succ_le_self it), Nat.min_zero, Nat.zero_sub (0 - hi.length),
      sumFrom, Int.cast_zero]
  | succ m' =>
    -- the shift `X ^ (it - m')` turns coefficient `it` into coefficient `it - (it - m') = min it m'` of the product
    rw [Nat.add_sub_add_right it, Nat.add_sub_add_right m', if_pos (Nat.sub_le it m'),
      Nat.sub_sub_eq_min, Nat.add_min_add_right, sumFrom_eq_coeff_mul hi d (m' + 1) (m' - it) (min it m')
        (by rw [Nat.min_comm, Nat.sub_add_min_cancel])]

theorem divLoopL_resid (hp : 0 < p) (hd : d.length = m + 1)
    (hinv : ((inv : ℕ) : ZMod p) * ((d.getD m 0 : ℕ) : ZMod p) = 1) :
    ∀ (it1 : ℕ) (hi : List ℕ), hi.length + it1 = n + 1 → Red p hi →
      (∀ k, it1 ≤ k → (resid p a d m it1 hi).coeff k = 0) →
        Red p (divLoopL p a d inv n m it1 hi) ∧
        ∀ k, (resid p a d m 0 (divLoopL p a d inv n m it1 hi)).coeff k = 0 := by
  intro it1
  induction it1 with
  | zero => intro hi hlen hred hE; exact ⟨hred, fun k => hE k (Nat.zero_le k)⟩
  | succ it ih =>
    intro hi hlen hred hE
    simp only [divLoopL]
    refine ih _ (by rw [List.length_cons, Nat.add_right_comm]; exact hlen) (fun x hx => ?_) ?_
    · rcases List.mem_cons.mp hx with rfl | hx
      · exact intEmod_lt hp _
      · exact hred x hx
    · rw [resid_cons]
      refine coeff_sub_C_mul_eq_zero hE (fun k hk => ?_) ?_
      · split_ifs with hmi
        · rw [coeff_X_pow_mul']
          split_ifs
          · rw [coeff_toPoly, getD_of_le _ _ (hd ▸ Nat.le_sub_of_add_le (by
              rw [Nat.add_right_comm, Nat.add_sub_cancel' hmi]; exact hk)), Nat.cast_zero]
          · rfl
        · rw [coeff_X_pow, if_neg hk.ne']
      · rw [intEmod_cast hp, coeff_resid_succ a d n m hi hlen]
        split_ifs with hmi
        · -- `T = X^(it-m) * D` has `T[it] = d[m]`, and `c = (a[it] - s) * inv`
          rw [coeff_X_pow_mul', if_pos (Nat.sub_le _ _), Nat.sub_sub_self hmi, coeff_toPoly,
            Int.cast_mul, Int.cast_natCast, mul_assoc, hinv, mul_one]
        · rw [coeff_X_pow, if_pos rfl, mul_one]

theorem divLoopL_spec (hp : 0 < p) (hd : d.length = m + 1) (ha : a.length = n + 1)
    (hinv : ((inv : ℕ) : ZMod p) * ((d.getD m 0 : ℕ) : ZMod p) = 1) :
    Red p (divLoopL p a d inv n m (n + 1) []) ∧
      toPoly p a = toPoly p ((divLoopL p a d inv n m (n + 1) []).drop m) * toPoly p d
        + toPoly p ((divLoopL p a d inv n m (n + 1) []).take m) := by
  obtain ⟨hr, hE⟩ := divLoopL_resid a d inv n m hp hd hinv (n + 1) [] (Nat.zero_add _)
    (fun _ h => absurd h List.not_mem_nil) (fun k hk => by
      unfold resid
      rw [List.drop_nil, List.take_nil, toPoly_nil, zero_mul, mul_zero, mul_zero, sub_zero, sub_zero,
        coeff_toPoly, getD_of_le _ _ (ha ▸ hk), Nat.cast_zero])
  refine ⟨hr, ?_⟩
  have h0 := Polynomial.ext fun k => (hE k).trans (coeff_zero k).symm
  unfold resid at h0
  rw [Nat.zero_sub, Nat.sub_zero, pow_zero, one_mul, one_mul, sub_sub, sub_eq_zero] at h0
  exact h0

end loop

end SymVerif.C23
