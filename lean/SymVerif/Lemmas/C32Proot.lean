import Mathlib.FieldTheory.Finite.Basic
import Mathlib.RingTheory.IntegralDomain
import SymVerif.Lemmas.C32Order
/-! `primitive_root` for a prime modulus `p ≥ 5`: the test applied to a candidate `g` holds iff `g` has order
`p - 1` (`isRootCheck_iff`), and a primitive root exists, so the upward search from 2 returns the least one
(`findRootLoop_primitive`, `primitiveRoot_prime`). -/
namespace SymVerif.C32
open SymVerif.NTheory

theorem perfectPowerP_prime {p : Nat} (hp : p.Prime) : perfectPowerP p = false := by
  unfold perfectPowerP
  have h1 : ¬ p ≤ 1 := by have := hp.two_le; omega
  simp only [h1, decide_false, Bool.false_or]
  rw [Bool.eq_false_iff]
  intro h
  rw [List.any_eq_true] at h
  obtain ⟨i, _, hi⟩ := h
  unfold rootExact at hi
  have heq : (iroot p (i + 2)) ^ (i + 2) = p := by simpa using hi
  exact Nat.Prime.not_prime_pow (Nat.le_add_left 2 i) (by rwa [heq])

theorem primePower_prime {p : Nat} (hp : p.Prime) : primePower p = some (p, 1) := by
  unfold primePower
  have h1 : ¬ p < 2 := by have := hp.two_le; omega
  simp only [h1, if_false]
  have : primePowerLoop (2 * p.log2 + 4) p 1 2 = (p, 1) := by
    show primePowerLoop (2 * p.log2 + 3 + 1) p 1 2 = (p, 1)   -- a successor, so that one step unfolds
    unfold primePowerLoop
    simp [perfectPowerP_prime hp]
  rw [this]
  simp [(isPrime_iff p).mpr hp]

section
variable {p : Nat} (hp : p.Prime)
include hp

theorem isRootCheck_iff (g : Nat) (hg1 : 1 ≤ g) (hgp : g < p) (primes : List Nat)
    (hprimes : ∀ q, q ∈ primes ↔ q.Prime ∧ q ∣ p - 1) :
    isRootCheck p g primes = true ↔ orderOf ((g : ZMod p)) = p - 1 := by
  haveI : Fact p.Prime := ⟨hp⟩
  have hg0 : (g : ZMod p) ≠ 0 := by
    intro h
    rw [ZMod.natCast_eq_zero_iff] at h
    have := Nat.le_of_dvd (by omega) h; omega
  have hall : ∀ (l : List Nat), isRootCheck p g l = true ↔ ∀ q ∈ l, ((g : ZMod p)) ^ ((p - 1) / q) ≠ 1 := by
    intro l
    induction l with
    | nil => exact ⟨fun _ q hq => absurd hq List.not_mem_nil, fun _ => rfl⟩
    | cons q qs ih =>
      rw [isRootCheck, List.forall_mem_cons, ← ih, Ne, ← powModNat_eq_one_iff hp.two_le]
      by_cases hc : (powModNat g ((p - 1) / q) p == 1) = true
      · rw [if_pos hc]
        exact iff_of_false Bool.false_ne_true fun h => h.1 hc
      · rw [if_neg hc]
        exact (and_iff_right hc).symm
  rw [hall]
  have hp1 : 0 < p - 1 := by have := hp.two_le; omega
  constructor
  · intro h
    apply orderOf_eq_of_pow_and_pow_div_prime hp1 (ZMod.pow_card_sub_one_eq_one hg0)
    intro q hq hd
    exact h q ((hprimes q).mpr ⟨hq, hd⟩)
  · intro h q hq
    obtain ⟨hqp, hqd⟩ := (hprimes q).mp hq
    apply pow_ne_one_of_lt_orderOf
    · exact (Nat.div_pos (Nat.le_of_dvd hp1 hqd) hqp.pos).ne'
    · rw [h]; exact Nat.div_lt_self hp1 hqp.one_lt

omit hp in
/-- the search loop returns the least `g' ≥ g` passing the check, if one exists below `p` -/
theorem findRootLoop_spec (primes : List Nat) : ∀ (f g g0 : Nat), g ≤ g0 → g0 < p → g0 < g + f →
    isRootCheck p g0 primes = true →
    let r := findRootLoop p primes f g
    g ≤ r ∧ r ≤ g0 ∧ isRootCheck p r primes = true ∧ ∀ j, g ≤ j → j < r → isRootCheck p j primes = false := by
  intro f
  induction f with
  | zero => intro g g0 hle _ hfuel _; omega
  | succ f ih =>
    intro g g0 hle hub hfuel hchk
    unfold findRootLoop
    have hgp : g < p := by omega
    simp only [hgp, if_true]
    by_cases hc : isRootCheck p g primes = true
    · simp only [hc, if_true]
      exact ⟨le_refl _, hle, trivial, fun j hj1 hj2 => by omega⟩
    · simp only [hc, if_false, Bool.false_eq_true]
      have hne : g ≠ g0 := fun h => hc (h ▸ hchk)
      obtain ⟨hlo, hhi, hpass, hmin⟩ := ih (g + 1) g0 (by omega) hub (by omega) hchk
      refine ⟨by omega, hhi, hpass, ?_⟩
      intro j hj1 hj2
      rcases Nat.eq_or_lt_of_le hj1 with heq | hlt
      · subst heq; simpa using hc
      · exact hmin j (by omega) hj2

/-- a primitive root modulo the prime `p ≥ 3` exists among `2..p-1` -/
theorem exists_primitive_root (hp3 : 3 ≤ p) : ∃ g0 : Nat, 2 ≤ g0 ∧ g0 < p ∧ orderOf ((g0 : ZMod p)) = p - 1 := by
  haveI : Fact p.Prime := ⟨hp⟩
  obtain ⟨u, hu⟩ := IsCyclic.exists_generator (α := (ZMod p)ˣ)
  have hord : orderOf u = p - 1 := by
    rw [orderOf_eq_card_of_forall_mem_zpowers hu, Nat.card_eq_fintype_card, ZMod.card_units]
  have hval : orderOf ((u : ZMod p)) = p - 1 := by rw [orderOf_units]; exact hord
  refine ⟨(u : ZMod p).val, ?_, ZMod.val_lt _, ?_⟩
  · by_contra hlt
    have hv : (u : ZMod p).val = 0 ∨ (u : ZMod p).val = 1 := by omega
    rcases hv with h0 | h1
    · have : (u : ZMod p) = 0 := (ZMod.val_eq_zero _).mp h0
      exact (Units.ne_zero u) this
    · have : (u : ZMod p) = 1 := by
        have := ZMod.natCast_zmod_val (u : ZMod p)
        rw [h1] at this; simpa using this.symm
      rw [this, orderOf_one] at hval
      omega
  · rw [ZMod.natCast_zmod_val]; exact hval

theorem findRootLoop_primitive (hp3 : 3 ≤ p) (primes : List Nat)
    (hprimes : ∀ q, q ∈ primes ↔ q.Prime ∧ q ∣ p - 1) :
    2 ≤ findRootLoop p primes p 2 ∧ findRootLoop p primes p 2 < p ∧
      orderOf ((findRootLoop p primes p 2 : Nat) : ZMod p) = p - 1 ∧
      ∀ j, 2 ≤ j → j < findRootLoop p primes p 2 → orderOf ((j : ZMod p)) ≠ p - 1 := by
  obtain ⟨g0, hg02, hg0p, hg0o⟩ := exists_primitive_root hp hp3
  have hcheck0 := (isRootCheck_iff hp g0 (by omega) hg0p primes hprimes).mpr hg0o
  obtain ⟨r1, r2, r3, r4⟩ := findRootLoop_spec primes p 2 g0 hg02 hg0p (by omega) hcheck0
  have hlt : findRootLoop p primes p 2 < p := lt_of_le_of_lt r2 hg0p
  refine ⟨r1, hlt, (isRootCheck_iff hp _ (by omega) hlt primes hprimes).mp r3, fun j hj1 hj2 hjo => ?_⟩
  have := r4 j hj1 hj2
  rw [(isRootCheck_iff hp j (by omega) (by omega) primes hprimes).mpr hjo] at this
  cases this

theorem primitiveRoot_prime (h5 : 5 ≤ p) {ps : List Nat} (hl : primeFactors ((p : Int) - 1) = .ok ps) :
    primitiveRoot (p : Int) = .ok (some (findRootLoop p ps p 2)) := by
  have hodd : p % 2 = 1 := hp.eq_two_or_odd.resolve_left (by omega)
  have c1 : ¬ p ≤ 1 := by omega
  have c2 : ¬ p < 5 := by omega
  have c3 : (p % 2 == 0) = false := by rw [hodd]; rfl
  unfold primitiveRoot
  simp only [Int.natAbs_natCast, c1, c2, c3, Bool.false_and, if_false, Bool.false_eq_true, primePower_prime hp]
  simp only [primitiveRootPE, hl, bind, Except.bind, pure, Except.pure]
  -- with `e = 1` and `even = false` both adjustments of `g` (`+ p`, `+ p^e`) are switched off
  simp

end

end SymVerif.C32
