import SymVerif.Lemmas.SortStrs
import SymVerif.Model.CApi
import Mathlib.Data.Finset.Card
/-!
# C42 — the C container state machines refine vectors, finite sets and finite maps

* `CVecBasic` / `CVectorInt`: the model state *is* a `List`; the theorems are the index laws of a vector for
  every state and every argument, plus "an out-of-range call changes nothing".
* `CSetBasic`: the duplicate-free list model refines `Finset String` (Mathlib) for all op sequences:
  same flags, same cardinalities, and `all` enumerates exactly the abstract set without repetition.
* `CMapBasicBasic`: the association-list model refines `SpecMap`: a function `m : String → Option String`, through which
  `get` is specified, and a finite set `dom`, through whose cardinality `size` is.  Nothing in `SpecMap` says that `dom`
  is the support of `m`, and no theorem here does; `Repr` ties each of the two to the list separately (the keys are `dom`,
  `assocGet` is `m`).
-/
namespace SymVerif.C42Containers
open SymVerif SymVerif.CApi

theorem vec_push_size (s : List Elem) (e : Elem) :
    (Vec.step (Vec.step s (.push e)).1 .size).2 = .ok (toString (s.length + 1)) := by
  simp [Vec.step]

theorem vec_push_get_last (s : List Elem) (e : Elem) :
    (Vec.step (Vec.step s (.push e)).1 (.get s.length)).2 = .ok ("0:" ++ e) := by
  simp [Vec.step]

/-- result of `get`, as a function of the list lookup -/
def getRes : Option Elem → Except Err String
  | some e => .ok ("0:" ++ e)
  | none => .error .oob

theorem vec_get_snd (s : List Elem) (n : Nat) : (Vec.step s (.get n)).2 = getRes s[n]? := by
  simp only [Vec.step]
  cases s[n]? <;> rfl

theorem vec_push_get_old (s : List Elem) (e : Elem) (n : Nat) (h : n < s.length) :
    (Vec.step (Vec.step s (.push e)).1 (.get n)).2 = (Vec.step s (.get n)).2 := by
  rw [vec_get_snd, vec_get_snd]
  simp [Vec.step, List.getElem?_append_left h]

theorem vec_set_get (s : List Elem) (e : Elem) (n m : Nat) (h : n < s.length) :
    (Vec.step (Vec.step s (.set n e)).1 (.get m)).2
      = if m = n then .ok ("0:" ++ e) else (Vec.step s (.get m)).2 := by
  rw [vec_get_snd, vec_get_snd]
  by_cases hm : m = n
  · subst hm
    simp [Vec.step, h, getRes]
  · simp [Vec.step, h, hm, List.getElem?_set_ne (Ne.symm hm)]

theorem vec_erase_get (s : List Elem) (n m : Nat) (h : n < s.length) :
    (Vec.step (Vec.step s (.erase n)).1 (.get m)).2
      = if m < n then (Vec.step s (.get m)).2 else (Vec.step s (.get (m + 1))).2 := by
  rw [vec_get_snd, vec_get_snd, vec_get_snd]
  simp only [Vec.step, h, if_true, List.getElem?_eraseIdx]
  split <;> rfl

theorem vec_oob_unchanged (s : List Elem) (e : Elem) (n : Nat) (h : s.length ≤ n) :
    Vec.step s (.get n) = (s, .error .oob) ∧ Vec.step s (.set n e) = (s, .error .oob)
      ∧ Vec.step s (.erase n) = (s, .error .oob) := by
  have h' : ¬ n < s.length := Nat.not_lt.mpr h
  refine ⟨?_, ?_, ?_⟩
  · simp [Vec.step, List.getElem?_eq_none h]
  · simp [Vec.step, h']
  · simp [Vec.step, h']

theorem vec_run_length (ops : List VecOp) : ∀ s : List Elem, (Vec.run s ops).2.length = ops.length := by
  induction ops with
  | nil => intro s; simp [Vec.run]
  | cons op ops ih => intro s; simp [Vec.run, ih]

example : (Vec.run [] [.push "a", .push "b", .erase 0, .get 0, .get 1, .size]).2.map showRes
    = ["0", "0", "0", "0:b", "E:oob", "1"] := by decide

theorem vint_push_get_last (s : List Int) (v : Int) :
    (VInt.step (VInt.step s (.push v)).1 (.get s.length)).2 = .ok (toString v) := by
  simp [VInt.step]

theorem vint_push_get_old (s : List Int) (v : Int) (n : Nat) (h : n < s.length) :
    (VInt.step (VInt.step s (.push v)).1 (.get n)).2 = (VInt.step s (.get n)).2 := by
  have h1 : (s ++ [v])[n]? = s[n]? := List.getElem?_append_left h
  simp only [VInt.step, h1]
  cases s[n]? <;> rfl

inductive SpecRes where
  | flag (b : Bool) | num (n : Nat) | elems (S : Finset String)

def specStep (S : Finset String) : SetOp → Finset String × SpecRes
  | .insert e => (insert e S, .flag (decide (e ∉ S)))
  | .find e => (S, .flag (decide (e ∈ S)))
  | .erase e => (S.erase e, .flag (decide (e ∈ S)))
  | .size => (S, .num S.card)
  | .all => (S, .elems S)

def specRun (S : Finset String) : List SetOp → Finset String × List SpecRes
  | [] => (S, [])
  | op :: ops =>
    let r := specStep S op
    let rs := specRun r.1 ops
    (rs.1, r.2 :: rs.2)

def Rel : SetRes → SpecRes → Prop
  | .flag b, .flag b' => b = b'
  | .num n, .num n' => n = n'
  | .elems l, .elems S => l.Nodup ∧ l.toFinset = S
  | _, _ => False

theorem set_step_refines (s : List Elem) (hs : s.Nodup) (op : SetOp) :
    (SetM.stepR s op).1.Nodup
      ∧ (SetM.stepR s op).1.toFinset = (specStep s.toFinset op).1
      ∧ Rel (SetM.stepR s op).2 (specStep s.toFinset op).2 := by
  cases op with
  | insert e => by_cases h : e ∈ s <;> simp [SetM.stepR, specStep, Rel, h, hs]
  | find e => simp [SetM.stepR, specStep, Rel, hs]
  | erase e =>
    -- without duplicates, erasing the first occurrence removes `e`: `List.Nodup.mem_erase_iff`
    by_cases h : e ∈ s <;>
      simp [SetM.stepR, specStep, Rel, h, hs, hs.erase e, Finset.ext_iff, List.Nodup.mem_erase_iff hs]
  | size => simp [SetM.stepR, specStep, Rel, hs, List.toFinset_card_of_nodup hs]
  | all =>
    exact ⟨hs, rfl, (sortStrs_perm s).nodup_iff.mpr hs, List.toFinset_eq_of_perm _ _ (sortStrs_perm s)⟩

/-- **set refinement, all op sequences**: starting from related states, the list model and the `Finset`
specification stay related and produce related results call by call. -/
theorem set_run_refines (ops : List SetOp) :
    ∀ s : List Elem, s.Nodup →
      (SetM.runR s ops).1.Nodup
        ∧ (SetM.runR s ops).1.toFinset = (specRun s.toFinset ops).1
        ∧ List.Forall₂ Rel (SetM.runR s ops).2 (specRun s.toFinset ops).2 := by
  induction ops with
  | nil => intro s hs; simp [SetM.runR, specRun, hs]
  | cons op ops ih =>
    intro s hs
    obtain ⟨h1, h2, h3⟩ := set_step_refines s hs op
    obtain ⟨g1, g2, g3⟩ := ih (SetM.stepR s op).1 h1
    simp only [SetM.runR, specRun]
    rw [h2] at g2 g3
    exact ⟨g1, g2, List.Forall₂.cons h3 g3⟩

example : (SetM.run [] [.insert "b", .insert "a", .insert "b", .erase "c", .size, .all]).2
    = ["1", "1", "0", "0", "2", "{a b}"] := by decide

/-- `m` answers `get`, `dom.card` answers `size`; the two fields are independent -/
structure SpecMap where
  m : String → Option String
  dom : Finset String

inductive SpecMapRes where
  | unit | found (v : Option String) | num (n : Nat)

def specMapStep (S : SpecMap) : MapOp → SpecMap × SpecMapRes
  | .insert k v => (⟨fun x => if x = k then some v else S.m x, insert k S.dom⟩, .unit)
  | .get k => (S, .found (S.m k))
  | .size => (S, .num S.dom.card)

def specMapRun (S : SpecMap) : List MapOp → SpecMap × List SpecMapRes
  | [] => (S, [])
  | op :: ops =>
    let r := specMapStep S op
    let rs := specMapRun r.1 ops
    (rs.1, r.2 :: rs.2)

def MapRel : MapRes → SpecMapRes → Prop
  | .unit, .unit => True
  | .found v, .found v' => v = v'
  | .num n, .num n' => n = n'
  | _, _ => False

/-- the association list `s` represents the finite map `S` -/
def Repr (s : List (Elem × Elem)) (S : SpecMap) : Prop :=
  (s.map Prod.fst).Nodup ∧ (s.map Prod.fst).toFinset = S.dom ∧ ∀ k, assocGet k s = S.m k

theorem assocGet_assocSet (k v x : Elem) (s : List (Elem × Elem)) :
    assocGet x (assocSet k v s) = if x = k then some v else assocGet x s := by
  induction s with
  -- `assocGet`/`assocSet` test `stored == query`, the statement has `x = k`: the two `eq_comm` align the orientation
  | nil => simp only [assocSet, assocGet, beq_iff_eq, eq_comm (a := k)]
  | cons p t ih =>
    obtain ⟨a, b⟩ := p
    simp only [assocSet, assocGet, beq_iff_eq]
    by_cases hak : a = k
    · subst hak
      simp only [if_true, assocGet, beq_iff_eq, eq_comm (a := x)]
      split <;> rfl
    · simp only [hak, if_false, assocGet, beq_iff_eq, ih]
      by_cases hax : a = x
      · rw [if_pos hax, if_pos hax, if_neg (hax ▸ hak)]
      · rw [if_neg hax, if_neg hax]

theorem keys_assocSet (k v : Elem) (s : List (Elem × Elem)) :
    (assocSet k v s).map Prod.fst = if k ∈ s.map Prod.fst then s.map Prod.fst else s.map Prod.fst ++ [k] := by
  induction s with
  | nil => rfl
  | cons p t ih =>
    by_cases hak : p.1 = k
    · simp [assocSet, hak]
    · simp only [assocSet, beq_iff_eq, hak, if_false, List.map_cons, ih, List.mem_cons, Ne.symm hak, false_or]
      split <;> rfl

theorem keys_assocSet_nodup {k v : Elem} {s : List (Elem × Elem)} (h : (s.map Prod.fst).Nodup) :
    ((assocSet k v s).map Prod.fst).Nodup := by
  rw [keys_assocSet]
  split
  · exact h
  · rename_i hk
    exact List.Nodup.append h (List.nodup_singleton k) (List.disjoint_singleton.2 hk)

theorem keys_assocSet_toFinset (k v : Elem) (s : List (Elem × Elem)) :
    ((assocSet k v s).map Prod.fst).toFinset = insert k (s.map Prod.fst).toFinset := by
  rw [keys_assocSet]
  split
  · rename_i hk
    exact (Finset.insert_eq_of_mem (List.mem_toFinset.2 hk)).symm
  · rw [List.toFinset_append, List.toFinset_cons, List.toFinset_nil, Finset.union_comm]
    exact (Finset.insert_eq k _).symm

theorem map_step_refines (s : List (Elem × Elem)) (S : SpecMap) (h : Repr s S) (op : MapOp) :
    Repr (MapM.stepR s op).1 (specMapStep S op).1 ∧ MapRel (MapM.stepR s op).2 (specMapStep S op).2 := by
  obtain ⟨h1, h2, h3⟩ := h
  cases op with
  | insert k v =>
    refine ⟨⟨keys_assocSet_nodup h1, ?_, fun x => ?_⟩, trivial⟩
    · show ((assocSet k v s).map Prod.fst).toFinset = insert k S.dom
      rw [keys_assocSet_toFinset, h2]
    · show assocGet x (assocSet k v s) = if x = k then some v else S.m x
      rw [assocGet_assocSet, h3]
  | get k => exact ⟨⟨h1, h2, h3⟩, h3 k⟩
  | size =>
    refine ⟨⟨h1, h2, h3⟩, ?_⟩
    show s.length = S.dom.card
    rw [← h2, List.toFinset_card_of_nodup h1, List.length_map]

theorem map_run_refines (ops : List MapOp) :
    ∀ (s : List (Elem × Elem)) (S : SpecMap), Repr s S →
      Repr (MapM.runR s ops).1 (specMapRun S ops).1
        ∧ List.Forall₂ MapRel (MapM.runR s ops).2 (specMapRun S ops).2 := by
  induction ops with
  | nil => intro s S h; simpa [MapM.runR, specMapRun] using h
  | cons op ops ih =>
    intro s S h
    obtain ⟨h1, h2⟩ := map_step_refines s S h op
    obtain ⟨g1, g2⟩ := ih _ _ h1
    simp only [MapM.runR, specMapRun]
    exact ⟨g1, List.Forall₂.cons h2 g2⟩

theorem repr_empty : Repr [] ⟨fun _ => none, ∅⟩ := by simp [Repr, assocGet]

example : (MapM.run [] [.insert "x" "1", .insert "y" "2", .insert "x" "3", .get "x", .get "z", .size]).2
    = ["-", "-", "-", "1:3", "0", "2"] := by decide

end SymVerif.C42Containers
