import SymVerif.Lemmas.C26Sem
/-!
Value preservation of `transpose` and `conjugate_matrix`, and general congruence lemmas for
entrywise sums and products of lists of matrices.
-/
namespace SymVerif.MatExpr
open MExpr

namespace GQ
@[simp] theorem conj_re (a : GQ) : a.conj.re = a.re := rfl
@[simp] theorem conj_im (a : GQ) : a.conj.im = -a.im := rfl
@[simp] theorem conj_zero : (0 : GQ).conj = 0 := by ext <;> simp
@[simp] theorem conj_one : (1 : GQ).conj = 1 := by ext <;> simp
theorem conj_add (a b : GQ) : (a + b).conj = a.conj + b.conj := GQ.ext' rfl (neg_add _ _)
theorem conj_mul (a b : GQ) : (a * b).conj = a.conj * b.conj := by ext <;> simp <;> ring
theorem conj_listSum (l : List GQ) : l.sum.conj = (l.map conj).sum := by
  induction l with
  | nil => simp
  | cons a t ih => simp [conj_add, ih]
theorem conj_listProd (l : List GQ) : l.prod.conj = (l.map conj).prod := by
  induction l with
  | nil => simp
  | cons a t ih => simp [conj_mul, ih]
end GQ

theorem Val.Eqv.transpose {a b : Val} (h : a ≃ b) : a.transpose ≃ b.transpose :=
  ⟨h.2.1, h.1, fun i j hi hj => h.2.2 j i hj hi⟩

theorem Val.Eqv.conj {a b : Val} (h : a ≃ b) : a.conj ≃ b.conj :=
  ⟨h.1, h.2.1, fun i j hi hj => by simp only [Val.conj]; rw [h.2.2 i j hi hj]⟩

theorem Val.conj_transpose (a : Val) : a.conj.transpose = a.transpose.conj := rfl

/-- elementwise relation between two lists of values -/
def RelL (R : Val → Val → Prop) : List Val → List Val → Prop
  | [], [] => True
  | a :: as, b :: bs => R a b ∧ RelL R as bs
  | _, _ => False

theorem relL_entries {T : Val → Val} {vs ws : List Val} (h : RelL (fun a b => b ≃ T a) vs ws)
    {R C : Nat} (hd : AllDims R C (vs.map T)) :
    AllDims R C ws ∧ ∀ i j, i < R → j < C →
      (ws.map fun w => w.f i j) = ((vs.map T).map fun w => w.f i j) := by
  induction vs generalizing ws with
  | nil =>
    cases ws with
    | nil => simp [AllDims]
    | cons b bs => simp [RelL] at h
  | cons a as ih =>
    cases ws with
    | nil => simp [RelL] at h
    | cons b bs =>
      simp only [RelL] at h
      simp only [List.map_cons, allDims_cons] at hd
      obtain ⟨hab, hrest⟩ := h
      obtain ⟨hda, hdas⟩ := hd
      obtain ⟨ih1, ih2⟩ := ih hrest hdas
      refine ⟨allDims_cons.2 ⟨⟨hab.1.trans hda.1, hab.2.1.trans hda.2⟩, ih1⟩, fun i j hi hj => ?_⟩
      simp only [List.map_cons]
      rw [ih2 i j hi hj, hab.2.2 i j (by rw [hab.1, hda.1]; exact hi) (by rw [hab.2.1, hda.2]; exact hj)]

/-- entrywise sums / products commute with an entrywise-and-shape transformation `T`; stated for a node (`add` with `sumV`,
    `had` with `hadV`) whose terms `ts` a visitor has replaced by `l`: `hok` and the first part of the conclusion are `okOf` of the nodes -/
theorem relL_fold {g : List GQ → GQ} {F : List Val → Val} (hF : IsFold g F) {T : Val → Val}
    (hTF : ∀ l : List Val, l ≠ [] → F (l.map T) ≃ T (F l))
    (hT : ∀ a b : Val, a.r = b.r → a.c = b.c → (T a).r = (T b).r ∧ (T a).c = (T b).c) {env : Env} {ts l : List MExpr}
    (hok : ts ≠ [] ∧ okAll env ts ∧ SameDims (valsOf env ts))
    (h : okAll env l ∧ RelL (fun a b => b ≃ T a) (valsOf env ts) (valsOf env l)) :
    (l ≠ [] ∧ okAll env l ∧ SameDims (valsOf env l)) ∧ F (valsOf env l) ≃ T (F (valsOf env ts)) := by
  obtain ⟨hne, _, hd⟩ := hok
  obtain ⟨hokl, h⟩ := h
  obtain ⟨v, t, hvt⟩ := List.exists_cons_of_ne_nil (valsOf_ne_nil (env := env) hne)
  rw [hvt] at h hd ⊢
  have hwne : valsOf env l ≠ [] := fun e => by rw [e] at h; exact h  -- `RelL _ (v :: t) []` is `False`
  have hd' : AllDims (T v).r (T v).c ((v :: t).map T) := by
    intro w hw
    obtain ⟨u, hu, rfl⟩ := List.mem_map.1 hw
    exact hT u v (hd u hu v (.head _)).1 (hd u hu v (.head _)).2
  obtain ⟨hw1, hw2⟩ := relL_entries h hd'
  have hmne : (v :: t).map T ≠ [] := by simp
  obtain ⟨w1, w2⟩ := hF.r_c hwne hw1
  obtain ⟨m1, m2⟩ := hF.r_c hmne hd'
  have hmid : F (valsOf env l) ≃ F ((v :: t).map T) := ⟨w1.trans m1.symm, w2.trans m2.symm, fun i j hi hj => by
    rw [hF.f hwne, hF.f hmne, hw2 i j (w1 ▸ hi) (w2 ▸ hj)]⟩
  exact ⟨⟨fun e => hwne (e ▸ rfl), hokl, sameDims_of_allDims hw1⟩, hmid.trans (hTF _ (List.cons_ne_nil v t))⟩

theorem IsFold.transpose {g : List GQ → GQ} {F : List Val → Val} (hF : IsFold g F) (l : List Val)
    (hne : l ≠ []) : F (l.map Val.transpose) ≃ (F l).transpose := by
  obtain ⟨v, t, rfl⟩ := List.exists_cons_of_ne_nil hne
  rw [List.map_cons, hF, hF]
  exact ⟨rfl, rfl, fun i j _ _ => by simp [Val.transpose, List.map_map, Function.comp_def]⟩

theorem IsFold.conj {g : List GQ → GQ} {F : List Val → Val} (hF : IsFold g F)
    (hg : ∀ l, (g l).conj = g (l.map GQ.conj)) (l : List Val) (hne : l ≠ []) :
    F (l.map Val.conj) ≃ (F l).conj := by
  obtain ⟨v, t, rfl⟩ := List.exists_cons_of_ne_nil hne
  rw [List.map_cons, hF, hF]
  exact ⟨rfl, rfl, fun i j _ _ => by simp [Val.conj, hg, List.map_map, Function.comp_def]⟩

theorem consM_ok {α : Type} {x : Except Err α} {y : Except Err (List α)} {l' : List α}
    (h : (do let e' ← x; let t' ← y; pure (e' :: t')) = .ok l') : ∃ a' t', x = .ok a' ∧ y = .ok t' ∧ l' = a' :: t' := by
  obtain ⟨a', ha, t', ht, h⟩ := by simpa only [bind_ok] using h
  exact ⟨a', t', ha, ht, (Except.ok.inj h).symm⟩

theorem relL_cons {R : Val → Val → Prop} {env : Env} {a a' : MExpr} {t t' : List MExpr}
    (h1 : okOf env a' ∧ R (valOf env a) (valOf env a')) (h2 : okAll env t' ∧ RelL R (valsOf env t) (valsOf env t')) :
    okAll env (a' :: t') ∧ RelL R (valsOf env (a :: t)) (valsOf env (a' :: t')) :=
  ⟨⟨h1.1, h2.1⟩, h1.2, h2.2⟩

theorem transposeList_length : ∀ (l l' : List MExpr), transposeList l = .ok l' → l.length = l'.length
  | [], l', h => by simp [transposeList] at h; simp [← h]
  | a :: t, l', h => by
    obtain ⟨a', t', _, ht, rfl⟩ := consM_ok (by simpa only [transposeList] using h)
    simp [transposeList_length t t' ht]

mutual
  theorem transpose_value_aux (env : Env) : ∀ (e r : MExpr), transposeM e = .ok r → okOf env e →
      okOf env r ∧ valOf env r ≃ (valOf env e).transpose
    | ident n, r, h, _ => by
      cases h
      refine ⟨trivial, rfl, rfl, fun i j _ _ => ?_⟩
      simp [valOf, Val.transpose, eq_comm]
    | zero a b, r, h, _ => by
      cases h
      exact ⟨trivial, rfl, rfl, fun i j _ _ => rfl⟩
    | diag d, r, h, _ => by
      cases h
      refine ⟨trivial, rfl, rfl, fun i j _ _ => ?_⟩
      simp only [valOf, Val.transpose]
      by_cases hij : i = j
      · subst hij; simp
      · simp [hij, Ne.symm hij]
    | dense a b v, r, h, hok => by
      simp only [transposeM] at h
      split at h
      · have := mkDense_ok h; subst this
        refine ⟨by simp [okOf, length_mkFlat], rfl, rfl, fun i j hi hj => ?_⟩
        simp only [valOf, Val.transpose] at hi hj ⊢
        exact ent_mkFlat _ hi hj
      · simp at h
    | transpose a, r, h, hok => by
      cases h
      exact ⟨hok, rfl, rfl, fun i j _ _ => rfl⟩
    | add ts, r, h, hok => by
      simp only [transposeM, bind_ok] at h
      obtain ⟨l, hl, hr⟩ := h
      cases mkAdd_ok hr
      exact relL_fold sumV_isFold sumV_isFold.transpose (fun _ _ h1 h2 => ⟨h2, h1⟩) hok (transpose_list_aux env ts l hl hok.2.1)
    | had fs, r, h, hok => by
      simp only [transposeM, bind_ok] at h
      obtain ⟨l, hl, hr⟩ := h
      cases mkHad_ok hr
      exact relL_fold hadV_isFold hadV_isFold.transpose (fun _ _ h1 h2 => ⟨h2, h1⟩) hok (transpose_list_aux env fs l hl hok.2.1)
    | sym _, r, h, hok | mul _ _, r, h, hok | conj _, r, h, hok => by
      simp only [transposeM] at h
      have := mkTranspose_ok h; subst this
      exact ⟨hok, Val.Eqv.refl _⟩
  theorem transpose_list_aux (env : Env) : ∀ (l l' : List MExpr), transposeList l = .ok l' →
      okAll env l → okAll env l' ∧
        RelL (fun a b => b ≃ a.transpose) (valsOf env l) (valsOf env l')
    | [], l', h, _ => by
      simp [transposeList] at h; subst h
      simp [okAll, valsOf, RelL]
    | a :: t, l', h, hok => by
      obtain ⟨a', t', ha, ht, rfl⟩ := consM_ok (by simpa only [transposeList] using h)
      exact relL_cons (transpose_value_aux env a a' ha hok.1) (transpose_list_aux env t t' ht hok.2)
end

theorem getD_map_conj (l : List GQ) (k : Nat) : (l.map GQ.conj).getD k 0 = (l.getD k 0).conj := by
  simp only [List.getD_eq_getElem?_getD, List.getElem?_map]
  cases l[k]? <;> simp

mutual
  theorem conj_value_aux (env : Env) : ∀ (e r : MExpr), conjugateM e = .ok r → okOf env e →
      okOf env r ∧ valOf env r ≃ (valOf env e).conj
    | ident n, r, h, _ => by
      cases h
      refine ⟨trivial, rfl, rfl, fun i j _ _ => ?_⟩
      simp only [valOf, Val.conj]; split <;> simp
    | zero a b, r, h, _ => by
      cases h
      exact ⟨trivial, rfl, rfl, fun i j _ _ => by simp [valOf, Val.conj]⟩
    | diag d, r, h, _ => by
      simp only [conjugateM] at h
      have := mkDiag_ok h; subst this
      refine ⟨trivial, by simp [valOf, Val.conj], by simp [valOf, Val.conj], fun i j _ _ => ?_⟩
      simp only [valOf, Val.conj]
      split
      · exact getD_map_conj d i
      · simp
    | dense a b v, r, h, hok => by
      simp only [conjugateM] at h
      have := mkDense_ok h; subst this
      refine ⟨by simpa [okOf] using hok, rfl, rfl, fun i j _ _ => ?_⟩
      simp only [valOf, Val.conj, ent]
      exact getD_map_conj v _
    | conj a, r, h, hok => by
      cases h
      refine ⟨hok, rfl, rfl, fun i j _ _ => ?_⟩
      simp only [valOf, Val.conj]
      ext <;> simp
    | transpose a, r, h, hok => by
      simp only [conjugateM, bind_ok] at h
      obtain ⟨c, hc, hr⟩ := h
      obtain ⟨h1, h2⟩ := conj_value_aux env a c hc hok
      obtain ⟨h3, h4⟩ := transpose_value_aux env c r hr h1
      exact ⟨h3, Val.conj_transpose _ ▸ h4.trans h2.transpose⟩
    | add ts, r, h, hok => by
      simp only [conjugateM, bind_ok] at h
      obtain ⟨l, hl, hr⟩ := h
      cases mkAdd_ok hr
      exact relL_fold sumV_isFold (sumV_isFold.conj GQ.conj_listSum) (fun _ _ h1 h2 => ⟨h1, h2⟩) hok (conj_list_aux env ts l hl hok.2.1)
    | had fs, r, h, hok => by
      simp only [conjugateM, bind_ok] at h
      obtain ⟨l, hl, hr⟩ := h
      cases mkHad_ok hr
      exact relL_fold hadV_isFold (hadV_isFold.conj GQ.conj_listProd) (fun _ _ h1 h2 => ⟨h1, h2⟩) hok (conj_list_aux env fs l hl hok.2.1)
    | sym _, r, h, hok | mul _ _, r, h, hok => by
      simp only [conjugateM] at h
      have := mkConj_ok h; subst this
      exact ⟨hok, Val.Eqv.refl _⟩
  theorem conj_list_aux (env : Env) : ∀ (l l' : List MExpr), conjugateList l = .ok l' →
      okAll env l → okAll env l' ∧
        RelL (fun a b => b ≃ a.conj) (valsOf env l) (valsOf env l')
    | [], l', h, _ => by
      simp [conjugateList] at h; subst h
      simp [okAll, valsOf, RelL]
    | a :: t, l', h, hok => by
      obtain ⟨a', t', ha, ht, rfl⟩ := consM_ok (by simpa only [conjugateList] using h)
      exact relL_cons (conj_value_aux env a a' ha hok.1) (conj_list_aux env t t' ht hok.2)
end

end SymVerif.MatExpr
