import Mathlib.Tactic.Ring
import Mathlib.Tactic.LinearCombination
import Mathlib.Tactic.NormNum
import Mathlib.Algebra.CharZero.Defs
import Mathlib.Algebra.Field.Basic
/-!
C30 — the discriminant-0 branches of `solve_poly_cubic` (double root + simple root, triple root) as identities in a field
of characteristic 0; nothing of the model is used here.
-/
namespace SymVerif.C30

variable {K : Type*} [Field K] [CharZero K]

/-- Δ = 0, Δ₀ = 0 (then Δ₁ = 0): the triple root -b/3 -/
theorem cubic_triple_root (b c d x : K) (h0 : b ^ 2 - 3 * c = 0)
    (h1 : 2 * b ^ 3 - 9 * b * c + 27 * d = 0) :
    x ^ 3 + b * x ^ 2 + c * x + d = 0 ↔ x = -b / 3 := by
  have hid : x ^ 3 + b * x ^ 2 + c * x + d = (x + b / 3) ^ 3 := by
    linear_combination (-(x / 3) - b / 9) * h0 + (1 / 27 : K) * h1
  rw [hid, pow_eq_zero_iff (by norm_num)]
  constructor
  · intro h; linear_combination h
  · intro h; rw [h]; ring

/-- with `D = Δ₀`, `E = Δ₁` and `u = Δ₁/(6Δ₀)`: discriminant 0 (`4D³ = E²`) makes `Δ₀ = 9u²` -/
theorem disc_zero_param (D E u : K) (hD : D ≠ 0) (hR : 4 * D ^ 3 - E ^ 2 = 0) (hu : u * (6 * D) = E) :
    D = 9 * u ^ 2 := by
  have h : 4 * D ^ 2 * (D - 9 * u ^ 2) = 0 := by linear_combination hR - (E + u * (6 * D)) * hu
  rcases mul_eq_zero.1 h with h | h
  · rcases mul_eq_zero.1 h with h4 | hd
    · exact absurd h4 (by norm_num)
    · exact absurd (pow_eq_zero_iff two_ne_zero |>.1 hd) hD
  · linear_combination h

/-- Δ = 0, Δ₀ ≠ 0: the double root (9d - bc)/(2Δ₀) and the simple root (4bc - 9d - b³)/Δ₀ -/
theorem cubic_double_root (b c d x : K) (hD0 : b ^ 2 - 3 * c ≠ 0)
    (hR : 4 * (b ^ 2 - 3 * c) ^ 3 - (2 * b ^ 3 - 9 * b * c + 27 * d) ^ 2 = 0) :
    x ^ 3 + b * x ^ 2 + c * x + d = 0 ↔
      x = (9 * d - b * c) / (2 * (b ^ 2 - 3 * c)) ∨ x = (4 * b * c - (d * 9 + b ^ 3)) / (b ^ 2 - 3 * c) := by
  -- the second root is spelled as `r3` in `solvePolyCubic` (`d * 9`), so that `cubic_exact_sound_complete` closes by `simp only`
  -- with u = Δ₁/(6Δ₀) and y = x + b/3 the cubic is y³ - 3u²y + 2u³ = (y - u)²(y + 2u); `u` is taken as `u * (6Δ₀) = Δ₁`, so that
  -- the later steps are multiples of `hu`, without a division
  obtain ⟨u, hu⟩ : ∃ u, u * (6 * (b ^ 2 - 3 * c)) = 2 * b ^ 3 - 9 * b * c + 27 * d :=
    ⟨_, div_mul_cancel₀ _ (mul_ne_zero (by norm_num) hD0)⟩
  have hD := disc_zero_param _ _ u hD0 hR hu
  have hE : 2 * b ^ 3 - 9 * b * c + 27 * d = 54 * u ^ 3 := by rw [← hu, hD]; ring
  have hid : x ^ 3 + b * x ^ 2 + c * x + d = (x + b / 3 - u) * ((x + b / 3 - u) * (x + b / 3 - -2 * u)) := by
    linear_combination (-(x + b / 3) / 3) * hD + (1 / 27 : K) * hE
  have hr1 : (9 * d - b * c) / (2 * (b ^ 2 - 3 * c)) = u - b / 3 := by
    rw [div_eq_iff (mul_ne_zero (by norm_num) hD0)]; linear_combination (-1 / 3 : K) * hu
  have hr2 : (4 * b * c - (d * 9 + b ^ 3)) / (b ^ 2 - 3 * c) = -2 * u - b / 3 := by
    rw [div_eq_iff hD0]; linear_combination (1 / 3 : K) * hu
  have hroot : ∀ v : K, x + b / 3 - v = 0 ↔ x = v - b / 3 := fun v => sub_eq_zero.trans eq_sub_iff_add_eq.symm
  rw [hid, hr1, hr2, mul_eq_zero, mul_eq_zero, hroot, hroot]
  exact or_self_left

end SymVerif.C30
