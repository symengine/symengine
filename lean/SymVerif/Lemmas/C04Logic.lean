/-
C04, logical and / or: `and_or` (Model/Logic.lean, the model of property C28) only depends on the
*set* of its arguments (`andOr_congr` of Lemmas/C28Collect.lean: the first loop returns the sorted list of
the contributions of the arguments, and sorted lists are determined by their members), and a nested
call of the same connective contributes exactly what the flat call collects.
-/
import SymVerif.Lemmas.C28CanonOps

namespace SymVerif.C04L
open SymVerif.Logic SymVerif.Logic.B SymVerif.C28

theorem andOr_perm_aux (o : Bool) {s₁ s₂ : List B} (hp : s₁.Perm s₂) : andOr o s₁ = andOr o s₂ :=
  andOr_congr o fun _ => hp.mem_iff

theorem collect_append (o : Bool) : ∀ (s₁ s₂ args : List B),
    collect o (s₁ ++ s₂) args = (collect o s₁ args).bind (collect o s₂)
  | [], s₂, args => rfl
  | a :: s₁, s₂, args => by
    -- both sides stop at the absorbing constant and otherwise go on with the same accumulator
    cases a with
    | tt => cases o; exacts [collect_append _ s₁ s₂ _, rfl]
    | ff => cases o; exacts [rfl, collect_append _ s₁ s₂ _]
    | _ => cases o <;> exact collect_append _ s₁ s₂ _

theorem insAll_sorted {l : List B} (h : Sorted l) : insAll l [] = l :=
  sorted_ext _ _ (sorted_insAll l [] sorted_nil) h fun _ => mem_insAll_nil

theorem hasCompl_mono {l r : List B} (h : ∀ x ∈ l, x ∈ r) (hc : hasCompl l = true) : hasCompl r = true := by
  simp only [hasCompl, List.any_eq_true, decide_eq_true_eq] at hc ⊢
  obtain ⟨a, ha, hn⟩ := hc
  exact ⟨a, h a ha, h _ hn⟩

/-- the first loop, met with the result `finishAO o a₁` of a nested call, puts back the arguments `a₁` that call
    had collected -/
theorem collect_finishAO (o : Bool) {a₁ : List B} (hinv : Inv (sameKind o) a₁) (s₂ : List B) :
    collect o (finishAO o a₁ :: s₂) [] = collect o s₂ a₁ := by
  match a₁, hinv with
  | [], _ => cases o <;> rfl
  | [a], hinv =>
    have hk : sameKind o a = false := (hinv.arg a List.mem_cons_self).other
    have hcst : C28.isConst a = false := (hinv.arg a List.mem_cons_self).nonconst
    show collect o (a :: s₂) [] = collect o s₂ [a]
    -- `rfl`: `a` is inserted, `ins a [] = [a]`; the constants die on `hcst`, the node of the same kind on `hk`
    cases a <;> cases o <;> first | rfl | contradiction
  | a :: b :: t, hinv =>
    have := insAll_sorted hinv.sorted
    cases o <;> simp only [finishAO, collect, Bool.false_eq_true, if_false, if_true, this]

/-- `and(and(s₁), s₂…) = and(s₁ ++ s₂)`, same for `or`: the result of a nested call of the same
connective contributes exactly the arguments the flat call collects from `s₁` -/
theorem andOr_flatten_aux (o : Bool) (s₁ s₂ : List B) (h₁ : ∀ a ∈ s₁, wf a = true) :
    andOr o (andOr o s₁ :: s₂) = andOr o (s₁ ++ s₂) := by
  rw [andOr_eq o (andOr o s₁ :: s₂), andOr_eq o (s₁ ++ s₂), collect_append, andOr_eq o s₁]
  have habs : collect o (const o :: s₂) [] = none := by cases o <;> rfl
  cases hc1 : collect o s₁ [] with
  | none => rw [habs]; rfl
  | some a₁ =>
    have hinv := collect_inv o h₁ hc1
    simp only [Option.bind_some]
    by_cases hcomp : hasCompl a₁ = true
    · rw [if_pos hcomp, habs]
      -- the flat call still holds the complementary pair of `a₁`
      cases hc2 : collect o s₂ a₁ with
      | none => rfl
      | some r =>
        obtain ⟨-, -, hmem⟩ := (collect_spec o s₂ a₁).2 r hc2
        exact (if_pos (hasCompl_mono (fun x hx => (hmem x).2 (.inl hx)) hcomp)).symm
    · rw [if_neg hcomp, collect_finishAO o hinv]

theorem andOr_flatten2_aux (o : Bool) (a b c : B) (ha : wf a = true) (hb : wf b = true) :
    andOr o [andOr o [a, b], c] = andOr o [a, b, c] := by
  have := andOr_flatten_aux o [a, b] [c] (by intro x hx; simp at hx; rcases hx with rfl | rfl <;> assumption)
  simpa using this

end SymVerif.C04L
