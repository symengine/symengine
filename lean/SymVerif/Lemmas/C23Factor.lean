import SymVerif.Lemmas.C23Pow

/-!
C23: what `lcm_spec` and the soundness of the executable certificate checks
(`checkMulBack`, `irreducibleBrute`) in `Props/C23.lean` rest on.
-/
namespace SymVerif.C23
open Polynomial SymVerif.GF

variable {p : ℕ}

theorem lcm_of_ne_nil {a o : Poly} (ha0 : a ≠ []) (ho0 : o ≠ []) :
    GF.lcm p a o = (monic p (quo p (mul p o a) (GF.gcd p a o))).2 := by
  unfold GF.lcm
  rw [if_neg (mt List.isEmpty_iff.mp ha0), if_neg (mt List.isEmpty_iff.mp ho0)]

theorem mem_allVecs (k : ℕ) (l : Poly) : l ∈ allVecs p k ↔ l.length = k ∧ ∀ x ∈ l, x < p := by
  induction k generalizing l with
  | zero =>
    simp only [allVecs, List.mem_singleton]
    constructor
    · rintro rfl; simp
    · rintro ⟨h, _⟩; exact List.length_eq_zero_iff.mp h
  | succ k ih =>
    simp only [allVecs, List.mem_flatMap, List.mem_map, List.mem_range]
    constructor
    · rintro ⟨t, ht, c, hc, rfl⟩
      obtain ⟨h1, h2⟩ := (ih t).mp ht
      refine ⟨by simp [h1], ?_⟩
      intro x hx
      rcases List.mem_cons.mp hx with rfl | hx
      · exact hc
      · exact h2 x hx
    · rintro ⟨h1, h2⟩
      match l, h1 with
      | c :: t, h1 =>
        refine ⟨t, (ih t).mpr ⟨by simpa using h1, fun x hx => h2 x (List.mem_cons_of_mem _ hx)⟩, c, h2 c (by simp), rfl⟩

variable [Fact p.Prime]

theorem dvd_of_mul_eq_mul {R : Type*} [CommMonoidWithZero R] [IsCancelMulZero R] {G A O Q : R} (hG : G ≠ 0)
    (hA : G ∣ A) (hO : G ∣ O) (hQ : Q * G = O * A) : A ∣ Q ∧ O ∣ Q :=
  ⟨(mul_dvd_mul_iff_right hG).mp (by rw [hQ, mul_comm]; exact mul_dvd_mul_right hO A),
    (mul_dvd_mul_iff_right hG).mp (hQ ▸ mul_dvd_mul_left O hA)⟩

theorem foldl_mul_pow (fs : List (Poly × ℕ)) (acc : Poly) (hfs : ∀ x ∈ fs, WF p x.1) :
    toPoly p (fs.foldl (fun acc x => mul p acc (GF.pow p x.1 x.2)) acc)
      = toPoly p acc * (fs.map (fun x => toPoly p x.1 ^ x.2)).prod := by
  induction fs generalizing acc with
  | nil => simp
  | cons x fs ih =>
    simp only [List.foldl_cons, List.map_cons, List.prod_cons]
    rw [ih _ (fun y hy => hfs y (List.mem_cons_of_mem _ hy)), mul_spec,
      (pow_wf_spec (hfs x List.mem_cons_self) x.2).1, mul_assoc]

theorem monic_of_last_one {g : Poly} (hw : WF p g) (h1 : g.getLast? = some 1) : (toPoly p g).Monic := by
  rw [Monic, leadingCoeff_toPoly hw, List.getLastD_eq_getLast?, h1]
  simp

theorem exists_toPoly_eq_of_monic {q : (ZMod p)[X]} (hq : q.Monic) :
    ∃ l : Poly, l.length = q.natDegree ∧ Red p l ∧ toPoly p (l ++ [1]) = q := by
  have : NeZero p := ⟨(Fact.out : p.Prime).ne_zero⟩
  have hlen : ((List.range q.natDegree).map fun i => (q.coeff i).val).length = q.natDegree := by
    rw [List.length_map, List.length_range]
  refine ⟨_, hlen, fun x hx => ?_, ?_⟩
  · obtain ⟨i, _, rfl⟩ := List.mem_map.mp hx
    exact ZMod.val_lt _
  · ext i
    rw [coeff_toPoly]
    rcases Nat.lt_trichotomy i q.natDegree with hi | hi | hi
    · rw [getD_append_left _ _ _ (hlen.symm ▸ hi), List.getD_eq_getElem?_getD, List.getElem?_map,
        List.getElem?_range hi, Option.map_some, Option.getD_some, ZMod.natCast_zmod_val]
    · rw [getD_append_right _ _ _ (hlen.trans hi.symm).le, hlen, hi, Nat.sub_self, List.getD_cons_zero,
        Nat.cast_one]
      exact hq.coeff_natDegree.symm
    · rw [getD_of_le _ _ (by rw [List.length_append, hlen]; exact hi), coeff_eq_zero_of_natDegree_lt hi,
        Nat.cast_zero]

end SymVerif.C23
