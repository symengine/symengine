import SymVerif.Lemmas.C26Sem
/-!
Soundness of `size`: every known component is the concrete dimension of the value.
-/
namespace SymVerif.MatExpr
open MExpr

def SizeOK (env : Env) (e : MExpr) : Prop :=
  (∀ a, (size e).1 = some a → a.eval env = (valOf env e).r) ∧
  (∀ b, (size e).2 = some b → b.eval env = (valOf env e).c)

theorem sizeList_eq_map (l : List MExpr) : sizeList l = l.map size := by
  induction l with
  | nil => simp [sizeList]
  | cons e t ih => simp [sizeList, ih]

/-- rows and columns alike: `π` is `Prod.fst` or `Prod.snd` -/
theorem allSameLoop_spec (π : Size → Option Dim) (hπ : π = Prod.fst ∨ π = Prod.snd) (l : List Size)
    (r c : Option Dim) : π (allSameLoop l r c) = π (r, c) ∨ ∃ s ∈ l, π s = π (allSameLoop l r c) := by
  induction l generalizing r c with
  | nil => exact .inl rfl
  | cons s t ih =>
    obtain ⟨nr, nc⟩ := s
    simp only [allSameLoop]
    generalize hr' : (if optIsInt nr || (r.isNone && nr.isSome) then nr else r) = r'
    generalize hc' : (if optIsInt nc || (c.isNone && nc.isSome) then nc else c) = c'
    have hx : π (r', c') = π (r, c) ∨ π (r', c') = π (nr, nc) := by
      rcases hπ with rfl | rfl
      · rw [← hr']; split <;> simp
      · rw [← hc']; split <;> simp
    have keep : ∀ {y : Option Dim}, (y = π (r', c') ∨ ∃ s ∈ t, π s = y) →
        y = π (r, c) ∨ ∃ s ∈ (nr, nc) :: t, π s = y := by
      rintro y (rfl | ⟨s, hs, h⟩)
      · exact hx.imp_right fun h => ⟨_, .head _, h.symm⟩
      · exact .inr ⟨s, .tail _ hs, h⟩
    split
    · exact keep (.inl rfl)
    · exact keep (ih r' c')

theorem allSameSize_spec (π : Size → Option Dim) (hπ : π = Prod.fst ∨ π = Prod.snd) (l : List Size) :
    π (allSameSize l) = none ∨ ∃ s ∈ l, π s = π (allSameSize l) := by
  cases l with
  | nil => rcases hπ with rfl | rfl <;> exact .inl rfl
  | cons s t =>
    obtain ⟨r, c⟩ := s
    simp only [allSameSize]
    split
    · exact .inr ⟨(r, c), .head _, rfl⟩
    · rcases allSameLoop_spec π hπ t r c with h | ⟨s, hs, h⟩
      · exact .inr ⟨(r, c), .head _, h.symm⟩
      · exact .inr ⟨s, .tail _ hs, h⟩

/-- `ρ` (`Val.r` or `Val.c`) is the dimension of a value that the component `π` of a size speaks of -/
theorem sizeOK_comp (env : Env) (π : Size → Option Dim) (hπ : π = Prod.fst ∨ π = Prod.snd) (ρ : Val → Nat)
    (l : List MExpr) (V : Val) (hV : ∀ t ∈ l, ρ V = ρ (valOf env t))
    (hS : ∀ t ∈ l, ∀ a, π (size t) = some a → a.eval env = ρ (valOf env t)) :
    ∀ a, π (allSameSize (sizeList l)) = some a → a.eval env = ρ V := by
  intro a ha
  rw [sizeList_eq_map] at ha
  rcases allSameSize_spec π hπ (l.map size) with h | ⟨s, hs, h⟩
  · rw [h] at ha; cases ha
  · obtain ⟨t, ht, rfl⟩ := List.mem_map.1 hs
    rw [hV t ht]
    exact hS t ht a (h.trans ha)

theorem sizeOK_same (env : Env) (l : List MExpr) (V : Val)
    (hV : ∀ t ∈ l, V.r = (valOf env t).r ∧ V.c = (valOf env t).c)
    (hS : ∀ t ∈ l, SizeOK env t) :
    (∀ a, (allSameSize (sizeList l)).1 = some a → a.eval env = V.r) ∧
    (∀ b, (allSameSize (sizeList l)).2 = some b → b.eval env = V.c) :=
  ⟨sizeOK_comp env Prod.fst (.inl rfl) Val.r l V (fun t ht => (hV t ht).1) fun t ht => (hS t ht).1,
    sizeOK_comp env Prod.snd (.inr rfl) Val.c l V (fun t ht => (hV t ht).2) fun t ht => (hS t ht).2⟩

theorem mulOuterSize_sound (env : Env) (fs : List MExpr) (hS : ∀ e ∈ fs, SizeOK env e) :
    (∀ a, (mulOuterSize fs).1 = some a → a.eval env = (prodV (valsOf env fs)).r) ∧
    (∀ b, (mulOuterSize fs).2 = some b → b.eval env = (prodV (valsOf env fs)).c) := by
  simp only [mulOuterSize]
  rw [sizeList_eq_map, valsOf_eq_map]
  cases fs with
  | nil => exact ⟨nofun, nofun⟩
  | cons f rest =>
    constructor
    · intro a ha
      simp only [List.map_cons, List.head?_cons, Option.bind_some] at ha
      rw [List.map_cons, prodV_r]
      exact (hS f (by simp)).1 a ha
    · intro b hb
      rw [prodV_c _ (by simp)]
      rw [List.getLast?_eq_some_getLast (by simp)] at hb
      simp only [Option.bind_some] at hb
      rw [List.getLast_map (by simp)] at hb ⊢
      exact (hS _ (List.getLast_mem _)).2 b hb

mutual
  theorem size_sound_aux (env : Env) : ∀ e, okOf env e → SizeOK env e
    | ident _, _ | zero _ _, _ | diag _, _ | dense _ _ _, _ =>
      ⟨fun _ h => by cases h; rfl, fun _ h => by cases h; rfl⟩
    | sym _, _ | transpose _, _ | conj _, _ => ⟨nofun, nofun⟩
    | add ts, h => by
      simp only [SizeOK, size, valOf]
      exact sizeOK_same env ts _ (sumV_isFold.dims h.1 h.2.2) (size_sound_list env ts h.2.1)
    | had fs, h => by
      simp only [SizeOK, size, valOf]
      exact sizeOK_same env fs _ (hadV_isFold.dims h.1 h.2.2) (size_sound_list env fs h.2.1)
    | mul s fs, h => mulOuterSize_sound env fs (size_sound_list env fs h.2.1)
  theorem size_sound_list (env : Env) : ∀ l, okAll env l → ∀ e ∈ l, SizeOK env e
    | [], _ => by simp
    | a :: t, h => List.forall_mem_cons.2 ⟨size_sound_aux env a h.1, size_sound_list env t h.2⟩
end

end SymVerif.MatExpr
