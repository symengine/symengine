/-
C10: the table of outer derivatives `Diff.fprime` is correct on the real fragment (`fprime_correct`), and with
it the chain rule for every function node (`fn_correct`).
-/
import SymVerif.Lemmas.C10Real

namespace SymVerif
namespace C10
open SymVerif Expr Diff

/-- derivative of `1/g` in the shape of the `Csc`, `Sech`, `Csch` entries: `-(g'/g · 1/g)` -/
theorem hasDerivAt_inv_rule {g : ℝ → ℝ} {g' v : ℝ} (hg : HasDerivAt g g' v) (h0 : g v ≠ 0) :
    HasDerivAt (fun t => (g t)⁻¹) (((-1 : ℤ) : ℝ) * (g' / g v * (g v)⁻¹)) v := by
  refine (hg.inv h0).congr_deriv ?_
  field_simp
  push_cast
  ring

section Fn
variable (ρ : String → ℝ)

theorem evalR_appRule {x h : String} {a f : Expr} (da : Expr) (hf : fprime h a = some f) :
    evalR ρ (appRule x h [a] [da]) = evalR ρ f * evalR ρ da := by
  unfold appRule
  split
  · -- Abs: no entry in `fprime`
    cases hf
  · -- ATan2
    next h1 _ => cases h1
  · -- Beta
    next h1 _ => cases h1
  · -- one argument
    next _ h1 h2 => cases h1; cases h2; rw [hf]; exact evalR_prod2 ρ f da
  · -- two arguments
    next _ _ h1 _ => cases h1
  · next h1 _ _ _ _ => exact (h1 a da rfl rfl).elim

/-- **the table of outer derivatives**: inside the domain `FnOk`, the expression `fprime h a` evaluates to the
derivative of the real function `fnR h` at the value of `a` -/
theorem fprime_correct (h : String) (a : Expr) (hok : FnOk h (evalR ρ a)) :
    ∃ f, fprime h a = some f ∧ HasDerivAt (fnR h) (evalR ρ f) (evalR ρ a) := by
  unfold FnOk at hok
  -- the split on `h` in `FnOk` also decides the `match h` of the differentiated function `fnR h`
  unfold fnR
  split at hok
  · -- Sin
    exact ⟨_, by rw [fprime], by rw [evalR_fn1, fnR]; exact Real.hasDerivAt_sin _⟩
  · -- Cos
    exact ⟨_, by rw [fprime], by rw [evalR_mul1, evalR_fn1, fnR, Int.cast_neg, Int.cast_one, neg_one_mul]; exact Real.hasDerivAt_cos _⟩
  · -- Tan
    refine ⟨_, by rw [fprime], (Real.hasDerivAt_tan hok).congr_deriv ?_⟩
    rw [evalR_onePlus, evalR_sq, evalR_fn1, fnR, ← Real.inv_one_add_tan_sq hok, one_div, inv_inv]
  · -- Cot
    refine ⟨_, by rw [fprime], ((Real.hasDerivAt_cos _).div (Real.hasDerivAt_sin _) hok).congr_deriv ?_⟩
    rw [evalR_mul1, evalR_onePlus, evalR_sq, evalR_fn1, fnR]
    field_simp
    push_cast
    ring
  · -- Sec
    refine ⟨_, by rw [fprime], ((Real.hasDerivAt_cos _).inv hok).congr_deriv ?_⟩
    rw [evalR_prod2, evalR_fn1, evalR_fn1, fnR, fnR, Real.tan_eq_sin_div_cos]
    field_simp
  · -- Csc
    refine ⟨_, by rw [fprime], ?_⟩
    rw [evalR_mul2, evalR_fn1, evalR_fn1, fnR, fnR]
    exact hasDerivAt_inv_rule (Real.hasDerivAt_sin _) hok
  · -- ASin
    have hpos : 0 < 1 - evalR ρ a ^ 2 := sub_pos.2 ((sq_lt_one_iff_abs_lt_one _).2 (abs_lt.2 hok))
    refine ⟨_, by rw [fprime], (Real.hasDerivAt_arcsin hok.1.ne' hok.2.ne).congr_deriv ?_⟩
    rw [evalR_pow_halfNeg, evalR_oneMinus, evalR_sq, rpow_neg_half hpos, one_div]
  · -- ACos
    have hpos : 0 < 1 - evalR ρ a ^ 2 := sub_pos.2 ((sq_lt_one_iff_abs_lt_one _).2 (abs_lt.2 hok))
    refine ⟨_, by rw [fprime], (Real.hasDerivAt_arccos hok.1.ne' hok.2.ne).congr_deriv ?_⟩
    simp only [evalR, evalFacsR, evalR_oneMinus, evalR_sq, halfNeg, powV_rat, mul_one, Int.cast_neg, Int.cast_one,
      Nat.cast_ofNat, neg_one_mul]
    rw [rpow_neg_half hpos, one_div]
  · -- ATan
    refine ⟨_, by rw [fprime], (Real.hasDerivAt_arctan _).congr_deriv ?_⟩
    simp only [evalR, powV_int, evalR_onePlus, evalR_sq, zpow_neg_one, one_div]
  · -- Sinh
    exact ⟨_, by rw [fprime], by rw [evalR_fn1, fnR]; exact Real.hasDerivAt_sinh _⟩
  · -- Cosh
    exact ⟨_, by rw [fprime], by rw [evalR_fn1, fnR]; exact Real.hasDerivAt_cosh _⟩
  · -- Tanh
    have hcp := (Real.cosh_pos (evalR ρ a)).ne'
    refine ⟨_, by rw [fprime], ((Real.hasDerivAt_sinh _).div (Real.hasDerivAt_cosh _) hcp).congr_deriv ?_⟩
    rw [evalR_oneMinus, evalR_sq, evalR_fn1, fnR]
    field_simp
  · -- Coth
    refine ⟨_, by rw [fprime], ((Real.hasDerivAt_cosh _).div (Real.hasDerivAt_sinh _) hok).congr_deriv ?_⟩
    simp only [evalR, evalFacsR, powV_int, evalR_fn1, fnR, mul_one]
    field_simp
    push_cast
    linear_combination -Real.cosh_sq_sub_sinh_sq (evalR ρ a)
  · -- Sech
    refine ⟨_, by rw [fprime], ?_⟩
    rw [evalR_mul2, evalR_fn1, evalR_fn1, fnR, fnR, mul_comm (Real.cosh _)⁻¹]
    exact hasDerivAt_inv_rule (Real.hasDerivAt_cosh _) (Real.cosh_pos _).ne'
  · -- Csch
    refine ⟨_, by rw [fprime], ?_⟩
    rw [evalR_mul2, evalR_fn1, evalR_fn1, fnR, fnR]
    exact hasDerivAt_inv_rule (Real.hasDerivAt_sinh _) hok
  · -- ASinh
    have hpos : 0 < 1 + evalR ρ a ^ 2 := add_pos_of_pos_of_nonneg one_pos (sq_nonneg _)
    refine ⟨_, by rw [fprime], (Real.hasDerivAt_arsinh _).congr_deriv ?_⟩
    rw [evalR_pow_halfNeg, evalR_onePlus, evalR_sq, rpow_neg_half hpos]
  · -- ACosh
    have hpos : 0 < evalR ρ a ^ 2 - 1 := sub_pos.2 (one_lt_pow₀ hok two_ne_zero)
    refine ⟨_, by rw [fprime], (Real.hasDerivAt_arcosh hok).congr_deriv ?_⟩
    rw [evalR_pow_halfNeg, evalR_minusOnePlus, evalR_sq, rpow_neg_half hpos]
  · -- Log
    refine ⟨_, by rw [fprime], (Real.hasDerivAt_log hok).congr_deriv ?_⟩
    simp only [evalR, powV_int, zpow_neg_one]
  · exact hok.elim

end Fn

theorem fn_correct (x : String) (ρ : String → ℝ) (h : String) (a : Expr)
    (ha : HasDerivAt (fun t => evalR (upd ρ x t) a) (evalR ρ (diffE x a)) (ρ x))
    (hok : FnOk h (evalR ρ a)) :
    HasDerivAt (fun t => fnR h (evalR (upd ρ x t) a)) (evalR ρ (appRule x h [a] [diffE x a])) (ρ x) := by
  obtain ⟨f, hf, hd⟩ := fprime_correct ρ h a hok
  rw [evalR_appRule ρ _ hf]
  exact HasDerivAt.comp (ρ x) (h₂ := fnR h) (by rw [upd_self]; exact hd) ha

end C10
end SymVerif
