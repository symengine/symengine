/-
C16 — the vocabulary of the layout proof: the translated precedence table as numerals, `W n t` (well-parenthesised at
level `n` or above), and what the printer's tree combinators (`negLeft`, `mulLeft`, `stripNeg`, `chainMul`, `chainAdd`)
do to it.
-/
import SymVerif.Lemmas.C16Parse

namespace SymVerif.StrP
open Expr

-- The translated table as numerals, re-checked whenever it is regenerated.  All bare numbers below are entries of it.
-- Levels (`level`, `lv`): 4 … 9 the relationals (4 `==` lowest), 10 `+ -`, 11 `* /`, 12 prefix minus, 14 `**`, 17 atoms.
-- Binding powers are doubled levels (`lbp o = 2·level o`): 20 = `+`, 22 = `*` (also their `rbp`, being `%left`),
-- 23 = `ubp` = 2·12 − 1, 27 = `rbp **` (`%right`), 34 = `edgeAtom` = 2·17.

@[simp] theorem level_add : level .add = 10 := by decide +kernel
@[simp] theorem level_sub : level .sub = 10 := by decide +kernel
@[simp] theorem level_mul : level .mul = 11 := by decide +kernel
@[simp] theorem level_div : level .div = 11 := by decide +kernel
@[simp] theorem level_pow : level .pow = 14 := by decide +kernel
@[simp] theorem level_eq : level .eq = 4 := by decide +kernel
@[simp] theorem level_gt : level .gt = 5 := by decide +kernel
@[simp] theorem level_lt : level .lt = 6 := by decide +kernel
@[simp] theorem level_ne : level .ne = 7 := by decide +kernel
@[simp] theorem level_le : level .le = 8 := by decide +kernel
@[simp] theorem level_ge : level .ge = 9 := by decide +kernel
@[simp] theorem levelNeg_val : levelNeg = 12 := by decide +kernel
@[simp] theorem levelAtom_val : levelAtom = 17 := by decide +kernel
@[simp] theorem ubp_val : ubp = 23 := by simp [ubp]
@[simp] theorem edgeAtom_val : edgeAtom = 34 := by simp [edgeAtom]

@[simp] theorem rbp_add : rbp .add = 20 := by decide +kernel
@[simp] theorem rbp_sub : rbp .sub = 20 := by decide +kernel
@[simp] theorem rbp_mul : rbp .mul = 22 := by decide +kernel
@[simp] theorem rbp_div : rbp .div = 22 := by decide +kernel
@[simp] theorem rbp_pow : rbp .pow = 27 := by decide +kernel
@[simp] theorem rbp_eq : rbp .eq = 8 := by decide +kernel
@[simp] theorem rbp_gt : rbp .gt = 10 := by decide +kernel
@[simp] theorem rbp_lt : rbp .lt = 12 := by decide +kernel
@[simp] theorem rbp_ne : rbp .ne = 14 := by decide +kernel
@[simp] theorem rbp_le : rbp .le = 16 := by decide +kernel
@[simp] theorem rbp_ge' : rbp .ge = 18 := by decide +kernel

/-- lower bound on the syntactic level that the C++ precedence class promises: the level of `==` (4), `+` (10), `*` (11),
`**` (14), an atom (17) for the classes Relational, Add, Mul, Pow, Atom -/
def need : Nat → Nat
  | 0 => 4
  | 1 => 10
  | 2 => 11
  | 3 => 14
  | _ => 17

theorem need_mono {a b : Nat} (h : a ≤ b) : need a ≤ need b := by
  induction h with
  | refl => exact Nat.le_refl _
  | @step m _ ih =>
    have : need m ≤ need (m + 1) := by rcases m with _ | _ | _ | _ | m <;> simp [need]
    exact Nat.le_trans ih this

theorem need_le_17 (a : Nat) : need a ≤ 17 := by
  rcases a with _ | _ | _ | _ | _ | a <;> simp [need]

theorem rbp_low {o : BinOp} (h : level o ≤ 11) : rbp o = 2 * level o := by
  cases o <;> simp at h ⊢

/-- a root of level `n` has edge `2n` if it is `%left`; a `**` or prefix-minus root has less than twice its level, but at
least `ubp` = 23 -/
theorem edge_ge {n : Nat} (t : PExpr) (h : n ≤ lv t) : min (2 * n) 23 ≤ edge t := by
  cases t with
  | bin o a b =>
    have low := @rbp_low o
    have := le_rbp o
    simp only [lv, edge] at h ⊢
    omega
  | _ => simp only [edge, ubp_val, edgeAtom_val]; omega

theorem lv_ge12_of_not_low (t : PExpr) (h : ∀ o a b, t = .bin o a b → ¬ level o < levelNeg) : 12 ≤ lv t := by
  cases t with
  | bin o a b => have := h o a b rfl; simp [lv] at this ⊢; omega
  | _ => simp [lv]

theorem wp_bin {o : BinOp} {a b : PExpr} :
    WP (.bin o a b) = true ↔ WP a = true ∧ WP b = true ∧ lbp o ≤ 2 * lv a ∧ lbp o ≤ edge a ∧ rbp o < 2 * lv b := by
  simp only [WP, Bool.and_eq_true, decide_eq_true_eq]
  constructor
  · rintro ⟨⟨⟨⟨h1, h2⟩, h3⟩, h4⟩, h5⟩; exact ⟨h1, h2, h3, h4, h5⟩
  · rintro ⟨h1, h2, h3, h4, h5⟩; exact ⟨⟨⟨⟨h1, h2⟩, h3⟩, h4⟩, h5⟩

theorem wp_neg {c : PExpr} : WP (.neg c) = true ↔ WP c = true ∧ ubp < 2 * lv c := by
  simp only [WP, Bool.and_eq_true, decide_eq_true_eq]

theorem wp_paren {c : PExpr} : WP (.paren c) = WP c := by simp only [WP]

/-- well-parenthesised with the root binding at level `n` or tighter -/
def W (n : Nat) (t : PExpr) : Prop := WP t = true ∧ n ≤ lv t

namespace W

theorem mono {n k : Nat} {t : PExpr} (h : W n t) (hk : k ≤ n) : W k t := ⟨h.1, Nat.le_trans hk h.2⟩

theorem bin {o : BinOp} {a b : PExpr} {n : Nat} (hn : level o = n) (ha : W n a) (hb : W (n + 1) b)
    (h11 : n ≤ 11 := by decide) : W n (.bin o a b) := by
  -- `n ≤ 11`: a `%left` operator has `lbp ≤ 22 < 23 = ubp`, so no `**` or prefix-minus edge of `a` captures it
  have e : 2 * n ≤ edge a := by have := edge_ge a ha.2; omega
  have hb2 := hb.2
  refine ⟨?_, Nat.le_of_eq hn.symm⟩
  rw [wp_bin, rbp_low (hn ▸ h11), lbp, hn]
  exact ⟨ha.1, hb.1, by have := ha.2; omega, e, by omega⟩

theorem neg {c : PExpr} (h : W 12 c) : W 12 (.neg c) :=
  ⟨wp_neg.2 ⟨h.1, by have := h.2; simp only [ubp_val]; omega⟩, by simp only [lv, levelNeg_val]; exact Nat.le_refl _⟩

theorem paren {t : PExpr} {n : Nat} (h : WP t = true) (hn : n ≤ 17 := by decide) : W n (.paren t) :=
  ⟨wp_paren ▸ h, by simpa only [lv, levelAtom_val] using hn⟩

theorem leaf_num (s : String) : W 17 (.num s) := ⟨rfl, by simp only [lv, levelAtom_val]; exact Nat.le_refl _⟩

theorem leaf_id (s : String) : W 17 (.id s) := ⟨rfl, by simp only [lv, levelAtom_val]; exact Nat.le_refl _⟩

theorem call (f : String) {args : List PExpr} (hne : args ≠ []) (hw : WPs args = true) : W 17 (.call f args) := by
  refine ⟨?_, by simp only [lv, levelAtom_val]; exact Nat.le_refl _⟩
  cases args with
  | nil => exact absurd rfl hne
  | cons a t => simpa only [WP, List.isEmpty_cons, Bool.not_false, Bool.true_and] using hw

theorem of_not_low {t : PExpr} (hn : ∀ o a b, t = .bin o a b → ¬ level o < levelNeg) (h : WP t = true) : W 12 t :=
  ⟨h, lv_ge12_of_not_low t hn⟩

end W

theorem W.bin_left {o : BinOp} {a a' b : PExpr} {k : Nat} (h : W k (.bin o a b)) (hl : level o < levelNeg)
    (ia : W (level o) a → W (level o) a') : W k (.bin o a' b) := by
  obtain ⟨ha, hb, h1, _, h3⟩ := wp_bin.1 h.1
  have hl' : level o ≤ 11 := by simp at hl; omega
  exact (W.bin rfl (ia ⟨ha, by simp [lbp] at h1; omega⟩) ⟨hb, by rw [rbp_low hl'] at h3; omega⟩ hl').mono h.2

theorem negLeft_W {t : PExpr} : ∀ {k : Nat}, W k t → k ≤ 12 → W k (negLeft t) := by
  fun_induction negLeft t with
  | case1 o a b hl ih => exact fun h _ => h.bin_left hl fun ha => ih ha (by simp at hl; omega)
  -- `fun_induction` splits "the root is not a low operator" into "a `bin`, not low" and "not a `bin`"
  | case2 o a b hl => exact fun h hk => (W.of_not_low (by rintro _ _ _ ⟨⟩; exact hl) h.1).neg.mono hk
  | case3 t hnb => exact fun h hk => (W.of_not_low (fun o a b e => (hnb o a b e).elim) h.1).neg.mono hk

theorem mulLeft_W {c t : PExpr} (hc : W 11 c) : ∀ {k : Nat}, W k t → k ≤ 11 → W k (mulLeft c t) := by
  fun_induction mulLeft c t with
  | case1 o a b hl ih => exact fun h _ => h.bin_left hl fun ha => ih ha (by simp at hl; omega)
  | case2 o a b hl => exact fun h hk => (W.bin level_mul hc (W.of_not_low (by rintro _ _ _ ⟨⟩; exact hl) h.1)).mono hk
  | case3 t hnb => exact fun h hk => (W.bin level_mul hc (W.of_not_low (fun o a b e => (hnb o a b e).elim) h.1)).mono hk

theorem stripNeg_wp : ∀ (u u' : PExpr), stripNeg u = some u' → WP u = true →
    WP u' = true ∧ lv u ≤ lv u' ∧ edge u ≤ edge u'
  | .neg c, u', hs, h => by
    simp only [stripNeg, Option.some.injEq] at hs
    subst hs
    rw [wp_neg] at h
    have hl : 12 ≤ lv c := by have := h.2; simp at this; omega
    have e1 : lv (PExpr.neg c) = 12 := by simp [lv]
    have e2 : edge (PExpr.neg c) = 23 := by simp [edge]
    have e3 := edge_ge c hl
    exact ⟨h.1, by omega, by omega⟩
  | .bin o a b, u', hs, h => by
    simp only [stripNeg, Option.map_eq_some_iff] at hs
    obtain ⟨a', ha', rfl⟩ := hs
    rw [wp_bin] at h
    obtain ⟨ha, hb, h1, h2, h3⟩ := h
    obtain ⟨iw, il, ie⟩ := stripNeg_wp a a' ha' ha
    refine ⟨?_, Nat.le_refl _, Nat.le_refl _⟩
    rw [wp_bin]
    exact ⟨iw, hb, by omega, by omega, h3⟩
  | .num s, _, hs, _ => by simp [stripNeg] at hs
  | .id s, _, hs, _ => by simp [stripNeg] at hs
  | .call f args, _, hs, _ => by simp [stripNeg] at hs
  | .paren c, _, hs, _ => by simp [stripNeg] at hs

theorem foldl_W {n : Nat} {g : PExpr → PExpr → PExpr} (hg : ∀ acc u, W n acc → W (n + 1) u → W n (g acc u)) :
    ∀ (rest : List PExpr) (t : PExpr), W n t → (∀ u ∈ rest, W (n + 1) u) → W n (rest.foldl g t)
  | [], _, h, _ => h
  | u :: rest, _, h, hr => foldl_W hg rest _ (hg _ _ h (hr u (by simp))) fun v hv => hr v (by simp [hv])

theorem chainMul_wp (l : List PExpr) (h1 : ∀ t, l.head? = some t → WP t = true ∧ 11 ≤ lv t)
    (hr : ∀ u ∈ l.tail, WP u = true ∧ 12 ≤ lv u) : WP (chainMul l) = true ∧ 11 ≤ lv (chainMul l) := by
  cases l with
  | nil => exact (W.leaf_num _).mono (by decide)
  | cons t rest => exact foldl_W (fun _ _ ha hu => W.bin level_mul ha hu) rest t (h1 t rfl) hr

theorem chainAdd_wp (l : List PExpr) (h1 : ∀ t, l.head? = some t → WP t = true ∧ 10 ≤ lv t)
    (hr : ∀ u ∈ l.tail, WP u = true ∧ 11 ≤ lv u) : WP (chainAdd l) = true ∧ 10 ≤ lv (chainAdd l) := by
  cases l with
  | nil => exact (W.leaf_id _).mono (by decide)
  | cons t rest =>
    refine foldl_W (fun acc u ha hu => ?_) rest t (h1 t rfl) hr
    -- `a + -b` is written `a - b`
    cases hs : stripNeg u with
    | none => exact W.bin level_add ha hu
    | some u' =>
      have := stripNeg_wp u u' hs hu.1
      exact W.bin level_sub ha ⟨this.1, Nat.le_trans hu.2 this.2.1⟩

theorem chainMul_all (l : List PExpr) (h : ∀ u ∈ l, W 12 u) : W 11 (chainMul l) :=
  chainMul_wp l (fun t ht => (h t (List.mem_of_mem_head? ht)).mono (by decide)) fun u hu => h u (List.mem_of_mem_tail hu)

theorem chainAdd_all (l : List PExpr) (h : ∀ u ∈ l, W 11 u) : W 10 (chainAdd l) :=
  chainAdd_wp l (fun t ht => (h t (List.mem_of_mem_head? ht)).mono (by decide)) fun u hu => h u (List.mem_of_mem_tail hu)

end SymVerif.StrP
