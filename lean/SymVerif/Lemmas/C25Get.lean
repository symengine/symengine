import SymVerif.Lemmas.C25Basic
/-!
C25 — positions as indices, for the two binary searches (`get` here, `set` in C25Set): what
`SortedOn` gives below and above a probed position, and sums of `cellOf` over an index range that
contains the column once or not at all.  `get` returns the dense entry.
-/
namespace SymVerif.C25
open SymVerif.CSR Finset

namespace SortedOn

theorem mono {j : Array Nat} {lo hi lo' hi' : Nat} (hs : SortedOn j lo hi) (h1 : lo ≤ lo')
    (h2 : hi' ≤ hi) : SortedOn j lo' hi' :=
  fun a b ha hab hb => hs a b (Nat.le_trans h1 ha) hab (Nat.lt_of_lt_of_le hb h2)

/-- `a < k + 1` is the range `Ico lo (k + 1)` of `getLoop_spec` and the window start `mid + 1` of `setSearch_spec` -/
theorem lt_below {j : Array Nat} {lo hi k c : Nat} (hs : SortedOn j lo hi) (hk : k < hi)
    (h : j[k]! < c) : ∀ a, lo ≤ a → a < k + 1 → j[a]! < c := by
  intro a h1 h2
  rcases Nat.lt_or_eq_of_le (Nat.le_of_lt_succ h2) with h3 | rfl
  · exact Nat.lt_trans (hs a k h1 h3 hk) h
  · exact h

theorem le_above {j : Array Nat} {lo hi k c : Nat} (hs : SortedOn j lo hi) (hk : lo ≤ k)
    (h : c ≤ j[k]!) : ∀ a, k ≤ a → a < hi → c ≤ j[a]! := by
  intro a h1 h2
  rcases Nat.lt_or_eq_of_le h1 with h3 | rfl
  · exact Nat.le_trans h (Nat.le_of_lt (hs k a hk h3 h2))
  · exact h

theorem lt_above {j : Array Nat} {lo hi k c : Nat} (hs : SortedOn j lo hi) (hk : lo ≤ k)
    (h : c < j[k]!) : ∀ a, k ≤ a → a < hi → c < j[a]! :=
  hs.le_above (c := c + 1) hk h

theorem ne {j : Array Nat} {lo hi a b : Nat} (hs : SortedOn j lo hi) (ha : lo ≤ a)
    (ha' : a < hi) (hb : lo ≤ b) (hb' : b < hi) (hne : a ≠ b) : j[a]! ≠ j[b]! := by
  rcases Nat.lt_or_gt_of_ne hne with h | h
  · exact Nat.ne_of_lt (hs a b ha h hb')
  · exact Nat.ne_of_gt (hs b a hb h ha')

end SortedOn

theorem sum_Ico_congr {f g : Nat → Q} {lo hi : Nat} (h : ∀ k, lo ≤ k → k < hi → f k = g k) :
    ∑ k ∈ Ico lo hi, f k = ∑ k ∈ Ico lo hi, g k :=
  Finset.sum_congr rfl (fun k hk => by
    rw [Finset.mem_Ico] at hk
    exact h k hk.1 hk.2)

theorem cellOf_hit {j : Array Nat} {x : Array Q} {c k : Nat} (h : j[k]! = c) :
    cellOf j x c k = x[k]! := if_pos h

theorem cellOf_miss {j : Array Nat} {x : Array Q} {c k : Nat} (h : j[k]! ≠ c) :
    cellOf j x c k = 0 := if_neg h

theorem sum_cell_hit {j : Array Nat} {x : Array Q} {lo hi : Nat} (hs : SortedOn j lo hi) {c k : Nat}
    (hlo : lo ≤ k) (hhi : k < hi) (hk : j[k]! = c) :
    ∑ b ∈ Ico lo hi, cellOf j x c b = x[k]! := by
  rw [Finset.sum_eq_single_of_mem k (Finset.mem_Ico.mpr ⟨hlo, hhi⟩)]
  · exact cellOf_hit hk
  · intro b hb hne
    have hb' := Finset.mem_Ico.mp hb
    exact cellOf_miss (hk ▸ hs.ne hb'.1 hb'.2 hlo hhi hne)

theorem sum_cell_miss {j : Array Nat} {x : Array Q} {lo hi c : Nat}
    (h : ∀ b, lo ≤ b → b < hi → j[b]! ≠ c) : ∑ b ∈ Ico lo hi, cellOf j x c b = 0 :=
  (sum_Ico_congr (fun b h1 h2 => cellOf_miss (h b h1 h2))).trans Finset.sum_const_zero

theorem sum_cell_below {j : Array Nat} {x : Array Q} {lo hi c : Nat}
    (h : ∀ b, lo ≤ b → b < hi → j[b]! < c) : ∑ b ∈ Ico lo hi, cellOf j x c b = 0 :=
  sum_cell_miss (fun b h1 h2 => Nat.ne_of_lt (h b h1 h2))

theorem sum_cell_above {j : Array Nat} {x : Array Q} {lo hi c : Nat}
    (h : ∀ b, lo ≤ b → b < hi → c < j[b]!) : ∑ b ∈ Ico lo hi, cellOf j x c b = 0 :=
  sum_cell_miss (fun b h1 h2 => Nat.ne_of_gt (h b h1 h2))

theorem getLoop_spec (j : Array Nat) (x : Array Q) (c : Nat) :
    ∀ fuel lo hi, hi < lo + fuel → lo ≤ hi → hi ≤ j.size → hi ≤ x.size → SortedOn j lo hi →
      getLoop j x c fuel lo hi = .ok (∑ k ∈ Ico lo hi, cellOf j x c k) := by
  intro fuel
  induction fuel with
  | zero => intro lo hi h h'; omega
  | succ f ih =>
    intro lo hi hf _ hj hx hs
    unfold getLoop
    by_cases hlt : lo < hi
    · have hk1 : lo ≤ (lo + hi) / 2 := by omega
      have hk2 : (lo + hi) / 2 < hi := by omega
      generalize (lo + hi) / 2 = k at hk1 hk2
      have hkj : k < j.size := Nat.lt_of_lt_of_le hk2 hj
      have hkx : k < x.size := Nat.lt_of_lt_of_le hk2 hx
      simp only [hlt, if_true, rd_lt hkj, ok_bind]
      by_cases hc : j[k]! = c
      · simp only [hc, if_true, rd_lt hkx]
        rw [sum_cell_hit hs hk1 hk2 hc]
      · simp only [hc, if_false]
        by_cases hl : j[k]! < c
        · simp only [hl, if_true]
          rw [ih (k + 1) hi (by omega) hk2 hj hx (hs.mono (Nat.le_succ_of_le hk1) (Nat.le_refl _)),
            ← Finset.sum_Ico_consecutive _ (Nat.le_succ_of_le hk1) hk2,
            sum_cell_below (hs.lt_below hk2 hl), zero_add]
        · simp only [hl, if_false]
          rw [ih lo k (by omega) hk1 (Nat.le_of_lt hkj) (Nat.le_of_lt hkx)
              (hs.mono (Nat.le_refl _) (Nat.le_of_lt hk2)),
            ← Finset.sum_Ico_consecutive _ hk1 (Nat.le_of_lt hk2),
            sum_cell_above (lo := k) (hs.lt_above hk1
              (Nat.lt_of_le_of_ne (Nat.le_of_not_lt hl) (Ne.symm hc))), add_zero]
    · simp only [hlt, if_false, pure_ok]
      rw [Finset.Ico_eq_empty hlt, Finset.sum_empty]

theorem getLoop_row {m : Mat} (h : CanonCSR m) {i : Nat} (hi : i < m.row) (c : Nat) :
    getLoop m.j m.x c (m.p[i + 1]! - m.p[i]! + 1) m.p[i]! m.p[i + 1]! = .ok (dense m i c) := by
  have hr := h.row_le hi
  rw [getLoop_spec m.j m.x c _ _ _ (by omega) hr.1 hr.2 (by rw [h.xsize]; exact hr.2) (h.sorted i hi)]
  rfl

theorem get_spec {m : Mat} (h : CanonCSR m) {i c : Nat} (hi : i < m.row) (hc : c < m.col) :
    CSR.get m i c = .ok (dense m i c) := by
  unfold CSR.get
  simp only [hi, hc, and_self, not_true_eq_false, if_false, (h.rd_row hi).1, (h.rd_row hi).2, ok_bind]
  by_cases he : m.p[i]! = m.p[i + 1]!
  · simp only [he, if_true, pure_ok, dense]
    rw [Finset.Ico_eq_empty (Nat.lt_irrefl _), Finset.sum_empty]
  · simp only [he, if_false, getLoop_row h hi c]

end SymVerif.C25
