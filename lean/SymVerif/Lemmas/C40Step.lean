import SymVerif.Lemmas.C40
/-! Every handle-level operation started in a state with `Inv` ends in a state with `Inv` whose heap extends the
old one (`Ext`), or stops with `badOp` (at the read of a handle slot, or in `resolve` on a member index out of range): `Good`,
`step_good`.  No memory error is among the
outcomes. -/
namespace SymVerif.RC
theorem Ext.of_getElem? {s s' : State} (hlen : s.objs.length ≤ s'.objs.length)
    (h : ∀ x, x < s.objs.length → s'.objs[x]? = s.objs[x]?) : Ext s s' :=
  ⟨hlen, fun x hx hl => (obs_congr (h x hx)).1.symm.trans hl, fun x hx _ => (obs_congr (h x hx)).2.2⟩


theorem ext_of_objs_eq {s s' : State} (h : s'.objs = s.objs) : Ext s s' :=
  .of_getElem? (by rw [h]; exact Nat.le_refl _) fun x _ => congrArg (·[x]?) h

theorem InvT.of_same_objs {s s' : State} {L L' : List Nat} (i : InvT s L) (ho : s'.objs = s.objs)
    (hc : ∀ o, s'.handles.count (some o) + L'.count o = s.handles.count (some o) + L.count o) : InvT s' L' := by
  refine ⟨?_, ?_, ?_⟩
  · intro o
    have := i.counts o
    have h2 := hc o
    unfold refs cnt parentRefs at *
    rw [ho]
    omega
  · intro o ob h hl; rw [ho] at h; exact i.pos o ob h hl
  · intro p ob h hl; rw [ho] at h; exact i.acyc p ob h hl

def optL : Option Nat → List Nat
  | none => []
  | some o => [o]

theorem count_optL (x : Option Nat) (o : Nat) : (optL x).count o = if x == some o then 1 else 0 := by
  cases x <;> simp [optL, List.count_cons]

theorem InvT.push {s : State} {L : List Nat} {x : Option Nat} (i : InvT s (optL x ++ L)) :
    InvT (pushHandle s x) L := by
  apply InvT.of_same_objs (s' := pushHandle s x) i rfl
  intro o
  have := count_optL x o
  simp only [pushHandle, List.count_append, List.count_cons, List.count_nil]
  omega

theorem InvT.setHandle {s : State} {L : List Nat} {h : Nat} {x y : Option Nat}
    (hh : s.handles[h]? = some y) (i : InvT s (optL x ++ L)) : InvT (setHandle s h x) (optL y ++ L) := by
  apply InvT.of_same_objs (s' := RC.setHandle s h x) i rfl
  intro o
  have := count_set' x (some o) hh
  have hx := count_optL x o
  have hy := count_optL y o
  simp only [RC.setHandle, List.count_append]
  omega

theorem objs_alloc_ne {s : State} {p : Nat} (cs : List Nat) (h : p ≠ s.objs.length) :
    (alloc s cs).objs[p]? = s.objs[p]? := by
  by_cases hp : p < s.objs.length
  · exact List.getElem?_append_left hp
  · rw [List.getElem?_eq_none (by simp [alloc]; omega), List.getElem?_eq_none (by omega)]

theorem objs_alloc_new (s : State) (cs : List Nat) :
    (alloc s cs).objs[s.objs.length]? = some { count := 1, children := cs, live := true } :=
  List.getElem?_concat_length

theorem cnt_oob {s : State} {o : Nat} (h : s.objs.length ≤ o) : cnt s o = 0 := by
  unfold cnt
  rw [List.getElem?_eq_none h]

theorem InvT.alloc {s : State} {L cs : List Nat} (i : InvT s (cs ++ L)) : InvT (alloc s cs) L := by
  -- nothing refers to the id the new object gets
  have hn : refs s s.objs.length + (cs.count s.objs.length + L.count s.objs.length) = 0 := by
    have := i.counts s.objs.length
    rwa [cnt_oob (Nat.le_refl _), List.count_append] at this
  refine InvT.of_objs (fun x => ?_) fun p pb h hl => ?_
  · have hx := i.counts x
    rw [List.count_append] at hx
    have hp : parentRefs (RC.alloc s cs) x = parentRefs s x + cs.count x := by
      simp [parentRefs, RC.alloc, List.sum_append]
    have hh : (RC.alloc s cs).handles.count (some x) = s.handles.count (some x) + (if s.objs.length = x then 1 else 0) := by
      simp [RC.alloc, List.count_append, List.count_cons]
    unfold refs at hx hn ⊢
    rw [hp, hh]
    by_cases e : x = s.objs.length
    · subst e
      have hc : cnt (RC.alloc s cs) s.objs.length = 1 := cnt_of_live (objs_alloc_new s cs) rfl
      rw [hc, if_pos rfl]
      omega
    · have hc : cnt (RC.alloc s cs) x = cnt s x := (obs_congr (objs_alloc_ne cs e)).2.1
      rw [hc, if_neg (Ne.symm e)]
      omega
  · by_cases e : p = s.objs.length
    · subst e
      rw [objs_alloc_new] at h
      cases h
      refine ⟨Nat.one_pos, fun c hc => ?_⟩
      have : 0 < cs.count c := List.count_pos_iff.mpr hc
      obtain ⟨ob, hob, _⟩ := i.live_of_ref (o := c) (by rw [List.count_append]; omega)
      exact lt_of_getElem? hob
    · rw [objs_alloc_ne cs e] at h
      exact ⟨i.pos p pb h hl, i.acyc p pb h hl⟩

theorem ext_alloc (s : State) (cs : List Nat) : Ext s (alloc s cs) :=
  .of_getElem? (by simp [alloc]) fun x hx => objs_alloc_ne cs (Nat.ne_of_lt hx)

theorem isLive_iff {s : State} {o : Nat} : isLive s o = true ↔ ∃ ob, s.objs[o]? = some ob ∧ ob.live = true := by
  unfold isLive
  cases s.objs[o]? <;> simp

theorem InvT.live_iff {s : State} {L : List Nat} (i : InvT s L) {o : Nat} :
    isLive s o = true ↔ 0 < refs s o + L.count o := by
  constructor
  · intro hl
    obtain ⟨ob, h1, h2⟩ := isLive_iff.mp hl
    rw [i.counts o, cnt_of_live h1 h2]
    exact i.pos o ob h1 h2
  · intro hp
    obtain ⟨ob, h1, h2, _⟩ := i.live_of_ref hp
    exact isLive_iff.mpr ⟨ob, h1, h2⟩

theorem InvT.live_of_handle {s : State} {L : List Nat} (i : InvT s L) {h o : Nat}
    (hh : s.handles[h]? = some (some o)) : isLive s o = true := by
  have : 0 < s.handles.count (some o) := List.count_pos_iff.mpr (List.mem_of_getElem? hh)
  exact i.live_iff.mpr (by unfold refs; omega)

theorem w_le_parentRefs {s : State} {p : Nat} {pb : Obj} (h : s.objs[p]? = some pb) (c : Nat) :
    w pb c ≤ parentRefs s c :=
  List.le_sum_map (fun p => w p c) h

/-- converse of `w_le_parentRefs` -/
theorem exists_parent {s : State} {o : Nat} (h : 0 < parentRefs s o) :
    ∃ (k : Nat) (p : Obj), s.objs[k]? = some p ∧ p.live = true ∧ o ∈ p.children := by
  obtain ⟨k, p, hk, hp⟩ := exists_of_sum_map_pos (fun p => w p o) s.objs h
  unfold w at hp
  split at hp
  · next hl => exact ⟨k, p, hk, hl, List.count_pos_iff.mp hp⟩
  · exact absurd hp (Nat.lt_irrefl 0)

theorem InvT.child_live {s : State} {L : List Nat} (i : InvT s L) {p c : Nat} {pb : Obj}
    (h : s.objs[p]? = some pb) (hl : pb.live = true) (hc : c ∈ pb.children) : isLive s c = true := by
  have h1 := w_le_parentRefs h c
  have : 0 < pb.children.count c := List.count_pos_iff.mpr hc
  simp only [w, hl, if_true] at h1
  exact i.live_iff.mpr (by unfold refs; omega)

theorem sameLive_incref {s : State} {o : Nat} {ob : Obj} (h : s.objs[o]? = some ob) (n : Nat) :
    SameLive s (setObj s o { ob with count := n }) :=
  ⟨rfl, by simp [setObj], fun x => lookup_setObj_same Obj.live false _ x h rfl,
   fun x => lookup_setObj_same Obj.children [] _ x h rfl⟩

theorem incref_good {s : State} {L : List Nat} {o : Nat} (i : InvT s L) (hl : isLive s o = true) :
    ∃ s1, incref s o = .ok s1 ∧ InvT s1 (o :: L) ∧ SameLive s s1 := by
  obtain ⟨ob, h1, h2⟩ := isLive_iff.mp hl
  exact ⟨_, (incref_ok i h1 h2).1, (incref_ok i h1 h2).2, sameLive_incref h1 _⟩

theorem increfAll_ok : ∀ (os : List Nat) (s : State) (L : List Nat), InvT s L →
    (∀ o ∈ os, isLive s o = true) →
    ∃ s', increfAll s os = .ok s' ∧ InvT s' (os ++ L) ∧ SameLive s s' := by
  intro os
  induction os with
  | nil => intro s L i _; exact ⟨s, rfl, by simpa using i, ⟨rfl, rfl, fun _ => rfl, fun _ => rfl⟩⟩
  | cons o os ih =>
    intro s L i hl
    obtain ⟨s1, e1, i1, sl⟩ := incref_good i (hl o (by simp))
    obtain ⟨s', e2, i2, sl2⟩ := ih _ (o :: L) i1 (fun x hx => by rw [sl.live]; exact hl x (by simp [hx]))
    refine ⟨s', ?_, ?_, sl.trans sl2⟩
    · simp [increfAll, e1, e2]
    · apply i2.congr
      intro x
      simp [List.count_append, List.count_cons]; omega

theorem getH_err {s : State} {h : Nat} {e : Err} (hh : getH s h = .error e) : e = .badOp := by
  unfold getH at hh
  split at hh <;> simp at hh
  exact hh.symm

theorem getH_ok {s : State} {h : Nat} {x : Option Nat} (hh : getH s h = .ok x) : s.handles[h]? = some x := by
  unfold getH at hh
  split at hh <;> simp at hh
  subst hh; assumption

theorem deref_err {s : State} {h : Nat} {e : Err} (hh : deref s h = .error e) : e = .badOp := by
  unfold deref at hh
  split at hh
  · rename_i e' he; simp at hh; subst hh; exact getH_err he
  · simp at hh; exact hh.symm
  · simp at hh

theorem deref_ok {s : State} {h o : Nat} (hh : deref s h = .ok o) : s.handles[h]? = some (some o) := by
  unfold deref at hh
  split at hh
  · simp at hh
  · simp at hh
  · rename_i o' he; simp at hh; subst hh; exact getH_ok he

theorem derefAll_spec (s : State) : ∀ cs : List Nat,
    match derefAll s cs with
    | .error e => e = .badOp
    | .ok os => ∀ o ∈ os, ∃ h : Nat, s.handles[h]? = some (some o)
  | [] => nofun
  | c :: cs => by
    have ih := derefAll_spec s cs
    unfold derefAll
    cases hd : deref s c with
    | error e => exact deref_err hd
    | ok o =>
      cases hos : derefAll s cs with
      | error e => rw [hos] at ih; exact ih
      | ok os =>
        rw [hos] at ih
        intro x hx
        rcases List.mem_cons.mp hx with rfl | hx
        · exact ⟨c, deref_ok hd⟩
        · exact ih x hx

theorem resolve_ok : ∀ (path : List Nat) {s : State} {L : List Nat} (o : Nat), InvT s L → isLive s o = true →
    (∃ c, resolve s o path = .ok c ∧ isLive s c = true) ∨ resolve s o path = .error .badOp := by
  intro path
  induction path with
  | nil => intro s L o _ hl; exact Or.inl ⟨o, rfl, hl⟩
  | cons k path ih =>
    intro s L o i hl
    obtain ⟨ob, h1, h2⟩ := isLive_iff.mp hl
    unfold resolve
    simp only [getObj_ok h1 h2]
    cases hc : ob.children[k]? with
    | none => exact Or.inr rfl
    | some c =>
      exact ih c i (i.child_live h1 h2 (List.mem_of_getElem? hc))

/-- outcome of an operation started in a consistent state -/
def Good (s : State) (r : Except Err State) : Prop :=
  match r with
  | .ok s' => Inv s' ∧ Ext s s'
  | .error e => e = .badOp

theorem Good.of_ok {s s' : State} {r : Except Err State} (g : Good s r) (h : r = .ok s') : Inv s' ∧ Ext s s' := by subst h; exact g
theorem Good.of_error {s : State} {e : Err} {r : Except Err State} (g : Good s r) (h : r = .error e) : e = .badOp := by subst h; exact g

theorem Mono.ext_of_objs {s s0 s' : State} (h : s0.objs = s.objs) (m : Mono s0 s') : Ext s s' :=
  (ext_of_objs_eq h).trans m.ext

-- The in-flight lists below are written `optL y ++ []`, `cs ++ []`: `InvT.setHandle`, `InvT.alloc`,
-- `release_ok` are stated with `… ++ L`, and the `++ []` lets their `L := []` unify without a rewrite.
theorem dropOpt_good {s : State} {y : Option Nat} (i : InvT s (optL y ++ [])) :
    ∃ s', dropOpt s y = .ok s' ∧ Inv s' ∧ Mono s s' := by
  cases y with
  | none => exact ⟨s, rfl, i, Mono.refl s⟩
  | some o => exact drop_ok i

/-- storing a reference in flight (or null) in a handle slot and releasing what the slot held:
    `reset`, `~RCP`, assignment -/
theorem store_good {s s1 : State} {h : Nat} {x y : Option Nat} (e : Ext s s1) (i1 : InvT s1 (optL x ++ []))
    (hh : s1.handles[h]? = some y) : Good s (dropOpt (setHandle s1 h x) y) := by
  obtain ⟨s', e3, i4, m⟩ := dropOpt_good (InvT.setHandle hh i1)
  rw [e3]
  exact ⟨i4, e.trans (m.ext_of_objs (by rfl))⟩

theorem push_incref_good {s : State} (i : Inv s) {o : Nat} (hl : isLive s o = true) :
    Good s (match incref s o with | .error e => .error e | .ok s1 => .ok (pushHandle s1 (some o))) := by
  obtain ⟨s1, e1, i1, sl⟩ := incref_good i hl
  rw [e1]
  exact ⟨InvT.push (x := some o) i1, sl.mono.ext.trans (ext_of_objs_eq rfl)⟩

/-- `release_ok` does not say that the head of the worklist dies when its count is one, so the first
step of `release` is taken by hand here (as in the `count = 1` branch of `release_ok`) and `Mono.live`
of the rest keeps the object dead. -/
theorem drop_kills {s s' : State} {L : List Nat} {o : Nat} {ob : Obj} (i : InvT s (o :: L))
    (h : s.objs[o]? = some ob) (hl : ob.live = true) (h1 : ob.count = 1) (hd : drop s o = .ok s') :
    isLive s' o = false := by
  have hsum : sumCounts (setObj s o { ob with count := 0, live := false }) + 1 = sumCounts s := by
    have := sumCounts_setObj { ob with count := 0, live := false } h
    rwa [h1] at this
  obtain ⟨f, hf⟩ : ∃ f, sumCounts s = f + 1 := ⟨sumCounts s - 1, by omega⟩
  -- `++ []` here is `release_live`'s `++ todo` with `todo = []`
  obtain ⟨s'', hr, _, hm⟩ := release_ok f _ (ob.children ++ []) L (by simpa using i.kill h hl h1) (by omega)
  unfold drop at hd
  rw [hf, release_live f [] h hl (by omega), if_pos h1, hr] at hd
  cases hd
  refine Bool.eq_false_iff.mpr fun hl' => ?_
  have := hm.live o hl'
  rw [isLive_setObj _ o h, if_pos rfl] at this
  cases this

theorem steal_tail {s1 : State} {h o : Nat} {cs : List Nat} (i1 : InvT s1 (cs ++ []))
    (hh : s1.handles[h]? = some (some o)) :
    ∃ s', drop (setHandle (alloc s1 cs) h none) o = .ok s' ∧ Inv s' ∧ Ext s1 s' ∧
      (cnt s1 o = 1 → isLive s' o = false) ∧ childrenOf s' s1.objs.length = cs := by
  have hh2 : (alloc s1 cs).handles[h]? = some (some o) :=
    (List.getElem?_append_left (lt_of_getElem? hh)).trans hh
  have i3 : InvT (setHandle (alloc s1 cs) h none) (o :: []) := InvT.setHandle (x := none) hh2 i1.alloc
  obtain ⟨s', e3, i4, m⟩ := drop_ok i3
  refine ⟨s', e3, i4, (ext_alloc s1 cs).trans (m.ext_of_objs (by rfl)), fun hc1 => ?_, ?_⟩
  · obtain ⟨ob, h1, h2, _, h4⟩ := cnt_pos_iff.mp (by omega : 0 < cnt s1 o)
    have hob : (setHandle (alloc s1 cs) h none).objs[o]? = some ob :=
      (objs_alloc_ne cs (Nat.ne_of_lt (lt_of_getElem? h1))).trans h1
    exact drop_kills i3 hob h2 (by omega) e3
  · rw [m.kids]
    exact childrenOf_of_get (objs_alloc_new s1 cs)

theorem step_steal {s : State} (i : Inv s) {h o : Nat} {ob : Obj} (hd : deref s h = .ok o)
    (h1 : s.objs[o]? = some ob) (h2 : ob.live = true) :
    ∃ s', step s (.steal h) = .ok s' ∧ Inv s' ∧ Ext s s' ∧
      (ob.count = 1 → isLive s' o = false) ∧ childrenOf s' s.objs.length = ob.children := by
  simp only [step, hd]
  simp only [getObj_ok h1 h2]
  by_cases hc : ob.count = 1
  · rw [if_pos hc]
    have hc1 : cnt (setObj s o { ob with children := [] }) o = 1 := by
      rw [cnt_setObj _ o h1]; simp [h2, hc]
    -- moving the members out: they are in flight now
    have i1 : InvT (setObj s o { ob with children := [] }) (ob.children ++ []) :=
      i.overwrite h1 h2 (fun _ => i.pos o ob h1 h2) (fun _ _ hc => nomatch hc)
        (by simp only [w, h2, if_true, List.append_nil, List.count_nil]; omega)
        fun x _ => by simp only [w, h2, if_true, List.append_nil, List.count_nil]; omega
    obtain ⟨s', e3, i4, ⟨xlen, xlive, xkids⟩, hdead, hnew⟩ := steal_tail i1 (deref_ok hd)
    have hlen : (setObj s o { ob with children := [] }).objs.length = s.objs.length := by simp [setObj]
    rw [hlen] at xlen xlive xkids hnew
    -- the emptied object is dead at the end, every other object has kept its members
    refine ⟨s', e3, i4, ⟨xlen, fun x hx hl => ?_, fun x hx hl => ?_⟩, fun _ => hdead hc1, hnew⟩
    · exact (lookup_setObj_same Obj.live false { ob with children := [] } x h1 rfl).symm.trans (xlive x hx hl)
    · have hxo : x ≠ o := by
        intro e
        rw [e, hdead hc1] at hl
        cases hl
      rw [xkids x hx hl, childrenOf_setObj _ x h1, if_neg hxo]
  · rw [if_neg hc]
    obtain ⟨s1, e1, i1, sl⟩ := increfAll_ok ob.children s [] i fun c hcm => i.child_live h1 h2 hcm
    simp only [e1]
    obtain ⟨s', e3, i4, x4, _, hnew⟩ := steal_tail i1 (by rw [sl.handles]; exact deref_ok hd)
    refine ⟨s', e3, i4, sl.mono.ext.trans x4, fun hq => absurd hq hc, ?_⟩
    rw [← sl.len]
    exact hnew

/-- an operation that starts by reading a handle slot can only fail there with `badOp` -/
theorem good_getH {s : State} {h : Nat} {f : Option Nat → Except Err State}
    (hf : ∀ x, getH s h = .ok x → Good s (f x)) :
    Good s (match getH s h with | .error e => .error e | .ok x => f x) := by
  cases hg : getH s h with
  | error e => exact getH_err hg
  | ok x => exact hf x hg

theorem good_deref {s : State} {h : Nat} {f : Nat → Except Err State}
    (hf : ∀ o, deref s h = .ok o → Good s (f o)) :
    Good s (match deref s h with | .error e => .error e | .ok o => f o) := by
  cases hd : deref s h with
  | error e => exact deref_err hd
  | ok o => exact hf o hd

-- `copy`, `assign`, `moveAssign` match on more than one `getH` result at once (an `Option` pattern
-- inside, two scrutinees), so the `match` of `good_getH` does not meet them and the error cases are
-- taken one by one there.
theorem step_good (s : State) (i : Inv s) (op : Op) : Good s (step s op) := by
  cases op with
  | construct cs =>
    have hs := derefAll_spec s cs
    simp only [step]
    cases hd : derefAll s cs with
    | error e => rw [hd] at hs; exact hs
    | ok os =>
      rw [hd] at hs
      have hlive : ∀ o ∈ os, isLive s o = true := by
        intro o ho
        obtain ⟨h, hh⟩ := hs o ho
        exact i.live_of_handle hh
      obtain ⟨s1, e1, i1, sl⟩ := increfAll_ok os s [] i hlive
      simp only [e1]
      exact ⟨i1.alloc, sl.mono.ext.trans (ext_alloc s1 os)⟩
  | copy h =>
    simp only [step]
    cases hg : getH s h with
    | error e => exact getH_err hg
    | ok x =>
      cases x with
      | none => exact ⟨InvT.push (x := none) i, ext_of_objs_eq rfl⟩
      | some o => exact push_incref_good i (i.live_of_handle (getH_ok hg))
  | move h =>
    refine good_getH fun x hg => ?_
    exact ⟨(InvT.setHandle (x := none) (getH_ok hg) i).push, ext_of_objs_eq rfl⟩
  | assign dst src =>
    simp only [step]
    cases hs : getH s src with
    | error e => exact getH_err hs
    | ok x =>
      cases hd : getH s dst with
      | error e => exact getH_err hd
      | ok y =>
        cases x with
        | none => exact store_good (x := none) (Ext.refl s) i (getH_ok hd)
        | some o =>
          obtain ⟨s1, e1, i1, sl⟩ := incref_good i (i.live_of_handle (getH_ok hs))
          simp only [e1]
          exact store_good (x := some o) sl.mono.ext i1 (by rw [sl.handles]; exact getH_ok hd)
  | moveAssign dst src =>
    simp only [step]
    cases hs : getH s src with
    | error e => exact getH_err hs
    | ok x =>
      cases hd : getH s dst with
      | error e => exact getH_err hd
      | ok y =>
        refine ⟨?_, ext_of_objs_eq rfl⟩
        apply InvT.of_same_objs (s' := setHandle (setHandle s dst x) src y) (L' := []) i rfl
        intro o
        have hs' := getH_ok hs
        have hd' := getH_ok hd
        have c1 := count_set' x (some o) hd'
        -- also when `src = dst`: `x` is what `src` held
        have hsrc : (s.handles.set dst x)[src]? = some x := by
          rw [List.getElem?_set]
          split
          · rw [if_pos (lt_of_getElem? hd')]
          · exact hs'
        have c2 := count_set' y (some o) hsrc
        simp only [setHandle]
        omega
  | reset h => exact good_getH fun _ hg => store_good (x := none) (Ext.refl s) i (getH_ok hg)
  | destroy h => exact good_getH fun _ hg => store_good (x := none) (Ext.refl s) i (getH_ok hg)
  | rcpFromThis h =>
    exact good_deref fun o hd => push_incref_good i (i.live_of_handle (deref_ok hd))
  | childCopy h path =>
    refine good_deref fun o hd => ?_
    rcases resolve_ok path o i (i.live_of_handle (deref_ok hd)) with ⟨c, hc, hl⟩ | hb
    · simp only [hc]
      exact push_incref_good i hl
    · simp only [hb]
      rfl
  | steal h =>
    refine good_deref fun o hd => ?_
    obtain ⟨ob, h1, h2⟩ := isLive_iff.mp (i.live_of_handle (deref_ok hd))
    obtain ⟨s', e, i', x, _⟩ := step_steal i hd h1 h2
    simp only [step, hd] at e
    rw [e]
    exact ⟨i', x⟩

theorem inv_init : Inv init := by
  refine ⟨?_, ?_, ?_⟩
  · intro o; simp [refs, cnt, parentRefs, init]
  · intro o ob h; simp [init] at h
  · intro p ob h; simp [init] at h

theorem run_good : ∀ (ops : List Op) (s : State), Inv s → Good s (run s ops) := by
  intro ops
  induction ops with
  | nil => intro s i; exact ⟨i, Ext.refl s⟩
  | cons op ops ih =>
    intro s i
    have g := step_good s i op
    unfold run
    cases hs : step s op with
    | error e => exact g.of_error hs
    | ok s1 =>
      have ⟨i1, x1⟩ := g.of_ok hs
      have g2 := ih s1 i1
      simp only []
      cases hr : run s1 ops with
      | error e => exact g2.of_error hr
      | ok s2 => exact ⟨(g2.of_ok hr).1, x1.trans (g2.of_ok hr).2⟩

end SymVerif.RC
