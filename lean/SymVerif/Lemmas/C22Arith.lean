import SymVerif.Lemmas.C22Dict
/-! Dictionary arithmetic of `Model/MPoly.lean` (`+=`, `-=`, unary minus, `mul`, `*=`, `pow`)
against `MvPolynomial ℕ R`, with preservation of the container invariant. -/

open SymVerif.MPoly MvPolynomial

namespace SymVerif.C22

variable {R : Type} [CommRing R] [DecidableEq R]

omit [CommRing R] [DecidableEq R] in
theorem keys_mapCoeff (f : R → R) (x : Dict R) : keys (x.map fun kc => (kc.1, f kc.2)) = keys x := by
  rw [keys, List.map_map]
  rfl

omit [DecidableEq R] in
theorem canon_mapCoeff {n : Nat} {x : Dict R} (f : R → R) (hf : ∀ a, a ≠ 0 → f a ≠ 0) (hx : Canon n x) :
    Canon n (x.map fun kc => (kc.1, f kc.2)) where
  len := List.forall_mem_map.mpr hx.len
  nz := List.forall_mem_map.mpr fun a ha => hf _ (hx.nz a ha)
  nodup := (keys_mapCoeff f x).symm ▸ hx.nodup

omit [DecidableEq R] in
theorem keys_negDict (x : Dict R) : keys (negDict x) = keys x := keys_mapCoeff _ x

theorem dictMv_negDict (vars : List Var) (x : Dict R) : dictMv vars (negDict x) = - dictMv vars x := by
  induction x with
  | nil => exact neg_zero.symm
  | cons kc t ih =>
    show dictMv vars ((kc.1, -kc.2) :: negDict t) = _
    rw [dictMv_cons, dictMv_cons, ih, monomial_neg, neg_add]

theorem negDict_spec (vars : List Var) {n : Nat} (x : Dict R) (hx : Canon n x) :
    Canon n (negDict x) ∧ dictMv vars (negDict x) = - dictMv vars x :=
  ⟨canon_mapCoeff _ (fun _ => neg_ne_zero.mpr) hx, dictMv_negDict vars x⟩

theorem dictMv_mulCoeff (vars : List Var) (x : Dict R) (c : R) :
    dictMv vars (x.map fun kc => (kc.1, kc.2 * c)) = dictMv vars x * monomial 0 c := by
  induction x with
  | nil => exact (zero_mul _).symm
  | cons kc t ih => rw [List.map_cons, dictMv_cons, dictMv_cons, ih, add_mul, monomial_mul, add_zero]

theorem dictMv_accTerm (vars : List Var) (d : Dict R) (k : Mono) (c : R) :
    dictMv vars (accTerm d k c) = dictMv vars d + monomial (monoOf vars k) c := by
  induction d with
  | nil => exact add_comm _ _
  | cons kc t ih =>
    obtain ⟨k', c'⟩ := kc
    rw [accTerm, dictMv_cons]
    by_cases hk : k' = k
    · rw [if_pos hk, dictMv_cons, monomial_add, add_right_comm, hk]
    · rw [if_neg hk, dictMv_cons, ih, add_assoc]

theorem keys_accTerm (d : Dict R) (k : Mono) (c : R) :
    keys (accTerm d k c) = if k ∈ keys d then keys d else keys d ++ [k] := by
  induction d with
  | nil => exact (if_neg List.not_mem_nil).symm
  | cons kc t ih =>
    obtain ⟨k', c'⟩ := kc
    rw [accTerm]
    by_cases hk : k' = k
    · rw [if_pos hk, if_pos (hk ▸ List.mem_cons_self)]
      rfl
    · rw [if_neg hk, keys_cons, ih, keys_cons]
      by_cases hm : k ∈ keys t
      · rw [if_pos hm, if_pos (List.mem_cons_of_mem _ hm)]
      · rw [if_neg hm, if_neg (fun h => (List.mem_cons.mp h).elim (fun e => hk e.symm) hm)]
        rfl

theorem keysOk_accTerm {n : Nat} {d : Dict R} {k : Mono} {c : R} (hd : KeysOk n d) (hk : k.length = n) :
    KeysOk n (accTerm d k c) := by
  rw [KeysOk, lenOk_iff_keys, keys_accTerm]
  by_cases hm : k ∈ keys d
  · rw [if_pos hm]
    exact ⟨lenOk_iff_keys.mp hd.1, hd.2⟩
  · rw [if_neg hm]
    refine ⟨fun k2 h2 => (List.mem_append.mp h2).elim (lenOk_iff_keys.mp hd.1 k2)
      (fun h => List.mem_singleton.mp h ▸ hk), ?_⟩
    refine List.Nodup.append hd.2 (List.nodup_singleton k) ?_
    intro a ha hb
    exact hm (List.mem_singleton.mp hb ▸ ha)

theorem canon_addTerm {n : Nat} {d : Dict R} {k : Mono} {c : R} (hd : Canon n d) (hk : k.length = n)
    (hc : c ≠ 0) : Canon n (addTerm d k c) := by
  have hko := keysOk_accTerm (c := c) hd.keysOk hk
  rw [addTerm_eq_stripZeros_accTerm hd.nz k hc]
  exact canon_stripZeros hko

theorem addDict_spec (vars : List Var) {n : Nat} (x y : Dict R) (hx : Canon n x) (hy : Canon n y) :
    Canon n (addDict x y) ∧ dictMv vars (addDict x y) = dictMv vars x + dictMv vars y := by
  unfold addDict
  induction y generalizing x with
  | nil => exact ⟨hx, (add_zero _).symm⟩
  | cons kc t ih =>
    obtain ⟨hl, hz, _, ht⟩ := canon_cons.mp hy
    obtain ⟨hc, hs⟩ := ih (addTerm x kc.1 kc.2) (canon_addTerm hx hl hz) ht
    exact ⟨hc, by rw [List.foldl_cons, hs, dictMv_addTerm, dictMv_cons, add_assoc]⟩

theorem subDict_eq_addDict_negDict (x y : Dict R) : subDict x y = addDict x (negDict y) := by
  rw [subDict, addDict, negDict, List.foldl_map]
  simp only [subTerm_eq_addTerm]

theorem subDict_spec (vars : List Var) {n : Nat} (x y : Dict R) (hx : Canon n x) (hy : Canon n y) :
    Canon n (subDict x y) ∧ dictMv vars (subDict x y) = dictMv vars x - dictMv vars y := by
  obtain ⟨hn, hs⟩ := negDict_spec vars y hy
  obtain ⟨hc, hs'⟩ := addDict_spec vars x (negDict y) hx hn
  rw [subDict_eq_addDict_negDict]
  exact ⟨hc, by rw [hs', hs, sub_eq_add_neg]⟩

theorem mulRow_spec (vars : List Var) {n : Nat} (ka : Mono) (ca : R) (b acc : Dict R)
    (hka : ka.length = n) (hb : LenOk n b) (hacc : KeysOk n acc) :
    ∃ r, mulRow n ka ca b acc = .ok r ∧ KeysOk n r ∧
      dictMv vars r = dictMv vars acc + monomial (monoOf vars ka) ca * dictMv vars b := by
  induction b generalizing acc with
  | nil => exact ⟨acc, rfl, hacc, by rw [dictMv_nil, mul_zero, add_zero]⟩
  | cons kc t ih =>
    obtain ⟨kb, cb⟩ := kc
    obtain ⟨hkb, ht⟩ := List.forall_mem_cons.mp hb
    have hav : addVec n ka kb = .ok (List.zipWith (· + ·) ka kb) := if_pos ⟨hka, hkb⟩
    have hlen : (List.zipWith (· + ·) ka kb).length = n := by
      rw [List.length_zipWith, hka, hkb, Nat.min_self]
    obtain ⟨r, hr, hk, hs⟩ := ih (accTerm acc (List.zipWith (· + ·) ka kb) (ca * cb)) ht
      (keysOk_accTerm hacc hlen)
    refine ⟨r, ?_, hk, ?_⟩
    · rw [mulRow, hav]
      exact hr
    · rw [hs, dictMv_accTerm, monoOf_zipWith_add vars ka kb (hka.trans hkb.symm), dictMv_cons, mul_add,
        monomial_mul, add_assoc]

theorem mulRows_spec (vars : List Var) {n : Nat} (a b acc : Dict R)
    (ha : LenOk n a) (hb : LenOk n b) (hacc : KeysOk n acc) :
    ∃ r, mulRows n a b acc = .ok r ∧ KeysOk n r ∧
      dictMv vars r = dictMv vars acc + dictMv vars a * dictMv vars b := by
  induction a generalizing acc with
  | nil => exact ⟨acc, rfl, hacc, by rw [dictMv_nil, zero_mul, add_zero]⟩
  | cons kc t ih =>
    obtain ⟨ka, ca⟩ := kc
    obtain ⟨hka, ht⟩ := List.forall_mem_cons.mp ha
    obtain ⟨r1, hr1, hk1, hs1⟩ := mulRow_spec vars ka ca b acc hka hb hacc
    obtain ⟨r, hr, hk, hs⟩ := ih r1 ht hk1
    refine ⟨r, ?_, hk, ?_⟩
    · rw [mulRows, hr1]
      exact hr
    · rw [hs, hs1, dictMv_cons, add_mul, add_assoc]

theorem mulRaw_spec (vars : List Var) {n : Nat} (a b : Dict R) (ha : LenOk n a) (hb : LenOk n b) :
    ∃ r, mulRaw n a b = .ok r ∧ Canon n r ∧ dictMv vars r = dictMv vars a * dictMv vars b := by
  obtain ⟨r, hr, hk, hs⟩ := mulRows_spec vars a b [] ha hb (keysOk_nil n)
  refine ⟨stripZeros r, ?_, canon_stripZeros hk, ?_⟩
  · rw [mulRaw, hr]
  · rw [dictMv_stripZeros, hs, dictMv_nil, zero_add]

theorem mulDict_spec [NoZeroDivisors R] (vars : List Var) {n : Nat} (x y : Dict R)
    (hx : Canon n x) (hy : Canon n y) :
    ∃ r, mulDict n x y = .ok r ∧ Canon n r ∧ dictMv vars r = dictMv vars x * dictMv vars y := by
  unfold mulDict
  by_cases h1 : x.isEmpty
  · rw [if_pos h1, List.isEmpty_iff.mp h1]
    exact ⟨[], rfl, canon_nil n, (zero_mul _).symm⟩
  by_cases h2 : y.isEmpty
  · rw [if_neg h1, if_pos h2, List.isEmpty_iff.mp h2]
    exact ⟨[], rfl, canon_nil n, (mul_zero _).symm⟩
  rw [if_neg h1, if_neg h2]
  have hraw := mulRaw_spec vars x y hx.len hy.len
  split
  · -- `y = [kc]` and the zero vector is found in it: the constant shortcut of `*=`
    rename_i kc c hfind
    obtain rfl : (List.replicate n 0, c) = kc :=
      List.mem_singleton.mp ((find?_eq_some_iff (d := [kc]) (List.nodup_singleton _)).mp hfind)
    have hc0 : c ≠ 0 := hy.nz (_, c) List.mem_cons_self
    refine ⟨_, rfl, canon_mapCoeff (· * c) (fun a ha => mul_ne_zero ha hc0) hx, ?_⟩
    rw [dictMv_mulCoeff, dictMv_cons, dictMv_nil, add_zero, monoOf_replicate_zero]
  · exact hraw

/-- one round of square-and-multiply: the low bit of `p` goes into `res`, the rest onto `tmp * tmp` -/
theorem pow_mod_two_mul_sq_pow_div {M : Type} [Monoid M] (a : M) (p : Nat) :
    a ^ (p % 2) * (a * a) ^ (p / 2) = a ^ p := by
  rw [← pow_two, ← pow_mul, ← pow_add, Nat.mod_add_div]

theorem powLoop_spec (vars : List Var) {n : Nat} (p : Nat) (tmp res : Dict R) (hp : 1 ≤ p)
    (ht : LenOk n tmp) (hr : LenOk n res) :
    ∃ r, powLoop n tmp res p = .ok r ∧ Canon n r ∧
      dictMv vars r = dictMv vars res * dictMv vars tmp ^ p := by
  induction p using Nat.strong_induction_on generalizing tmp res with
  | _ p ih =>
    rw [powLoop]
    obtain ⟨r2, hr2, hcr2, hsr2⟩ := mulRaw_spec vars res tmp hr ht  -- for the exit and the odd branch
    by_cases h1 : p ≤ 1
    · rw [dif_pos h1]
      exact ⟨r2, hr2, hcr2, by rw [hsr2, Nat.le_antisymm h1 hp, pow_one]⟩
    · rw [dif_neg h1]
      have hlt : p / 2 < p := Nat.div_lt_self hp Nat.one_lt_two
      have hpos : 1 ≤ p / 2 := Nat.div_pos (Nat.lt_of_not_le h1) Nat.two_pos
      obtain ⟨t2, ht2, hc2, hs2⟩ := mulRaw_spec vars tmp tmp ht ht
      by_cases hev : p % 2 = 0
      · simp only [ht2, if_pos hev]
        obtain ⟨r, h, hc, hs⟩ := ih (p / 2) hlt t2 res hpos hc2.len hr
        refine ⟨r, h, hc, ?_⟩
        rw [hs, hs2, ← pow_mod_two_mul_sq_pow_div (dictMv vars tmp) p, hev, pow_zero, one_mul]
      · simp only [ht2, if_neg hev, hr2]
        obtain ⟨r, h, hc, hs⟩ := ih (p / 2) hlt t2 r2 hpos hc2.len hcr2.len
        refine ⟨r, h, hc, ?_⟩
        rw [hs, hs2, hsr2, ← pow_mod_two_mul_sq_pow_div (dictMv vars tmp) p, Nat.mod_two_ne_zero.mp hev,
          pow_one, mul_assoc]

theorem powDict_spec [Nontrivial R] (vars : List Var) {n : Nat} (a : Dict R) (p : Nat) (ha : LenOk n a) :
    ∃ r, powDict n a p = .ok r ∧ Canon n r ∧ dictMv vars r = dictMv vars a ^ p := by
  unfold powDict
  have hone : Canon n ([(List.replicate n 0, 1)] : Dict R) :=
    canon_cons.mpr ⟨List.length_replicate, one_ne_zero, List.not_mem_nil, canon_nil n⟩
  have hsem : dictMv vars ([(List.replicate n 0, 1)] : Dict R) = 1 := by
    rw [dictMv_cons, dictMv_nil, add_zero, monoOf_replicate_zero]
    rfl
  by_cases hp : p = 0
  · rw [if_pos hp, hp, pow_zero]
    exact ⟨_, rfl, hone, hsem⟩
  · rw [if_neg hp]
    obtain ⟨r, h, hc, hs⟩ := powLoop_spec vars p a _ (Nat.pos_of_ne_zero hp) ha hone.len
    exact ⟨r, h, hc, by rw [hs, hsem, one_mul]⟩

end SymVerif.C22
