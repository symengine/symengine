/-
Lemmas for C13: what a successful `LambdaD.init` leaves in the state, and what `LambdaD.call`
then computes, for an arbitrary prior state.
-/
import SymVerif.Model.LambdaD

namespace SymVerif.LambdaD
open SymVerif.EvalG

variable {α : Type}

/-- the environment a closure sees, stated on values: `named` are the replacement symbols
evaluated so far (latest first), `ins`/`xs` the inputs.  Precedence as in `bvisit(const Symbol&)`; kept apart
from `resolve` so that the specification does not mention slots (`envOf_eq_extEnv` is the bridge). -/
def extEnv (cseFirst : Bool) (ins : List String) (xs : List α) (named : List (String × α)) : String → Option α :=
  fun n =>
    if cseFirst then
      match named.lookup n with
      | some v => some v
      | none => (indexOf? ins n).bind (xs[·]?)
    else
      match indexOf? ins n with
      | some k => xs[k]?
      | none => named.lookup n

def bindEnv (ins : List String) (xs : List α) : String → Option α :=
  fun n => (indexOf? ins n).bind (xs[·]?)

theorem extEnv_nil (cseFirst : Bool) (ins : List String) (xs : List α) :
    extEnv cseFirst ins xs [] = bindEnv ins xs := by
  funext n
  cases cseFirst
  · simp only [extEnv, bindEnv]
    cases indexOf? ins n <;> rfl
  · rfl

def evalAll (C : Ctx α) : List Expr → Except Err (List α)
  | [] => .ok []
  | e :: rest => do
    let v ← evalG C e
    let vs ← evalAll C rest
    pure (v :: vs)

theorem evalAll_eq_evalList (C : Ctx α) (es : List Expr) : evalAll C es = evalList C es := by
  induction es with
  | nil => rfl
  | cons e t ih => simp only [evalAll, evalList, ih]

/-- the replacements evaluated in order, each seeing the earlier ones -/
def slotSem (cfg : Cfg α) (ins : List String) (xs : List α) :
    List (String × α) → List (String × Expr) → Except Err (List (String × α))
  | named, [] => .ok named
  | named, (n, e) :: rest => do
    let v ← evalG ⟨cfg.O, cfg.defs, extEnv cfg.cseFirst ins xs named⟩ e
    slotSem cfg ins xs ((n, v) :: named) rest

/-- closures pushed by the replacement loop, starting with map `m` at slot index `j` -/
def closuresFrom (ins : List String) : List (String × Nat) → Nat → List (String × Expr) → List Closure
  | _, _, [] => []
  | m, j, (n, e) :: rest => ⟨e, ins, m⟩ :: closuresFrom ins (mapSet m n j) (j + 1) rest

def mapAfter : List (String × Nat) → Nat → List (String × Expr) → List (String × Nat)
  | m, _, [] => m
  | m, j, (n, _) :: rest => mapAfter (mapSet m n j) (j + 1) rest

/-- `compile` reads `symbols` and `cseMap` only; its closure, if any, is the snapshot of these -/
theorem compile_cases (cfg : Cfg α) (m : List (String × Nat)) (ins : List String) (x : Expr) :
    (∀ (r f : List Closure) (b : List α), compile cfg ⟨r, f, b, m, ins⟩ x = .ok ⟨x, ins, m⟩) ∨
      ∃ err, ∀ (r f : List Closure) (b : List α), compile cfg ⟨r, f, b, m, ins⟩ x = .error err := by
  simp only [compile]
  cases walk cfg.defs (resolve cfg.cseFirst ins m) x with
  | error err => exact .inr ⟨err, fun _ _ _ => rfl⟩
  | ok u => exact .inl fun _ _ _ => rfl

/-- The output loop reads `symbols` and `cseMap` only and only appends to `results`
(a state is written `⟨results, cseFns, cseResults, cseMap, symbols⟩`). -/
theorem pushResults_frame (cfg : Cfg α) (ins : List String) (m : List (String × Nat)) :
    ∀ outs : List Expr, ∃ cs e, (e = none → cs = outs.map fun x => (⟨x, ins, m⟩ : Closure)) ∧
      ∀ (r f : List Closure) (b : List α),
        pushResults cfg ⟨r, f, b, m, ins⟩ outs = (⟨r ++ cs, f, b, m, ins⟩, e)
  | [] => ⟨[], none, fun _ => rfl, fun r f b => by simp [pushResults]⟩
  | x :: rest => by
    obtain ⟨cs, e, hcs, h⟩ := pushResults_frame cfg ins m rest
    rcases compile_cases cfg m ins x with hc | ⟨err, hc⟩
    · exact ⟨⟨x, ins, m⟩ :: cs, e, fun he => by rw [hcs he]; rfl, fun r f b => by simp [pushResults, hc, h]⟩
    · exact ⟨[], some err, nofun, fun r f b => by simp [pushResults, hc]⟩

/-- The replacement loop: as `pushResults_frame`; it also reads the number of closures pushed so far. -/
theorem pushRepl_frame (cfg : Cfg α) (ins : List String) :
    ∀ (repl : List (String × Expr)) (m : List (String × Nat)) (j : Nat),
      ∃ cs m' e, (e = none → cs = closuresFrom ins m j repl ∧ m' = mapAfter m j repl) ∧
        ∀ (r f : List Closure) (b : List α), f.length = j →
          pushRepl cfg ⟨r, f, b, m, ins⟩ repl = (⟨r, f ++ cs, b, m', ins⟩, e)
  | [], m, j => ⟨[], m, none, fun _ => ⟨rfl, rfl⟩, fun r f b _ => by simp [pushRepl]⟩
  | (n, x) :: rest, m, j => by
    obtain ⟨cs, m', e, hcs, h⟩ := pushRepl_frame cfg ins rest (mapSet m n j) (j + 1)
    rcases compile_cases cfg m ins x with hc | ⟨err, hc⟩
    · exact ⟨⟨x, ins, m⟩ :: cs, m', e, fun he => by rw [(hcs he).1, (hcs he).2]; exact ⟨rfl, rfl⟩,
        fun r f b hf => by
          subst hf
          simp [pushRepl, hc, h _ (f ++ [⟨x, ins, m⟩]) _ (by simp)]⟩
    · exact ⟨[], m, some err, nofun, fun r f b _ => by simp [pushRepl, hc]⟩

/-- Link between a closure's snapshot map `m`, the buffer, and the values `named`:
every mapped name points below `j` to a filled buffer cell holding the named value (below `j`, so that
writing cell `j` in `Inv_step` cannot touch a cell an earlier name reads). -/
def Inv (m : List (String × Nat)) (named : List (String × α)) (buf : List α) (j : Nat) : Prop :=
  ∀ n, (∀ k, m.lookup n = some k → k < j ∧ ∃ v, buf[k]? = some v ∧ named.lookup n = some v)
       ∧ (m.lookup n = none → named.lookup n = none)

theorem lookup_filter_ne (m : List (String × Nat)) (n n' : String) (h : (n' == n) = false) :
    (m.filter (fun p => p.1 != n)).lookup n' = m.lookup n' := by
  induction m with
  | nil => rfl
  | cons p rest ih =>
    obtain ⟨a, b⟩ := p
    by_cases ha : a = n
    · subst ha
      have : (n' == a) = false := h
      simp [List.filter, List.lookup, this, ih]
    · have hne : (a != n) = true := by simp [bne, ha]
      simp only [List.filter, hne, List.lookup]
      cases (n' == a) <;> simp [ih]

theorem Inv_step {m : List (String × Nat)} {named : List (String × α)} {buf : List α} {j : Nat}
    (h : Inv m named buf j) (hj : j < buf.length) (n : String) (v : α) :
    Inv (mapSet m n j) ((n, v) :: named) (buf.set j v) (j + 1) := by
  intro n'
  by_cases hn : (n' == n) = true
  · constructor
    · intro k hk
      simp [mapSet, List.lookup, hn] at hk
      subst hk
      refine ⟨Nat.lt_succ_self _, v, ?_, ?_⟩
      · simp [hj]
      · simp [List.lookup, hn]
    · intro hnone
      simp [mapSet, List.lookup, hn] at hnone
  · have hn' : (n' == n) = false := by simpa using hn
    have hl : (mapSet m n j).lookup n' = m.lookup n' := by
      simp only [mapSet, List.lookup, hn']
      exact lookup_filter_ne m n n' hn'
    constructor
    · intro k hk
      rw [hl] at hk
      obtain ⟨hlt, w, hw, hnamed⟩ := (h n').1 k hk
      refine ⟨Nat.lt_succ_of_lt hlt, w, ?_, ?_⟩
      · rw [List.getElem?_set_ne (Nat.ne_of_gt hlt)]
        exact hw
      · simp only [List.lookup, hn']
        exact hnamed
    · intro hnone
      rw [hl] at hnone
      simp only [List.lookup, hn']
      exact (h n').2 hnone

/-- under `Inv`, the closure's run-time environment is the value-level environment -/
theorem envOf_eq_extEnv {cseFirst : Bool} {e : Expr} {ins : List String} {m : List (String × Nat)}
    {named : List (String × α)} {buf xs : List α} {j : Nat} (h : Inv m named buf j) :
    envOf cseFirst ⟨e, ins, m⟩ xs buf = extEnv cseFirst ins xs named := by
  funext n
  obtain ⟨h1, h2⟩ := h n
  cases hm : m.lookup n with
  | none =>
    have hn := h2 hm
    cases cseFirst <;> cases hi : indexOf? ins n <;>
      simp [envOf, resolve, extEnv, hm, hn, hi]
  | some k =>
    obtain ⟨_, v, hv, hn⟩ := h1 k hm
    cases cseFirst <;> cases hi : indexOf? ins n <;>
      simp [envOf, resolve, extEnv, hm, hn, hi, hv]

/-- the slot-filling loop of `call` on the closures of the replacement loop computes what `slotSem` specifies and
keeps `Inv` -/
theorem fillSlots_spec (cfg : Cfg α) (ins : List String) (xs : List α) :
    ∀ (repl : List (String × Expr)) (m : List (String × Nat)) (named : List (String × α)) (j : Nat) (buf : List α),
      Inv m named buf j → j + repl.length ≤ buf.length →
      match slotSem cfg ins xs named repl with
      | .error err => fillSlots cfg xs j (closuresFrom ins m j repl) buf = .error err
      | .ok named' => ∃ buf', fillSlots cfg xs j (closuresFrom ins m j repl) buf = .ok buf'
          ∧ Inv (mapAfter m j repl) named' buf' (j + repl.length)
  | [], m, named, j, buf, hinv, _ => ⟨buf, rfl, hinv⟩
  | (n, e) :: rest, m, named, j, buf, hinv, hlen => by
    simp only [closuresFrom, fillSlots, slotSem, run, mapAfter, envOf_eq_extEnv hinv]
    cases hv : evalG ⟨cfg.O, cfg.defs, extEnv cfg.cseFirst ins xs named⟩ e with
    | error err => rfl
    | ok v =>
      simp only [List.length_cons] at hlen
      have ih := fillSlots_spec cfg ins xs rest (mapSet m n j) ((n, v) :: named) (j + 1) (buf.set j v)
        (Inv_step hinv (by omega) n v) (by rw [List.length_set]; omega)
      rw [List.length_cons, ← Nat.add_assoc, Nat.add_right_comm]
      exact ih

theorem runAll_eq {cfg : Cfg α} {ins : List String} {m : List (String × Nat)} {named : List (String × α)}
    {xs buf : List α} {j : Nat} (hinv : Inv m named buf j) :
    ∀ es : List Expr, runAll cfg xs buf (es.map (fun e => ⟨e, ins, m⟩))
      = evalAll ⟨cfg.O, cfg.defs, extEnv cfg.cseFirst ins xs named⟩ es := by
  intro es
  induction es with
  | nil => rfl
  | cons e rest ih =>
    simp only [List.map, runAll, evalAll, run]
    rw [envOf_eq_extEnv hinv, ih]

theorem Inv_nil (buf : List α) : Inv ([] : List (String × Nat)) ([] : List (String × α)) buf 0 := by
  intro n
  simp [List.lookup]

/-- `call` on a state holding the closures the two loops of `init` build from an empty map: the
replacements are evaluated in order, then the result expressions.  The buffer contents do not matter. -/
theorem call_eq (cfg : Cfg α) {S : State α} {ins : List String} {repl : List (String × Expr)} {es : List Expr}
    (hf : S.cseFns = closuresFrom ins [] 0 repl)
    (hr : S.results = es.map (fun e => ⟨e, ins, mapAfter [] 0 repl⟩))
    (hlen : repl.length ≤ S.cseResults.length) (xs : List α) :
    (call cfg S xs).map Prod.snd = (do
      let named ← slotSem cfg ins xs [] repl
      evalAll ⟨cfg.O, cfg.defs, extEnv cfg.cseFirst ins xs named⟩ es) := by
  have h := fillSlots_spec cfg ins xs repl [] [] 0 S.cseResults (Inv_nil _) (by omega)
  unfold call
  rw [hf, hr]
  cases hs : slotSem cfg ins xs [] repl with
  | error err => rw [hs] at h; rw [h]; rfl
  | ok named =>
    rw [hs] at h
    obtain ⟨buf, hb, hinv⟩ := h
    rw [hb]
    simp only [Except.map, bind, Except.bind]
    rw [runAll_eq hinv]
    cases evalAll ⟨cfg.O, cfg.defs, extEnv cfg.cseFirst ins xs named⟩ es <;> rfl

theorem length_resize (z : α) (l : List α) (n : Nat) : (resize z l n).length = n := by
  simp [resize]; omega

theorem init_cse_ok {cfg : Cfg α} (hclr : cfg.clearsMap = true) {S S' : State α} {ins : List String}
    {outs : List Expr} {repl : List (String × Expr)} {reduced : List Expr}
    (hinit : init cfg S ins outs (some (repl, reduced)) = (S', none)) :
    S'.cseFns = closuresFrom ins [] 0 repl
    ∧ S'.results = (reduced.take outs.length).map (fun e => ⟨e, ins, mapAfter [] 0 repl⟩)
    ∧ repl.length ≤ S'.cseResults.length := by
  obtain ⟨cs, m', e, hcs, hR⟩ := pushRepl_frame cfg ins repl [] 0
  obtain ⟨rs, e', hrs, hP⟩ := pushResults_frame cfg ins m' (reduced.take outs.length)
  simp only [init, hclr, if_true, hR _ [] _ rfl] at hinit
  cases e with
  | some err => cases hinit
  | none =>
    simp only [hP] at hinit
    cases e' with
    | some err => cases hinit
    | none =>
      cases hinit
      obtain ⟨rfl, rfl⟩ := hcs rfl
      exact ⟨rfl, hrs rfl, Nat.le_of_eq (length_resize ..).symm⟩

theorem closuresFrom_slots_lt (ins : List String) :
    ∀ (repl : List (String × Expr)) (m : List (String × Nat)) (j : Nat),
      (∀ p ∈ m, p.2 < j) →
      ∀ (k : Nat) (c : Closure), (closuresFrom ins m j repl)[k]? = some c → ∀ p ∈ c.slots, p.2 < j + k := by
  intro repl
  induction repl with
  | nil => intro m j _ k c h; simp [closuresFrom] at h
  | cons q rest ih =>
    intro m j hm k c h
    obtain ⟨n, e⟩ := q
    cases k with
    | zero =>
      simp [closuresFrom] at h
      subst h
      simpa using hm
    | succ k =>
      simp only [closuresFrom, List.getElem?_cons_succ] at h
      have hm' : ∀ p ∈ mapSet m n j, p.2 < j + 1 := by
        intro p hp
        simp only [mapSet, List.mem_cons, List.mem_filter] at hp
        rcases hp with rfl | ⟨hp, _⟩
        · exact Nat.lt_succ_self _
        · exact Nat.lt_succ_of_lt (hm p hp)
      have := ih (mapSet m n j) (j + 1) hm' k c h
      intro p hp
      have := this p hp
      omega

end SymVerif.LambdaD
