/-
C31: series_lambertw, Newton iteration for `w·e^w = s` (through `lambert_expands.newton`).
-/
import SymVerif.Lemmas.C31Comp

namespace SymVerif.C31
open SymVerif.Series PowerSeries

theorem fexp_add {S T : ℚ⟦X⟧} (hS : constantCoeff S = 0) (hT : constantCoeff T = 0) :
    fexp (S + T) = fexp S * fexp T := by
  have hST : constantCoeff (S + T) = 0 := by rw [RingHom.map_add, hS, hT, add_zero]
  apply isExpOf_unique (isExpOf_fexp hST)
  refine ⟨by rw [RingHom.map_mul, constantCoeff_fexp hS, constantCoeff_fexp hT, mul_one], ?_⟩
  rw [Derivation.leibniz, (isExpOf_fexp hS).2, (isExpOf_fexp hT).2, map_add, smul_eq_mul, smul_eq_mul]
  ring

theorem constantCoeff_fexp_mul {W : ℚ⟦X⟧} (hW : constantCoeff W = 0) :
    constantCoeff (fexp W * (1 + W)) = 1 := by
  rw [RingHom.map_mul, constantCoeff_fexp hW, constantCoeff_one_add hW, mul_one]

theorem fexp_small {k : ℕ} (hk : 1 ≤ k) {d : ℚ⟦X⟧} (hd : EqMod k d 0) : EqMod (2 * k) (fexp d) (1 + d) := by
  have hd0 : constantCoeff d = 0 := constantCoeff_of_eqMod_zero hk hd
  have hc : constantCoeff (1 + d) = 1 := constantCoeff_one_add hd0
  -- `1 + d` is the exponential of its logarithm, which is `d` modulo `X^(2k)`
  have hE : IsExpOf (flog (1 + d)) (1 + d) := by
    refine ⟨hc, ?_⟩
    rw [derivative_flog, mul_left_comm, PowerSeries.mul_inv_cancel _ (constantCoeff_ne_zero_of_eq_one hc), mul_one]
  exact (isExpOf_congr hE (isExpOf_fexp hd0) (eqMod_flog_one_add hk hd)).symm

/-- first-order expansion of `w ↦ w·e^w`: with `e = d/(e^W (1 + W))`,
`(W + e)·e^(W + e) ≡ (W + e)·e^W·(1 + e) = W e^W + d + e²·e^W` -/
theorem lambert_expands : Expands (fun W => W * fexp W) (fun W => (fexp W * (1 + W))⁻¹) 0 := by
  have hu : ∀ {W : ℚ⟦X⟧}, constantCoeff W = 0 → constantCoeff (fexp W * (1 + W)) ≠ 0 := fun hW =>
    constantCoeff_ne_zero_of_eq_one (constantCoeff_fexp_mul hW)
  refine ⟨fun hW => by rw [constantCoeff_inv]; exact inv_ne_zero (hu hW), fun {k W d} hk hW hd => ?_⟩
  set E := fexp W
  set U := E * (1 + W) with hU
  set e := d * U⁻¹ with he
  have hUc : constantCoeff U ≠ 0 := hu hW
  have hek : EqMod k e 0 := hd.mul_right_zero U⁻¹
  have he0 : constantCoeff e = 0 := constantCoeff_of_eqMod_zero hk hek
  show EqMod (2 * k) ((W + e) * fexp (W + e)) (W * E + d)
  rw [fexp_add hW he0]
  refine (EqMod.mul_left _ (EqMod.mul_left _ (fexp_small hk hek))).trans ?_
  have hid : (W + e) * (E * (1 + e)) = W * E + d + e * e * E := by
    rw [he, hU]
    linear_combination d * PowerSeries.inv_mul_cancel U hUc
  rw [hid]
  exact eqMod_add_of_zero _ ((eqMod_sq_of_eqMod hek).mul_right_zero E)

theorem lambert_inj : ∀ (n : ℕ) {G W : ℚ⟦X⟧}, constantCoeff G = 0 → constantCoeff W = 0 →
    EqMod n (G * fexp G) (W * fexp W) → EqMod n G W :=
  fun _ _ _ hG hW h => lambert_expands.inj hG hW h

/-- **series_lambertw**: `g·exp(g) ≡ s` modulo `X^prec`, `g(0) = 0` -/
theorem series_lambertw_spec (s g : Poly) (prec : ℕ) (hp : 1 ≤ prec) (h : seriesLambertw s prec = .ok g) :
    constantCoeff (toPS g) = 0 ∧ EqMod prec (toPS g * fexp (toPS g)) (toPS s) := by
  obtain ⟨hS, h⟩ := guard_ok h
  refine lambert_expands.newton (fun st a b hst hW hb => ?_) hp (hr := by rw [toPS_nil, map_zero])
    (h1 := eqMod_one_iff.mpr (by rw [toPS_nil, zero_mul, map_zero, hS])) h
  obtain ⟨e, he, hb⟩ := bind_ok.mp hb
  obtain ⟨p3, hp3, hb⟩ := bind_ok.mp hb
  obtain rfl := Except.ok.inj hb
  set W := toPS a
  have hE : EqMod st (toPS e) (fexp W) := (exp_specC a e st hst he (EqMod.refl _ _)).2
  have hp3' : EqMod st (toPS p3) (fexp W * (1 + W))⁻¹ := by
    apply invert_eqMod hp3 _ (constantCoeff_ne_zero_of_eq_one (constantCoeff_fexp_mul hW))
    refine (toPS_mulTrunc _ _ _).trans ?_
    rw [toPS_padd, toPS_one, add_comm W 1]
    exact hE.mul_right _
  -- the model computes `a - (a·e - s)·p3`: the Newton step `W + (s - W e^W)·V` with the sign of the residual turned
  rw [toPS_psub, ← neg_sub (W * fexp W) (toPS s), neg_mul, ← sub_eq_add_neg]
  apply (EqMod.refl _ _).sub
  refine (toPS_mulTrunc _ _ _).trans ?_
  apply EqMod.mul _ hp3'
  rw [toPS_psub]
  apply EqMod.sub _ (EqMod.refl _ _)
  refine (toPS_mulTrunc _ _ _).trans ?_
  rw [mul_comm W]
  exact hE.mul_right _

end SymVerif.C31
