import SymVerif.Lemmas.C28Order
/-!
What `and_or` computes, before any meaning is given to formulas: its first loop `collect` returns, as a sorted
list, the set of arguments contributed by the inputs (`collect_spec`), and `and_or` is that loop, the
complementary-pair test and the 0 / 1 / n tail (`andOr_eq`).  Value (C28Truth), canonical form (C28CanonOps) and
independence of the order and grouping of the arguments (C04Logic) are all read off these two statements.
-/
namespace SymVerif.C28
open SymVerif.Logic SymVerif.Logic.B

/-- `x` is an argument contributed by `a`: `a` itself, or, one level of flattening, a member of `a` when `a` is of
    the connective's own kind; constants contribute nothing -/
def contrib (o : Bool) (a x : B) : Prop :=
  match a with
  | .tt | .ff => False
  | .and l => if o then x = a else x ∈ l
  | .or l => if o then x ∈ l else x = a
  | _ => x = a

theorem collect_cons (o : Bool) (a : B) (s args : List B) :
    (a = const o ∧ collect o (a :: s) args = none) ∨
    (a ≠ const o ∧ ∃ args', collect o (a :: s) args = collect o s args' ∧ (Sorted args → Sorted args') ∧
      ∀ x, x ∈ args' ↔ x ∈ args ∨ contrib o a x) := by
  have keep : ∀ x, x ∈ args ↔ x ∈ args ∨ False := fun x => (or_iff_left id).symm
  have one : ∀ x, x ∈ ins a args ↔ x ∈ args ∨ x = a := fun _ => mem_ins.trans or_comm
  have all : ∀ l x, x ∈ insAll l args ↔ x ∈ args ∨ x ∈ l := fun _ _ => mem_insAll.trans or_comm
  cases a with
  | tt => cases o; exacts [.inr ⟨nofun, args, rfl, id, keep⟩, .inl ⟨rfl, rfl⟩]
  | ff => cases o; exacts [.inl ⟨rfl, rfl⟩, .inr ⟨nofun, args, rfl, id, keep⟩]
  | and l =>
    cases o
    exacts [.inr ⟨nofun, _, rfl, sorted_insAll l args, all l⟩, .inr ⟨nofun, _, rfl, sorted_ins _ args, one⟩]
  | or l =>
    cases o
    exacts [.inr ⟨nofun, _, rfl, sorted_ins _ args, one⟩, .inr ⟨nofun, _, rfl, sorted_insAll l args, all l⟩]
  | _ => exact .inr ⟨by cases o <;> nofun, _, rfl, sorted_ins _ args, one⟩

theorem collect_spec (o : Bool) : ∀ (s args : List B),
    (collect o s args = none → const o ∈ s) ∧
    ∀ r, collect o s args = some r →
      const o ∉ s ∧ (Sorted args → Sorted r) ∧ ∀ x, x ∈ r ↔ x ∈ args ∨ ∃ a ∈ s, contrib o a x
  | [], args => ⟨nofun, fun r hr => Option.some.inj hr ▸ ⟨List.not_mem_nil, id, fun x => by simp⟩⟩
  | a :: s, args => by
    rcases collect_cons o a s args with ⟨ha, h⟩ | ⟨ha, args', h, hs, hm⟩
    · rw [h]; exact ⟨fun _ => ha ▸ List.mem_cons_self, nofun⟩
    · rw [h]
      have ih := collect_spec o s args'
      refine ⟨fun hn => List.mem_cons_of_mem _ (ih.1 hn), fun r hr => ?_⟩
      obtain ⟨hnot, hsort, hmem⟩ := ih.2 r hr
      refine ⟨fun h => (List.mem_cons.1 h).elim (fun e => ha e.symm) hnot, fun h => hsort (hs h), fun x => ?_⟩
      rw [hmem x, hm x, or_assoc, List.exists_mem_cons_iff]

/-- the 0 / 1 / n result of `and_or` -/
def finishAO (o : Bool) : List B → B
  | [] => const (!o)
  | [a] => a
  | args => if o then .or args else .and args

theorem andOr_eq (o : Bool) (s : List B) :
    andOr o s = match collect o s [] with
      | none => const o
      | some args => if hasCompl args then const o else finishAO o args := by
  unfold andOr
  cases collect o s [] with
  | none => rfl
  | some args =>
    refine if_congr Iff.rfl rfl ?_
    match args with
    | [] | [_] | _ :: _ :: _ => rfl

theorem finishAnd_eq (args : List B) : finishAnd args = finishAO false args := by
  match args with
  | [] | [_] | _ :: _ :: _ => rfl

theorem andOr_congr (o : Bool) {s s' : List B} (h : ∀ x, x ∈ s ↔ x ∈ s') : andOr o s = andOr o s' := by
  have h1 := collect_spec o s []
  have h2 := collect_spec o s' []
  rw [andOr_eq, andOr_eq]
  -- both loops stop, exactly one stops (impossible), or both return the same set
  rcases c1 : collect o s [] with _ | r <;> rcases c2 : collect o s' [] with _ | r'
  · rfl
  · exact absurd ((h _).1 (h1.1 c1)) (h2.2 r' c2).1
  · exact absurd ((h _).2 (h2.1 c2)) (h1.2 r c1).1
  · obtain ⟨-, hs1, hm1⟩ := h1.2 r c1
    obtain ⟨-, hs2, hm2⟩ := h2.2 r' c2
    rw [sorted_ext _ _ (hs1 sorted_nil) (hs2 sorted_nil) fun x => by simp only [hm1, hm2, h]]

end SymVerif.C28
