import SymVerif.Lemmas.C27Sem
import Mathlib.Tactic.Linarith
import Mathlib.Data.Rat.Defs

/-! Interval ∩ Integers / Naturals / Naturals0: the enumeration `ceil(start) … floor(end)` between finite ends, the
unevaluated pair otherwise. -/
namespace SymVerif.Sets

theorem mem_intRange (n : ℕ) : ∀ (first : ℤ) (q : ℚ),
    ENum.fin q ∈ intRange first n ↔ ∃ k : ℤ, first ≤ k ∧ k < first + n ∧ q = (k : ℚ) := by
  induction n with
  | zero => intro first q; simp [intRange]; intro k h1 h2; omega
  | succ m ih =>
    intro first q
    simp only [intRange, List.mem_cons, ENum.fin.injEq, ih]
    constructor
    · rintro (h | ⟨k, h1, h2, h3⟩)
      · exact ⟨first, le_refl _, by push_cast; omega, h⟩
      · exact ⟨k, by omega, by push_cast; omega, h3⟩
    · rintro ⟨k, h1, h2, h3⟩
      by_cases hk : k = first
      · left; rw [h3, hk]
      · right; exact ⟨k, by omega, by push_cast at h2; omega, h3⟩

theorem mem_intsBetween (first last : ℤ) (q : ℚ) :
    mem (if last < first then .empty else finiteset (mkSB (intRange first (last - first + 1).toNat))) q ↔
      ∃ k : ℤ, first ≤ k ∧ k ≤ last ∧ q = (k : ℚ) := by
  split
  · exact ⟨False.elim, fun ⟨k, h1, h2, _⟩ => by omega⟩
  · rw [mem_finiteset, mem_mkSB, mem_intRange, Int.toNat_of_nonneg (by omega)]
    exact exists_congr fun k => and_congr_right fun _ => and_congr_left fun _ => by omega

/-- the start `c` raised to the least member of the number set; `kind ≤ 2` because the model clamps on `kind == 1`,
    `kind == 2` only, while `numSet`, `kindOK` read every `kind ≥ 2` as Naturals0 -/
theorem clamp_le (kind : Nat) (hkind : kind ≤ 2) (c k : ℤ) :
    (if (kind == 1 && !(decide (0 < c))) = true then 1 else if (kind == 2 && decide (c < 0)) = true then 0 else c) ≤ k
      ↔ (c ≤ k ∧ kindOK kind k) := by
  unfold kindOK
  obtain rfl | rfl | rfl : kind = 0 ∨ kind = 1 ∨ kind = 2 := by omega
  all_goals simp only [Nat.reduceBEq, Nat.reduceEqDiff, Bool.false_and, Bool.true_and, Bool.false_eq_true,
    if_false, if_true, Bool.not_eq_true', decide_eq_false_iff_not, decide_eq_true_eq, and_true, one_ne_zero]
  all_goals split_ifs <;> omega

/-- lower end of the enumeration: `m` is an integer at or above the start `a`, stepped over when it is `a`
    itself and `a` is excluded -/
theorem lowerEnd_le (a : ℚ) (b : Bool) (m k : ℤ) (ham : a ≤ m) :
    (if ((m : ℚ) == a && b) = true then m + 1 else m) ≤ k ↔ (m ≤ k ∧ (a < k ∨ (a = k ∧ b = false))) := by
  rcases ham.lt_or_eq with h | rfl
  · rw [if_neg (by simp [h.ne'])]
    exact (and_iff_left_of_imp fun hk => Or.inl (h.trans_le (Int.cast_le.2 hk))).symm
  · cases b <;> simp <;> omega

theorem upperEnd_le (a : ℚ) (b : Bool) (m k : ℤ) (hma : (m : ℚ) ≤ a) :
    k ≤ (if ((m : ℚ) == a && b) = true then m - 1 else m) ↔ (k ≤ m ∧ ((k : ℚ) < a ∨ (a = k ∧ b = false))) := by
  rcases hma.lt_or_eq with h | rfl
  · rw [if_neg (by simp [h.ne])]
    exact (and_iff_left_of_imp fun hk => Or.inl ((Int.cast_le.2 hk).trans_lt h)).symm
  · cases b <;> simp <;> omega

theorem ivInterInts_mem (s e : ℚ) (lo ro : Bool) (kind : Nat) (hkind : kind ≤ 2) (q : ℚ) :
    mem (ivInterInts s e lo ro kind) q ↔
      (memIv (.fin s) (.fin e) lo ro q ∧ mem (numSet kind) q) := by
  have hstart := fun k => clamp_le kind hkind s.ceil k
  -- the clamped start is at or above `⌈s⌉` (`clamp_le` read at its own left side), hence at or above `s`
  have hlow := fun k => lowerEnd_le s lo _ k (Rat.ceil_le_iff.1 ((hstart _).1 le_rfl).1)
  have hup := fun k => upperEnd_le e ro e.floor k (Rat.le_floor_iff.1 le_rfl)
  simp only [ivInterInts, mem_intsBetween, mem_numSet, memIv, ENum.fin_lt_fin, ENum.fin.injEq]
  constructor
  · rintro ⟨k, h1, h2, rfl⟩
    have h1' := (hlow k).1 h1
    exact ⟨⟨h1'.2, ((hup k).1 h2).2⟩, k, rfl, ((hstart k).1 h1'.1).2⟩
  · rintro ⟨⟨hl, hu⟩, k, rfl, hk⟩
    have hsk : s ≤ k := hl.elim le_of_lt fun h => h.1.le
    have hke : (k : ℚ) ≤ e := hu.elim le_of_lt fun h => h.1.ge
    exact ⟨k, (hlow k).2 ⟨(hstart k).2 ⟨Rat.ceil_le_iff.2 hsk, hk⟩, hl⟩,
      (hup k).2 ⟨Rat.le_floor_iff.2 hke, hu⟩, rfl⟩

theorem ivInterInts_WF {s e : ℚ} {lo ro : Bool} {kind : Nat} : WF (ivInterInts s e lo ro kind) :=
  iteInduction (fun _ => trivial) fun _ => WF_finiteset _

theorem ivInterInts_ok (s1 e1 : ENum) (lo ro : Bool) (kind : Nat) (hkind : kind ≤ 2) : WF (.iv s1 e1 lo ro) →
    Den (match s1, e1 with
          | .fin s, .fin e => (.ok (ivInterInts s e lo ro kind) : Except Err SetE)
          | _, _ => makeInter (mkSS [.iv s1 e1 lo ro, numSet kind]))
      fun q => mem (.iv s1 e1 lo ro) q ∧ mem (numSet kind) q := by
  -- `WF …` stands behind the colon: as a hypothesis in front it is generalised into the `match` of the statement,
  -- which then is no longer the term `miStep` reduces to
  intro ha
  split
  · exact Den.ok (ivInterInts_WF) (ivInterInts_mem _ _ lo ro kind hkind)
  · exact pairAll_ok makeInter_ok ha (WF_numSet kind)

end SymVerif.Sets
