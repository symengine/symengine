import SymVerif.Lemmas.C05Num
/-! Quotients of Gaussian rationals in the form the division routines compute them
(`Complex::divcomp / rdivcomp`, `Rational::divrat`, `Integer::divint`). -/
namespace SymVerif.C05
open SymVerif.Num (sq_add_sq_ne_zero)

theorem gq_ne_zero_of_re {x y : ℚ} (h : x ≠ 0) : gq x y ≠ 0 :=
  fun e => h (by simpa [gq] using congrArg Complex.re e)
theorem gq_ne_zero_of_im {x y : ℚ} (h : y ≠ 0) : gq x y ≠ 0 :=
  fun e => h (by simpa [gq] using congrArg Complex.im e)

theorem gq_div_real {x y p : ℚ} (h : p ≠ 0) : gq x y / gq p 0 = gq (x / p) (y / p) := by
  rw [div_eq_iff (gq_ne_zero_of_re h), gq_mul_real, div_mul_cancel₀ _ h, div_mul_cancel₀ _ h]

/-- `Complex::divcomp(const Complex&)`: multiply by the conjugate, divide by `|z'|²` -/
theorem gq_div {x y x' y' : ℚ} (h : y' ≠ 0) :
    gq x y / gq x' y' =
      gq ((x * x' + y * y') / (x' * x' + y' * y')) ((-x * y' + y * x') / (x' * x' + y' * y')) := by
  have hm := sq_add_sq_ne_zero x' h
  rw [div_eq_iff (gq_ne_zero_of_im h), gq_mul]
  congr 1
  · rw [div_mul_eq_mul_div, div_mul_eq_mul_div, ← sub_div, eq_div_iff hm]; ring
  · rw [div_mul_eq_mul_div, div_mul_eq_mul_div, ← add_div, eq_div_iff hm]; ring

/-- `Complex::rdivcomp`: a real dividend `p` over a Complex -/
theorem gq_real_div {p x y : ℚ} (h : y ≠ 0) :
    gq p 0 / gq x y = gq (x * p / (x * x + y * y)) (y * -p / (x * x + y * y)) := by
  rw [gq_div h]; congr 2 <;> ring

end SymVerif.C05
