import SymVerif.Model.Surd
import Mathlib.Analysis.SpecialFunctions.Pow.Real
import Mathlib.Analysis.SpecialFunctions.Sqrt
import Mathlib.Tactic.Ring
import Mathlib.Tactic.FieldSimp
import Mathlib.Tactic.Linarith
import Mathlib.Tactic.NormNum
/-!
C08: real semantics of the recipe language and of the exact arithmetic in Q(√2, √3);
`Recipe.evalS_sound`: whatever the executable evaluator prints is the real value of the recipe.
-/
namespace SymVerif.Funcs
open Real

noncomputable section

/-- the real number a recipe denotes (`pow` with a real exponent, total like Mathlib's `rpow`) -/
def Recipe.evalR : Recipe → ℝ
  | .int n => (n : ℝ)
  | .add a b => a.evalR + b.evalR
  | .sub a b => a.evalR - b.evalR
  | .mul a b => a.evalR * b.evalR
  | .div a b => a.evalR / b.evalR
  | .pow a b => a.evalR ^ b.evalR
  | .sqrt a => Real.sqrt a.evalR

def Surd.toReal (s : Surd) : ℝ := (s.a : ℝ) + s.b * √2 + s.c * √3 + s.d * √6

end

theorem sqrt2_sq : (√2 : ℝ) * √2 = 2 := Real.mul_self_sqrt (by norm_num)
theorem sqrt3_sq : (√3 : ℝ) * √3 = 3 := Real.mul_self_sqrt (by norm_num)
theorem sqrt6_eq : (√6 : ℝ) = √2 * √3 := by
  rw [← Real.sqrt_mul (by norm_num : (0:ℝ) ≤ 2)]; norm_num

namespace Surd

@[simp] theorem toReal_ofRat (q : Rat) : (ofRat q).toReal = (q : ℝ) := by
  simp [toReal, ofRat]

theorem toReal_add (x y : Surd) : (add x y).toReal = x.toReal + y.toReal := by
  simp only [toReal, add]; push_cast; ring

theorem toReal_sub (x y : Surd) : (sub x y).toReal = x.toReal - y.toReal := by
  simp only [toReal, sub]; push_cast; ring

theorem toReal_neg (x : Surd) : (neg x).toReal = -x.toReal := by
  simp only [toReal, neg]; push_cast; ring

theorem toReal_smul (q : Rat) (x : Surd) : (smul q x).toReal = (q : ℝ) * x.toReal := by
  simp only [toReal, smul]; push_cast; ring

/-- multiplication in `ℚ(u, v)` with `u² = 2`, `v² = 3`, on the basis `1, u, v, uv` -/
theorem mul_aux (u v a b c d a' b' c' d' : ℝ) (h2 : u * u = 2) (h3 : v * v = 3) :
    (a * a' + 2 * (b * b') + 3 * (c * c') + 6 * (d * d')) + (a * b' + b * a' + 3 * (c * d' + d * c')) * u
      + (a * c' + c * a' + 2 * (b * d' + d * b')) * v + (a * d' + d * a' + b * c' + c * b') * (u * v)
    = (a + b * u + c * v + d * (u * v)) * (a' + b' * u + c' * v + d' * (u * v)) := by
  linear_combination (-(b * b') - d * d' * v ^ 2 - (b * d' + d * b') * v) * h2
    + (-(c * c') - 2 * (d * d') - (c * d' + d * c') * u) * h3

theorem toReal_mul (x y : Surd) : (mul x y).toReal = x.toReal * y.toReal := by
  simp only [toReal, mul, sqrt6_eq, Rat.cast_add, Rat.cast_mul, Rat.cast_ofNat]
  exact mul_aux √2 √3 x.a x.b x.c x.d y.a y.b y.c y.d sqrt2_sq sqrt3_sq

theorem toReal_one : one.toReal = 1 := by simp [one]

theorem toReal_npow (x : Surd) (n : Nat) : (npow x n).toReal = x.toReal ^ n := by
  induction n with
  | zero => simp [npow, toReal_one]
  | succ n ih => simp [npow, toReal_mul, ih, pow_succ]

theorem inv?_sound {x y : Surd} (h : inv? x = some y) : x.toReal * y.toReal = 1 := by
  unfold inv? at h
  simp only at h
  split at h
  · cases h
  · rename_i hn
    cases h
    rw [toReal_smul, toReal_mul]
    -- x * conj3 x = n3 (coordinates c, d vanish); n3 * conj2 n3 = n
    set n3 := mul x (conj3 x) with hn3
    set n : Rat := n3.a * n3.a - 2 * (n3.b * n3.b) with hnd
    have hc : n3.c = 0 := by simp only [hn3, mul, conj3]; ring
    have hd : n3.d = 0 := by simp only [hn3, mul, conj3]; ring
    have h1 : x.toReal * (conj3 x).toReal = n3.toReal := by rw [hn3, toReal_mul]
    have h2 : n3.toReal * (conj2 n3).toReal = (n : ℝ) := by
      simp only [toReal, conj2, hc, hd, hnd]; push_cast
      linear_combination (-((n3.b : ℝ)) ^ 2) * sqrt2_sq
    have hne : (n : ℝ) ≠ 0 := by exact_mod_cast hn
    calc x.toReal * (((1 / n : Rat) : ℝ) * ((conj3 x).toReal * (conj2 n3).toReal))
        = ((1 / n : Rat) : ℝ) * ((x.toReal * (conj3 x).toReal) * (conj2 n3).toReal) := by ring
      _ = ((1 / n : Rat) : ℝ) * (n : ℝ) := by rw [h1, h2]
      _ = 1 := by
        rw [one_div, Rat.cast_inv]
        exact inv_mul_cancel₀ hne

theorem div?_sound {x y z : Surd} (h : div? x y = some z) : z.toReal = x.toReal / y.toReal := by
  unfold div? at h
  cases hi : inv? y with
  | none => simp [hi] at h
  | some yi =>
    simp [hi] at h
    subst h
    have := inv?_sound hi
    have hy : y.toReal ≠ 0 := left_ne_zero_of_mul_eq_one this
    rw [toReal_mul, eq_div_iff hy, mul_assoc, mul_comm yi.toReal, this, mul_one]

theorem isRat_toReal {x : Surd} (h : x.isRat = true) : x.toReal = (x.a : ℝ) := by
  simp only [isRat, Bool.and_eq_true, beq_iff_eq] at h
  obtain ⟨⟨hb, hc⟩, hd⟩ := h
  simp [toReal, hb, hc, hd]

theorem ratSqrt?_sound {q s : Rat} (h : ratSqrt? q = some s) : Real.sqrt (q : ℝ) = (s : ℝ) := by
  unfold ratSqrt? at h
  split at h
  · cases h
  · rename_i hq
    simp only at h
    split at h
    · rename_i hc
      cases h
      simp only [Bool.and_eq_true, beq_iff_eq, bne_iff_ne, ne_eq] at hc
      -- the model's `sd != 0` is not needed: over ℝ, x / 0 = 0 and `Real.sqrt_mul_self` asks only `0 ≤ sn / sd`
      obtain ⟨⟨hn, hd⟩, -⟩ := hc
      have hq0 : 0 ≤ q := not_lt.mp hq
      have hnum : 0 ≤ q.num := Rat.num_nonneg.mpr hq0
      have hqv : (q : ℝ) = ((q.num.toNat : ℕ) : ℝ) / (q.den : ℝ) := by
        have : ((q.num.toNat : ℕ) : ℤ) = q.num := Int.toNat_of_nonneg hnum
        have h2 : (q : ℝ) = (q.num : ℝ) / (q.den : ℝ) := by
          exact_mod_cast (Rat.num_div_den q).symm
        rw [h2]
        congr 1
        exact_mod_cast this.symm
      have hs : ((mkRat (Nat.sqrt q.num.toNat) (Nat.sqrt q.den) : Rat) : ℝ)
          = ((Nat.sqrt q.num.toNat : ℕ) : ℝ) / ((Nat.sqrt q.den : ℕ) : ℝ) := by
        rw [Rat.mkRat_eq_div]; push_cast; rfl
      rw [hs, hqv]
      have e1 : ((q.num.toNat : ℕ) : ℝ) = ((Nat.sqrt q.num.toNat : ℕ) : ℝ) * ((Nat.sqrt q.num.toNat : ℕ) : ℝ) := by
        exact_mod_cast hn.symm
      have e2 : ((q.den : ℕ) : ℝ) = ((Nat.sqrt q.den : ℕ) : ℝ) * ((Nat.sqrt q.den : ℕ) : ℝ) := by
        exact_mod_cast hd.symm
      rw [e1, e2]
      rw [mul_div_mul_comm]
      exact Real.sqrt_mul_self (by positivity)
    · cases h

theorem ratSqrt?_div_sound {q s : Rat} (t : ℕ) (ht : (t : ℝ) ≠ 0) (h : ratSqrt? (q / t) = some s) :
    Real.sqrt (q : ℝ) = (s : ℝ) * √(t : ℝ) := by
  have hq : (q : ℝ) = ((q / t : Rat) : ℝ) * t := by push_cast; field_simp
  rw [hq, Real.sqrt_mul' _ (Nat.cast_nonneg t), ratSqrt?_sound h]

theorem sqrtRat?_sound {q : Rat} {s : Surd} (h : sqrtRat? q = some s) : s.toReal = Real.sqrt (q : ℝ) := by
  unfold sqrtRat? at h
  split at h
  · rename_i r hr
    cases h
    simp [toReal, ratSqrt?_sound hr]
  · split at h
    · rename_i r hr
      cases h
      simpa [toReal] using (ratSqrt?_div_sound 2 (by norm_num) hr).symm
    · split at h
      · rename_i r hr
        cases h
        simpa [toReal] using (ratSqrt?_div_sound 3 (by norm_num) hr).symm
      · split at h
        · rename_i r hr
          cases h
          simpa [toReal] using (ratSqrt?_div_sound 6 (by norm_num) hr).symm
        · cases h

end Surd

theorem Recipe.evalS_sound (r : Recipe) : ∀ (s : Surd), r.evalS = some s → s.toReal = r.evalR := by
  induction r with
  | int n =>
    intro s h
    cases h
    simp [Recipe.evalR]
  | add a b iha ihb | sub a b iha ihb | mul a b iha ihb =>
    intro s h
    simp only [Recipe.evalS, Option.bind_eq_bind, Option.bind_eq_some_iff] at h
    obtain ⟨x, hx, y, hy, hs⟩ := h
    cases hs
    simp only [Surd.toReal_add, Surd.toReal_sub, Surd.toReal_mul, iha x hx, ihb y hy, Recipe.evalR]
  | div a b iha ihb =>
    intro s h
    simp only [Recipe.evalS, Option.bind_eq_bind, Option.bind_eq_some_iff] at h
    obtain ⟨x, hx, y, hy, hs⟩ := h
    rw [Surd.div?_sound hs, iha x hx, ihb y hy]; rfl
  | pow a b iha ihb =>
    intro s h
    simp only [Recipe.evalS, Option.bind_eq_bind, Option.bind_eq_some_iff] at h
    obtain ⟨x, hx, y, hy, hs⟩ := h
    have hxa := iha x hx
    have hyb := ihb y hy
    split at hs
    · rename_i hc
      simp only [Bool.and_eq_true, beq_iff_eq] at hc
      obtain ⟨hrat, hden⟩ := hc
      have hyv : b.evalR = ((y.a.num : ℤ) : ℝ) := by
        rw [← hyb, Surd.isRat_toReal hrat]
        have : (y.a : ℝ) = (y.a.num : ℝ) / (y.a.den : ℝ) := by exact_mod_cast (Rat.num_div_den y.a).symm
        rw [this, hden]; simp
      split at hs
      · rename_i hnn
        simp at hs; subst hs
        rw [Surd.toReal_npow, hxa]
        show a.evalR ^ y.a.num.toNat = a.evalR ^ b.evalR
        obtain ⟨k, hk⟩ := Int.eq_ofNat_of_zero_le hnn
        rw [hyv, hk]
        simp only [Int.toNat_natCast, Int.cast_natCast, Real.rpow_natCast]
      · rename_i hneg
        simp only [Option.map_eq_some_iff] at hs
        obtain ⟨xi, hxi, hs⟩ := hs
        subst hs
        have hinv := Surd.inv?_sound hxi
        rw [Surd.toReal_npow]
        show xi.toReal ^ y.a.num.natAbs = a.evalR ^ b.evalR
        rw [hyv, ← hxa]
        have hxi' : xi.toReal = (x.toReal)⁻¹ := eq_inv_of_mul_eq_one_right hinv
        obtain ⟨k, hk⟩ : ∃ k : ℕ, y.a.num = -(k : ℤ) := ⟨y.a.num.natAbs, by
          have : y.a.num < 0 := not_le.mp hneg
          omega⟩
        rw [hk]
        simp only [Int.natAbs_neg, Int.natAbs_natCast]
        rw [Real.rpow_intCast, zpow_neg, zpow_natCast, hxi', inv_pow]
    · cases hs
  | sqrt a iha =>
    intro s h
    simp only [Recipe.evalS, Option.bind_eq_bind, Option.bind_eq_some_iff] at h
    obtain ⟨x, hx, hs⟩ := h
    split at hs
    · rename_i hrat
      rw [Surd.sqrtRat?_sound hs, ← Surd.isRat_toReal hrat, iha x hx]; rfl
    · cases hs

end SymVerif.Funcs
