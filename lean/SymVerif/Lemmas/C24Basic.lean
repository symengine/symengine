import SymVerif.Model.Dense
import SymVerif.Lemmas.Basic
/-! Basic facts about the checked array accesses and the loop combinators of `Model/Dense.lean`;
the storage seen as a grid (`cell`; `rd_cell`, `wr_cell` are where the row-major index `i * c + j`
is dealt with) and the two rules for in-place loops over it: `gridLoop` (every iteration
owns its cells; `gridLoop1`, `gridFill` for one write per iteration) and `forN_cell0` (all iterations
accumulate into one cell). -/
namespace SymVerif.Dense

theorem rd_ok {m : Array X} {k : Nat} (h : k < m.size) : rd m k = .ok m[k] := by
  simp [rd, h, pure, Except.pure]

theorem rd_getD {m : Array X} {k : Nat} (h : k < m.size) : rd m k = .ok (m.getD k X.unk) := by
  simp [rd, h, pure, Except.pure, Array.getD]

theorem wr_ok {m : Array X} {k : Nat} (v : X) (h : k < m.size) : wr m k v = .ok (m.set k v h) := by
  simp [wr, h, pure, Except.pure]

theorem getD_set {m : Array X} {k : Nat} (v : X) (h : k < m.size) (t : Nat) :
    (m.set k v h).getD t X.unk = if t = k then v else m.getD t X.unk := by
  by_cases htk : t = k
  · subst htk; simp [Array.getD, h]
  · simp only [Array.getD, Array.size_set, htk, if_false]
    by_cases ht : t < m.size
    · simp [ht, Ne.symm htk]
    · simp [ht]

theorem wr_wr {m m' : Array X} {t : Nat} {v : X} (h : wr m t v = .ok m') (v' : X) :
    wr m' t v' = wr m t v' := by
  unfold wr at h
  split at h
  · cases h
    rename_i ht
    rw [wr_ok _ (by rw [Array.size_set]; exact ht), wr_ok _ ht, Array.set_set]
  · cases h

theorem req_true {b : Bool} (h : b = true) : req b = .ok () := by simp [req, h, pure, Except.pure]

-- in this namespace the short name is this lemma, not the iff `SymVerif.bind_ok` of `Lemmas/Basic.lean`
theorem bind_ok {α β : Type} (a : α) (f : α → M β) : (Except.ok a : M α) >>= f = f a := rfl

/-- invariant rule for `forN` (total correctness) -/
theorem forN_spec {σ : Type} (body : Nat → σ → M σ) (P : Nat → σ → Prop) :
    ∀ (n i : Nat) (s : σ), P i s →
      (∀ k s, i ≤ k → k < i + n → P k s → ∃ s', body k s = .ok s' ∧ P (k + 1) s') →
      ∃ s', forN n i body s = .ok s' ∧ P (i + n) s' := by
  intro n
  induction n with
  | zero => intro i s h _; exact ⟨s, rfl, h⟩
  | succ n ih =>
    intro i s h hstep
    obtain ⟨s1, hb, hp⟩ := hstep i s (Nat.le_refl _) (by omega) h
    obtain ⟨s2, hf, hp2⟩ := ih (i + 1) s1 hp (fun k s hk hk2 hP => hstep k s (by omega) (by omega) hP)
    refine ⟨s2, ?_, ?_⟩
    · simp [forN, hb, bind, Except.bind, hf]
    · have : i + (n + 1) = i + 1 + n := by omega
      rw [this]; exact hp2

/-- invariant rule for `forN` (partial correctness) -/
theorem forN_inv {σ : Type} (body : Nat → σ → M σ) (P : Nat → σ → Prop) :
    ∀ (n i : Nat) (s s' : σ), P i s →
      (∀ k s s', i ≤ k → k < i + n → P k s → body k s = .ok s' → P (k + 1) s') →
      forN n i body s = .ok s' → P (i + n) s' := by
  intro n
  induction n with
  | zero => intro i s s' h _ hf; simp [forN, pure, Except.pure] at hf; subst hf; exact h
  | succ n ih =>
    intro i s s' h hstep hf
    simp only [forN, bind, Except.bind] at hf
    cases hb : body i s with
    | error e => simp [hb] at hf
    | ok s1 =>
      simp [hb] at hf
      have hp := hstep i s s1 (Nat.le_refl _) (by omega) h hb
      have := ih (i + 1) s1 s' hp (fun k s s' hk hk2 hP hb => hstep k s s' (by omega) (by omega) hP hb) hf
      have e : i + (n + 1) = i + 1 + n := by omega
      rw [e]; exact this

theorem forDown_spec {σ : Type} (body : Nat → σ → M σ) (P : Nat → σ → Prop) (lo : Nat) :
    ∀ (n : Nat) (s : σ), P (lo + n) s →
      (∀ k s, lo ≤ k → k < lo + n → P (k + 1) s → ∃ s', body k s = .ok s' ∧ P k s') →
      ∃ s', forDown n lo body s = .ok s' ∧ P lo s' := by
  intro n
  induction n with
  | zero => intro s h _; exact ⟨s, rfl, h⟩
  | succ n ih =>
    intro s h hstep
    obtain ⟨s1, hb, hp⟩ := hstep (lo + n) s (by omega) (by omega) (by simpa [Nat.add_assoc] using h)
    obtain ⟨s2, hf, hp2⟩ := ih s1 hp (fun k s hk hk2 hP => hstep k s hk (by omega) hP)
    exact ⟨s2, by simp [forDown, hb, bind, Except.bind, hf], hp2⟩

theorem forN_append {σ : Type} (body : Nat → σ → M σ) (a : Nat) :
    ∀ (b i : Nat) (s : σ), forN (a + b) i body s = forN a i body s >>= forN b (i + a) body := by
  intro b
  induction a with
  | zero => intro i s; rw [Nat.zero_add]; rfl
  | succ a ih =>
    intro i s
    rw [Nat.add_right_comm a 1 b, forN, forN]
    cases body i s with
    | error e => rfl
    | ok s1 =>
      simp only [bind_ok]
      rw [ih (i + 1) s1, Nat.add_assoc i 1 a, Nat.add_comm 1 a]

theorem forN_succ_last {σ : Type} (body : Nat → σ → M σ) (n i : Nat) (s : σ) :
    forN (n + 1) i body s = forN n i body s >>= body (i + n) := by
  rw [forN_append]
  congr 1; funext s'
  exact bind_pure (body (i + n) s')

theorem forN_split {σ : Type} (body : Nat → σ → M σ) {a n : Nat} (h : a ≤ n) (i : Nat) (s : σ) :
    forN n i body s = forN a i body s >>= forN (n - a) (i + a) body := by
  rw [← forN_append, Nat.add_sub_cancel' h]

theorem forN_congr {σ : Type} (body body' : Nat → σ → M σ) :
    ∀ (n i : Nat) (s : σ), (∀ k, i ≤ k → k < i + n → body k = body' k) →
      forN n i body s = forN n i body' s := by
  intro n
  induction n with
  | zero => intro i s _; rfl
  | succ n ih =>
    intro i s h
    rw [forN, forN, h i (Nat.le_refl _) (by omega)]
    cases body' i s with
    | error e => rfl
    | ok s1 => exact ih (i + 1) s1 (fun k hk hk2 => h k (by omega) (by omega))

/-- entry `(i, j)` of a storage with `c` columns (`unk` outside the storage) -/
def cell (m : Array X) (c i j : Nat) : X := m.getD (i * c + j) X.unk

/-- the same entry, of a matrix: `A.at i j` is `cell A.m A.col i j` by `rfl` (proofs pass between them by `show`) -/
def DM.at (A : DM) (i j : Nat) : X := A.m.getD (i * A.col + j) X.unk

theorem cell_replicate {r c i j : Nat} (v : X) (hi : i < r) (hj : j < c) :
    cell (Array.replicate (r * c) v) c i j = v := by
  simp [cell, Array.getD, idx_lt hi hj]

theorem rd_cell {m : Array X} {r c i j : Nat} (hs : m.size = r * c) (hi : i < r) (hj : j < c) :
    rd m (i * c + j) = .ok (cell m c i j) := rd_getD (hs ▸ idx_lt hi hj)

theorem wr_cell {m : Array X} {r c i j : Nat} (hs : m.size = r * c) (hi : i < r) (hj : j < c) (v : X) :
    ∃ m', wr m (i * c + j) v = .ok m' ∧ m'.size = r * c ∧
      ∀ i' j', j' < c → cell m' c i' j' = if i' = i ∧ j' = j then v else cell m c i' j' := by
  have h : i * c + j < m.size := hs ▸ idx_lt hi hj
  refine ⟨_, wr_ok v h, by rw [Array.size_set, hs], fun i' j' hj' => ?_⟩
  unfold cell
  rw [getD_set]
  by_cases e : i' = i ∧ j' = j
  · rw [if_pos e, if_pos (by rw [e.1, e.2])]
  · rw [if_neg e, if_neg (fun h => e (idx_inj hj' hj h))]

theorem wr_own {m : Array X} {r c i j : Nat} (hs : m.size = r * c) (hi : i < r) (hj : j < c) (v : X) :
    ∃ m', wr m (i * c + j) v = .ok m' ∧ m'.size = r * c ∧ cell m' c i j = v ∧
      ∀ a b, b < c → ¬ (a = i ∧ b = j) → cell m' c a b = cell m c a b := by
  obtain ⟨m', hw, hs', h⟩ := wr_cell hs hi hj v
  exact ⟨m', hw, hs', by rw [h i j hj, if_pos ⟨rfl, rfl⟩], fun a b hb hne => by rw [h a b hb, if_neg hne]⟩

theorem wr_cell_self {m : Array X} {r c i j : Nat} (hs : m.size = r * c) (hi : i < r) (hj : j < c) :
    wr m (i * c + j) (cell m c i j) = .ok m := by
  have h : i * c + j < m.size := hs ▸ idx_lt hi hj
  simp [cell, wr, Array.getD, h, pure, Except.pure]

/-- In-place loop over the storage of an `r × c` grid.  `S k` are the cells iteration `k` may rewrite;
    `Q k` is what it establishes, a property of the whole storage (so it may be an equation between
    cells).  Instead of asking the `S k` to be disjoint, `hst` asks that `Q k` survives any change
    confined to the cells of later iterations.  The body may use that every cell the earlier
    iterations did not own is still the initial one.
    The bounds read `n + lo` so that they are `k < n` by definition when `lo = 0`. -/
theorem gridLoop (r c : Nat) (S : Nat → Nat → Nat → Prop) (Q : Nat → Array X → Prop)
    (body : Nat → Array X → M (Array X)) (m0 : Array X) (n lo : Nat) (hs0 : m0.size = r * c)
    (hst : ∀ k, lo ≤ k → k < n + lo → ∀ m m' : Array X,
      (∀ i j, j < c → (∀ k', k < k' → k' < n + lo → ¬ S k' i j) → cell m' c i j = cell m c i j) →
      Q k m → Q k m')
    (hstep : ∀ k, lo ≤ k → k < n + lo → ∀ m : Array X, m.size = r * c →
      (∀ i j, j < c → (∀ k', lo ≤ k' → k' < k → ¬ S k' i j) → cell m c i j = cell m0 c i j) →
      ∃ m', body k m = .ok m' ∧ m'.size = r * c ∧ Q k m' ∧
        ∀ i j, j < c → ¬ S k i j → cell m' c i j = cell m c i j) :
    ∃ m, forN n lo body m0 = .ok m ∧ m.size = r * c ∧ (∀ k, lo ≤ k → k < n + lo → Q k m) ∧
      ∀ i j, j < c → (∀ k, lo ≤ k → k < n + lo → ¬ S k i j) → cell m c i j = cell m0 c i j := by
  have h := forN_spec body (fun b m => m.size = r * c ∧
      (∀ k, lo ≤ k → k < b → Q k m) ∧
      ∀ i j, j < c → (∀ k, lo ≤ k → k < b → ¬ S k i j) → cell m c i j = cell m0 c i j) n lo m0
    ⟨hs0, fun k h1 h2 => absurd h2 (Nat.not_lt.mpr h1), fun _ _ _ _ => rfl⟩ ?_
  · rw [Nat.add_comm lo n] at h
    exact h
  · intro k m hk hk' ⟨hs, hq, hfr⟩
    rw [Nat.add_comm lo n] at hk'
    obtain ⟨m', hb, hs', hQ, hkeep⟩ := hstep k hk hk' m hs hfr
    refine ⟨m', hb, hs', fun k' h1 h2 => ?_, fun i j hj h => ?_⟩
    · by_cases e : k' = k
      · exact e ▸ hQ
      · have hlt : k' < k := Nat.lt_of_le_of_ne (Nat.le_of_lt_succ h2) e
        exact hst k' h1 (Nat.lt_trans hlt hk') m m' (fun i j hj h => hkeep i j hj (h k hlt hk'))
          (hq k' h1 hlt)
    · rw [hkeep i j hj (h k hk (Nat.lt_succ_self k))]
      exact hfr i j hj (fun k' h1 h2 => h k' h1 (Nat.lt_succ_of_lt h2))

/-- `gridLoop` when iteration `k` is one write of `v k` to its own cell `(fi k, fj k)` -/
theorem gridLoop1 (r c : Nat) (fi fj : Nat → Nat) (v : Nat → X)
    (body : Nat → Array X → M (Array X)) (m0 : Array X) (n lo : Nat) (hs0 : m0.size = r * c)
    (hf : ∀ k, lo ≤ k → k < n + lo → fi k < r ∧ fj k < c)
    (hinj : ∀ k k', lo ≤ k → k < k' → k' < n + lo → ¬ (fi k = fi k' ∧ fj k = fj k'))
    (hb : ∀ k, lo ≤ k → k < n + lo → ∀ m : Array X, m.size = r * c →
      (∀ i j, j < c → (∀ k', lo ≤ k' → k' < k → ¬ (i = fi k' ∧ j = fj k')) → cell m c i j = cell m0 c i j) →
      body k m = wr m (fi k * c + fj k) (v k)) :
    ∃ m, forN n lo body m0 = .ok m ∧ m.size = r * c ∧
      (∀ k, lo ≤ k → k < n + lo → cell m c (fi k) (fj k) = v k) ∧
      ∀ i j, j < c → (∀ k, lo ≤ k → k < n + lo → ¬ (i = fi k ∧ j = fj k)) → cell m c i j = cell m0 c i j :=
  gridLoop r c (fun k i j => i = fi k ∧ j = fj k) (fun k m => cell m c (fi k) (fj k) = v k) body m0 n lo hs0
    (fun k h1 hk m m' hag h => by
      rw [hag _ _ (hf k h1 hk).2 (fun k' h2 h3 e => hinj k k' h1 h2 h3 e)]; exact h)
    (fun k h1 hk m hs hfr => by
      rw [hb k h1 hk m hs hfr]; exact wr_own hs (hf k h1 hk).1 (hf k h1 hk).2 (v k))

/-- a doubly nested loop whose iteration `(i, j)` is one write of `v i j` to cell `(fi i j, fj i j)`, the map being injective -/
theorem gridFill (r c n1 n2 : Nat) (fi fj : Nat → Nat → Nat) (v : Nat → Nat → X)
    (body : Nat → Nat → Array X → M (Array X)) (m0 : Array X) (hs0 : m0.size = r * c)
    (hb : ∀ i, i < n1 → ∀ j, j < n2 → ∀ m : Array X, m.size = r * c →
      body i j m = wr m (fi i j * c + fj i j) (v i j))
    (hf : ∀ i, i < n1 → ∀ j, j < n2 → fi i j < r ∧ fj i j < c)
    (hinj : ∀ i, i < n1 → ∀ j, j < n2 → ∀ i', i' < n1 → ∀ j', j' < n2 →
      fi i j = fi i' j' → fj i j = fj i' j' → i = i' ∧ j = j') :
    ∃ m, forN n1 0 (fun i m => forN n2 0 (fun j m => body i j m) m) m0 = .ok m ∧ m.size = r * c ∧
      (∀ i, i < n1 → ∀ j, j < n2 → cell m c (fi i j) (fj i j) = v i j) ∧
      ∀ a b, b < c → (∀ i, i < n1 → ∀ j, j < n2 → ¬ (a = fi i j ∧ b = fj i j)) →
        cell m c a b = cell m0 c a b := by
  -- outer iteration `i` owns the cells `(fi i j, fj i j)`, inner iteration `j` the single one
  obtain ⟨m, hok, hs, hq, hfr⟩ := gridLoop r c (fun i a b => ∃ j, j < n2 ∧ a = fi i j ∧ b = fj i j)
    (fun i m => ∀ j, j < n2 → cell m c (fi i j) (fj i j) = v i j)
    (fun i m => forN n2 0 (fun j m => body i j m) m) m0 n1 0 hs0
    (fun i _ hi m m' hag h j hj => by
      rw [hag _ _ (hf i hi j hj).2 (fun i' h1 h2 ⟨j', hj', e1, e2⟩ =>
        Nat.ne_of_lt h1 (hinj i hi j hj i' h2 j' hj' e1 e2).1)]
      exact h j hj)
    (fun i _ hi m hs _ => by
      obtain ⟨m', hok', hs', hq', hfr'⟩ := gridLoop1 r c (fi i) (fj i) (v i) (fun j m => body i j m) m n2 0 hs
        (fun j _ hj => hf i hi j hj)
        (fun j j' _ h h2 e => Nat.ne_of_lt h (hinj i hi j (Nat.lt_trans h h2) i hi j' h2 e.1 e.2).2)
        (fun j _ hj m1 hs1 _ => hb i hi j hj m1 hs1)
      exact ⟨m', hok', hs', fun j hj => hq' j (Nat.zero_le j) hj,
        fun a b hb h => hfr' a b hb (fun j _ hj e => h ⟨j, hj, e⟩)⟩)
  exact ⟨m, hok, hs, fun i hi => hq i (Nat.zero_le i) hi,
    fun a b hb h => hfr a b hb (fun i _ hi ⟨j, hj, e⟩ => h i hi j hj e)⟩

/-- `init` after the steps `g 0, …, g (n - 1)`, left to right -/
def accF (g : Nat → X → X) (init : X) : Nat → X
  | 0 => init
  | n + 1 => g n (accF g init n)

theorem accF_congr (g g' : Nat → X → X) (init : X) :
    ∀ n, (∀ k, k < n → g k = g' k) → accF g init n = accF g' init n := by
  intro n
  induction n with
  | zero => intro _; rfl
  | succ n ih => intro h; simp only [accF]; rw [h n (by omega), ih (fun k hk => h k (by omega))]

/-- a loop that keeps updating the single cell `(i, j)`, reading besides it only cells that never
    change, amounts to one write of the accumulated value -/
theorem forN_cell0 {r c i j : Nat} (hi : i < r) (hj : j < c) (g : Nat → X → X)
    (body : Nat → Array X → M (Array X)) (m : Array X) (hs : m.size = r * c) :
    ∀ (n : Nat),
      (∀ k, k < n → ∀ m' : Array X, m'.size = r * c →
        (∀ i' j', j' < c → ¬ (i' = i ∧ j' = j) → cell m' c i' j' = cell m c i' j') →
        body k m' = wr m' (i * c + j) (g k (cell m' c i j))) →
      forN n 0 body m = wr m (i * c + j) (accF g (cell m c i j) n) := by
  intro n
  induction n with
  | zero => intro _; exact (wr_cell_self hs hi hj).symm
  | succ n ih =>
    intro hb
    obtain ⟨m1, h1, hs1, v1, o1⟩ := wr_own hs hi hj (accF g (cell m c i j) n)
    rw [forN_succ_last, ih (fun k hk => hb k (Nat.lt_succ_of_lt hk)), h1, bind_ok, Nat.zero_add,
      hb n (Nat.lt_succ_self n) m1 hs1 o1, v1, wr_wr h1]
    rfl

end SymVerif.Dense
