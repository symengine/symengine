/-
Structural lemmas about the C01/C02 model (`Model/ExprHash.lean`): a children-based induction
principle, unfolding equations of `beq'`/`cmp` per constructor in terms of the list
functions on the children, and the consequences of `WF`.
-/
import SymVerif.Model.ExprHash
import SymVerif.Lemmas.ExprEqb

namespace SymVerif

namespace Expr
open TC (Kind)

def flat : List (Expr × Expr) → List Expr
  | [] => []
  | (k, v) :: t => k :: v :: flat t

/-- the stored sub-expressions, in the order `cmp` visits them -/
def children : Expr → List Expr
  | add c ts => c :: flat ts
  | mul c fs => c :: flat fs
  | pow b e => [b, e]
  | fsym _ args => args
  | app _ args => args
  | _ => []

theorem mem_flat {x : Expr} : ∀ {l : List (Expr × Expr)}, x ∈ flat l ↔ ∃ p ∈ l, x = p.1 ∨ x = p.2
  | [] => by simp [flat]
  | (k, v) :: t => by
    simp only [flat, List.mem_cons, mem_flat (l := t)]
    constructor
    · rintro (h | h | ⟨p, hp, h⟩)
      · exact ⟨(k, v), Or.inl rfl, Or.inl h⟩
      · exact ⟨(k, v), Or.inl rfl, Or.inr h⟩
      · exact ⟨p, Or.inr hp, h⟩
    · rintro ⟨p, (rfl | hp), h⟩
      · rcases h with h | h
        · exact Or.inl h
        · exact Or.inr (Or.inl h)
      · exact Or.inr (Or.inr ⟨p, hp, h⟩)

theorem flat_length (l : List (Expr × Expr)) : (flat l).length = 2 * l.length := by
  induction l with
  | nil => rfl
  | cons p t ih => obtain ⟨k, v⟩ := p; simp [flat, ih]; omega

theorem flat_inj : ∀ {l l' : List (Expr × Expr)}, flat l = flat l' → l = l'
  | [], [] => fun _ => rfl
  | [], (k, v) :: t => by simp [flat]
  | (k, v) :: t, [] => by simp [flat]
  | (k, v) :: t, (k', v') :: t' => by
    simp only [flat, List.cons.injEq, Prod.mk.injEq]
    rintro ⟨rfl, rfl, h⟩
    exact ⟨⟨rfl, rfl⟩, flat_inj h⟩

section induct
set_option linter.unusedSectionVars false  -- `ind_args`, `ind_pairs` are flagged although the mutual block needs `step`
variable (P : Expr → Prop) (step : ∀ a, (∀ x ∈ children a, P x) → P a)
include step

mutual
  private theorem ind_all : (a : Expr) → P a
    | int n => step _ (by simp [children])
    | rat n d => step _ (by simp [children])
    | cplx r i => step _ (by simp [children])
    | dbl b => step _ (by simp [children])
    | cdbl r i => step _ (by simp [children])
    | infty d => step _ (by simp [children])
    | nan => step _ (by simp [children])
    | sym n => step _ (by simp [children])
    | dummy n i => step _ (by simp [children])
    | const n => step _ (by simp [children])
    | bool b => step _ (by simp [children])
    | add c ts => step _ (fun x hx =>
        (List.mem_cons.mp hx).elim (fun h => h ▸ ind_all c) (fun h => ind_pairs ts x h))
    | mul c fs => step _ (fun x hx =>
        (List.mem_cons.mp hx).elim (fun h => h ▸ ind_all c) (fun h => ind_pairs fs x h))
    | pow b e => step _ (fun x hx =>
        (List.mem_cons.mp hx).elim (fun h => h ▸ ind_all b)
          (fun h => (List.mem_cons.mp h).elim (fun h => h ▸ ind_all e) (fun h => absurd h List.not_mem_nil)))
    | fsym n args => step _ (fun x hx => ind_args args x hx)
    | app h args => step _ (fun x hx => ind_args args x hx)
  private theorem ind_args : (l : List Expr) → ∀ x ∈ l, P x
    | [] => fun _ h => absurd h List.not_mem_nil
    | a :: t => fun x hx =>
      (List.mem_cons.mp hx).elim (fun h => h ▸ ind_all a) (fun h => ind_args t x h)
  private theorem ind_pairs : (l : List (Expr × Expr)) → ∀ x ∈ flat l, P x
    | [] => fun _ h => absurd h List.not_mem_nil
    | (k, v) :: t => fun x hx =>
      (List.mem_cons.mp hx).elim (fun h => h ▸ ind_all k)
        (fun h => (List.mem_cons.mp h).elim (fun h => h ▸ ind_all v) (fun h => ind_pairs t x h))
end

theorem induct_children : ∀ a, P a := ind_all P step
end induct

theorem cmpPairs_flat : ∀ (l l' : List (Expr × Expr)),
    cmpPairs l l' = cmpArgs (flat l) (flat l')
  | [], [] => by simp [cmpPairs, cmpArgs, flat]
  | [], (_, _) :: _ => by simp [cmpPairs, cmpArgs, flat]
  | (_, _) :: _, [] => by simp [cmpPairs, cmpArgs, flat]
  | (k, v) :: t, (k', v') :: t' => by
    have ih := cmpPairs_flat t t'
    simp only [cmpPairs, cmpArgs, flat, ih]

theorem beqPairs_flat : ∀ (l l' : List (Expr × Expr)),
    beqPairs l l' = beqArgs (flat l) (flat l')
  | [], [] => by simp [beqPairs, beqArgs, flat]
  | [], (k, v) :: _ => by simp [beqPairs, beqArgs, flat]
  | (k, v) :: _, [] => by simp [beqPairs, beqArgs, flat]
  | (k, v) :: t, (k', v') :: t' => by
    have ih := beqPairs_flat t t'
    simp only [beqPairs, beqArgs, flat, ih, Bool.and_assoc]

theorem hashPairs_flat : ∀ (l : List (Expr × Expr)) (s : UInt64), hashPairs s l = hashArgs s (flat l)
  | [], s => by simp [hashPairs, hashArgs, flat]
  | (k, v) :: t, s => by simp only [hashPairs, hashArgs, flat, hashPairs_flat t]

/-- "the first difference decides": the shape of every compound `compare` -/
def lex (c d : Int) : Int := if c != 0 then c else d

theorem lex_of_eq_zero {c : Int} (h : c = 0) (d : Int) : lex c d = d := by simp [lex, h]
theorem lex_of_ne_zero {c : Int} (h : c ≠ 0) (d : Int) : lex c d = c := by simp [lex, h]

theorem lex_zero_left (d : Int) : lex 0 d = d := rfl

theorem lex_zero_right (c : Int) : lex c 0 = c := by
  by_cases h : c = 0
  · rw [lex_of_eq_zero h, h]
  · rw [lex_of_ne_zero h]

/-- the "size first" test of the container classes -/
theorem sizeGuard_eq (n m : Nat) (X : Int) :
    (if (n != m) = true then (if n < m then (-1 : Int) else 1) else X) = lex (cmpNat n m) X := by
  unfold lex cmpNat
  by_cases e : n = m
  · simp [e]
  · by_cases l : n < m <;> simp [e, l]

/-- the "name first" test of `Dummy` and `FunctionSymbol` -/
theorem nameGuard_eq (n m : String) (X : Int) :
    (if (n == m) = true then X else (if n < m then (-1 : Int) else 1)) = lex (cmpStr n m) X := by
  unfold lex cmpStr
  by_cases e : n = m
  · simp [e]
  · by_cases l : n < m <;> simp [e, l]

theorem cmp_tc_ne {a b : Expr} (h : typeCode a ≠ typeCode b) :
    cmp a b = cmpNat (typeCode a) (typeCode b) := by
  have e : (typeCode a == typeCode b) = false := by simpa using h
  rw [cmp.eq_def, if_pos (by simpa using h), cmpNat, e]; rfl

theorem cmp_int (x y : Int) : cmp (int x) (int y) = cmpInt x y := by rw [cmp]; simp [typeCode]
theorem cmp_rat (n : Int) (d : Nat) (n' : Int) (d' : Nat) : cmp (rat n d) (rat n' d') = cmpQ n d n' d' := by
  rw [cmp]; simp [typeCode]
theorem cmp_dbl (x y : UInt64) : cmp (dbl x) (dbl y) = cmpDbl x y := by rw [cmp]; simp [typeCode]
theorem cmp_infty (d d' : Int) : cmp (infty d) (infty d') = cmpInt d d' := by rw [cmp]; simp [typeCode]
theorem cmp_nan : cmp nan nan = 0 := by rw [cmp]; simp [typeCode]
theorem cmp_sym (n m : String) : cmp (sym n) (sym m) = cmpStr n m := by rw [cmp]; simp [typeCode]
theorem cmp_const (n m : String) : cmp (const n) (const m) = cmpStr n m := by rw [cmp]; simp [typeCode]
theorem cmp_bool (x y : Bool) : cmp (bool x) (bool y) =
    if x then (if y then 0 else 1) else (if y then -1 else 0) := by rw [cmp]; simp [typeCode]

/-- `cmpQ` is 0 exactly on equal fields, so the `==` tests of `Complex::compare` fold into `lex` -/
theorem cmp_cplx (r i r' i' : Q) : cmp (cplx r i) (cplx r' i') =
    lex (cmpQ r.num r.den r'.num r'.den) (cmpQ i.num i.den i'.num i'.den) := by
  have q : ∀ a b : Q, (a == b) = (a.num == b.num && a.den == b.den) := fun _ _ => rfl
  rw [cmp]; simp only [typeCode, bne_self_eq_false, Bool.false_eq_true, ↓reduceIte, q]
  unfold lex
  by_cases hr : (r.num == r'.num && r.den == r'.den) = true
  · by_cases hi : (i.num == i'.num && i.den == i'.den) = true
    · simp [cmpQ, hr, hi]
    · simp [cmpQ, hr, hi]
  · have nz : cmpQ r.num r.den r'.num r'.den ≠ 0 := by
      simp only [cmpQ, if_neg hr]; split <;> decide
    rw [if_neg hr, if_pos (by simpa using nz)]

/-- `cmpDbl` is 0 exactly when `dblEq` holds, so the `==` tests of `ComplexDouble::compare` fold into `lex` -/
theorem cmp_cdbl (r i r' i' : UInt64) : cmp (cdbl r i) (cdbl r' i') = lex (cmpDbl r r') (cmpDbl i i') := by
  rw [cmp]; simp only [typeCode, bne_self_eq_false, Bool.false_eq_true, ↓reduceIte]
  unfold lex cmpDbl
  by_cases hr : dblEq r r' = true
  · simp [hr]
  · simp only [hr, Bool.false_and, Bool.false_eq_true, if_false]
    split <;> rfl

theorem cmp_dummy (n : String) (i : Nat) (m : String) (j : Nat) :
    cmp (dummy n i) (dummy m j) = lex (cmpStr n m) (cmpNat i j) := by
  rw [← nameGuard_eq, cmp]; simp [typeCode]

theorem cmpArgs_cons (a b : Expr) (as bs : List Expr) :
    cmpArgs (a :: as) (b :: bs) = lex (cmp a b) (cmpArgs as bs) := by
  simp [cmpArgs, lex]

theorem cmp_add (c c' : Expr) (ts ts' : List (Expr × Expr)) : cmp (add c ts) (add c' ts') =
    lex (cmpNat ts.length ts'.length) (cmpArgs (c :: flat ts) (c' :: flat ts')) := by
  rw [← sizeGuard_eq, cmp, cmpArgs_cons, ← cmpPairs_flat]; simp [typeCode, lex]

theorem cmp_mul (c c' : Expr) (ts ts' : List (Expr × Expr)) : cmp (mul c ts) (mul c' ts') =
    lex (cmpNat ts.length ts'.length) (cmpArgs (c :: flat ts) (c' :: flat ts')) := by
  rw [← sizeGuard_eq, cmp, cmpArgs_cons, ← cmpPairs_flat]; simp [typeCode, lex]

theorem cmp_pow (b e b' e' : Expr) : cmp (pow b e) (pow b' e') = cmpArgs [b, e] [b', e'] := by
  rw [cmpArgs_cons, cmpArgs_cons, show cmpArgs [] [] = 0 from rfl, lex_zero_right, cmp]
  simp [typeCode, lex]

theorem cmp_fsym (n m : String) (as bs : List Expr) : cmp (fsym n as) (fsym m bs) =
    lex (cmpStr n m) (lex (cmpNat as.length bs.length) (cmpArgs as bs)) := by
  rw [← sizeGuard_eq, ← nameGuard_eq, cmp]; simp [typeCode]

/-- one head on both sides: well-formed nodes of equal type code have equal heads (`head_eq_of_tc` in
Lemmas/C02Class.lean) -/
theorem cmp_app (h : String) (as bs : List Expr) : cmp (app h as) (app h bs) =
    appCmp (kindOf (app h as)) as bs (cmpArgs as bs) (cmpTwo as bs) := by
  rw [cmp]; simp [typeCode, kindOf]

theorem beq'_add (c c' : Expr) (ts ts' : List (Expr × Expr)) : beq' (add c ts) (add c' ts') =
    (beq' c c' && ts.length == ts'.length && allFind ts ts') := by rw [beq']
theorem beq'_mul (c c' : Expr) (fs fs' : List (Expr × Expr)) : beq' (mul c fs) (mul c' fs') =
    beqArgs (c :: flat fs) (c' :: flat fs') := by rw [beq', beqArgs, beqPairs_flat]
theorem beq'_pow (b e b' e' : Expr) : beq' (pow b e) (pow b' e') = beqArgs [b, e] [b', e'] := by
  rw [beq']; simp [beqArgs]
theorem beq'_fsym (n m : String) (as bs : List Expr) : beq' (fsym n as) (fsym m bs) =
    (n == m && beqArgs as bs) := by rw [beq']
theorem beq'_app (h h' : String) (as bs : List Expr) : beq' (app h as) (app h' bs) =
    ((ofName h).getD TC.count == (ofName h').getD TC.count && beqArgs as bs) := by rw [beq']

theorem beq'_tc {a b : Expr} (h : beq' a b = true) : typeCode a = typeCode b := by
  revert h
  fun_cases beq' a b <;> intro h
  case case15 => exact beq_iff_eq.mp (Bool.and_eq_true_iff.mp h).1     -- the equation for `app`, `app`
  case case17 => cases h                                               -- the last one, `_, _ => false`
  all_goals rfl

theorem wfArgs_iff : ∀ {l : List Expr}, wfArgs l = true ↔ ∀ x ∈ l, WF x = true
  | [] => by simp [wfArgs]
  | a :: t => by simp [wfArgs, wfArgs_iff (l := t)]

theorem wfPairs_iff : ∀ {l : List (Expr × Expr)}, wfPairs l = true ↔ ∀ x ∈ flat l, WF x = true
  | [] => by simp [wfPairs, flat]
  | (k, v) :: t => by simp [wfPairs, flat, wfPairs_iff (l := t), and_assoc]

theorem allArgs_iff (p : Expr → Bool) : ∀ {l : List Expr}, allArgs p l = true ↔ ∀ x ∈ l, allNodes p x = true
  | [] => by simp [allArgs]
  | a :: t => by simp [allArgs, allArgs_iff p (l := t)]

theorem allPairs_iff (p : Expr → Bool) :
    ∀ {l : List (Expr × Expr)}, allPairs p l = true ↔ ∀ x ∈ flat l, allNodes p x = true
  | [] => by simp [allPairs, flat]
  | (k, v) :: t => by simp [allPairs, flat, allPairs_iff p (l := t), and_assoc]

theorem allNodes_children (p : Expr → Bool) {a : Expr} (h : allNodes p a = true) :
    ∀ x ∈ children a, allNodes p x = true := by
  cases a <;> simp only [children, List.not_mem_nil, false_imp_iff, implies_true]
  case add c ts | mul c ts =>
    simp only [allNodes, Bool.and_eq_true] at h
    exact List.forall_mem_cons.mpr ⟨h.1.2, (allPairs_iff p).mp h.2⟩
  case pow b e =>
    simp only [allNodes, Bool.and_eq_true] at h
    exact List.forall_mem_cons.mpr ⟨h.1.2, List.forall_mem_singleton.mpr h.2⟩
  case fsym _ args | app _ args =>
    simp only [allNodes, Bool.and_eq_true] at h
    exact (allArgs_iff p).mp h.2

theorem allNodes_self (p : Expr → Bool) {a : Expr} (h : allNodes p a = true) : p a = true := by
  cases a <;> simp_all [allNodes]

theorem WF_children {a : Expr} (h : WF a = true) : ∀ x ∈ children a, WF x = true := by
  cases a <;> simp only [children, List.not_mem_nil, false_imp_iff, implies_true]
  case add c ts | mul c ts =>
    simp only [WF, Bool.and_eq_true] at h
    exact List.forall_mem_cons.mpr ⟨h.1.1, wfPairs_iff.mp h.1.2⟩
  case pow b e =>
    simp only [WF, Bool.and_eq_true] at h
    exact List.forall_mem_cons.mpr ⟨h.1, List.forall_mem_singleton.mpr h.2⟩
  case fsym n args =>
    simp only [WF] at h
    exact wfArgs_iff.mp h
  case app hd args =>
    simp only [WF] at h
    split at h
    · simp at h
    · simp only [Bool.and_eq_true] at h
      exact wfArgs_iff.mp h.1.2

theorem WF_app {h : String} {args : List Expr} (hw : WF (app h args) = true) :
    ∃ k, kindOf (app h args) = some k ∧ arityOK k args = true := by
  simp only [WF] at hw
  split at hw
  · simp at hw
  · rename_i k hk
    simp only [Bool.and_eq_true] at hw
    exact ⟨k, by simpa [kindOf, typeCode] using hk, hw.1.1⟩

end Expr
end SymVerif
