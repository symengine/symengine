/-
C01 lemmas: the XOR fold of `Add::__hash__` does not depend on the iteration order of the unordered
dictionary; an insert-only hash set keyed by (hash, eq) holds no two `eq` elements.
-/
import SymVerif.Lemmas.C02Node

namespace SymVerif
namespace Expr

/-- `temp` of the loop in `Add::__hash__` (add.cpp:77-78) -/
def entryHash (p : Expr × Expr) : UInt64 := hashCombine (hash p.1) (hash p.2)

theorem hashAddTerms_foldl : ∀ (ts : List (Expr × Expr)) (s : UInt64),
    hashAddTerms s ts = ts.foldl (fun acc p => acc ^^^ entryHash p) s
  | [], s => by simp [hashAddTerms]
  | (k, v) :: t, s => by
    rw [hashAddTerms, hashAddTerms_foldl t]; rfl

theorem hashAddTerms_perm {ts ts' : List (Expr × Expr)} (h : ts.Perm ts') (s : UInt64) :
    hashAddTerms s ts = hashAddTerms s ts' := by
  rw [hashAddTerms_foldl, hashAddTerms_foldl]
  refine List.Perm.foldl_eq' h ?_ s
  intro x _ y _ z
  rw [UInt64.xor_assoc, UInt64.xor_comm (entryHash x), ← UInt64.xor_assoc]

/-- `std::unordered_set<…, RCPBasicHash, RCPBasicKeyEq>::insert`: an element is rejected iff some stored
element has the same hash and is `eq` (new key first, stored element second, as libstdc++'s `_M_equals` and
`allFind` of the model call it).  A model of `uset_basic` for the statement of `uset_no_dup` only: no driver op runs it. -/
def usetInsert (s : List Expr) (x : Expr) : List Expr :=
  if s.any (fun y => hash y == hash x && beq' x y) then s else x :: s

def usetOf (l : List Expr) : List Expr := l.foldl usetInsert []

theorem usetInsert_mem {s : List Expr} {x y : Expr} (h : y ∈ usetInsert s x) : y = x ∨ y ∈ s := by
  unfold usetInsert at h
  split at h
  · exact Or.inr h
  · exact List.mem_cons.mp h

theorem usetInsert_pairwise {acc : List Expr} {x : Expr} (ox : OK x) (oacc : ∀ y ∈ acc, OK y)
    (hp : List.Pairwise (fun a b => beq' a b = false ∧ beq' b a = false) acc) :
    List.Pairwise (fun a b => beq' a b = false ∧ beq' b a = false) (usetInsert acc x) := by
  unfold usetInsert
  split
  · exact hp
  · rename_i hany
    refine List.pairwise_cons.mpr ⟨fun y hy => ?_, hp⟩
    have j := J_all x y ox (oacc y hy)
    -- `x` was not found, so no stored `y` is identical to it (same hash, and `eq` by reflexivity); on the fragment
    -- `eq` in either direction is identity
    have hne : x ≠ y := fun e => hany (List.any_eq_true.mpr ⟨y, hy, by subst e; simp [beq'_refl ox]⟩)
    exact ⟨Bool.eq_false_iff.mpr fun h => hne (j.eq.mp h), Bool.eq_false_iff.mpr fun h => hne (j.eqRev.mp h)⟩

theorem uset_aux (l : List Expr) (ol : ∀ x ∈ l, OK x) : ∀ (acc : List Expr), (∀ x ∈ acc, OK x) →
    List.Pairwise (fun a b => beq' a b = false ∧ beq' b a = false) acc →
    List.Pairwise (fun a b => beq' a b = false ∧ beq' b a = false) (l.foldl usetInsert acc) := by
  induction l with
  | nil => intro acc _ h; exact h
  | cons x t ih =>
    intro acc oacc hp
    have ox := ol x (List.mem_cons_self ..)
    rw [List.foldl_cons]
    refine ih (fun y hy => ol y (List.mem_cons_of_mem _ hy)) _ ?_ (usetInsert_pairwise ox oacc hp)
    intro y hy
    rcases usetInsert_mem hy with rfl | hy
    · exact ox
    · exact oacc y hy

end Expr
end SymVerif
