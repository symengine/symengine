import SymVerif.Lemmas.C05Q
import Mathlib.Data.Complex.Basic
/-!
Value semantics of the exact number kinds (`Integer`, `Rational`, `Complex`) as Gaussian rationals inside `ℂ`,
the normal-form predicate, and what `Rational::from_mpq`, `Complex::from_mpq` return, once for canonical `mpq`s
(the loop of `pow_number` ends in it) and once for representations (every arithmetic cell).

One value, three spellings, equal by definition: `gv re im` of two `mpq`s (`val` and the statements of `Props/C05`),
`gq x y` of two rationals (every `*_good` lemma; `Q.Rep` supplies `x y`, `gv_rep` crosses over), `gval p = gv p.1 p.2`
of a pair (the loop invariant in `C05Pow`).
`Exact`, `Normalised`, `Q.Canon` are the model's Boolean `isExact`, `normalised`, `canon` `= true` as propositions;
C05 uses the propositions, `div_int_zero` and C06 (which stand below this module) the Booleans.
-/
namespace SymVerif.C05
open SymVerif.Num
open Q (Rep)

set_option linter.unusedSectionVars false

variable {F : Type} [FloatOps F]

/-- the complex number `re + im·i` of two `mpq`s -/
noncomputable def gv (re im : Q) : ℂ := ⟨((re.toRat : ℚ) : ℝ), ((im.toRat : ℚ) : ℝ)⟩

/-- the Gaussian rational `x + y·i`; `gv re im` is `gq re.toRat im.toRat` by definition -/
noncomputable def gq (x y : ℚ) : ℂ := ⟨(x : ℝ), (y : ℝ)⟩

theorem gq_add (x y x' y' : ℚ) : gq x y + gq x' y' = gq (x + x') (y + y') := by
  apply Complex.ext <;> simp [gq]
theorem gq_sub (x y x' y' : ℚ) : gq x y - gq x' y' = gq (x - x') (y - y') := by
  apply Complex.ext <;> simp [gq]
theorem gq_mul (x y x' y' : ℚ) : gq x y * gq x' y' = gq (x * x' - y * y') (x * y' + y * x') := by
  apply Complex.ext <;> simp [gq]
theorem gq_mul_real (x y p : ℚ) : gq x y * gq p 0 = gq (x * p) (y * p) := by
  rw [gq_mul, mul_zero, mul_zero, sub_zero, zero_add]

theorem gv_zero (q : Q) : gv q (.ofInt 0) = gq q.toRat 0 := by simp [gv, gq]

theorem gq_real (x : ℚ) : gq x 0 = (x : ℂ) := by
  apply Complex.ext <;> simp [gq]

theorem gv_rep {re im : Q} {x y : ℚ} (hre : Rep re x) (him : Rep im y) : gv re im = gq x y := by
  rw [← hre.eq, ← him.eq]; rfl

theorem gv_real (q : Q) : gv q (.ofInt 0) = ((q.toRat : ℚ) : ℂ) := (gv_zero q).trans (gq_real _)

/-- the mathematical value of an exact number (none for floats, infinities, nan) -/
noncomputable def val : Num F → Option ℂ
  | .int n => some (gv (.ofInt n) (.ofInt 0))
  | .rat q => some (gv q (.ofInt 0))
  | .cplx re im => some (gv re im)
  | _ => none

theorem gv_ofInt (n : Int) : gv (.ofInt n) (.ofInt 0) = (n : ℂ) := by
  apply Complex.ext <;> simp [gv]

theorem val_int (n : Int) : val (F := F) (.int n) = some (n : ℂ) := by
  simp [val, gv_ofInt]

theorem val_rat (q : Q) : val (F := F) (.rat q) = some ((q.toRat : ℚ) : ℂ) :=
  congrArg some (gv_real q)

theorem gv_re (re im : Q) : (gv re im).re = ((re.toRat : ℚ) : ℝ) := rfl
theorem gv_im (re im : Q) : (gv re im).im = ((im.toRat : ℚ) : ℝ) := rfl

/-- normal form: rationals in lowest terms with positive denominator `≠ 1`; complex numbers with
canonical parts and nonzero imaginary part (this is `Num.normalised` of the model) -/
def Normalised (a : Num F) : Prop := a.normalised = true
def Exact (a : Num F) : Prop := a.isExact = true

theorem normalised_rat {q : Q} : Normalised (F := F) (.rat q) ↔ q.Canon ∧ q.den ≠ 1 := by
  simp [Normalised, Num.normalised, Q.canon_iff]

theorem normalised_cplx {re im : Q} :
    Normalised (F := F) (.cplx re im) ↔ re.Canon ∧ im.Canon ∧ im.num ≠ 0 := by
  simp [Normalised, Num.normalised, Q.canon_iff, and_assoc]

/-- `r` is an exact, normalised number whose value is `z` -/
structure Good (r : Num F) (z : ℂ) : Prop where
  exact : Exact r
  normal : Normalised r
  value : val r = some z

theorem fromMpq_good {q : Q} (h : q.Canon) {z : ℂ} (hz : z = gv q (.ofInt 0)) :
    Good (F := F) (fromMpq q) z := by
  subst hz
  unfold fromMpq
  split
  · next h1 =>
    obtain ⟨n, d⟩ := q
    obtain rfl : d = 1 := by simpa using h1
    exact ⟨rfl, rfl, rfl⟩
  · next h1 =>
    have h1 : q.den ≠ 1 := by simpa using h1
    exact ⟨rfl, normalised_rat.mpr ⟨h, h1⟩, rfl⟩

theorem cFromMpq_good {re im : Q} (hre : re.Canon) (him : im.Canon) {z : ℂ} (hz : z = gv re im) :
    Good (F := F) (cFromMpq re im) z := by
  subst hz
  unfold cFromMpq
  split
  · next h0 =>
    have h0 : im.num = 0 := by simpa using h0
    apply fromMpq_good hre
    apply Complex.ext <;> simp [gv, Q.toRat, h0, Q.ofInt]
  · next h0 =>
    have h0 : im.num ≠ 0 := by simpa using h0
    exact ⟨rfl, normalised_cplx.mpr ⟨hre, him, h0⟩, rfl⟩

theorem Good.cast {r : Num F} {z w : ℂ} (h : Good r z) (e : z = w) : Good r w := e ▸ h

theorem Good.int (n : Int) : Good (F := F) (.int n) (gq n 0) :=
  ⟨rfl, rfl, by rw [val, gv_zero, Q.toRat_ofInt]⟩

theorem fromMpq_rep {q : Q} {x : ℚ} (h : Rep q x) : Good (F := F) (fromMpq q) (gq x 0) := by
  obtain ⟨hc, rfl⟩ := h
  exact fromMpq_good hc (gv_zero q).symm

theorem cFromMpq_rep {re im : Q} {x y : ℚ} (hre : Rep re x) (him : Rep im y) :
    Good (F := F) (cFromMpq re im) (gq x y) := by
  obtain ⟨hc, rfl⟩ := hre
  obtain ⟨hc', rfl⟩ := him
  exact cFromMpq_good hc hc' rfl

theorem Good.cases {a : Num F} {z : ℂ} (h : Good a z) :
    (∃ n, a = .int n ∧ z = gq n 0) ∨
    (∃ q x, Rep q x ∧ q.den ≠ 1 ∧ a = .rat q ∧ z = gq x 0) ∨
    (∃ re im x y, Rep re x ∧ Rep im y ∧ im.num ≠ 0 ∧ a = .cplx re im ∧ z = gq x y) := by
  obtain ⟨he, hn, hv⟩ := h
  cases a with
  | int n => exact .inl ⟨n, rfl, by rw [← Option.some.inj hv, gv_zero, Q.toRat_ofInt]⟩
  | rat q =>
    obtain ⟨hc, hd⟩ := normalised_rat.mp hn
    exact .inr (.inl ⟨q, _, .self hc, hd, rfl, by rw [← Option.some.inj hv, gv_zero]⟩)
  | cplx re im =>
    obtain ⟨h1, h2, h3⟩ := normalised_cplx.mp hn
    exact .inr (.inr ⟨re, im, _, _, .self h1, .self h2, h3, rfl, (Option.some.inj hv).symm⟩)
  | _ => cases he

theorem exact_parts {a : Num F} (he : Exact a) (hn : Normalised a) :
    ∃ re im : Q, re.Canon ∧ im.Canon ∧ val a = some (gv re im) := by
  cases a with
  | int n => exact ⟨.ofInt n, .ofInt 0, Q.Canon.ofInt _, Q.Canon.ofInt _, rfl⟩
  | rat q => exact ⟨q, .ofInt 0, (normalised_rat.mp hn).1, Q.Canon.ofInt _, rfl⟩
  | cplx re im =>
    obtain ⟨h1, h2, _⟩ := normalised_cplx.mp hn
    exact ⟨re, im, h1, h2, rfl⟩
  | _ => simp [Exact, Num.isExact] at he

theorem gq_inj {x y x' y' : ℚ} (h : gq x y = gq x' y') : x = x' ∧ y = y' :=
  ⟨by simpa [gq] using congrArg Complex.re h, by simpa [gq] using congrArg Complex.im h⟩

theorem Good.eq_cFromMpq {a : Num F} {z : ℂ} (h : Good a z) :
    ∃ re im x y, Rep re x ∧ Rep im y ∧ z = gq x y ∧ a = cFromMpq re im := by
  obtain ⟨n, rfl, rfl⟩ | ⟨q, x, hq, hd, rfl, rfl⟩ | ⟨re, im, x, y, hre, him, hi, rfl, rfl⟩ := h.cases
  · exact ⟨.ofInt n, .ofInt 0, _, _, .ofInt n, .ofInt 0, by rw [Int.cast_zero], rfl⟩
  · exact ⟨q, .ofInt 0, _, _, hq, .ofInt 0, by rw [Int.cast_zero], (if_neg (not_beq_of_ne hd)).symm⟩
  · exact ⟨re, im, _, _, hre, him, rfl, (if_neg (not_beq_of_ne hi)).symm⟩

/-- the value determines a normalised exact number: normal forms are unique -/
theorem val_injective {a b : Num F} (ha : Exact a) (hb : Exact b) (na : Normalised a)
    (nb : Normalised b) (h : val a = val b) : a = b := by
  obtain ⟨_, _, -, -, hv⟩ := exact_parts ha na
  obtain ⟨re, im, x, y, hre, him, hz, rfl⟩ := Good.eq_cFromMpq ⟨ha, na, hv⟩
  obtain ⟨re', im', x', y', hre', him', hz', rfl⟩ := Good.eq_cFromMpq ⟨hb, nb, h ▸ hv⟩
  obtain ⟨rfl, rfl⟩ := gq_inj (hz.symm.trans hz')
  rw [hre.eq_ofRat, hre'.eq_ofRat, him.eq_ofRat, him'.eq_ofRat]

end SymVerif.C05
