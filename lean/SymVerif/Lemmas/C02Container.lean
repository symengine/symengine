/-
On well-formed NaN-free `-0.0`-free expressions `RCPBasicKeyLess` is the strict order of an
injective key (`keyLess_iff`), hence a strict total order, and an ordered container (`set_basic`) built
from the same keys in any insertion order is the same sequence.
-/
import SymVerif.Lemmas.C02Key

namespace SymVerif
namespace Expr

/-- what `RCPBasicKeyLess` sorts by: the hash, then the key of `__cmp__` (the hash as a `Nat`: `×ₗ` wants a
`LinearOrder`, and `UInt64` has no such instance) -/
def sortKey (x : Expr) : Nat ×ₗ List Hd := toLex ((hash x).toNat, key x)

theorem sortKey_inj {a b : Expr} (oa : OK a) (ob : OK b) (h : sortKey a = sortKey b) : a = b :=
  key_inj oa ob (by simpa [sortKey] using congrArg (fun p => (ofLex p).2) h)

theorem keyLess_iff {x y : Expr} (ox : OK x) (oy : OK y) : keyLess x y = true ↔ sortKey x < sortKey y := by
  rw [sortKey, sortKey, Prod.Lex.toLex_lt_toLex]
  by_cases e : hash x = hash y
  · rw [keyLess_of_hash_eq e, e]
    simp only [lt_irrefl, false_or, true_and]
    by_cases hb : beq' x y = true
    · rw [if_pos hb, (J_all x y ox oy).eq.mp hb]; simp
    · rw [if_neg hb, beq_iff_eq, cmp_eq_cmpLin_key ox oy, cmpLin_eq_neg_one]
  · rw [keyLess_of_hash_ne e, decide_eq_true_iff, UInt64.lt_iff_toNat_lt]
    have : (hash x).toNat ≠ (hash y).toNat := fun h => e (UInt64.toNat_inj.mp h)
    simp [this]

theorem keyLess_trans {x y z : Expr} (ox : OK x) (oy : OK y) (oz : OK z)
    (h1 : keyLess x y = true) (h2 : keyLess y z = true) : keyLess x z = true :=
  (keyLess_iff ox oz).mpr (lt_trans ((keyLess_iff ox oy).mp h1) ((keyLess_iff oy oz).mp h2))

theorem keyLess_total {x y : Expr} (ox : OK x) (oy : OK y)
    (h1 : keyLess x y = false) (h2 : keyLess y x = false) : x = y := by
  rw [← Bool.not_eq_true, keyLess_iff ox oy] at h1
  rw [← Bool.not_eq_true, keyLess_iff oy ox] at h2
  exact sortKey_inj ox oy (le_antisymm (not_lt.mp h2) (not_lt.mp h1))

theorem mem_insertKey {x y : Expr} (ox : OK x) : ∀ {l : List Expr}, (∀ z ∈ l, OK z) →
    (y ∈ insertKey x l ↔ y = x ∨ y ∈ l)
  | [], _ => by simp [insertKey]
  | z :: t, ol => by
    unfold insertKey
    split
    · rw [List.mem_cons]
    · rename_i h1
      split
      · rw [List.mem_cons, mem_insertKey ox (fun w hw => ol w (List.mem_cons_of_mem _ hw)), List.mem_cons,
          or_left_comm]
      · rename_i h2
        -- neither is below the other: `x = z` on the fragment, and `std::set::insert` leaves the set as it is
        cases keyLess_total ox (ol z (List.mem_cons_self ..)) (by simpa using h1) (by simpa using h2)
        rw [List.mem_cons, ← or_assoc, or_self]

theorem sorted_insertKey {x : Expr} (ox : OK x) : ∀ {l : List Expr}, (∀ y ∈ l, OK y) →
    List.Pairwise (fun a b => keyLess a b = true) l →
    List.Pairwise (fun a b => keyLess a b = true) (insertKey x l)
  | [], _, _ => by simp [insertKey]
  | z :: t, ol, hs => by
    have oz := ol z (List.mem_cons_self ..)
    have ot : ∀ y ∈ t, OK y := fun y hy => ol y (List.mem_cons_of_mem _ hy)
    rw [List.pairwise_cons] at hs
    unfold insertKey
    split
    · rename_i h1
      rw [List.pairwise_cons]
      refine ⟨?_, List.pairwise_cons.mpr hs⟩
      intro y hy
      rcases List.mem_cons.mp hy with rfl | hy
      · exact h1
      · exact keyLess_trans ox oz (ot y hy) h1 (hs.1 y hy)
    · split
      · rename_i h2
        rw [List.pairwise_cons]
        refine ⟨?_, sorted_insertKey ox ot hs.2⟩
        intro y hy
        rcases (mem_insertKey ox ot).mp hy with rfl | hy
        · exact h2
        · exact hs.1 y hy
      · exact List.pairwise_cons.mpr hs

theorem sortKeys_aux (l : List Expr) (ol : ∀ y ∈ l, OK y) : ∀ (acc : List Expr), (∀ y ∈ acc, OK y) →
    List.Pairwise (fun a b => keyLess a b = true) acc →
    List.Pairwise (fun a b => keyLess a b = true) (l.foldl (fun acc x => insertKey x acc) acc) ∧
    (∀ y, y ∈ l.foldl (fun acc x => insertKey x acc) acc ↔ y ∈ acc ∨ y ∈ l) := by
  induction l with
  | nil => intro acc oacc hs; exact ⟨hs, by simp⟩
  | cons x t ih =>
    intro acc oacc hs
    have ox := ol x (List.mem_cons_self ..)
    have ot : ∀ y ∈ t, OK y := fun y hy => ol y (List.mem_cons_of_mem _ hy)
    have oacc' : ∀ y ∈ insertKey x acc, OK y := by
      intro y hy
      rcases (mem_insertKey ox oacc).mp hy with rfl | hy
      · exact ox
      · exact oacc y hy
    obtain ⟨h2, h3⟩ := ih ot (insertKey x acc) oacc' (sorted_insertKey ox oacc hs)
    refine ⟨h2, ?_⟩
    intro y
    rw [List.foldl_cons, h3 y, mem_insertKey ox oacc, List.mem_cons, or_comm (a := y = x), or_assoc]

theorem sortKeys_sorted {l : List Expr} (ol : ∀ y ∈ l, OK y) :
    List.Pairwise (fun a b => keyLess a b = true) (sortKeys l) :=
  (sortKeys_aux l ol [] (by simp) List.Pairwise.nil).1

theorem mem_sortKeys {l : List Expr} (ol : ∀ y ∈ l, OK y) (y : Expr) : y ∈ sortKeys l ↔ y ∈ l := by
  have := (sortKeys_aux l ol [] (by simp) List.Pairwise.nil).2 y
  simpa [sortKeys] using this

theorem sorted_unique {l1 l2 : List Expr} (o1 : ∀ y ∈ l1, OK y) (o2 : ∀ y ∈ l2, OK y)
    (s1 : List.Pairwise (fun a b => keyLess a b = true) l1)
    (s2 : List.Pairwise (fun a b => keyLess a b = true) l2)
    (hm : ∀ y, y ∈ l1 ↔ y ∈ l2) : l1 = l2 :=
  pairwise_ext (fun a ha b hb h1 h2 => keyLess_asymm (J_all a b (o1 a ha) (o2 b hb)).anti h1 h2) s1 s2 hm

theorem sortKeys_perm_invariant {l1 l2 : List Expr} (o1 : ∀ y ∈ l1, OK y) (h : l1.Perm l2) :
    sortKeys l1 = sortKeys l2 := by
  have o2 : ∀ y ∈ l2, OK y := fun y hy => o1 y (h.mem_iff.mpr hy)
  refine sorted_unique ?_ ?_ (sortKeys_sorted o1) (sortKeys_sorted o2) ?_
  · intro y hy; exact o1 y ((mem_sortKeys o1 y).mp hy)
  · intro y hy; exact o2 y ((mem_sortKeys o2 y).mp hy)
  · intro y; rw [mem_sortKeys o1, mem_sortKeys o2]; exact h.mem_iff

end Expr
end SymVerif
