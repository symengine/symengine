/-
is_even / is_odd: `is_integer(b/2)` and `is_integer((b + 1)/2)` with the models `half` of `div(b, 2)` and `addOne`
of `add(b, 1)` (Model/Queries2.lean): both return a canonical expression with the expected value.
-/
import SymVerif.Lemmas.C34Dom
import SymVerif.Model.Queries2

namespace SymVerif.C34
open SymVerif SymVerif.Queries

variable {ρ : String → ℝ} {A : Assumptions}

theorem wf_halfNum {c : Expr} (hw : wf c = true) : wf (halfNum c) = true := by
  have hodd : ∀ {n : ℤ}, ¬ (n % 2 == 0) = true → Nat.Coprime n.natAbs 2 := fun {n} h =>
    Nat.coprime_two_right.mpr (Nat.odd_iff.mpr (by have : ¬ n % 2 = 0 := by simpa using h
                                                   omega))
  cases c with
  | int n =>
    simp only [halfNum]
    split
    · rfl
    · rename_i h
      exact wf_rat.mpr ⟨Nat.one_lt_two, (hodd h).gcd_eq_one⟩
  | rat n d =>
    obtain ⟨hd, hg⟩ := wf_rat.mp hw
    simp only [halfNum]
    split
    · rename_i h
      have he : n % 2 = 0 := by simpa using h
      have hdvd : (n / 2).natAbs ∣ n.natAbs := Int.natAbs_dvd_natAbs.mpr ⟨2, by omega⟩
      exact wf_rat.mpr ⟨hd, (Nat.Coprime.coprime_dvd_left hdvd hg).gcd_eq_one⟩
    · rename_i h
      exact wf_rat.mpr ⟨by omega, ((hodd h).mul_right hg).gcd_eq_one⟩
  | _ => exact hw

theorem halfNum_isNum {c : Expr} (h : c.isNum = true) : (halfNum c).isNum = true := by
  cases c with
  | int n | rat n d => simp only [halfNum]; split <;> rfl
  | _ => exact h

theorem evalR_halfNum {c : Expr} {v : ℝ} (hn : c.isNum = true) (hv : evalR ρ c = some v) :
    evalR ρ (halfNum c) = some (v / 2) := by
  -- an even numerator is halved exactly, an odd one keeps its place over the doubled denominator
  have heven : ∀ n : ℤ, (n % 2 == 0) = true → (n : ℝ) = 2 * ((n / 2 : ℤ) : ℝ) := fun n h => by
    have he : n % 2 = 0 := by simpa using h
    exact_mod_cast (by omega : n = 2 * (n / 2))
  rcases evalR_isNum_cases hn hv with ⟨n, rfl, rfl⟩ | ⟨n, d, rfl, hd, rfl⟩
  · simp only [halfNum]
    split
    · rename_i h
      simp only [evalR]
      rw [heven n h, mul_div_cancel_left₀ _ two_ne_zero]
    · simp only [evalR, OfNat.ofNat_ne_zero, ↓reduceIte, Nat.cast_ofNat]
  · simp only [halfNum]
    split
    · rename_i h
      simp only [evalR, hd, ↓reduceIte]
      rw [heven n h, mul_div_assoc, mul_div_cancel_left₀ _ two_ne_zero]
    · have h2d : 2 * d ≠ 0 := by omega
      simp only [evalR, h2d, ↓reduceIte, Nat.cast_mul, Nat.cast_ofNat]
      rw [mul_comm, div_mul_eq_div_div]

/-- an Add or Mul whose `get_args()` is a single element is canonical with, and has the value of, that element -/
theorem argsOf_single {e a : Expr} {v : ℝ} (hw : wf e = true) (hv : evalR ρ e = some v) (ha : argsOf e = [a]) :
    wf a = true ∧ evalR ρ a = some v := by
  refine ⟨wf_argsOf hw a (ha ▸ List.mem_singleton_self a), ?_⟩
  have key : ∀ op : List ℝ → ℝ, (∀ x, op [x] = x) → (evalArgs ρ (argsOf e)).map op = some v →
      evalR ρ a = some v := by
    intro op hop h
    rw [ha] at h
    cases hx : evalR ρ a with
    | none => simp [evalArgs, hx] at h
    | some x => simpa [evalArgs, hx, hop] using h
  cases e with
  | add c ts => exact key List.sum (fun x => by simp) (by rw [← evalR_add_args hw]; exact hv)
  | mul c fs => exact key List.prod (fun x => by simp) (by rw [← evalR_mul_args]; exact hv)
  | _ => cases ha

theorem half_spec {e : Expr} {v : ℝ} (hw : wf e = true) (hv : evalR ρ e = some v) :
    wf (half e) = true ∧ evalR ρ (half e) = some (v / 2) := by
  have hdef : half e = .mul (.rat 1 2) [(e, .int 1)] → wf (half e) = true ∧ evalR ρ (half e) = some (v / 2) := by
    intro hh
    rw [hh]
    refine ⟨wf_mul.mpr ⟨rfl, rfl, List.forall_mem_singleton.mpr ⟨hw, rfl⟩⟩, ?_⟩
    rw [evalR_mul_single, hv]
    simp [evalR]
    ring
  cases e with
  | mul c fs =>
    obtain ⟨hwc, hcn, hwfs⟩ := wf_mul.mp hw
    obtain ⟨vc, P, hc, hP, rfl⟩ := evalR_mul_some.mp hv
    have hgen : wf (.mul (halfNum c) fs) = true ∧ evalR ρ (.mul (halfNum c) fs) = some (vc * P / 2) :=
      ⟨wf_mul.mpr ⟨wf_halfNum hwc, halfNum_isNum hcn, hwfs⟩,
        evalR_mul_some.mpr ⟨_, _, evalR_halfNum hcn hc, hP, by ring⟩⟩
    simp only [half]
    split
    · rename_i h1
      split
      · -- `Mul::from_dict` collapses `1 * b**x` to the single `get_args()` element
        exact argsOf_single hgen.1 hgen.2 (by simp [argsOf, h1, mulArgs])
      · exact hgen
    · exact hgen
  | pow b x =>
    refine ⟨?_, ?_⟩
    · exact wf_mul.mpr ⟨rfl, rfl, List.forall_mem_singleton.mpr (wf_pow.mp hw)⟩
    · simp only [evalR] at hv
      simp only [half, evalR, evalFacs, hv]
      simp
      ring
  | int _ | rat _ _ =>
    exact ⟨by simpa [half, Expr.isNum] using wf_halfNum hw,
      by simpa [half, Expr.isNum] using evalR_halfNum rfl hv⟩
  | sym s | const c | add c ts | app h args => exact hdef (by simp [half, Expr.isNum])
  | _ => simp [evalR] at hv

theorem isEven_sound (hA : FactsSat ρ A) {e : Expr} {v : ℝ}
    (hw : wf e = true) (hv : evalR ρ e = some v) : Sound (isEven A e) (∃ n : ℤ, v = 2 * (n : ℝ)) := by
  obtain ⟨hwh, hvh⟩ := half_spec hw hv
  refine (isIntegerF_sound hA (size (half e) + 1) (half e) (v / 2) hwh hvh).congr (exists_congr fun n => ?_)
  constructor <;> intro h <;> linarith

theorem gcd_add_den {n : ℤ} {d : ℕ} : Nat.gcd (n + (d : ℤ)).natAbs d = Nat.gcd n.natAbs d := by
  have h1 : Int.gcd (n + (d : ℤ)) (d : ℤ) = Int.gcd n (d : ℤ) := Int.gcd_add_self_left (d : ℤ) n
  simpa [Int.gcd_eq_natAbs_gcd_natAbs] using h1

theorem wf_addOneNum {c : Expr} (hw : wf c = true) : wf (addOneNum c) = true := by
  cases c with
  | int n => rfl
  | rat n d => exact wf_rat.mpr ⟨(wf_rat.mp hw).1, gcd_add_den.trans (wf_rat.mp hw).2⟩
  | _ => exact hw

theorem addOneNum_isNum {c : Expr} (h : c.isNum = true) : (addOneNum c).isNum = true := by
  cases c <;> exact h

theorem evalR_addOneNum {c : Expr} {v : ℝ} (hn : c.isNum = true) (hv : evalR ρ c = some v) :
    evalR ρ (addOneNum c) = some (v + 1) := by
  rcases evalR_isNum_cases hn hv with ⟨n, rfl, rfl⟩ | ⟨n, d, rfl, hd, rfl⟩
  · simp only [addOneNum, evalR, Int.cast_add, Int.cast_one]
  · have hdR : (d : ℝ) ≠ 0 := by exact_mod_cast hd
    simp only [addOneNum, evalR, hd, ↓reduceIte, Int.cast_add, Int.cast_natCast]
    rw [add_div, div_self hdR]

/-- the new coefficient is zero only as the Integer 0 (a canonical rational plus 1 is not zero); `hv` excludes the floats, on
    which `addOneNum` is the identity and 0.0 would be a counterexample -/
theorem addOneNum_zero {c : Expr} {v : ℝ} (hw : wf c = true) (hn : c.isNum = true) (hv : evalR ρ c = some v) :
    numIsZero (addOneNum c) = true → addOneNum c = .int 0 := by
  rcases evalR_isNum_cases hn hv with ⟨n, rfl, -⟩ | ⟨n, d, rfl, -, -⟩
  · simp [addOneNum, numIsZero]
  · obtain ⟨hd, hg⟩ := wf_rat.mp hw
    have : n + (d : ℤ) ≠ 0 := by
      intro hz
      have hn' : n.natAbs = d := by omega
      rw [hn', Nat.gcd_self] at hg
      omega
    simp [addOneNum, numIsZero, this]

/-- `(1/2) * X` is never an integer for IntegerVisitor: its first argument is the Rational 1/2 (the fuel
    `size _ + 1` is at least 2, which is all the evaluation needs) -/
theorem isInteger_half_mul (A : Assumptions) (X : Expr) :
    isInteger A (.mul (.rat 1 2) [(X, .int 1)]) = .i := rfl

theorem isOdd_sound (hA : FactsSat ρ A) {e : Expr} {v : ℝ}
    (hw : wf e = true) (hv : evalR ρ e = some v) : Sound (isOdd A e) (∃ n : ℤ, v + 1 = 2 * (n : ℝ)) := by
  have key : (wf (addOne e) = true ∧ evalR ρ (addOne e) = some (v + 1)) ∨ isOdd A e = .i := by
    cases e with
    | int _ | rat _ _ => left; exact ⟨by simpa [addOne, Expr.isNum] using wf_addOneNum hw,
        by simpa [addOne, Expr.isNum] using evalR_addOneNum rfl hv⟩
    | add c ts =>
      left
      obtain ⟨hwc, hcn, _, hne, hts⟩ := wf_add.mp hw
      obtain ⟨vc, vs, hc, hs, rfl⟩ := evalR_add_some.mp hv
      have hgen : wf (.add (addOneNum c) ts) = true ∧ evalR ρ (.add (addOneNum c) ts) = some (vc + vs + 1) :=
        ⟨wf_add.mpr ⟨wf_addOneNum hwc, addOneNum_isNum hcn, addOneNum_zero hwc hcn hc, hne, hts⟩,
          evalR_add_some.mpr ⟨_, _, evalR_addOneNum hcn hc, hs, by ring⟩⟩
      simp only [addOne]
      split
      · rename_i hz
        split
        · -- `0 + v*k` collapses to the single `get_args()` element
          exact argsOf_single hgen.1 hgen.2 (by simp [argsOf, hz, addArgs])
        · exact hgen
      · exact hgen
    | sym s | const c | mul c fs | pow b x | app h args => right; simp [isOdd, addOne, half, Expr.isNum, isInteger_half_mul]
    | _ => simp [evalR] at hv
  rcases key with ⟨hwa, hva⟩ | hi
  · exact isEven_sound hA hwa hva  -- `isOdd A e` is `isEven A (addOne e)` by definition
  · rw [hi]; exact .i

end SymVerif.C34
