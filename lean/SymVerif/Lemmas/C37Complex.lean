/-
C37 / C36 — over ℂ with the principal power every interpretation satisfies the power laws of `Lawful`; what is left to
a particular interpretation is the parity of its function classes.
-/
import Mathlib.Analysis.SpecialFunctions.Pow.Complex
import SymVerif.Lemmas.C37Sem

namespace SymVerif
namespace CSE

theorem lawful_of_cpow {M : Interp ℂ} (hI : M.I = Complex.I) (hpw : M.pw = fun b e => b ^ e)
    (hodd : ∀ h, h ∈ oddHeads → ∀ v : ℂ, M.app h [-v] = - M.app h [v])
    (heven : ∀ h, h ∈ evenHeads → ∀ v : ℂ, M.app h [-v] = M.app h [v]) : Lawful M where
  I_sq := hI ▸ Complex.I_mul_I
  pw_add_int b e k hb := by rw [hpw]; exact (Complex.cpow_add _ _ hb).trans (by rw [Complex.cpow_intCast])
  pw_mul_int b e k _ := by rw [hpw]; exact (Complex.cpow_int_mul b k e).symm
  pw_neg b e _ := by rw [hpw]; exact Complex.cpow_neg b e
  pw_ne_zero b e hb h := by rw [hpw] at h; exact hb ((Complex.cpow_eq_zero_iff b e).mp h).1
  app_odd := hodd
  app_even := heven

end CSE
end SymVerif
