/-
What load_basic rebuilds from what save_basic wrote (C19): decimal integer strings, names, exact
rationals, dictionaries without duplicate keys, class codes.
-/
import SymVerif.Model.Codec

namespace SymVerif.Codec
open SymVerif.Gen.SerialCodes

theorem count_le : count ≤ 256 := by decide

theorem codeOf_toNat {n : String} (h : n ∈ names) : (codeOf n).toNat = names.idxOf n := by
  have hl : names.idxOf n < names.length := List.idxOf_lt_length_iff.2 h
  have hc : names.length ≤ 256 := count_le
  simp only [codeOf, UInt8.toNat_ofNat']
  omega

theorem codeOf_lt {n : String} (h : n ∈ names) : (codeOf n).toNat < count := by
  rw [codeOf_toNat h]; exact List.idxOf_lt_length_iff.2 h

theorem className_codeOf {n : String} (h : n ∈ names) : className (codeOf n) = n := by
  have hl : names.idxOf n < names.length := List.idxOf_lt_length_iff.2 h
  simp only [className, codeOf_toNat h, List.getD_eq_getElem?_getD, List.getElem?_eq_getElem hl,
    Option.getD_some]
  exact List.getElem_idxOf hl

theorem digitsVal_append (a : Bytes) (b : UInt8) : digitsVal (a ++ [b]) = digitsVal a * 10 + (b.toNat - 48) := by
  simp [digitsVal, List.foldl_append]

theorem digit_toNat {d : Nat} (h : d < 10) : (UInt8.ofNat (48 + d)).toNat = 48 + d := by
  simp [UInt8.toNat_ofNat']; omega

theorem isDigit_ofNat {d : Nat} (h : d < 10) : isDigit (UInt8.ofNat (48 + d)) = true := by
  have := digit_toNat h
  simp only [isDigit, Bool.and_eq_true, decide_eq_true_eq, UInt8.le_iff_toNat_le, this]
  constructor
  · show (48 : UInt8).toNat ≤ 48 + d; simp
  · show 48 + d ≤ (57 : UInt8).toNat; simp; omega

theorem natDecF_spec : ∀ (f n : Nat), n < f →
    digitsVal (natDecF f n) = n ∧ (natDecF f n).all isDigit = true ∧ natDecF f n ≠ []
  | 0, n, h => by omega
  | f + 1, n, h => by
    simp only [natDecF]
    split
    · rename_i h10
      refine ⟨?_, ?_, by simp⟩
      · unfold digitsVal
        simp only [List.foldl_cons, List.foldl_nil, digit_toNat h10]; omega
      · simp only [List.all_cons, List.all_nil, isDigit_ofNat h10, Bool.and_self]
    · rename_i h10
      obtain ⟨h1, h2, h3⟩ := natDecF_spec f (n / 10) (by omega)
      have hm : n % 10 < 10 := Nat.mod_lt _ (by omega)
      refine ⟨?_, ?_, by simp⟩
      · rw [digitsVal_append, h1, digit_toNat hm, Nat.add_sub_cancel_left]; exact Nat.div_add_mod' n 10
      · rw [List.all_append, h2]
        simp only [List.all_cons, List.all_nil, isDigit_ofNat hm, Bool.and_self]

theorem natDec_spec (n : Nat) : digitsVal (natDec n) = n ∧ (natDec n).all isDigit = true ∧ natDec n ≠ [] :=
  natDecF_spec (n + 1) n (by omega)

theorem natDec_head (n : Nat) : ∃ c t, natDec n = c :: t ∧ isDigit c = true ∧ t.all isDigit = true := by
  obtain ⟨_, h2, h3⟩ := natDec_spec n
  cases hd : natDec n with
  | nil => exact absurd hd h3
  | cons c t =>
    rw [hd] at h2
    simp only [List.all_cons, Bool.and_eq_true] at h2
    exact ⟨c, t, rfl, h2.1, h2.2⟩

theorem validInt_intBytes (n : Int) : validInt (intBytes n) = true := by
  unfold intBytes
  split
  · simp [validInt, (natDec_spec n.natAbs).2.1]
  · obtain ⟨c, t, hd, hc, ht⟩ := natDec_head n.natAbs
    rw [hd]; simp [validInt, hc, ht]

theorem parseInt_intBytes (n : Int) : parseInt (intBytes n) = n := by
  unfold intBytes
  split
  · rename_i h
    simp only [parseInt, (natDec_spec n.natAbs).1]
    omega
  · rename_i h
    obtain ⟨c, t, hd, hc, ht⟩ := natDec_head n.natAbs
    have h45 : c ≠ 45 := fun h => by subst h; simp [isDigit] at hc
    have hv := (natDec_spec n.natAbs).1
    rw [hd] at hv ⊢
    unfold parseInt
    split
    · rename_i heq; simp at heq; exact absurd heq.1 h45
    · rw [hv]; omega

/-- a name the wire format can carry; `c.toNat < 128` is asked as well because `UInt8.ofNat` wraps: `plainByte`
    alone would admit characters from 256 on -/
def nameOK (s : String) : Bool := !s.toList.isEmpty && s.toList.all fun c => plainByte (UInt8.ofNat c.toNat) && c.toNat < 128

theorem nameOfBytes_bytesOfName {s : String} (h : nameOK s = true) : nameOfBytes (bytesOfName s) = some s := by
  simp only [nameOK, Bool.and_eq_true, Bool.not_eq_true', List.all_eq_true, decide_eq_true_eq] at h
  obtain ⟨hne, hall⟩ := h
  unfold nameOfBytes bytesOfName
  have h1 : (List.map (fun c => UInt8.ofNat c.toNat) s.toList).isEmpty = false := by
    rw [List.isEmpty_map]; exact hne
  have h2 : (List.map (fun c => UInt8.ofNat c.toNat) s.toList).all plainByte = true := by
    simp only [List.all_map, List.all_eq_true]
    intro c hc; exact (hall c hc).1
  simp only [h1, h2, Bool.not_true, Bool.or_self, Bool.false_eq_true, if_false, List.map_map]
  congr 1
  have h3 : List.map ((fun b : UInt8 => Char.ofNat b.toNat) ∘ fun c : Char => UInt8.ofNat c.toNat) s.toList = s.toList := by
    refine (List.map_congr_left fun c hc => ?_).trans (List.map_id _)
    simp only [Function.comp, UInt8.toNat_ofNat', Nat.mod_eq_of_lt (Nat.lt_trans (hall c hc).2 (by decide : 128 < 2 ^ 8)), id]
    exact Char.ofNat_toNat c
  rw [h3]
  exact String.ofList_toList

theorem fromTwoInts_reduced (n : Int) (d : Nat) (hd : 2 ≤ d) (hg : Nat.gcd n.natAbs d = 1) :
    fromTwoInts n (d : Int) = .rat n d := by
  unfold fromTwoInts
  have h0 : ((d : Int) == 0) = false := by simp; omega
  have hneg : ¬ ((d : Int) < 0) := by omega
  simp only [h0, Bool.false_eq_true, if_false, Int.natAbs_natCast, hg, hneg, Nat.div_one]
  have : (d == 1) = false := by simp; omega
  simp [this]

theorem dedupPairs_eq_self : ∀ (ps : List (Expr × Expr)) (seen : List String),
    (∀ p ∈ ps, Expr.dumpCanon p.1 ∉ seen) → (ps.map fun p => Expr.dumpCanon p.1).Nodup →
    dedupPairs ps seen = ps
  | [], _, _, _ => rfl
  | (k, v) :: t, seen, h1, h2 => by
    have hk : seen.contains (Expr.dumpCanon k) = false := by simpa using h1 (k, v) (by simp)
    simp only [List.map_cons, List.nodup_cons] at h2
    simp only [dedupPairs, hk, Bool.false_eq_true, if_false]
    congr 1
    refine dedupPairs_eq_self t _ (fun p hp => ?_) h2.2
    simp only [List.mem_cons, not_or]
    exact ⟨fun heq => h2.1 (heq ▸ List.mem_map_of_mem (f := fun p => Expr.dumpCanon p.1) hp), h1 p (by simp [hp])⟩

theorem dedupArgs_eq_self : ∀ (l : List Expr) (seen : List String),
    (∀ a ∈ l, Expr.dumpCanon a ∉ seen) → (l.map Expr.dumpCanon).Nodup → dedupArgs l seen = l
  | [], _, _, _ => rfl
  | a :: t, seen, h1, h2 => by
    have hk : seen.contains (Expr.dumpCanon a) = false := by simpa using h1 a (by simp)
    simp only [List.map_cons, List.nodup_cons] at h2
    simp only [dedupArgs, hk, Bool.false_eq_true, if_false]
    congr 1
    refine dedupArgs_eq_self t _ (fun p hp => ?_) h2.2
    simp only [List.mem_cons, not_or]
    exact ⟨fun heq => h2.1 (heq ▸ List.mem_map_of_mem (f := Expr.dumpCanon) hp), h1 p (by simp [hp])⟩

def flatPairs : List (Expr × Expr) → List Expr
  | [] => []
  | (k, v) :: t => k :: v :: flatPairs t

theorem pairUp_flatPairs : ∀ ps : List (Expr × Expr), pairUp (flatPairs ps) = some ps
  | [] => rfl
  | (k, v) :: t => by simp [flatPairs, pairUp, pairUp_flatPairs t]

theorem flatPairs_length (ps : List (Expr × Expr)) : (flatPairs ps).length = ps.length * 2 := by
  induction ps with
  | nil => rfl
  | cons p t ih => obtain ⟨k, v⟩ := p; simp [flatPairs, ih]; omega

end SymVerif.Codec
