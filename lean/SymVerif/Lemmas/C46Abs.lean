import SymVerif.Lemmas.C46Vec
/-!
C46: the algorithm of `homogeneous_lde` on an abstract stack (a list of pairs
`(vector, frozen set)`, top first) and the invariants that give soundness, the antichain property,
the bound on the stack depth and completeness.  Also the notions the claimed theorems are stated in:
`IsSol`, `Minimal` (with `exists_minimal_le`), which the invariant `AInv` needs.
-/
namespace SymVerif.C46
open SymVerif.LDE

abbrev Ent := Vec × Array Bool

/-- component `i` is frozen -/
def fz (F : Array Bool) (i : ℕ) : Bool := F.getD i false

/-- number of frozen components -/
def cnt (F : Array Bool) : ℕ := F.count true

theorem fz_set (F : Array Bool) (i x : ℕ) :
    fz (F.setIfInBounds i true) x = if x = i ∧ i < F.size then true else fz F x := by
  simp only [fz, Array.getD_eq_getD_getElem?, Array.getElem?_setIfInBounds]
  by_cases h : i = x
  · subst h
    by_cases h2 : i < F.size <;> simp [h2]
  · simp [h, Ne.symm h]

theorem ne_of_fz {F : Array Bool} {x j : ℕ} (hx : fz F x = true) (hj : fz F j = false) : x ≠ j :=
  fun h => by rw [h, hj] at hx; cases hx

theorem fz_false_lt {F : Array Bool} {i : ℕ} (hi : i < F.size) (h : fz F i = false) : F[i] = false := by
  simpa [fz, Array.getD_eq_getD_getElem?, hi] using h

theorem cnt_le (F : Array Bool) : cnt F ≤ F.size := Array.count_le_size

theorem cnt_lt_of_false {F : Array Bool} {i : ℕ} (hi : i < F.size) (h : fz F i = false) :
    cnt F < F.size :=
  lt_of_le_of_ne (cnt_le F) fun he => by
    have := Array.count_eq_size.mp he F[i] (Array.getElem_mem hi)
    rw [fz_false_lt hi h] at this
    cases this

theorem cnt_set {F : Array Bool} {i : ℕ} (hi : i < F.size) (h : fz F i = false) :
    cnt (F.setIfInBounds i true) = cnt F + 1 := by
  unfold cnt
  have : F.setIfInBounds i true = F.set i true hi := by
    simp [Array.setIfInBounds, hi]
  rw [this, Array.count_set hi, fz_false_lt hi h]
  simp

/-- the condition under which the C++ pushes `t + e_i` (apart from `F[i] == false`) -/
def kcond (A : List Vec) (product : Vec) (basis : List Vec) (tZero : Bool) (t : Vec) (i : ℕ) : Bool :=
  (decide (colDot A product i < 0) && isMinimum (incAt t i 1) basis) || tZero

/-- the children pushed by the `for (i < q)` loop with push test `k` (`kcond` in `astep`), in push order, with
the frozen set stored for each: `F` as it is before `i` is frozen, which is frozen for the later siblings only
(the C++ order `Frozen[n-1] = F`, then `F[i] = true`) -/
def akids (k : ℕ → Bool) (t : Vec) :
    ℕ → ℕ → Array Bool → List Ent
  | 0, _, _ => []
  | rem + 1, i, F =>
    if fz F i == false && k i then (incAt t i 1, F) :: akids k t rem (i + 1) (F.setIfInBounds i true)
    else akids k t rem (i + 1) F

/-- one iteration of the `while` loop on the abstract stack (top first) -/
def astep (A : List Vec) (q : ℕ) : List Ent × List Vec → List Ent × List Vec
  | ((t, F) :: rest, basis) =>
    if isZero (mulVec A t) && !isZero t then (rest, t :: basis)
    else ((akids (kcond A (mulVec A t) basis (isZero t) t) t q 0 F).reverse ++ rest, basis)
  | ([], basis) => ([], basis)

/-- solution of `A x = 0`: of length `q`, non-negative, a solution, non-zero (in this order) -/
def IsSol (A : List Vec) (q : ℕ) (v : Vec) : Prop :=
  v.length = q ∧ (∀ i, 0 ≤ cmp v i) ∧ isZero (mulVec A v) = true ∧ isZero v = false

theorem IsSol.len {A q v} (h : IsSol A q v) : v.length = q := h.1
theorem IsSol.nonneg {A q v} (h : IsSol A q v) (i : ℕ) : 0 ≤ cmp v i := h.2.1 i
theorem IsSol.sol {A q v} (h : IsSol A q v) : isZero (mulVec A v) = true := h.2.2.1
theorem IsSol.ne_zero {A q v} (h : IsSol A q v) : isZero v = false := h.2.2.2

/-- minimal for the componentwise order among the solutions -/
def Minimal (A : List Vec) (q : ℕ) (m : Vec) : Prop :=
  IsSol A q m ∧ ∀ v, IsSol A q v → (∀ i, cmp v i ≤ cmp m i) → v = m

theorem exists_minimal_le {A : List Vec} {q : ℕ} {v : Vec} (hv : IsSol A q v) :
    ∃ m, Minimal A q m ∧ ∀ i, cmp m i ≤ cmp v i := by
  induction hn : (∑ i ∈ Finset.range q, cmp v i).toNat using Nat.strong_induction_on
    generalizing v with
  | _ n ih =>
    by_cases hmin : ∀ u, IsSol A q u → (∀ i, cmp u i ≤ cmp v i) → u = v
    · exact ⟨v, ⟨hv, hmin⟩, fun _ => le_rfl⟩
    · push Not at hmin
      obtain ⟨u, hu, hle, hne⟩ := hmin
      obtain ⟨j, hj, hlt⟩ := exists_lt_of_ne (hu.1.trans hv.1.symm) hle hne
      have h1 : ∑ i ∈ Finset.range q, cmp u i < ∑ i ∈ Finset.range q, cmp v i :=
        Finset.sum_lt_sum (fun i _ => hle i) ⟨j, Finset.mem_range.mpr (hu.1 ▸ hj), hlt⟩
      have h2 : 0 ≤ ∑ i ∈ Finset.range q, cmp u i := Finset.sum_nonneg fun i _ => hu.nonneg i
      obtain ⟨m, hm, hmle⟩ := ih _ (by omega) hu rfl
      exact ⟨m, hm, fun i => (hmle i).trans (hle i)⟩

/-- `m` can still be reached from the stack entry `(s, F)`: above `s`, equal on the frozen part -/
def Reach (s : Vec) (F : Array Bool) (m : Vec) : Prop :=
  (∀ i, cmp s i ≤ cmp m i) ∧ (∀ i, fz F i = true → cmp m i = cmp s i)

/-- relation between a later-pushed (upper) and an earlier-pushed (lower) stack entry.  The first coordinate is
frozen in `e'`, so that the children of `e'` inherit the separation. -/
def Rrel (e' e : Ent) : Prop :=
  (∃ i, fz e'.2 i = true ∧ cmp e'.1 i < cmp e.1 i) ∧ (∃ i, cmp e.1 i < cmp e'.1 i)

/-- depth bound: an entry with `k` entries below it has at least `k` frozen components -/
def DepthOK : List Ent → Prop
  | [] => True
  | e :: rest => rest.length ≤ cnt e.2 ∧ DepthOK rest

/-- The invariant of the abstract algorithm.  About the stack: `shape` (lengths, non-negative), `free` (a
component is still free), `depth` (`DepthOK`), `pair` (`Rrel` between a later and an earlier entry).
Between basis and stack: `noreach`, `nodom` (no basis element is reachable from, or strictly below, an
entry).  About the basis: `minimal`, `complete` (every minimal solution is in it or still reachable),
`nodup`. -/
structure AInv (A : List Vec) (q : ℕ) (L : List Ent) (basis : List Vec) : Prop where
  shape : ∀ e ∈ L, e.1.length = q ∧ e.2.size = q ∧ ∀ i, 0 ≤ cmp e.1 i
  free : ∀ e ∈ L, cnt e.2 < q
  depth : DepthOK L
  pair : L.Pairwise Rrel
  noreach : ∀ b ∈ basis, ∀ e ∈ L, ¬ Reach e.1 e.2 b
  nodom : ∀ b ∈ basis, ∀ e ∈ L, ¬ ((∀ i, cmp b i ≤ cmp e.1 i) ∧ e.1 ≠ b)
  minimal : ∀ b ∈ basis, Minimal A q b
  complete : ∀ m, Minimal A q m → m ∈ basis ∨ ∃ e ∈ L, Reach e.1 e.2 m
  nodup : basis.Nodup

section kids
variable (k : ℕ → Bool) (t : Vec)

/-- A pushed child `e`, in the order of the conclusion: (1, 2) it was pushed at an index `j` of the loop's
range; (3) it is `t + e_j`; (4) `j` is free in its frozen set, which (5) has the size of `F` and (6) contains
`F`; (7) `j` passed the push test `k`. -/
theorem akids_mem (rem i : ℕ) (F : Array Bool) (e : Ent)
    (he : e ∈ akids k t rem i F) :
    ∃ j, i ≤ j ∧ j < i + rem ∧ e.1 = incAt t j 1 ∧ fz e.2 j = false ∧ e.2.size = F.size ∧
      (∀ x, fz F x = true → fz e.2 x = true) ∧ k j = true := by
  fun_induction akids k t rem i F with
  | case1 => simp at he
  | case2 rem i F hc ih =>
    rw [Bool.and_eq_true, beq_iff_eq] at hc
    rcases List.mem_cons.mp he with rfl | he
    · exact ⟨i, le_rfl, by omega, rfl, hc.1, rfl, fun _ hx => hx, hc.2⟩
    · obtain ⟨j, h1, h2, hvec, hfree, hsize, hsup, htest⟩ := ih he
      exact ⟨j, by omega, by omega, hvec, hfree, by simpa using hsize,
        fun x hx => hsup x (by rw [fz_set]; simp [hx]), htest⟩
  | case3 rem i F hc ih =>
    obtain ⟨j, h1, h2, h⟩ := ih he
    exact ⟨j, by omega, by omega, h⟩

theorem akids_pairwise (rem i : ℕ) (F : Array Bool) (hi : i + rem ≤ t.length)
    (hF : F.size = t.length) :
    (akids k t rem i F).Pairwise fun e1 e2 => Rrel e2 e1 := by
  fun_induction akids k t rem i F with
  | case1 => exact List.Pairwise.nil
  | case2 rem i F hc ih =>
    refine List.pairwise_cons.mpr ⟨fun e2 he2 => ?_, ih (by omega) (by simpa using hF)⟩
    obtain ⟨j, h1, h2, hvec, -, -, hsup, -⟩ := akids_mem k t _ _ _ e2 he2
    have hlt : ∀ {a b : ℕ}, a < t.length → a ≠ b → cmp (incAt t b 1) a < cmp (incAt t a 1) a :=
      fun ha hab => by rw [cmp_incAt_ne _ _ hab, cmp_incAt_self _ ha]; omega
    rw [Rrel, hvec]
    exact ⟨⟨i, hsup i (by rw [fz_set, if_pos ⟨rfl, by omega⟩]), hlt (by omega) (by omega)⟩,
      j, hlt (by omega) (by omega)⟩
  | case3 rem i F hc ih => exact ih (by omega) hF

theorem akids_depth (rem i : ℕ) (F : Array Bool) (hi : i + rem ≤ F.size) :
    ∀ rest : List Ent, DepthOK rest → rest.length ≤ cnt F →
      DepthOK ((akids k t rem i F).reverse ++ rest) := by
  fun_induction akids k t rem i F with
  | case1 => exact fun rest h _ => h
  | case2 rem i F hc ih =>
    rw [Bool.and_eq_true, beq_iff_eq] at hc
    intro rest hd hcnt
    rw [List.reverse_cons, List.append_assoc, List.singleton_append]
    refine ih (by rw [Array.size_setIfInBounds]; omega) _ ⟨hcnt, hd⟩ ?_
    rw [cnt_set (by omega) hc.1]
    exact Nat.succ_le_succ hcnt
  | case3 rem i F hc ih => exact ih (by omega)

theorem akids_reach (m : Vec) (hle : ∀ x, cmp t x ≤ cmp m x) (rem i : ℕ) (F : Array Bool)
    (hfr : ∀ x, fz F x = true → cmp m x = cmp t x)
    (hw : ∃ j, i ≤ j ∧ j < i + rem ∧ cmp t j < cmp m j ∧ k j = true) :
    ∃ e ∈ akids k t rem i F, Reach e.1 e.2 m := by
  obtain ⟨j, hj1, hj2, hj3, hj4⟩ := hw
  fun_induction akids k t rem i F with
  | case1 => omega
  | case2 rem i F hc ih =>
    rw [Bool.and_eq_true, beq_iff_eq] at hc
    -- the child pushed at `i` reaches `m` if `t_i < m_i`; otherwise `m_i = t_i`, so freezing `i` for the
    -- later children loses nothing
    by_cases hlt : cmp t i < cmp m i
    · refine ⟨_, List.mem_cons_self, cmp_incAt_le hle hlt, fun x hx => ?_⟩
      rw [cmp_incAt_ne _ _ (ne_of_fz hx hc.1)]
      exact hfr x hx
    · have hji : j ≠ i := by rintro rfl; exact hlt hj3
      obtain ⟨e, he, hr⟩ := ih
        (fun x hx => by
          rw [fz_set] at hx
          split at hx
          · rename_i hxi; rw [hxi.1]; exact le_antisymm (not_lt.mp hlt) (hle i)
          · exact hfr x hx)
        (by omega) (by omega)
      exact ⟨e, List.mem_cons_of_mem _ he, hr⟩
  | case3 rem i F hc ih =>
    -- `i` was not pushed although `k j` holds: were `j = i`, `F` would have `i` frozen, so `m_i = t_i`, against `hj3`
    refine ih hfr ?_ (by omega)
    by_contra hji
    obtain rfl : i = j := by omega
    refine hc (Bool.and_eq_true_iff.mpr ⟨beq_iff_eq.mpr ?_, hj4⟩)
    by_contra hf
    exact hj3.ne' (hfr i (by simpa using hf))

end kids

end SymVerif.C46
