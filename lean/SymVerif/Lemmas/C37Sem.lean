/-
C37 — compositional semantics of expression trees (`evalS`) and the substitution lemma.

Unlike `NF.evalK` (atoms interpreted through their dump strings) function applications are
interpreted *functionally*: `f(a₁,…,aₙ)` is `M.app f [v₁,…,vₙ]` for the values `vᵢ` of the
arguments, so that equal arguments give equal values and substitution inside arguments is meaningful.
-/
import SymVerif.Lemmas.NFSound
import SymVerif.Model.CSE

namespace SymVerif
namespace CSE

open NF
open Classical

-- for the six `setSym_*` lemmas, which are `rfl` and mention no field operation
set_option linter.unusedSectionVars false

/-- an interpretation of the non-arithmetic nodes in a field `K` -/
structure Interp (K : Type) where
  I : K
  sym : String → K
  dummy : String → Nat → K
  const : String → K
  fsym : String → List K → K
  app : String → List K → K
  /-- `b ** e` for an exponent that is not an integer literal -/
  pw : K → K → K

section Sem
variable {K : Type} [Field K]

/-- value of a power with a non-literal exponent; undefined for a zero base -/
noncomputable def pwVal (M : Interp K) : Option K → Option K → Option K
  | some vb, some ve => if vb = 0 then none else some (M.pw vb ve)
  | _, _ => none

noncomputable def consO : Option K → Option (List K) → Option (List K)
  | some v, some vs => some (v :: vs)
  | _, _ => none

mutual
  /-- compositional denotation; `none` = undefined (floats, infinities, NaN, Booleans, malformed
  numbers, `0 ** negative`, zero base under a non-literal exponent, an undefined argument) -/
  noncomputable def evalS (M : Interp K) : Expr → Option K
    | .int n => some (n : K)
    | .rat n d => if d = 0 then none else some ((n : K) / (d : K))
    | .cplx re im =>
      if re.den = 0 ∨ im.den = 0 then none
      else some ((re.num : K) / (re.den : K) + M.I * ((im.num : K) / (im.den : K)))
    | .add c ts => add2 (evalS M c) (evalSTerms M ts)
    | .mul c fs => mul2 (evalS M c) (evalSFacs M fs)
    | .pow b e =>
      match intLit? e with
      | some n => (evalS M b).bind (fun v => powVal v n)
      | none => pwVal M (evalS M b) (evalS M e)
    | .dbl _ => none
    | .cdbl _ _ => none
    | .infty _ => none
    | .nan => none
    | .bool _ => none
    | .sym n => some (M.sym n)
    | .dummy n i => some (M.dummy n i)
    | .const n => some (M.const n)
    | .fsym n args => (evalSList M args).map (M.fsym n)
    | .app h args => (evalSList M args).map (M.app h)
  noncomputable def evalSList (M : Interp K) : List Expr → Option (List K)
    | [] => some []
    | a :: t => consO (evalS M a) (evalSList M t)
  noncomputable def evalSTerms (M : Interp K) : List (Expr × Expr) → Option K
    | [] => some 0
    | (k, v) :: t => add2 (mul2 (evalS M k) (evalS M v)) (evalSTerms M t)
  noncomputable def evalSFacs (M : Interp K) : List (Expr × Expr) → Option K
    | [] => some 1
    | (b, e) :: t =>
      match intLit? e with
      | some n => mul2 ((evalS M b).bind (fun v => powVal v n)) (evalSFacs M t)
      | none => mul2 (pwVal M (evalS M b) (evalS M e)) (evalSFacs M t)
end

-- the power laws are asked for a base `≠ 0` only: `pwVal` gives a zero base no value, and `Complex.cpow` fails them at 0;
-- `pw_neg` is `pw_mul_int` at `k = -1`, kept as a law of its own
/-- the laws of the interpretation used by the checker -/
structure Lawful (M : Interp K) : Prop where
  I_sq : M.I * M.I = -1
  pw_add_int : ∀ (b e : K) (k : ℤ), b ≠ 0 → M.pw b ((k : K) + e) = b ^ k * M.pw b e
  pw_mul_int : ∀ (b e : K) (k : ℤ), b ≠ 0 → M.pw b e ^ k = M.pw b ((k : K) * e)
  pw_neg : ∀ (b e : K), b ≠ 0 → M.pw b (-e) = (M.pw b e)⁻¹
  pw_ne_zero : ∀ (b e : K), b ≠ 0 → M.pw b e ≠ 0
  app_odd : ∀ h, h ∈ oddHeads → ∀ v : K, M.app h [-v] = - M.app h [v]
  app_even : ∀ h, h ∈ evenHeads → ∀ v : K, M.app h [-v] = M.app h [v]

theorem pw_intCast {M : Interp K} (hM : Lawful M) (b : K) (n : ℤ) (hb : b ≠ 0) : M.pw b (n : K) = b ^ n := by
  have h0 : M.pw b 0 = 1 := by
    have := hM.pw_mul_int b (e := 0) (k := 0) hb
    simpa using this.symm
  have := hM.pw_add_int b (e := 0) (k := n) hb
  simpa [h0] using this

def Interp.setSym (M : Interp K) (s : String) (v : K) : Interp K :=
  { M with sym := fun n => if n = s then v else M.sym n }

@[simp] theorem setSym_I (M : Interp K) (s : String) (v : K) : (M.setSym s v).I = M.I := rfl
@[simp] theorem setSym_pw (M : Interp K) (s : String) (v : K) : (M.setSym s v).pw = M.pw := rfl
@[simp] theorem setSym_app (M : Interp K) (s : String) (v : K) : (M.setSym s v).app = M.app := rfl
@[simp] theorem setSym_fsym (M : Interp K) (s : String) (v : K) : (M.setSym s v).fsym = M.fsym := rfl
@[simp] theorem setSym_const (M : Interp K) (s : String) (v : K) : (M.setSym s v).const = M.const := rfl
@[simp] theorem setSym_dummy (M : Interp K) (s : String) (v : K) : (M.setSym s v).dummy = M.dummy := rfl

theorem evalSList_cons_some {M : Interp K} {a : Expr} {t : List Expr} {vs : List K} :
    evalSList M (a :: t) = some vs ↔ ∃ x xs, evalS M a = some x ∧ evalSList M t = some xs ∧ vs = x :: xs := by
  simp only [evalSList]
  cases evalS M a <;> cases evalSList M t <;> simp [consO, eq_comm]

theorem some_unique {α : Type} {o : Option α} {v w : α} (hv : o = some v) (hw : o = some w) : w = v :=
  (Option.some.inj (hv.symm.trans hw)).symm

theorem map_some_congr {α β : Type} {o o' : Option α} {f : α → β} {v w : β}
    (h : ∀ x y, o = some x → o' = some y → x = y) (hv : o.map f = some v) (hw : o'.map f = some w) : v = w := by
  cases o <;> cases o' <;> simp only [Option.map_none, Option.map_some, reduceCtorEq, Option.some.injEq] at hv hw
  -- left: both defined (elsewhere `hv` or `hw` is `False`)
  rw [← hv, ← hw, h _ _ rfl rfl]

theorem pwVal_setSym (M : Interp K) (s : String) (v : K) (a b : Option K) :
    pwVal (M.setSym s v) a b = pwVal M a b := by
  cases a <;> cases b <;> simp [pwVal]

theorem intLit_substSym (s : String) (r : Expr) (hr : intLit? r = none) (e : Expr) :
    intLit? (substSym s r e) = intLit? e := by
  cases e with
  | sym n =>
    simp only [substSym]
    split
    · rw [hr]; rfl
    · rfl
  | _ => simp [substSym, intLit?]

mutual
  /-- `hr`: an integer literal landing in an exponent would switch the `Pow` node from `pwVal` to `powVal` (`intLit_substSym`
  is where it is used); `cse` never replaces numbers, and `rhsOkB` checks it -/
  theorem evalS_substSym (M : Interp K) (s : String) (r : Expr) (v : K) (hr : intLit? r = none)
      (hv : evalS M r = some v) :
      ∀ e : Expr, evalS M (substSym s r e) = evalS (M.setSym s v) e
    | .int n | .rat n d | .cplx re im | .dbl _ | .cdbl _ _ | .infty _ | .nan | .bool _ | .dummy n i
    | .const n => by simp [substSym, evalS]
    | .add c ts => by
      simp only [substSym, evalS, evalS_substSym M s r v hr hv c, evalSTerms_substSym M s r v hr hv ts]
    | .mul c fs => by
      simp only [substSym, evalS, evalS_substSym M s r v hr hv c, evalSFacs_substSym M s r v hr hv fs]
    | .pow b e => by
      simp only [substSym, evalS, intLit_substSym s r hr e, evalS_substSym M s r v hr hv b,
        evalS_substSym M s r v hr hv e, pwVal_setSym]
    | .sym n => by
      simp only [substSym]
      split
      · rename_i h; simp [evalS, Interp.setSym, h, hv]
      · rename_i h; simp [evalS, Interp.setSym, h]
    | .fsym n args => by
      simp only [substSym, evalS, evalSList_substSym M s r v hr hv args, setSym_fsym]
    | .app h args => by
      simp only [substSym, evalS, evalSList_substSym M s r v hr hv args, setSym_app]
  theorem evalSList_substSym (M : Interp K) (s : String) (r : Expr) (v : K) (hr : intLit? r = none)
      (hv : evalS M r = some v) :
      ∀ l : List Expr, evalSList M (substSymList s r l) = evalSList (M.setSym s v) l
    | [] => by simp [substSymList, evalSList]
    | a :: t => by
      simp only [substSymList, evalSList, evalS_substSym M s r v hr hv a,
        evalSList_substSym M s r v hr hv t]
  theorem evalSTerms_substSym (M : Interp K) (s : String) (r : Expr) (v : K) (hr : intLit? r = none)
      (hv : evalS M r = some v) :
      ∀ l : List (Expr × Expr), evalSTerms M (substSymPairs s r l) = evalSTerms (M.setSym s v) l
    | [] => by simp [substSymPairs, evalSTerms]
    | (k, c) :: t => by
      simp only [substSymPairs, evalSTerms, evalS_substSym M s r v hr hv k,
        evalS_substSym M s r v hr hv c, evalSTerms_substSym M s r v hr hv t]
  theorem evalSFacs_substSym (M : Interp K) (s : String) (r : Expr) (v : K) (hr : intLit? r = none)
      (hv : evalS M r = some v) :
      ∀ l : List (Expr × Expr), evalSFacs M (substSymPairs s r l) = evalSFacs (M.setSym s v) l
    | [] => by simp [substSymPairs, evalSFacs]
    | (b, e) :: t => by
      simp only [substSymPairs, evalSFacs, intLit_substSym s r hr e, evalS_substSym M s r v hr hv b,
        evalS_substSym M s r v hr hv e, evalSFacs_substSym M s r v hr hv t, pwVal_setSym]
end

/-- the environment after evaluating the replacements first to last; `none` when a right-hand
side is undefined -/
noncomputable def envAfter (M : Interp K) : List (String × Expr) → Option (Interp K)
  | [] => some M
  | (s, r) :: rest =>
    match evalS M r with
    | some v => envAfter (M.setSym s v) rest
    | none => none

theorem rhsOkB_cons {s : String} {r : Expr} {rest : List (String × Expr)}
    (h : rhsOkB ((s, r) :: rest) = true) : intLit? r = none ∧ rhsOkB rest = true := by
  simp only [rhsOkB, List.all_cons, Bool.and_eq_true, Option.isNone_iff_eq_none] at h ⊢
  exact h

/-- back-substitution (last to first) followed by evaluation in `M` is evaluation of the reduced
expression in the environment obtained by evaluating the replacements first to last -/
theorem evalS_backSubst :
    ∀ (reps : List (String × Expr)) (M M' : Interp K) (e : Expr), rhsOkB reps = true →
      envAfter M reps = some M' → evalS M (backSubst reps e) = evalS M' e
  | [], M, M', e, _, h => by
    simp only [envAfter, Option.some.injEq] at h
    subst h
    simp [backSubst]
  | (s, r) :: rest, M, M', e, hok, h => by
    obtain ⟨hr, hrest⟩ := rhsOkB_cons hok
    simp only [envAfter] at h
    split at h
    · rename_i v hv
      rw [backSubst, evalS_substSym M s r v hr hv]
      exact evalS_backSubst rest (M.setSym s v) M' e hrest h
    · cases h

end Sem

end CSE
end SymVerif
