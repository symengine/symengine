/-
C03: `PowerExpOK` is a theorem. The exponent `v * n` computed by `Mul::power_num` is non-zero: a
canonical non-zero Number times a non-zero Integer is not zero, and an invariant exponent that is
not a Number stays a non-Number when multiplied by a non-zero Integer (numeric radicals in the
invariant are fixed points of rpowrat).
No induction: `mulF v (.int n)` is evaluated (`mulF_atoms`, `mulStep_num`, and `datNew_notFound_insert`, which reads
the not-found branch off `datNew_notFound_cases`).
-/
import SymVerif.Lemmas.C03MulB

namespace SymVerif.Arith

theorem Q.norm_den_ne {n : Int} {d : Nat} (hd : d ≠ 0) : (Q.norm n d).den ≠ 0 :=
  (Q.canon_iff.mp (Q.norm_canon n d hd)).1

theorem Q.norm_num_zero {n : Int} {d : Nat} (hd : d ≠ 0) : (Q.norm n d).num = 0 ↔ n = 0 := by
  have hg : Nat.gcd n.natAbs d ≠ 0 := Nat.ne_of_gt (Nat.gcd_pos_of_pos_right _ (Nat.pos_of_ne_zero hd))
  have hdvd : ((Nat.gcd n.natAbs d : Nat) : Int) ∣ n := Int.ofNat_dvd_left.mpr (Nat.gcd_dvd_left _ _)
  simp only [Q.norm, beq_iff_eq, hg, if_false]
  exact ⟨Int.eq_zero_of_ediv_eq_zero hdvd, fun h => by simp [h]⟩

theorem Q.mul_num_zero {a b : Q} (ha : a.den ≠ 0) (hb : b.den ≠ 0) :
    (Q.mul a b).num = 0 ↔ a.num = 0 ∨ b.num = 0 := by
  unfold Q.mul
  rw [Q.norm_num_zero (Nat.mul_ne_zero ha hb)]
  exact Int.mul_eq_zero

theorem Q.mul_den_ne {a b : Q} (ha : a.den ≠ 0) (hb : b.den ≠ 0) : (Q.mul a b).den ≠ 0 :=
  Q.norm_den_ne (Nat.mul_ne_zero ha hb)

theorem Q.add_num_zero {a b : Q} (ha : a.den ≠ 0) (hb : b.den ≠ 0) (hz : a.num = 0 ∨ b.num = 0) :
    (Q.add a b).num = 0 ↔ a.num = 0 ∧ b.num = 0 := by
  unfold Q.add
  rw [Q.norm_num_zero (Nat.mul_ne_zero ha hb)]
  rcases hz with hz | hz <;> simp [hz, Int.mul_eq_zero, ha, hb]

theorem numIsZero_ofGQ {re im : Q} (h : numIsZero (ofGQ re im) = true) : re.num = 0 ∧ im.num = 0 := by
  unfold ofGQ at h
  split at h
  · rename_i hi
    refine ⟨?_, by simpa using hi⟩
    unfold ofQ at h
    split at h <;> simpa [numIsZero] using h
  · simp [numIsZero] at h

theorem exOK_dens {a : Expr} {ar ai : Q} (ha : canon a = true) (hg : toGQ a = some (ar, ai)) :
    ar.den ≠ 0 ∧ ai.den ≠ 0 := by
  have := toGQ_canon ha hg
  exact ⟨(Q.canon_iff.mp this.1).1, (Q.canon_iff.mp this.2).1⟩

theorem numIsZero_of_parts {a : Expr} {ar ai : Q} (ha : canon a = true) (hg : toGQ a = some (ar, ai))
    (h1 : ar.num = 0) (h2 : ai.num = 0) : numIsZero a = true := by
  cases a with
  | int _ | rat _ _ => simp [toGQ] at hg; obtain ⟨rfl, _⟩ := hg; simpa [numIsZero] using h1
  | cplx re im =>
    -- a canonical Complex has a non-zero imaginary part
    simp [toGQ] at hg; obtain ⟨rfl, rfl⟩ := hg
    rw [canon_cplx] at ha
    simp [cplxCanon, h2] at ha
  | _ => simp [toGQ] at hg

theorem numMul_int_nonzero {a r : Expr} {m : Int} (ha : NumOK a) (hz : numIsZero a = false)
    (hm : m ≠ 0) (h : numMul a (.int m) = .ok r) : numIsZero r = false := by
  refine numMul_ind (P := fun r => numIsZero r = false) h (fun ar ai br bi hg hb => ?_) rfl
    fun d x _ hx => by rcases inftyMulExact_cases hx with rfl | rfl | rfl <;> rfl
  -- `(ar + ai i) (m + 0 i) = (ar m - ai 0) + (ar 0 + ai m) i`: a zero product forces `ar m = 0` and `ai m = 0`
  cases hb
  obtain ⟨dr, di⟩ := exOK_dens ha.2 hg
  have dm : (⟨m, 1⟩ : Q).den ≠ 0 := by simp
  refine Bool.eq_false_iff.mpr fun hzr => ?_
  obtain ⟨h1, h2⟩ := numIsZero_ofGQ hzr
  have z1 : (Q.mul ai Q.zero).num = 0 := (Q.mul_num_zero di (by decide)).mpr (Or.inr rfl)
  have z2 : (Q.mul ar Q.zero).num = 0 := (Q.mul_num_zero dr (by decide)).mpr (Or.inr rfl)
  have e1 : ar.num = 0 := by
    unfold Q.sub at h1
    rw [Q.add_num_zero (Q.mul_den_ne dr dm)
      (by simpa [Q.neg] using Q.mul_den_ne di (by decide)) (.inr (by simp [Q.neg, z1]))] at h1
    exact ((Q.mul_num_zero dr dm).mp h1.1).resolve_right hm
  have e2 : ai.num = 0 := by
    rw [Q.add_num_zero (Q.mul_den_ne dr (by decide)) (Q.mul_den_ne di dm) (.inl z2)] at h2
    exact ((Q.mul_num_zero di dm).mp h2.2).resolve_right hm
  rw [numIsZero_of_parts ha.2 hg e1 e2] at hz
  cases hz

/-- `mul` starts its accumulator at `one`, so `v * n` is computed as `(1 * v) * n` (`mulF_num_int`) -/
theorem numMul_one_comm (v : Expr) : numMul one v = numMul v one := by
  cases hg : toGQ v with
  | some p =>
    simp only [numMul, hg, show toGQ one = some (⟨1, 1⟩, Q.zero) from rfl]
    simp [Q.mul, Q.add, Q.sub, Q.neg, Q.zero, Int.mul_comm, Nat.mul_comm, Int.add_comm]
  | none => cases v <;> first | (cases hg; done) | rfl

theorem numMul_one_nonzero {v r : Expr} (hv : NumOK v) (hz : numIsZero v = false)
    (h : numMul one v = .ok r) : numIsZero r = false :=
  numMul_int_nonzero hv hz Int.one_ne_zero (numMul_one_comm v ▸ h)

theorem mulFromDict_nonnum {c : Expr} {d : Dict} (hz : numIsZero c = false) (hne : d ≠ [])
    (h1 : ∀ b, (b, Expr.int 1) ∈ d → b.isNum = false) : (mulFromDict c d).isNum = false := by
  rcases mulFromDict_cases_nz hz hne with ⟨b, rfl, e⟩ | ⟨b, x, -, -, e⟩ | ⟨e, -⟩
  · rw [e]; exact h1 b (List.mem_singleton.mpr rfl)
  · rw [e]; rfl
  · rw [e]; rfl

/-- `b ** (n/d)` with `radOK` is returned unchanged by `Rational::rpowrat` -/
theorem rpowrat_fix {f : Nat} {rv : Bool} {b n' : Int} {d : Nat} (hb1 : b ≠ 1)
    (hrad : radOK b d = true) (h0 : 0 < n') (hlt : n' < d) (hd1 : d ≠ 1) :
    rpowrat (f + 1) rv n' d b = .ok (.pow (.int b) (.rat n' d)) := by
  obtain ⟨hb0, hnsq, hroot⟩ := radOK_iff.mp hrad
  have c1 : (b == 1) = false := by simpa using hb1
  have c0 : (b == 0) = false := by simpa using hb0
  have hq : fdivmod n' d = (0, n') := by
    simp only [fdivmod, Int.fdiv_eq_zero_of_lt (by omega : 0 ≤ n') hlt, Prod.mk.injEq, true_and]
    rw [Int.fmod_eq_emod_of_nonneg n' (by omega : (0 : Int) ≤ (d : Int))]
    exact Int.emod_eq_of_lt (by omega) hlt
  have hp : numPowInt (.int b) 0 = .ok (.int 1) := by
    simp [numPowInt, expCap]
  have hof : ofQ ⟨n', d⟩ = .rat n' d := ofQ_rat hd1
  have hone : mulFromDict (.int 1) (dinsert [] (.int b) (.rat n' d)) = .pow (.int b) (.rat n' d) := by
    simp [mulFromDict, dinsert, numIsZero, numIsOne, isIntLit]
  have hd2 : b < 0 → (d == 2) = false := fun hneg => by simpa [hneg] using hnsq
  simp only [rpowrat, c1, c0, bind, Except.bind, pure, Except.pure, Bool.false_eq_true, ↓reduceIte]
  by_cases hd : d < 2 ^ 64
  · have hr := hroot hd
    simp only [hd, if_true]
    by_cases hneg : b < 0
    · simp only [hneg, if_true] at hr ⊢
      by_cases hm1 : b = -1
      · subst hm1
        simp [hq, hp, hd2 hneg, hof, hone]
      · have hbne : (b != -1) = true := by simpa using hm1
        have hn : exactRoot b.natAbs d = none := by simpa [hm1] using hr
        simp [hbne, hn, hq, hp, hd2 hneg, hof, hone]
    · simp only [hneg, if_false] at hr ⊢
      rw [Option.isNone_iff_eq_none] at hr
      simp [hr, hq, hp, hof, hone]
  · simp [hd, hq, hp, hnsq, hof, hone]

theorem datNew_notFound_insert {f : Nat} {rv : Bool} {coef e t c' : Expr} {d d' : Dict}
    (hfac : factorOK t e = true) (hf : dfind d t = none)
    (h : datNew f rv coef d e t = .ok (c', d')) : c' = coef ∧ d' = dinsert d t e := by
  cases f with
  | zero => cases h
  | succ f =>
  rcases datNew_notFound_cases hf h with ⟨p, h3, hpw, -⟩ | ⟨res, h3, hr, hres, hcase⟩ | ⟨r, hpt, hi, -⟩
    | ⟨rfl, rfl, -⟩
  · obtain ⟨m, rfl, -⟩ := numPow_eq_ok hpw
    cases factorOK_notInt hfac (.inl h3)
  · -- Integer base, Rational exponent: a fixed point of rpowrat
    obtain ⟨n', d0, rfl⟩ := isRational_iff.mp hr
    have hfix : res = .pow t (.rat n' d0) := by
      cases t with
      | int bn =>
        obtain ⟨hb1, -, h0, hlt, hrad⟩ := (factorOK_int_rat bn n' d0).mp hfac
        cases f with
        | zero => cases hres
        | succ f =>
          have hres : rpowrat f rv n' d0 bn = .ok res := hres   -- `powNumRat (f + 1)` is `rpowrat f` here
          cases f with
          | zero => cases hres
          | succ f => rw [rpowrat_fix hb1 hrad h0 hlt (by omega)] at hres; exact (Except.ok.inj hres).symm
      | rat p q => simp [factorOK, isRational] at hfac
      -- the disjunct does not keep the test `!isComplex t` of `datNew`: `powNumRat` itself refuses a Complex base (`badCast`)
      | cplx _ _ => cases f <;> simp [powNumRat] at hres
      | _ => cases h3
    subst hfix
    rcases hcase with habs | ⟨-, -, ⟨rb, re, e, hne, -⟩ | ⟨rfl, rfl, -⟩⟩
    · cases f with
      | zero => cases hres
      | succ f => simp [absorb, Expr.isNum] at habs; cases habs   -- `absorb` leaves a Pow alone
    · cases e; exact absurd ⟨rfl, rfl⟩ hne
    · exact ⟨rfl, rfl⟩
  · obtain ⟨b, x, rfl⟩ := isPow_iff.mp hpt
    cases (factorOK_notInt hfac (.inr (.inl rfl))).symm.trans hi
  · exact ⟨rfl, rfl⟩

theorem mulF_atoms {f : Nat} {rv : Bool} {a b : Expr} (ha : isMul a = false) (hb : isMul b = false) :
    mulF (f + 1) rv a b = (do
      let (c, d) ← mulStep f rv one [] a
      let (c, d) ← mulStep f rv c d b
      pure (mulFromDict c d)) := by
  unfold mulF
  split
  · cases ha
  · cases ha
  · cases hb
  · rfl

theorem mulStep_num {f : Nat} {rv : Bool} {c b c' : Expr} {d d' : Dict} (hb : b.isNum = true)
    (h : mulStep f rv c d b = .ok (c', d')) : numMul c b = .ok c' ∧ d' = d := by
  cases f with
  | zero => cases h
  | succ f =>
    unfold mulStep at h
    rw [if_pos hb] at h
    obtain ⟨c1, hm, h⟩ := bind_eq_ok h
    cases h
    exact ⟨hm, rfl⟩

theorem mulF_atom_int {f : Nat} {rv : Bool} {v r : Expr} {n : Int} (hvm : isMul v = false)
    (h : mulF (f + 1) rv v (.int n) = .ok r) :
    ∃ c1 d1 c2, mulStep f rv one [] v = .ok (c1, d1) ∧ numMul c1 (.int n) = .ok c2
      ∧ r = mulFromDict c2 d1 := by
  rw [mulF_atoms hvm rfl] at h
  obtain ⟨⟨c1, d1⟩, h1, h⟩ := bind_eq_ok h
  obtain ⟨⟨c2, d2⟩, h2, hr⟩ := bind_eq_ok h
  obtain ⟨hm, rfl⟩ := mulStep_num rfl h2
  exact ⟨_, _, _, h1, hm, (Except.ok.inj hr).symm⟩

theorem mulF_int_nonnum {f : Nat} {rv : Bool} {v r : Expr} {n : Int} (hv : inv v = true)
    (hvn : v.isNum = false) (hn : n ≠ 0) (h : mulF f rv v (.int n) = .ok r) : r.isNum = false := by
  cases f with
  | zero => cases h
  | succ f =>
  by_cases hvm : isMul v = true
  · obtain ⟨ac, ad, rfl⟩ := isMul_iff.mp hvm
    unfold mulF at h
    dsimp only at h
    cases f with
    | zero => cases h
    | succ f =>
      unfold mulOnto at h
      obtain ⟨⟨c, d⟩, hs, hr⟩ := bind_eq_ok h
      obtain ⟨hm, rfl⟩ := mulStep_num rfl hs
      obtain rfl := Except.ok.inj hr
      obtain ⟨hac, hz, hne⟩ := inv_mul_top hv
      refine mulFromDict_nonnum (numMul_int_nonzero hac hz hn hm) hne fun b hb => ?_
      exact (factorOK_one ((inv_mul_dict hv).fac (b, .int 1) hb)).1
  · obtain ⟨c1, d1, c2, h1, hm, rfl⟩ := mulF_atom_int (Bool.eq_false_iff.mpr hvm) h
    cases f with
    | zero => cases h1
    | succ f =>
      unfold mulStep at h1
      rw [if_neg (by rw [hvn]; exact Bool.false_ne_true)] at h1
      obtain ⟨⟨e, t⟩, ha, hd⟩ := bind_eq_ok h1
      obtain ⟨-, hie, hfe⟩ := asBaseExp_factor hv hvn ha
      obtain ⟨rfl, rfl⟩ := datNew_notFound_insert hfe rfl hd
      refine mulFromDict_nonnum (numMul_int_nonzero numOK_one rfl hn hm) (dinsert_ne_nil _ _ _) fun b hb => ?_
      obtain ⟨rfl, rfl⟩ := Prod.mk.inj (List.mem_singleton.mp hb)
      exact (factorOK_one hfe).1

/-- `Number * Integer` through `mul` is `mulnum` -/
theorem mulF_num_int {f : Nat} {rv : Bool} {v r : Expr} {n : Int} (hvn : v.isNum = true)
    (h : mulF f rv v (.int n) = .ok r) :
    ∃ c1, numMul one v = .ok c1 ∧ numMul c1 (.int n) = .ok r := by
  cases f with
  | zero => cases h
  | succ f =>
    have hvm : isMul v = false := isMul_eq_false fun c fs e => by rw [e] at hvn; cases hvn
    obtain ⟨c1, d1, c2, h1, hm2, rfl⟩ := mulF_atom_int hvm h
    obtain ⟨hm1, rfl⟩ := mulStep_num hvn h1
    exact ⟨c1, hm1, by simpa [mulFromDict] using hm2⟩

theorem powerExpOK : PowerExpOK := by
  intro f rv k v n r hk hv hf hn h
  by_cases hvn : v.isNum = true
  · obtain ⟨c1, h1, h2⟩ := mulF_num_int hvn h
    have hvN : NumOK v := ⟨hvn, inv_canon hv⟩
    have hvz : numIsZero v = false := (isNumZero_eq v).symm.trans (factorOK_nz hf)
    have hc1 := numMul_ok numOK_one.2 hvN.2 h1
    have hz1 := numMul_one_nonzero hvN hvz h1
    have hz2 := numMul_int_nonzero hc1 hz1 hn h2
    exact ⟨(isNumZero_eq r).trans hz2, fun hcond =>
      preOK_of_factorOK hf (.inl hvn) fun hm => hcond.resolve_left (by simp [hm])⟩
  · have hvn : v.isNum = false := by simpa using hvn
    have hrn := mulF_int_nonnum hv hvn hn h
    exact ⟨by simp [isNumZero, hrn], fun _ =>
      preOK_of_factorOK hf (.inr hrn) fun _ => (nonNum_class hrn).1⟩

end SymVerif.Arith
