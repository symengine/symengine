/-
Lemmas about the portable-binary primitives of Model/Codec.lean (C19): what the reads return on what the writes wrote.
-/
import SymVerif.Model.Codec

namespace SymVerif.Codec

theorem leN_length (k n : Nat) : (leN k n).length = k := by
  induction k generalizing n with
  | zero => rfl
  | succ k ih => simp [leN, ih]

theorem ofLE_leN (k n : Nat) : ofLE (leN k n) = n % 256 ^ k := by
  induction k generalizing n with
  | zero => simp [leN, ofLE, Nat.mod_one]
  | succ k ih =>
    simp only [leN, ofLE, ih]
    have h : (UInt8.ofNat (n % 256)).toNat = n % 256 := by
      simp [UInt8.toNat_ofNat']
    rw [h, Nat.pow_succ, Nat.mul_comm (256 ^ k) 256, Nat.mod_mul]

theorem rdNat_leN (w n : Nat) (rest : Bytes) (h : n < 256 ^ w) :
    rdNat false w (leN w n ++ rest) = .ok (n, rest) := by
  have hl := leN_length w n
  simp only [rdNat, List.length_append, hl, Nat.le_add_right, if_true, Bool.false_eq_true, if_false,
    List.take_left' hl, List.drop_left' hl, ofLE_leN, Nat.mod_eq_of_lt h]

theorem rdNat_le64 (a : UInt64) (rest : Bytes) :
    rdNat false 8 (le64 a ++ rest) = .ok (a.toNat, rest) := by
  unfold le64
  apply rdNat_leN
  have := a.toNat_lt
  simpa using this

theorem rdNat_byte (b : UInt8) (rest : Bytes) :
    rdNat false 1 (b :: rest) = .ok (b.toNat, rest) := by
  simp [rdNat, ofLE]

theorem rdStr_encStr (cap : Nat) (s rest : Bytes) (h1 : s.length < 2 ^ 62)
    (h2 : s.length ≤ 15 ∨ s.length + 1 ≤ cap) :
    rdStr ⟨false, cap⟩ (encStr s ++ rest) = .ok (s, rest) := by
  have h3 : ¬ (s.length ≥ 2 ^ 62) := Nat.not_le.2 h1
  have h4 : ¬ (s.length > 15 ∧ s.length + 1 > cap) := by omega
  simp only [rdStr, encStr, List.append_assoc, rdNat_leN 8 s.length _ (by omega), h3, h4, if_false,
    List.length_append, Nat.le_add_right, if_true, List.take_left', List.drop_left']

open SymVerif.Gen.SerialCodes in
theorem decHeader_header (bs : Bytes) : decHeader (header ++ bs) = .ok (false, bs) := by
  have h0 : ((1 : UInt8) != 1) = false := by decide
  simp only [header, List.cons_append, decHeader, h0, List.append_assoc, rdNat_leN 2 verMajor _ (by decide),
    rdNat_leN 2 verMinor _ (by decide), and_self, if_true]

end SymVerif.Codec
