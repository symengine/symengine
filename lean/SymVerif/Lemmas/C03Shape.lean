/-
C03: `RadShape` — a Number ** Rational evaluates to a Number, a Mul or a Pow.
`inv` does not give this (`Mul::from_dict` returns the bare key of `{b: 1}`, and under `inv` that is an
atom), so the twelve functions `powNumRat` can reach are walked a second time with the invariant `NK`,
"keys and exponents are Numbers": `specN_all` is an induction on the fuel like `spec_all`; the
accumulator functions of `mul` are the steps over `Dom` at the instance `nkDom`, and `datNew`,
`datFound`, `rpowrat`, `powF` go through the same `…_cases` lemmas as the steps for `inv`.
-/
import SymVerif.Lemmas.C03MulE

namespace SymVerif.Arith

theorem ofQ_isNum (q : Q) : (ofQ q).isNum = true := by
  unfold ofQ; split <;> rfl

theorem ofGQ_isNum (re im : Q) : (ofGQ re im).isNum = true := by
  unfold ofGQ; split
  · exact ofQ_isNum _
  · rfl

theorem inftyMulExact_isNum {d : Int} {x r : Expr} (h : inftyMulExact d x = .ok r) : r.isNum = true := by
  rcases inftyMulExact_cases h with rfl | rfl | rfl <;> rfl

theorem numMul_isNum {a b r : Expr} (h : numMul a b = .ok r) : r.isNum = true :=
  numMul_ind (P := fun r => r.isNum = true) h (fun _ _ _ _ _ _ => ofGQ_isNum _ _) rfl
    fun _ _ _ hx => inftyMulExact_isNum hx

theorem numAdd_isNum {a b r : Expr} (h : numAdd a b = .ok r) : r.isNum = true :=
  numAdd_ind (P := fun r => r.isNum = true) h (fun _ _ _ _ _ _ => ofGQ_isNum _ _) rfl fun _ _ => rfl

theorem numPowInt_isNum {a r : Expr} {n : Int} (h : numPowInt a n = .ok r) : r.isNum = true :=
  numPowInt_ind (P := fun r => r.isNum = true) h (fun _ => rfl) rfl (fun q _ => ofQ_isNum q)
    fun re im _ => ofGQ_isNum re im

theorem numPow_isNum {a e r : Expr} (h : numPow a e = .ok r) : r.isNum = true :=
  have ⟨_, _, hp⟩ := numPow_eq_ok h
  numPowInt_isNum hp

def NKd (d : Dict) : Prop := ∀ p ∈ d, p.1.isNum = true ∧ p.2.isNum = true

def NK (r : Expr) : Prop :=
  r.isNum = true ∨ (∃ b e, r = .pow b e ∧ b.isNum = true ∧ e.isNum = true)
    ∨ (∃ c fs, r = .mul c fs ∧ c.isNum = true ∧ NKd fs)

theorem NK.shape {r : Expr} (h : NK r) : r.isNum = true ∨ isMul r = true ∨ isPow r = true := by
  rcases h with h | ⟨b, e, rfl, _, _⟩ | ⟨c, fs, rfl, _, _⟩
  · exact Or.inl h
  · exact Or.inr (Or.inr rfl)
  · exact Or.inr (Or.inl rfl)

theorem NK.ofNum {r : Expr} (h : r.isNum = true) : NK r := Or.inl h

theorem NKd.nil : NKd [] := by intro p hp; simp at hp

theorem NKd.insert {d : Dict} {t e : Expr} (hd : NKd d) (ht : t.isNum = true) (he : e.isNum = true) :
    NKd (dinsert d t e) :=
  forall_dinsert hd ⟨ht, he⟩

theorem NKd.erase {d : Dict} {t : Expr} (hd : NKd d) : NKd (derase d t) :=
  fun p hp => hd p (mem_derase hp)

theorem NKd.set {d : Dict} {t v : Expr} (hd : NKd d) (ht : t.isNum = true) (hv : v.isNum = true) :
    NKd (dset d t v) :=
  forall_dset hd ⟨ht, hv⟩

theorem mulFromDict_NK {c : Expr} {d : Dict} (hc : c.isNum = true) (hd : NKd d) :
    NK (mulFromDict c d) := by
  rcases mulFromDict_cases c d with ⟨e, -⟩ | ⟨b, rfl, e⟩
    | ⟨b, x, rfl, -, e⟩ | ⟨e, -⟩ <;> rw [e]
  · exact .ofNum hc
  · exact .ofNum (hd _ (List.mem_singleton.mpr rfl)).1
  · exact .inr (.inl ⟨b, x, rfl, hd (b, x) (List.mem_singleton.mpr rfl)⟩)
  · exact .inr (.inr ⟨c, d, rfl, hc, hd⟩)

def StN (c : Expr) (d : Dict) : Prop := c.isNum = true ∧ NKd d

/-- the contracts of the twelve functions that `powNumRat` can reach, at fuel `n`, for the invariant `NK` -/
structure SpecN (n : Nat) : Prop where
  mulF : ∀ rv a b r, NK a → NK b → mulF n rv a b = .ok r → NK r
  mulOnto : ∀ rv c d b r, StN c d → NK b → mulOnto n rv c d b = .ok r → NK r
  mulStep : ∀ rv c d b c' d', StN c d → NK b → mulStep n rv c d b = .ok (c', d') → StN c' d'
  datLoop : ∀ rv c d l c' d', StN c d → NKd l → datLoop n rv c d l = .ok (c', d') → StN c' d'
  absorb : ∀ rv c d res c' d', StN c d → NK res → absorb n rv c d res = .ok (some (c', d')) → StN c' d'
  mulInto : ∀ rv c d r c' d', StN c d → NK r → mulInto n rv c d r = .ok (c', d') → StN c' d'
  datNew : ∀ rv c d e t c' d', StN c d → t.isNum = true → e.isNum = true →
    datNew n rv c d e t = .ok (c', d') → StN c' d'
  datFound : ∀ rv c d t v c' d', StN c d → t.isNum = true → v.isNum = true →
    datFound n rv c d t v = .ok (c', d') → StN c' d'
  powNumRat : ∀ rv t e r, powNumRat n rv t e = .ok r → NK r
  powrat : ∀ rv p q nn d r, powrat n rv p q nn d = .ok r → NK r
  rpowrat : ∀ rv nn d o r, rpowrat n rv nn d o = .ok r → NK r
  powF : ∀ rv a b r, a.isNum = true → b.isNum = true → powF n rv a b = .ok r → NK r

variable {n : Nat}

theorem NK_mul_parts {c : Expr} {fs : Dict} (h : NK (.mul c fs)) : c.isNum = true ∧ NKd fs := by
  rcases h with h | ⟨b, e, he, _, _⟩ | ⟨c', fs', he, hc, hd⟩
  · simp [Expr.isNum] at h
  · simp at he
  · simp at he; obtain ⟨rfl, rfl⟩ := he; exact ⟨hc, hd⟩

theorem NK_pow_parts {b e : Expr} (h : NK (.pow b e)) : b.isNum = true ∧ e.isNum = true := by
  rcases h with h | ⟨b', e', he, hb, hee⟩ | ⟨c', fs', he, _, _⟩
  · simp [Expr.isNum] at h
  · simp at he; obtain ⟨rfl, rfl⟩ := he; exact ⟨hb, hee⟩
  · simp at he

/-- `nkDom.S` is `StN` by unfolding -/
def nkDom : Dom where
  V := NK
  Cn c := c.isNum = true
  Dc := NKd
  F t e := t.isNum = true ∧ e.isNum = true
  one := rfl
  nil := .nil
  num _ hn := hn
  numMul _ _ := numMul_isNum
  fromDict := mulFromDict_NK
  -- `NKd` says of every entry what `F` says of a factor: the last two components are the same fact
  mulParts h := ⟨(NK_mul_parts h).1, (NK_mul_parts h).2, (NK_mul_parts h).2⟩
  baseExp {b e t} hb hn ha := by
    -- b is a Pow of Numbers (a Mul makes as_base_exp fail)
    rcases hb with hb | ⟨x, y, rfl, hx, hy⟩ | ⟨c0, fs, rfl, _, _⟩
    · rw [hn] at hb; cases hb
    · cases ha; exact ⟨hx, hy⟩
    · cases ha

theorem specN_all : ∀ n, SpecN n
  | 0 => by constructor <;> intros <;> rename_i h <;> cases h
  | n + 1 => by
    have ih := specN_all n
    have hdatNew : ∀ rv, nkDom.DatNew n rv :=
      fun rv c d e t c' d' hs hf => ih.datNew rv c d e t c' d' hs hf.1 hf.2
    constructor
    case mulF => exact fun rv => nkDom.step_mulF (ih.mulOnto rv) (ih.mulStep rv) (ih.datLoop rv)
    case mulOnto => exact fun rv => nkDom.step_mulOnto (ih.mulStep rv)
    case mulStep => exact fun rv => nkDom.step_mulStep (hdatNew rv)
    case datLoop => exact fun rv => nkDom.step_datLoop (hdatNew rv) (ih.datLoop rv)
    case absorb => exact fun rv => nkDom.step_absorb (ih.datLoop rv)
    case mulInto => exact fun rv => nkDom.step_mulInto (ih.absorb rv) (hdatNew rv)
    case datNew =>
      intro rv c d exp t c' d' hs ht he h
      have hins : StN c (dinsert d t exp) := ⟨hs.1, hs.2.insert ht he⟩
      cases hf : dfind d t with
      | none =>
        rcases datNew_notFound_cases hf h with ⟨p, -, -, hm, rfl⟩ | ⟨res, -, -, hres, hcase⟩
          | ⟨r, hpt, -⟩ | ⟨rfl, rfl, -⟩
        · exact ⟨numMul_isNum hm, hs.2⟩
        · have hrk := ih.powNumRat rv t exp res hres
          rcases hcase with habs | ⟨-, -, ⟨rb, re, rfl, -, h⟩ | ⟨rfl, rfl, -⟩⟩
          · exact ih.absorb rv c d res c' d' hs hrk habs
          · obtain ⟨hb, hee⟩ := NK_pow_parts hrk
            exact ih.datNew rv c d re rb c' d' hs hb hee h
          · exact hins
        · obtain ⟨b, x, rfl⟩ := isPow_iff.mp hpt
          cases ht
        · exact hins
      | some old =>
        obtain ⟨v, hv, h⟩ := datNew_found hf h
        rw [he, (hs.2 _ (dfind_some hf)).2, Bool.and_self, if_pos rfl] at hv
        exact ih.datFound rv c _ t v c' d' ⟨hs.1, hs.2.set ht (numAdd_isNum hv)⟩ ht (numAdd_isNum hv) h
    case datFound =>
      intro rv c d t v c' d' hs ht hv h
      have hE : StN c (derase d t) := ⟨hs.1, hs.2.erase⟩
      rcases datFound_cases h with ⟨rfl, rfl | ⟨p, -, hmu⟩⟩ | ⟨r, hr, h⟩
        | ⟨res, hres, -, -, h | ⟨rb, re, rfl, h⟩⟩ | ⟨-, -, p, hmu, rfl⟩ | ⟨mc, mfs, rfl, -, -⟩
        | ⟨rfl, rfl, -⟩
      · exact hE
      · exact ⟨numMul_isNum hmu, hE.2⟩
      · exact ih.mulInto rv c _ r c' d' hE (ih.powF rv t v r ht hv hr) h
      · exact ih.absorb rv c _ res c' d' hE (ih.powNumRat rv t v res hres) h
      · obtain ⟨hb, hee⟩ := NK_pow_parts (ih.powNumRat rv t v _ hres)
        exact ih.datNew rv c _ re rb c' d' hE hb hee h
      · exact ⟨numMul_isNum hmu, hE.2⟩
      · cases ht
      · exact hs
    case powNumRat =>
      intro rv t e r h
      simp only [powNumRat] at h
      split at h
      · exact ih.rpowrat rv _ _ _ r h
      · exact ih.powrat rv _ _ _ _ r h
      · simp at h
    case powrat =>
      intro rv p q nn d r h
      unfold powrat at h
      obtain ⟨x, h1, h⟩ := bind_eq_ok h
      obtain ⟨y, h2, h⟩ := bind_eq_ok h
      exact ih.mulF rv x y r (ih.rpowrat rv nn d p x h1) (ih.rpowrat rv (-nn) d q y h2) h
    case rpowrat =>
      intro rv nn d other r h
      rcases rpowrat_cases h with hr | ⟨rt, s, p, hs, hp, hm⟩ | ⟨rt, hp⟩ | ⟨-, -, -, coef, hp, hr⟩
      · exact .ofNum hr.1
      · exact ih.mulF rv s p r (ih.rpowrat rv nn d (-1) s hs) (.ofNum (numPowInt_isNum hp)) hm
      · exact .ofNum (numPowInt_isNum hp)
      · have hsurd : ∀ b : Int, NKd (dinsert [] (.int b) (ofQ ⟨nn.fmod d, d⟩)) :=
          fun b => NKd.nil.insert rfl (ofQ_isNum _)
        rcases hr with ⟨-, -, c2, hm, rfl⟩ | ⟨-, rfl⟩
        · refine mulFromDict_NK (numMul_isNum hm) ?_
          split
          · exact hsurd _
          · exact NKd.nil
        · exact mulFromDict_NK (numPowInt_isNum hp) (hsurd _)
    case powF =>
      intro rv a b r ha hb h
      rcases powF_cases h with ⟨-, h⟩ | rfl | hr | ⟨rfl, -, -⟩ | h | ⟨h, -, -⟩
        | ⟨ac, ad, cd, rfl, -, -, -⟩ | ⟨-, -, -, -, -, e | e, -⟩
      · exact .ofNum (numAdd_isNum h)
      · exact .ofNum ha
      · exact .ofNum hr.1
      · exact .inr (.inl ⟨a, b, rfl, ha, hb⟩)
      · exact .ofNum (numPow_isNum h)
      · exact ih.powNumRat rv a b r h
      · cases ha
      · rw [ha] at e; cases e
      · rw [hb] at e; cases e

theorem radShape : RadShape :=
  fun fuel rv t e r h => ((specN_all fuel).powNumRat rv t e r h).shape

end SymVerif.Arith
