/-
C36 — what the raw tree constructors of Model/Rewrite.lean denote (one equation between partial values each;
`mul2_inv_some`, `evalS_mkDiv_some`, `evalS_mkMul2_inv` are read off them) and the value of the rewrite models
(`RuleSound`, `rewriteWith_value`).
-/
import SymVerif.Lemmas.C37Fold
import SymVerif.Model.Rewrite

namespace SymVerif
namespace Rewrite

open NF CSE

-- every statement takes `[CharZero K]` from the variable line, whether its proof needs it or not
set_option linter.unusedSectionVars false

section
variable {K : Type} [Field K] [CharZero K] {M : Interp K}

theorem evalS_iE : evalS M iE = some M.I := by
  simp [iE, evalS]

theorem evalS_fn1 (h : String) (a : Expr) :
    evalS M (fn1 h a) = (evalS M a).map (fun v => M.app h [v]) := evalS_app1 h a

theorem evalS_mkMulC (c a : Expr) : evalS M (mkMulC c a) = mul2 (evalS M c) (evalS M a) :=
  evalS_mul_single c a

theorem evalS_mkNeg (a : Expr) : evalS M (mkNeg a) = (evalS M a).map Neg.neg := by
  unfold mkNeg
  split
  · simp only [evalS, Option.map_some, Int.cast_neg]
  · simp only [evalS, Int.cast_neg, neg_div]
    split <;> rfl
  · exact evalS_negE _

theorem evalS_mkAdd2 (a b : Expr) : evalS M (mkAdd2 a b) = add2 (evalS M a) (evalS M b) := by
  simp only [mkAdd2, evalS, evalSTerms, Int.cast_zero, Int.cast_one, add2_zero_left, add2_zero_right,
    mul2_one_right]

theorem evalS_mkSub (a b : Expr) : evalS M (mkSub a b) = add2 (evalS M a) ((evalS M b).map Neg.neg) := by
  simp only [mkSub, evalS, evalSTerms, Int.cast_zero, Int.cast_one, add2_zero_left, add2_zero_right,
    mul2_one_right]
  cases evalS M b <;> simp [mul2]

theorem evalS_mkMul2 (a b : Expr) : evalS M (mkMul2 a b) = mul2 (evalS M a) (evalS M b) := by
  simp only [mkMul2, evalS, evalSFacs, intLit?, Int.cast_one, bind_powVal_one, mul2_one_left, mul2_one_right]

theorem evalS_mkDiv (a b : Expr) :
    evalS M (mkDiv a b) = mul2 (evalS M a) ((evalS M b).bind fun v => powVal v (-1)) := by
  simp only [mkDiv, evalS, evalSFacs, intLit?, Int.cast_one, bind_powVal_one, mul2_one_left, mul2_one_right]

theorem mul2_inv_some {a b : Option K} {w : K} (h : mul2 a (b.bind fun v => powVal v (-1)) = some w) :
    ∃ p q, a = some p ∧ b = some q ∧ q ≠ 0 ∧ w = p / q := by
  obtain ⟨p, r, hp, hr, rfl⟩ := mul2_some h
  obtain ⟨q, hq, hz, rfl⟩ := bind_powVal_some hr
  exact ⟨p, q, hp, hq, hz (by decide), by rw [zpow_neg_one, div_eq_mul_inv]⟩

theorem evalS_mkDiv_some {a b : Expr} {va vb : K} (ha : evalS M a = some va) (hb : evalS M b = some vb)
    (hne : vb ≠ 0) : evalS M (mkDiv a b) = some (va / vb) := by
  simp [evalS_mkDiv, ha, hb, powVal, hne, mul2, div_eq_mul_inv]

theorem evalS_mkMul2_inv {a b : Expr} {w : K} (h : evalS M (mkMul2 a b) = some w) :
    ∃ va vb, evalS M a = some va ∧ evalS M b = some vb ∧ w = va * vb :=
  mul2_some ((evalS_mkMul2 a b).symm.trans h)

/-- a rule is sound when, wherever its result is defined, the (rewritten) argument is defined and the
result has the value of the function application -/
def RuleSound (M : Interp K) (rule : String → Expr → Option Expr) : Prop :=
  ∀ h a r w, rule h a = some r → evalS M r = some w →
    ∃ va, evalS M a = some va ∧ w = M.app h [va]

theorem facVal_rewrite_of (hM : Lawful M) {rule : String → Expr → Option Expr} (b e : Expr)
    (hbI : ∀ v w : K, evalS M b = some v → evalS M (rewriteWith rule b) = some w → w = v)
    (heI : ∀ v w : K, evalS M e = some v → evalS M (rewriteWith rule e) = some w → w = v)
    (v w : K) (hv : facVal M b e = some v)
    (hw : facVal M (rewriteWith rule b) (rewriteWith rule e) = some w) : w = v := by
  cases he : intLit? e with
  | some n =>
    cases intLit_eq_some he
    have hlit : rewriteWith rule (.int n) = .int n := rfl
    rw [hlit] at hw
    obtain ⟨a, ha, _, rfl⟩ := facVal_lit_some rfl hv
    obtain ⟨a', ha', _, rfl⟩ := facVal_lit_some rfl hw
    rw [hbI a a' ha ha']
  | none =>
    obtain ⟨vb, ve, hvb, hve, hne, rfl⟩ := facVal_nonlit_some he hv
    cases he2 : intLit? (rewriteWith rule e) with
    | none =>
      obtain ⟨vb', ve', hvb', hve', hne', rfl⟩ := facVal_nonlit_some he2 hw
      rw [hbI vb vb' hvb hvb', heI ve ve' hve hve']
    | some n =>
      -- a rule may answer with an integer literal: the rewritten node is then the integer power `b ^ n`, the original
      -- the atom `pw b e`; the laws make `pw b n = b ^ n` (`pw_intCast`), which identifies the two
      obtain ⟨vb', hvb', hz, rfl⟩ := facVal_lit_some he2 hw
      have hb := hbI vb vb' hvb hvb'
      have hlit : evalS M (rewriteWith rule e) = some (n : K) := by rw [intLit_eq_some he2, evalS]
      have hve' := heI ve (n : K) hve hlit
      subst hb
      rw [← hve']
      exact (pw_intCast hM vb' n hne).symm

mutual
  theorem rewriteWith_value (hM : Lawful M) {rule : String → Expr → Option Expr} (hR : RuleSound M rule) :
      ∀ (e : Expr) (v w : K), evalS M e = some v → evalS M (rewriteWith rule e) = some w → w = v
    | .add c ts, v, w, hv, hw => by
      simp only [rewriteWith, evalS] at hv hw
      obtain ⟨a, b, ha, hb, rfl⟩ := add2_some hv
      obtain ⟨a', b', ha', hb', rfl⟩ := add2_some hw
      rw [ha] at ha'; cases ha'
      rw [rewriteTerms_value hM hR ts b b' hb hb']
    | .mul c fs, v, w, hv, hw => by
      simp only [rewriteWith, evalS] at hv hw
      obtain ⟨a, b, ha, hb, rfl⟩ := mul2_some hv
      obtain ⟨a', b', ha', hb', rfl⟩ := mul2_some hw
      rw [ha] at ha'; cases ha'
      rw [rewriteFacs_value hM hR fs b b' hb hb']
    | .pow b e, v, w, hv, hw => by
      simp only [rewriteWith] at hw
      rw [evalS_pow_eq] at hv hw
      exact facVal_rewrite_of hM b e (rewriteWith_value hM hR b) (rewriteWith_value hM hR e) v w hv hw
    | .fsym n args, v, w, hv, hw => by
      simp only [rewriteWith, evalS] at hv hw
      -- crosswise: `map_some_congr` concludes first = second, the `_value` statements second = first
      exact map_some_congr (fun ys xs h2 h1 => rewriteList_value hM hR args xs ys h1 h2) hw hv
    | .app hd args, v, w, hv, hw => by
      obtain ⟨xs, hxs, rfl⟩ := evalS_app_some hv
      have : ∃ ys, evalSList M (rewriteList rule args) = some ys ∧ w = M.app hd ys := by
        simp only [rewriteWith] at hw
        split at hw
        · rename_i a' hl
          rw [hl]
          split at hw
          · rename_i r hr
            obtain ⟨va', hva', rfl⟩ := hR hd a' r w hr hw
            exact ⟨[va'], by simp only [evalSList, hva', consO], rfl⟩
          · exact evalS_app_some hw
        · exact evalS_app_some hw
      obtain ⟨ys, hys, rfl⟩ := this
      rw [rewriteList_value hM hR args xs ys hxs hys]
    | .int _, v, w, hv, hw | .rat _ _, v, w, hv, hw | .cplx _ _, v, w, hv, hw | .sym _, v, w, hv, hw | .dummy _ _, v, w, hv, hw
    | .const _, v, w, hv, hw => by
      simp only [rewriteWith] at hw; exact some_unique hv hw
    | .dbl _, v, w, hv, hw | .cdbl _ _, v, w, hv, hw | .infty _, v, w, hv, hw | .nan, v, w, hv, hw | .bool _, v, w, hv, hw =>
      by simp [evalS] at hv
  theorem rewriteList_value (hM : Lawful M) {rule : String → Expr → Option Expr} (hR : RuleSound M rule) :
      ∀ (l : List Expr) (xs ys : List K), evalSList M l = some xs →
        evalSList M (rewriteList rule l) = some ys → ys = xs
    | [], xs, ys, hx, hy => by
      simp only [rewriteList, evalSList, Option.some.injEq] at hx hy; rw [← hx, ← hy]
    | a :: t, xs, ys, hx, hy => by
      obtain ⟨x, xs', h1, h2, rfl⟩ := evalSList_cons_some.mp hx
      obtain ⟨y, ys', h3, h4, rfl⟩ := evalSList_cons_some.mp hy
      rw [rewriteWith_value hM hR a x y h1 h3, rewriteList_value hM hR t xs' ys' h2 h4]
  theorem rewriteTerms_value (hM : Lawful M) {rule : String → Expr → Option Expr} (hR : RuleSound M rule) :
      ∀ (l : List (Expr × Expr)) (v w : K), evalSTerms M l = some v →
        evalSTerms M (rewriteTerms rule l) = some w → w = v
    | [], v, w, hv, hw => by
      simp only [rewriteTerms, evalSTerms, Option.some.injEq] at hv hw; rw [← hv, ← hw]
    | (k, c) :: t, v, w, hv, hw => by
      simp only [rewriteTerms, evalSTerms] at hv hw
      obtain ⟨x, y, hx, hy, rfl⟩ := add2_some hv
      obtain ⟨x', y', hx', hy', rfl⟩ := add2_some hw
      obtain ⟨a, b, ha, hb, rfl⟩ := mul2_some hx
      obtain ⟨a', b', ha', hb', rfl⟩ := mul2_some hx'
      rw [hb] at hb'; cases hb'
      rw [rewriteWith_value hM hR k a a' ha ha', rewriteTerms_value hM hR t y y' hy hy']
  theorem rewriteFacs_value (hM : Lawful M) {rule : String → Expr → Option Expr} (hR : RuleSound M rule) :
      ∀ (l : List (Expr × Expr)) (v w : K), evalSFacs M l = some v →
        evalSFacs M (rewriteFacs rule l) = some w → w = v
    | [], v, w, hv, hw => by
      simp only [rewriteFacs, evalSFacs, Option.some.injEq] at hv hw; rw [← hv, ← hw]
    | (b, e) :: t, v, w, hv, hw => by
      simp only [rewriteFacs] at hw
      rw [evalSFacs_cons] at hv hw
      obtain ⟨x, y, hx, hy, rfl⟩ := mul2_some hv
      obtain ⟨x', y', hx', hy', rfl⟩ := mul2_some hw
      rw [facVal_rewrite_of hM b e (rewriteWith_value hM hR b) (rewriteWith_value hM hR e) x x' hx hx',
        rewriteFacs_value hM hR t y y' hy hy']
end

end

end Rewrite
end SymVerif
