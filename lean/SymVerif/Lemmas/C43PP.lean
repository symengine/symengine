import Mathlib.Data.Nat.Prime.Basic
import Mathlib.Tactic.Linarith
import SymVerif.Lemmas.C43Root
import SymVerif.Lemmas.GmpSpec
/-! C43, `mp_perfect_power_p` of mp_boost.cpp: primes by trial division, the prime-exponent loop, and the
number-theoretic reduction "perfect power ⇔ perfect p-th power for a prime p".
Claimed theorems of the property: `trial_prime`, `probab_prime`, `perfect_power_meaning`; `perfect_power` itself stands in
`Props/C43.lean`, beside the bound `PerfectPowerArg` on its argument. -/
namespace SymVerif.C43
open SymVerif

theorem trial_prime (n : Nat) : MpSpec.trialPrime n = true ↔ Nat.Prime n :=
  GmpSpec.trialPrime_iff (fun _ => rfl) (fun _ _ => rfl) ((Nat.sqrt_le_self n).trans (Nat.le_succ _))

/-- below 10^6 `MpSpec.isPrime` is trial division, hence exact -/
theorem isPrime_iff {n : Nat} (h : n < 1000000) : MpSpec.isPrime n = true ↔ n.Prime := by
  rw [MpSpec.isPrime, if_pos h]; exact trial_prime n

theorem isPrime_even (n : Nat) (hev : n % 2 = 0) : MpSpec.isPrime n = (n == 2) := by
  by_cases hlt : n < 1000000
  · rw [Bool.eq_iff_iff, isPrime_iff hlt, beq_iff_eq]
    exact ⟨fun hp => hp.eq_two_or_odd.resolve_right (by omega), fun h => h ▸ Nat.prime_two⟩
  · -- the first Miller–Rabin base, 2, divides `n`: the answer is `false` before any probable-prime test
    have h2 : MpSpec.mrBases.any (fun p => n % p == 0) = true := by
      simp only [MpSpec.mrBases, List.any_cons, hev, beq_self_eq_true, Bool.true_or]
    rw [MpSpec.isPrime, if_neg hlt, if_pos h2]
    exact (beq_eq_false_iff_ne.mpr (by omega)).symm

/-- **`mp_probab_prime_p` (with the sign repair) = specification** (both reduce to the same primality test
of `|i|`; the even case `i % 2 == 0 → i == 2` is the only symengine-specific logic) -/
theorem probab_prime (i : Int) : MpBoost.probabPrime i = MpSpec.probabPrime i := by
  unfold MpBoost.probabPrime MpSpec.probabPrime
  simp only [GmpSpec.tmod_two_eq_zero_iff]
  generalize i.natAbs = n
  by_cases hev : n % 2 = 0
  · rw [if_pos (by omega), isPrime_even n hev, Bool.eq_iff_iff, beq_iff_eq, beq_iff_eq]
    omega
  · rw [if_neg (by omega), MpBoost.millerRabin]
    by_cases hlt : (n : Int) < 2
    · rw [if_pos hlt, show n = 1 by omega]
      decide
    · rw [if_neg hlt, Int.toNat_natCast]

theorem probabPrime_iff (c : Int) (h0 : 0 ≤ c) (hlt : c < 1000000) :
    MpBoost.probabPrime c = true ↔ Nat.Prime c.toNat := by
  rw [probab_prime, MpSpec.probabPrime, show c.natAbs = c.toNat by omega]
  exact isPrime_iff (by omega)

theorem not_prime_of_even {r : Nat} (h2 : 2 < r) (hev : r % 2 = 0) : ¬ Nat.Prime r := fun hpr => by
  rcases hpr.eq_two_or_odd with h | h <;> omega

section
/- The loops below are correct up to any bound `B` below which `mp_probab_prime_p` is exact;
`probabPrime_iff` supplies `B = 10^6`. -/
variable {B : Nat} (hB : ∀ c : Int, 0 ≤ c → c < B → (MpBoost.probabPrime c = true ↔ Nat.Prime c.toNat))
include hB

/-- the candidates skipped by the `while (!mp_probab_prime_p(candidate, 25)) candidate += 2` loop are not
prime -/
theorem nextPrimeLoop_skip : ∀ (fuel : Nat) (c : Int), 3 ≤ c → c % 2 = 1 →
    c ≤ MpBoost.nextPrimeLoop fuel c ∧ (MpBoost.nextPrimeLoop fuel c) % 2 = 1 ∧
    ∀ r : Nat, c ≤ (r : Int) → (r : Int) < MpBoost.nextPrimeLoop fuel c → r < B → ¬ Nat.Prime r := by
  intro fuel
  induction fuel with
  | zero =>
    intro c _ hodd
    exact ⟨Int.le_refl c, hodd, fun r h1 h2 => by rw [MpBoost.nextPrimeLoop] at h2; omega⟩
  | succ f ih =>
    intro c hc hodd
    unfold MpBoost.nextPrimeLoop
    by_cases hp : MpBoost.probabPrime c = true
    · rw [if_pos hp]
      exact ⟨Int.le_refl c, hodd, fun r h1 h2 => by omega⟩
    · rw [if_neg hp]
      obtain ⟨i1, i2, i3⟩ := ih (c + 2) (by omega) (by omega)
      refine ⟨by omega, i2, fun r h1 h2 h3 => ?_⟩
      by_cases e1 : (r : Int) = c
      · exact fun hpr => hp ((hB c (by omega) (by omega)).mpr (by rw [← e1, Int.toNat_natCast]; exact hpr))
      · by_cases e2 : (r : Int) = c + 1
        · exact not_prime_of_even (by omega) (by omega)
        · exact i3 r (by omega) h2 h3

theorem nextPrime_skip (p : Int) (hp : 2 ≤ p) :
    p < MpBoost.nextPrime p ∧ (MpBoost.nextPrime p) % 2 = 1 ∧
    ∀ r : Nat, p < (r : Int) → (r : Int) < MpBoost.nextPrime p → r < B → ¬ Nat.Prime r := by
  unfold MpBoost.nextPrime
  rw [if_neg (by omega : ¬ p < 2)]
  have ht : p.tmod 2 = p % 2 := Int.tmod_eq_emod_of_nonneg (by omega)
  by_cases hev : p.tmod 2 = 0
  · rw [if_pos hev]
    obtain ⟨i1, i2, i3⟩ := nextPrimeLoop_skip hB (p.toNat + 2) (p + 1) (by omega) (by omega)
    exact ⟨by omega, i2, fun r h1 h2 h3 => i3 r (by omega) h2 h3⟩
  · rw [if_neg hev]
    obtain ⟨i1, i2, i3⟩ := nextPrimeLoop_skip hB (p.toNat + 2) (p + 2) (by omega) (by omega)
    refine ⟨by omega, i2, fun r h1 h2 h3 => ?_⟩
    by_cases e : (r : Int) = p + 1
    · exact not_prime_of_even (by omega) (by omega)
    · exact i3 r (by omega) h2 h3

/-- the prime-exponent loop of `mp_perfect_power_p`: with enough fuel it returns an answer; `true` only
with an exact odd root, `false` only if no prime exponent in `(p, max]` gives an exact root -/
theorem perfectPowerLoop_spec (i : Int) (max : Nat) (hmax : max < B) :
    ∀ (fuel : Nat) (p : Int), 2 ≤ p → p ≤ (max : Int) + 1 → (max : Int) + 2 - p ≤ (fuel : Int) →
    (MpBoost.perfectPowerLoop i max fuel p = some true ∧ ∃ e : Nat, 2 ≤ e ∧ e % 2 = 1 ∧ IsPow i.natAbs e) ∨
    (MpBoost.perfectPowerLoop i max fuel p = some false ∧
      ∀ q : Nat, Nat.Prime q → p < (q : Int) → q ≤ max → ¬ IsPow i.natAbs q) := by
  -- `MpBoost.perfectPower` enters with `p = 2` and fuel `max + 2`; `p ≤ max + 1` keeps the measure `max + 2 - p`
  -- positive, which excludes the `none` of fuel 0
  intro fuel
  induction fuel with
  | zero => intro p h1 h2 h3; omega
  | succ f ih =>
    intro p hp2 hpm hf
    obtain ⟨s1, s2, s3⟩ := nextPrime_skip hB p hp2
    unfold MpBoost.perfectPowerLoop
    simp only
    generalize MpBoost.nextPrime p = p' at s1 s2 s3 ⊢
    by_cases hgt : p' > (max : Int)
    · rw [if_pos hgt]
      exact Or.inr ⟨rfl, fun q hq h1 h2 => absurd hq (s3 q h1 (by omega) (by omega))⟩
    · rw [if_neg hgt]
      obtain ⟨e, rfl⟩ : ∃ e : Nat, p' = e := ⟨p'.toNat, by omega⟩
      have hodd : e % 2 = 1 := by omega
      rw [Int.toNat_natCast]
      obtain ⟨r, b, hr, hb⟩ := root_flag i e (by omega) (Or.inr hodd)
      rw [hr]
      simp only
      cases b with
      | true =>
        rw [if_pos rfl]
        exact Or.inl ⟨rfl, e, by omega, hodd, hb.mp rfl⟩
      | false =>
        rw [if_neg Bool.false_ne_true]
        refine (ih e (by omega) (by omega) (by omega)).imp_right fun ⟨e1, e3⟩ => ⟨e1, fun q hq h1 h2 => ?_⟩
        rcases Nat.lt_trichotomy q e with hlt | heq | hgt'
        · exact absurd hq (s3 q h1 (by omega) (by omega))
        · rw [heq]
          exact fun hpow => absurd (hb.mpr hpow) Bool.false_ne_true
        · exact e3 q hq (by omega) h2

end

theorem isPow_of_dvd {x k p : Nat} (h : IsPow x k) (hd : p ∣ k) : IsPow x p := by
  obtain ⟨a, ha⟩ := h
  obtain ⟨m, rfl⟩ := hd
  exact ⟨a ^ m, by rw [← ha, ← Nat.pow_mul, Nat.mul_comm]⟩

theorem isPow_exp_le_log2 {x k : Nat} (hx : 2 ≤ x) (h : IsPow x k) : k ≤ x.log2 := by
  obtain ⟨a, ha⟩ := h
  by_cases hk : k = 0
  · omega
  have ha2 : 2 ≤ a := by
    by_contra hc
    have : a = 0 ∨ a = 1 := by omega
    rcases this with h | h
    · subst h
      have : (0 : Nat) ^ k = 0 := Nat.zero_pow (by omega)
      omega
    · subst h; simp at ha; omega
  have : 2 ^ k ≤ x := by rw [← ha]; exact Nat.pow_le_pow_left ha2 k
  exact (Nat.le_log2 (by omega)).mpr this

theorem perfect_power_meaning (i : Int) (hx : 2 ≤ i.natAbs) :
    MpSpec.perfectPower i = true ↔ ∃ k : Nat, 2 ≤ k ∧ (0 < i ∨ k % 2 = 1) ∧ ∃ a : Nat, a ^ k = i.natAbs := by
  unfold MpSpec.perfectPower
  have : ¬ i.natAbs ≤ 1 := by omega
  simp only [this, if_false, List.any_eq_true, List.mem_range, Bool.and_eq_true, Bool.or_eq_true,
    decide_eq_true_eq, beq_iff_eq, ge_iff_le]
  constructor
  · rintro ⟨k, _, ⟨hk2, hs⟩, he⟩
    exact ⟨k, hk2, hs, (iroot_exact_iff _ k (by omega)).mp he⟩
  · rintro ⟨k, hk2, hs, hp⟩
    exact ⟨k, by have := isPow_exp_le_log2 hx hp; omega, ⟨hk2, hs⟩, (iroot_exact_iff _ k (by omega)).mpr hp⟩

end SymVerif.C43
