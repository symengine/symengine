/-
Well-formed XML as an inductive language (`Element`, `Content`, `Attrs`, `CharData`, `AttrData`: the XML 1.0 productions
for elements, attributes, character data and the predefined entity references), and the serialiser lemma: escaped text
is character data whatever the text was, so every tree with valid names serialises to an element (`ser_wellformed`).
-/
import SymVerif.Model.Markup

namespace SymVerif.C44
open SymVerif SymVerif.Expr SymVerif.Markup

/-- productions [4], [4a] of XML 1.0 with all of U+0080… admitted (wider than XML; the model's names are ASCII literals and
table entries, checked where they are used) -/
def nameStart (c : Char) : Bool := c.isAlpha || c == '_' || c == ':' || c.toNat ≥ 128
def nameChar (c : Char) : Bool := nameStart c || c.isDigit || c == '-' || c == '.'
def nameOK (n : List Char) : Bool :=
  match n with
  | [] => false
  | c :: r => nameStart c && r.all nameChar

/-- the five predefined entities of XML; the printer writes four of them (`entity_texts`) -/
def entities : List (List Char) := ["amp".toList, "lt".toList, "gt".toList, "quot".toList, "apos".toList]

/-- `CharData`: no `<`, and `&` only as the start of a predefined entity reference -/
inductive CharData : List Char → Prop
  | nil : CharData []
  | plain {c : Char} {r : List Char} : c ≠ '<' → c ≠ '&' → CharData r → CharData (c :: r)
  | ent {e r : List Char} : e ∈ entities → CharData r → CharData ('&' :: (e ++ ';' :: r))

/-- an attribute value between double quotes: additionally no `"` -/
inductive AttrData : List Char → Prop
  | nil : AttrData []
  | plain {c : Char} {r : List Char} : c ≠ '<' → c ≠ '&' → c ≠ '"' → AttrData r → AttrData (c :: r)
  | ent {e r : List Char} : e ∈ entities → AttrData r → AttrData ('&' :: (e ++ ';' :: r))

inductive Attrs : List Char → Prop
  | nil : Attrs []
  | cons {n v r : List Char} : nameOK n = true → AttrData v → Attrs r →
      Attrs (' ' :: (n ++ '=' :: '"' :: (v ++ '"' :: r)))

mutual
  inductive Element : List Char → Prop
    | empty {n as : List Char} : nameOK n = true → Attrs as → Element ('<' :: (n ++ as ++ ['/', '>']))
    | full {n as c : List Char} : nameOK n = true → Attrs as → Content c →
        Element ('<' :: (n ++ as ++ '>' :: (c ++ '<' :: '/' :: (n ++ ['>']))))
  inductive Content : List Char → Prop
    | nil : Content []
    | text {t r : List Char} : CharData t → Content r → Content (t ++ r)
    | elem {e r : List Char} : Element e → Content r → Content (e ++ r)
end

def WellFormedXml (s : List Char) : Prop := Element s

theorem chardata_append {a b : List Char} (ha : CharData a) (hb : CharData b) : CharData (a ++ b) := by
  induction ha with
  | nil => simpa using hb
  | plain h1 h2 _ ih => exact CharData.plain h1 h2 ih
  | ent he _ ih => simpa [List.append_assoc] using CharData.ent he ih

theorem entity_texts :
    ∀ s ∈ ["&amp;", "&lt;", "&gt;", "&quot;"], ∃ e ∈ entities, s.toList = '&' :: (e ++ [';']) := by
  decide +kernel

/-- `>` is escaped although `CharData` would take it raw: that keeps `]]>` out of the text -/
theorem escChar_cases (c : Char) :
    (escChar c = [c] ∧ c ≠ '<' ∧ c ≠ '&') ∨ ∃ e ∈ entities, escChar c = '&' :: (e ++ [';']) := by
  unfold escChar
  by_cases ha : (c == '&') = true
  · rw [if_pos ha]
    exact .inr (entity_texts _ (by simp))
  by_cases hl : (c == '<') = true
  · rw [if_neg ha, if_pos hl]
    exact .inr (entity_texts _ (by simp))
  by_cases hg : (c == '>') = true
  · rw [if_neg ha, if_neg hl, if_pos hg]
    exact .inr (entity_texts _ (by simp))
  rw [if_neg ha, if_neg hl, if_neg hg]
  exact .inl ⟨rfl, fun e => hl (beq_iff_eq.2 e), fun e => ha (beq_iff_eq.2 e)⟩

theorem escChar_chardata (c : Char) : CharData (escChar c) := by
  rcases escChar_cases c with ⟨h, h1, h2⟩ | ⟨e, he, h⟩ <;> rw [h]
  · exact CharData.plain h1 h2 CharData.nil
  · exact CharData.ent he CharData.nil

theorem flatMap_closed {P : List Char → Prop} (h0 : P []) (happ : ∀ {a b}, P a → P b → P (a ++ b))
    {f : Char → List Char} (hf : ∀ c, P (f c)) : ∀ s : List Char, P (s.flatMap f)
  | [] => h0
  | c :: r => List.flatMap_cons ▸ happ (hf c) (flatMap_closed h0 happ hf r)

theorem escText_chardata (s : List Char) : CharData (escText s) :=
  flatMap_closed .nil chardata_append escChar_chardata s

theorem attrdata_append {a b : List Char} (ha : AttrData a) (hb : AttrData b) : AttrData (a ++ b) := by
  induction ha with
  | nil => simpa using hb
  | plain h1 h2 h3 _ ih => exact AttrData.plain h1 h2 h3 ih
  | ent he _ ih => simpa [List.append_assoc] using AttrData.ent he ih

theorem escAttrChar_attrdata (c : Char) : AttrData (escAttrChar c) := by
  unfold escAttrChar
  by_cases hq : (c == '"') = true
  · obtain ⟨e, he, h⟩ := entity_texts "&quot;" (by simp)
    rw [if_pos hq, h]
    exact AttrData.ent he AttrData.nil
  rw [if_neg hq]
  rcases escChar_cases c with ⟨h, h1, h2⟩ | ⟨e, he, h⟩ <;> rw [h]
  · exact AttrData.plain h1 h2 (fun e => hq (beq_iff_eq.2 e)) AttrData.nil
  · exact AttrData.ent he AttrData.nil

theorem escAttr_attrdata (s : List Char) : AttrData (escAttr s) :=
  flatMap_closed .nil attrdata_append escAttrChar_attrdata s

def attrsOK (as : List (String × String)) : Bool := as.all fun a => nameOK a.1.toList

theorem serAttrs_ok : ∀ as : List (String × String), attrsOK as = true → Attrs (serAttrs as)
  | [], _ => Attrs.nil
  | (n, v) :: t, h => by
    simp only [attrsOK, List.all_cons, Bool.and_eq_true] at h
    exact Attrs.cons h.1 (escAttr_attrdata _) (serAttrs_ok t h.2)

mutual
  /-- all element and attribute names are XML names -/
  def treeOK : XmlTree → Bool
    | .text _ => true
    | .elem n as kids => nameOK n.toList && attrsOK as && kidsOK kids
  def kidsOK : List XmlTree → Bool
    | [] => true
    | k :: t => treeOK k && kidsOK t
end

theorem ser_elem_of_content {n : String} {as : List (String × String)} {kids : List XmlTree}
    (hn : nameOK n.toList = true) (ha : attrsOK as = true) (hc : Content (serKids kids)) :
    Element (ser (.elem n as kids)) := by
  cases kids with
  | nil => simp only [ser]; exact Element.empty hn (serAttrs_ok as ha)
  | cons k ks =>
    simp only [ser]
    exact Element.full hn (serAttrs_ok as ha) (by simpa only [serKids] using hc)

mutual
  theorem ser_content : (t : XmlTree) → treeOK t = true → ∀ {r : List Char}, Content r → Content (ser t ++ r)
    | .text s, _, _, hr => by simp only [ser]; exact Content.text (escText_chardata _) hr
    | .elem n as kids, h, _, hr => by
      simp only [treeOK, Bool.and_eq_true] at h
      exact Content.elem (ser_elem_of_content h.1.1 h.1.2 (serKids_content kids h.2)) hr
  theorem serKids_content : (kids : List XmlTree) → kidsOK kids = true → Content (serKids kids)
    | [], _ => by simp only [serKids]; exact Content.nil
    | k :: ks, h => by
      simp only [kidsOK, Bool.and_eq_true] at h
      simp only [serKids]
      exact ser_content k h.1 (serKids_content ks h.2)
end

/-- **the serialiser lemma**: every element tree with valid names serialises to a well-formed element, whatever
its character data and attribute values contain -/
theorem ser_wellformed (n : String) (as : List (String × String)) (kids : List XmlTree)
    (h : treeOK (.elem n as kids) = true) : WellFormedXml (ser (.elem n as kids)) := by
  simp only [treeOK, Bool.and_eq_true] at h
  exact ser_elem_of_content h.1.1 h.1.2 (serKids_content kids h.2)

end SymVerif.C44
