import SymVerif.Lemmas.C26Unary
/-!
Value preservation of `matrix_add`; also the vocabulary its loop shares with Hadamard, product and trace: `S`, `Fits`,
`dgE` / `dnE`, `zipSame_ok` / `zipSame_bind_ok`.
-/
namespace SymVerif.MatExpr
open MExpr

/-- entrywise sum of the values of a list of expressions -/
def S (env : Env) (l : List MExpr) (i j : Nat) : GQ := ((valsOf env l).map fun w => w.f i j).sum

theorem S_nil (env : Env) (i j : Nat) : S env [] i j = 0 := by simp [S, valsOf]
theorem S_cons (env : Env) (t : MExpr) (l : List MExpr) (i j : Nat) :
    S env (t :: l) i j = (valOf env t).f i j + S env l i j := by simp [S, valsOf]
theorem S_append (env : Env) (l1 l2 : List MExpr) (i j : Nat) :
    S env (l1 ++ l2) i j = S env l1 i j + S env l2 i j := by
  simp [S, valsOf_eq_map, List.sum_append]
theorem S_single (env : Env) (t : MExpr) (i j : Nat) : S env [t] i j = (valOf env t).f i j := by
  simp [S, valsOf]

/-- `t` is defined and has the shape `R × C` -/
def Fits (env : Env) (R C : Nat) (t : MExpr) : Prop :=
  okOf env t ∧ (valOf env t).r = R ∧ (valOf env t).c = C

theorem fits_iff {env : Env} {R C : Nat} {l : List MExpr} :
    (∀ t ∈ l, Fits env R C t) ↔ okAll env l ∧ AllDims R C (valsOf env l) := by
  rw [okAll_iff, valsOf_eq_map, AllDims, List.forall_mem_map]
  exact ⟨fun h => ⟨fun t ht => (h t ht).1, fun t ht => (h t ht).2⟩, fun h t ht => ⟨h.1 t ht, h.2 t ht⟩⟩

theorem fits_snoc {env : Env} {R C : Nat} {keep : List MExpr} {t : MExpr} (hk : ∀ x ∈ keep, Fits env R C x)
    (ht : Fits env R C t) : ∀ x ∈ keep ++ [t], Fits env R C x :=
  List.forall_mem_append.2 ⟨hk, List.forall_mem_singleton.2 ht⟩

theorem add_node {env : Env} {R C : Nat} {l : List MExpr} (hne : l ≠ []) (h : ∀ t ∈ l, Fits env R C t) :
    Fits env R C (add l) :=
  have ⟨hok, hd⟩ := fits_iff.1 h
  ⟨⟨hne, hok, sameDims_of_allDims hd⟩, sumV_isFold.r_c (valsOf_ne_nil hne) hd⟩

theorem add_f {env : Env} {l : List MExpr} (hne : l ≠ []) (i j : Nat) : (valOf env (add l)).f i j = S env l i j :=
  sumV_isFold.f (valsOf_ne_nil hne) i j

theorem add_node_inv {env : Env} {l : List MExpr} (h : okOf env (add l)) :
    l ≠ [] ∧ ∀ t ∈ l, Fits env (valOf env (add l)).r (valOf env (add l)).c t :=
  ⟨h.1, fits_iff.2 ⟨h.2.1, sumV_isFold.allDims (valsOf_ne_nil h.1) h.2.2⟩⟩

theorem flattenAdd_spec (env : Env) (R C : Nat) : ∀ (l : List MExpr), (∀ t ∈ l, Fits env R C t) →
    (∀ t ∈ flattenAdd l, Fits env R C t) ∧
      ∀ i j, S env (flattenAdd l) i j = S env l i j
  | [], _ => by simp [flattenAdd]
  | t :: rest, h => by
    obtain ⟨ht, hrest⟩ := List.forall_mem_cons.1 h
    obtain ⟨ih1, ih3⟩ := flattenAdd_spec env R C rest hrest
    by_cases ha : ∃ us, t = add us
    · obtain ⟨us, rfl⟩ := ha
      obtain ⟨hne, hu⟩ := add_node_inv ht.1
      rw [ht.2.1, ht.2.2] at hu
      simp only [flattenAdd]
      refine ⟨List.forall_mem_append.2 ⟨hu, ih1⟩, fun i j => ?_⟩
      rw [S_append, S_cons, ih3, add_f hne]
    · have hfl : flattenAdd (t :: rest) = t :: flattenAdd rest := by
        cases t <;> first | rfl | exact absurd ⟨_, rfl⟩ ha
      rw [hfl]
      exact ⟨List.forall_mem_cons.2 ⟨ht, ih1⟩, fun i j => by rw [S_cons, S_cons, ih3]⟩

/-- entries of the pending DiagonalMatrix; while there is none `e`, the unit of the node's operation (0 in `addF`, 1 in `hadF`) -/
def dgE (e : GQ) (dg : Option (List GQ)) (i j : Nat) : GQ :=
  match dg with
  | none => e
  | some d => if i = j then d.getD i 0 else 0

/-- entries of the pending ImmutableDenseMatrix, the unit `e` while there is none -/
def dnE (e : GQ) (dn : Option (Nat × Nat × List GQ)) (i j : Nat) : GQ :=
  match dn with
  | none => e
  | some (_, c, v) => ent v c i j

/-- everything the state of the partition loop remembers fits the common shape `R × C` -/
structure AddWF (env : Env) (R C : Nat) (st : AddSt) : Prop where
  keepOk : ∀ t ∈ st.keep, Fits env R C t
  dgOk : ∀ d, st.dg = some d → Fits env R C (diag d)
  dnOk : ∀ r c v, st.dn = some (r, c, v) → Fits env R C (dense r c v)
  zrOk : ∀ a b, st.zr = some (a, b) → Fits env R C (zero a b)

/-- entry `(i, j)` of what the state stands for: the sum of `keep` and of the two pending leaves -/
def addF (env : Env) (st : AddSt) (i j : Nat) : GQ :=
  S env st.keep i j + dgE 0 st.dg i j + dnE 0 st.dn i j

theorem zipSame_ok {f : GQ → GQ → GQ} {a b s : List GQ} (h : zipSame f a b = .ok s) :
    a.length = b.length ∧ s = List.zipWith f a b ∧ s.length = a.length := by
  obtain ⟨hl, rfl⟩ := ite_ok h
  exact ⟨hl, rfl, by rw [List.length_zipWith, hl, Nat.min_self]⟩

/-- a merge of `addStep` / `hadLoop`; `mk`, the assertion of `mkDiag` / `mkDense`, says nothing -/
theorem zipSame_bind_ok {α β : Type} {f : GQ → GQ → GQ} {a b : List GQ} {mk : List GQ → Except Err α}
    {k : List GQ → Except Err β} {x : β} (h : (do let s ← zipSame f a b; let _ ← mk s; k s) = .ok x) :
    a.length = b.length ∧ k (List.zipWith f a b) = .ok x := by
  simp only [bind_ok] at h
  obtain ⟨s, hs, _, _, h⟩ := h
  obtain ⟨hlen, rfl, _⟩ := zipSame_ok hs
  exact ⟨hlen, h⟩

theorem fits_diag_zipWith {env : Env} {R C : Nat} {op : GQ → GQ → GQ} {d0 d : List GQ}
    (h0 : Fits env R C (diag d0)) (hlen : d0.length = d.length) : Fits env R C (diag (List.zipWith op d0 d)) := by
  have hl : (List.zipWith op d0 d).length = d0.length := by rw [List.length_zipWith, hlen, Nat.min_self]
  exact ⟨trivial, hl.trans h0.2.1, hl.trans h0.2.2⟩

theorem fits_dense_zipWith {env : Env} {R C r0 c0 : Nat} {op : GQ → GQ → GQ} {v v0 : List GQ}
    (h0 : Fits env R C (dense r0 c0 v0)) (hvl : v.length = v0.length) :
    Fits env R C (dense r0 c0 (List.zipWith op v v0)) := by
  have hl : (List.zipWith op v v0).length = v.length := by rw [List.length_zipWith, hvl, Nat.min_self]
  exact ⟨hl.trans (hvl.trans h0.1), h0.2⟩

theorem dgE_zipWith {op : GQ → GQ → GQ} (h0 : op 0 0 = 0) {d0 d : List GQ} (hlen : d0.length = d.length)
    (env : Env) {e : GQ} {i j : Nat} :
    dgE e (some (List.zipWith op d0 d)) i j = op (dgE e (some d0) i j) ((valOf env (diag d)).f i j) := by
  simp only [dgE, valOf]
  split
  · exact getD_zipWith h0 hlen i
  · exact h0.symm

/-- The operands stand as in the C++: a dense merge is `op(term[i], dense[i])`, the new term first (matrix_add.cpp:135,
    hadamard_product.cpp:121), a diagonal merge `op(diag[i], term[i])`, the pending leaf first (:119, :105). -/
theorem dnE_zipWith {op : GQ → GQ → GQ} (h0 : op 0 0 = 0) {v v0 : List GQ} (hlen : v.length = v0.length)
    (env : Env) (a : Nat) {e : GQ} {r0 c i j : Nat} :
    dnE e (some (r0, c, List.zipWith op v v0)) i j
      = op ((valOf env (dense a c v)).f i j) (dnE e (some (r0, c, v0)) i j) :=
  getD_zipWith h0 hlen _

theorem keep_push {env : Env} {R C : Nat} {st : AddSt} (hwf : AddWF env R C st) {t : MExpr}
    (ht : Fits env R C t) :
    AddWF env R C { st with keep := st.keep ++ [t] } ∧
      ∀ i j, addF env { st with keep := st.keep ++ [t] } i j = addF env st i j + (valOf env t).f i j :=
  ⟨⟨fits_snoc hwf.keepOk ht, hwf.dgOk, hwf.dnOk, hwf.zrOk⟩,
    fun i j => by simp only [addF, S_append, S_single]; ring⟩

theorem addStep_spec {env : Env} {R C : Nat} {st st' : AddSt} {t : MExpr}
    (h : addStep st t = .ok st') (hwf : AddWF env R C st) (ht : Fits env R C t) :
    AddWF env R C st' ∧ ∀ i j,
      addF env st' i j = addF env st i j + (valOf env t).f i j := by
  cases t with
  | zero a b =>
    cases h
    exact ⟨⟨hwf.keepOk, hwf.dgOk, hwf.dnOk, fun _ _ hab => by cases hab; exact ht⟩,
      fun i j => (add_zero _).symm⟩
  | diag d =>
    simp only [addStep] at h
    split at h
    · rename_i hdg
      cases h
      refine ⟨⟨hwf.keepOk, fun _ hd' => by cases hd'; exact ht, hwf.dnOk, hwf.zrOk⟩, fun i j => ?_⟩
      simp only [addF, dgE, hdg, valOf]; ring
    · rename_i d0 hdg
      obtain ⟨hlen, h⟩ := zipSame_bind_ok h
      cases h
      refine ⟨⟨hwf.keepOk, fun _ hd' => by cases hd'; exact fits_diag_zipWith (hwf.dgOk d0 hdg) hlen,
        hwf.dnOk, hwf.zrOk⟩, fun i j => ?_⟩
      simp only [addF, hdg, dgE_zipWith (add_zero 0) hlen env]; ring
  | dense a b v =>
    simp only [addStep] at h
    split at h
    · rename_i hdn
      cases h
      refine ⟨⟨hwf.keepOk, hwf.dgOk, fun _ _ _ hv' => by cases hv'; exact ht, hwf.zrOk⟩, fun i j => ?_⟩
      simp only [addF, dnE, hdn, valOf]; ring
    · rename_i r0 c0 v0 hdn
      obtain ⟨hl, h⟩ := zipSame_bind_ok h
      cases h
      have h0 := hwf.dnOk r0 c0 v0 hdn
      refine ⟨⟨hwf.keepOk, hwf.dgOk, fun _ _ _ hv' => by cases hv'; exact fits_dense_zipWith h0 hl,
        hwf.zrOk⟩, fun i j => ?_⟩
      obtain rfl : c0 = b := h0.2.2.trans ht.2.2.symm
      simp only [addF, hdn]
      rw [dnE_zipWith (add_zero 0) hl env a]; ring
  | ident _ | sym _ | add _ | mul _ _ | had _ | transpose _ | conj _ =>
    cases h
    exact keep_push hwf ht

theorem addLoop_spec {env : Env} {R C : Nat} : ∀ (l : List MExpr) (st st' : AddSt),
    addLoop l st = .ok st' → AddWF env R C st → (∀ t ∈ l, Fits env R C t) →
    AddWF env R C st' ∧ ∀ i j, addF env st' i j = addF env st i j + S env l i j
  | [], st, st', h, hwf, _ => by
    simp [addLoop] at h; subst h
    exact ⟨hwf, fun i j => by simp [S_nil]⟩
  | t :: rest, st, st', h, hwf, hl => by
    simp only [addLoop, bind_ok] at h
    obtain ⟨st1, h1, h2⟩ := h
    obtain ⟨ht, hrest⟩ := List.forall_mem_cons.1 hl
    obtain ⟨w1, f1⟩ := addStep_spec h1 hwf ht
    obtain ⟨w2, f2⟩ := addLoop_spec rest st1 st' h2 w1 hrest
    exact ⟨w2, fun i j => by rw [f2 i j, f1 i j, S_cons]; ring⟩

theorem addMerge_spec {env : Env} {R C : Nat} {st : AddSt} {keep : List MExpr}
    (h : addMerge st = .ok keep) (hwf : AddWF env R C st) :
    (∀ t ∈ keep, Fits env R C t) ∧ ∀ i j, i < R → j < C → S env keep i j = addF env st i j := by
  simp only [addMerge] at h
  split at h
  · rename_i d r c v hdg hdn
    split at h
    · -- the guard is not needed for the value: `ent` and `getD` are 0 outside their containers
      simp only [bind_ok] at h
      obtain ⟨_, _, h⟩ := h
      cases h
      obtain ⟨_, rfl, rfl⟩ : _ ∧ r = R ∧ c = C := hwf.dnOk r c v hdn
      refine ⟨fits_snoc hwf.keepOk ⟨length_mkFlat _ _ _, rfl, rfl⟩, fun i j hi hj => ?_⟩
      simp only [S_append, S_single, addF, dgE, dnE, hdg, hdn, valOf]
      rw [ent_mkFlat _ hi hj]
      split <;> ring
    · simp at h
  · rename_i d hdg hdn
    simp at h; subst h
    refine ⟨fits_snoc hwf.keepOk (hwf.dgOk d hdg), fun i j _ _ => ?_⟩
    simp only [S_append, S_single, addF, dgE, dnE, hdg, hdn, valOf]; ring
  · rename_i r c v hdg hdn
    simp at h; subst h
    refine ⟨fits_snoc hwf.keepOk (hwf.dnOk r c v hdn), fun i j _ _ => ?_⟩
    simp only [S_append, S_single, addF, dgE, dnE, hdg, hdn, valOf]; ring
  · rename_i hdg hdn
    simp at h; subst h
    exact ⟨hwf.keepOk, fun i j _ _ => by simp [addF, dgE, dnE, hdg, hdn]⟩

theorem addFinish_spec {env : Env} {R C : Nat} {st : AddSt} {r : MExpr}
    (h : addFinish st = .ok r) (hwf : AddWF env R C st) :
    Fits env R C r ∧ ∀ i j, i < R → j < C → (valOf env r).f i j = addF env st i j := by
  simp only [addFinish, bind_ok] at h
  obtain ⟨keep, hk, h⟩ := h
  obtain ⟨k1, k3⟩ := addMerge_spec hk hwf
  rcases keep with _ | ⟨k, _ | ⟨k', t⟩⟩
  · cases hz : st.zr with
    | none =>
      rw [hz] at h
      -- no term and no ZeroMatrix: `MatrixAdd::is_canonical` rejects the empty list, there is no result
      simp [mkAdd, addCanonical] at h
    | some ab =>
      obtain ⟨a, b⟩ := ab
      rw [hz] at h
      simp [pure, Except.pure] at h
      rw [← h]
      exact ⟨hwf.zrOk a b hz, fun i j hi hj => by rw [← k3 i j hi hj]; simp [valOf, S_nil]⟩
  · simp [pure, Except.pure] at h
    rw [← h]
    exact ⟨k1 k (.head _), fun i j hi hj => by rw [← k3 i j hi hj, S_single]⟩
  · have h' : mkAdd (k :: k' :: t) = .ok r := by simpa using h
    have := mkAdd_ok h'; subst this
    exact ⟨add_node (by simp) k1, fun i j hi hj => by rw [add_f (by simp), k3 i j hi hj]⟩

theorem addF_init (env : Env) (i j : Nat) : addF env {} i j = 0 := by simp [addF, dgE, dnE, S_nil]

theorem addWF_init (env : Env) (R C : Nat) : AddWF env R C {} :=
  ⟨by simp, by simp, by simp, by simp⟩

end SymVerif.MatExpr

namespace SymVerif.C26
open SymVerif.MatExpr SymVerif.MatExpr.MExpr

/-- `matrix_add`: whenever the sum of the operand values is defined, the result is defined and has
    that value (flattening, dropping of zero matrices, merging of diagonal and dense terms). -/
theorem matrix_add_value (env : Env) (ts : List MExpr) (r : MExpr) (h : matrixAdd ts = .ok r)
    (hok : okOf env (add ts)) : okOf env r ∧ valOf env r ≃ valOf env (add ts) := by
  obtain ⟨hne, hf⟩ := add_node_inv hok
  match ts, h with
  | [], h => simp [matrixAdd] at h
  | [t], h =>
    simp [matrixAdd] at h; subst h
    obtain ⟨h1, h2, h3⟩ := hf t (.head _)
    exact ⟨h1, h2, h3, fun i j _ _ => by rw [add_f hne, S_single]⟩
  | t1 :: t2 :: rest, h =>
    simp only [matrixAdd, bind_ok] at h
    -- the first pair: `checkMatchingSizes` passed; nothing to learn, `hok` fixes every shape
    obtain ⟨_, _, st, hl, hfin⟩ := h
    obtain ⟨f1, f4⟩ := flattenAdd_spec env _ _ _ hf
    obtain ⟨w, hw⟩ := addLoop_spec _ _ _ hl (addWF_init env _ _) f1
    obtain ⟨⟨r1, r2, r3⟩, r4⟩ := addFinish_spec hfin w
    refine ⟨r1, r2, r3, fun i j hi hj => ?_⟩
    rw [r2] at hi; rw [r3] at hj
    rw [r4 i j hi hj, hw i j, f4, add_f hne, addF_init, zero_add]

end SymVerif.C26
