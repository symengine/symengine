import SymVerif.Lemmas.C05Num
import Mathlib.Data.Rat.Cast.Lemmas
/-! Integer powers of an `Integer` and of a `Rational`: `Integer::powint / pow_negint`, `Rational::powrat`
(`Complex::powcomp` is in `C05PowC`).  In the `simp` sets `Num.zpow` is the model's guarded `mpz_pow_ui`; in lemma
names `zpow` is Mathlib's integer power. -/
namespace SymVerif.C05
open SymVerif.Num
open Q (Rep)

set_option linter.unusedSectionVars false

variable {F : Type} [FloatOps F]

theorem zpow_of_eq {z : ℂ} {e : ℤ} (k : ℕ) (h : e = k) : z ^ e = z ^ k := by rw [h, zpow_natCast]
theorem zpow_of_eq_neg {z : ℂ} {e : ℤ} (k : ℕ) (h : e = -(k : ℤ)) : z ^ e = (z ^ k)⁻¹ := by
  rw [h, zpow_neg, zpow_natCast]

/-- in the modelled range none of the overflow guards of the power routines fires -/
structure ExpGuards (e : Int) : Prop where
  ulong : ¬ e > (ulongMax : Int)
  ulong_neg : ¬ -e > (ulongMax : Int)
  ulong_abs : ¬ e.natAbs > ulongMax
  slong : ¬ (e > slongMax ∨ e < -slongMax)
  lt_two_pow : e.natAbs < 2 ^ 64

theorem exp_guards {e : Int} (hs : e.natAbs ≤ hugeExp) : ExpGuards e := by
  have h1 : hugeExp = 100000 := rfl
  have h2 : ulongMax = 2 ^ 64 - 1 := rfl
  have h3 : slongMax = 2 ^ 63 - 1 := rfl
  constructor <;> omega

/-- `rational_class q(mp_sign(j), mp_abs(j))` is the canonical form of `1/j` -/
theorem signabs_rep {j : Int} (hj : j ≠ 0) : Rep ⟨Int.sign j, j.natAbs⟩ ((j : ℚ))⁻¹ := by
  have h : (⟨Int.sign j, j.natAbs⟩ : Q) = Q.ofRat ((j : ℚ))⁻¹ := by
    simp [Q.ofRat, Rat.num_inv, Rat.den_inv, hj]
  exact h ▸ Rep.ofRat _

theorem powint_nonneg (n e : Int) (he : 0 ≤ e) (hs : e.natAbs ≤ hugeExp) :
    powint (F := F) n e = .ok (.int (n ^ e.toNat)) := by
  have h1 : ¬ e < 0 := not_lt.mpr he
  have h2 := (exp_guards hs).ulong
  have h3 : ¬ e.toNat > hugeExp := by omega
  simp [powint, powintNonneg, Num.zpow, h1, h2, h3]

theorem powint_nonneg_good (n e : Int) (he : 0 ≤ e) (hs : e.natAbs ≤ hugeExp) :
    ∃ r, powint (F := F) n e = .ok r ∧ Good r ((n : ℂ) ^ e) := by
  refine ⟨_, powint_nonneg n e he hs, rfl, rfl, ?_⟩
  rw [val_int]; congr 1
  obtain ⟨k, rfl⟩ := Int.eq_ofNat_of_zero_le he
  simp

/-- `Integer::pow_negint`: a nonzero integer to a negative power is the canonical `1/n^|e|` -/
theorem powint_neg_good (n e : Int) (hn : n ≠ 0) (he : e < 0) (hs : e.natAbs ≤ hugeExp) :
    ∃ r, powint (F := F) n e = .ok r ∧ Good r ((n : ℂ) ^ e) := by
  have h2 := (exp_guards hs).ulong_neg
  have h3 : ¬ (-e).toNat > hugeExp := by omega
  have hj : n ^ (-e).toNat ≠ 0 := pow_ne_zero _ hn
  refine ⟨fromMpq ⟨Int.sign (n ^ (-e).toNat), (n ^ (-e).toNat).natAbs⟩, ?_, ?_⟩
  · simp [powint, powNegint, powintNonneg, Num.zpow, he, hn, h2, h3]
  · refine (fromMpq_rep (signabs_rep hj)).cast ?_
    -- after `push_cast` both sides print alike but are not syntactically equal, hence `rfl` (also in `powrat_good`)
    rw [gq_real, zpow_of_eq_neg (-e).toNat (by omega)]; push_cast; rfl

/-- `0 ** negative` in `Integer::pow_negint` (patched) -/
theorem powint_zero_neg (e : Int) (he : e < 0) : powint (F := F) 0 e = .ok (.infty 0) := by
  simp [powint, powNegint, he]

theorem powrat_good {q : Q} {x : ℚ} (hq : Rep q x) (hn : q.num ≠ 0) (e : Int) (hs : e.natAbs ≤ hugeExp) :
    ∃ r, powrat (F := F) q e = .ok r ∧ Good r (gq x 0 ^ e) := by
  have h1 := (exp_guards hs).ulong_abs
  have h2 : ¬ e.natAbs > hugeExp := by omega
  have hpn : (q.pow e.natAbs).num ≠ 0 := pow_ne_zero (M₀ := ℤ) _ hn
  by_cases he : e < 0
  · refine ⟨_, by simp [powrat, h1, h2, he], (fromMpq_rep ((hq.pow e.natAbs).inv hpn)).cast ?_⟩
    rw [gq_real, gq_real, zpow_of_eq_neg e.natAbs (by omega)]; push_cast; rfl
  · refine ⟨_, by simp [powrat, h1, h2, he], (fromMpq_rep (hq.pow e.natAbs)).cast ?_⟩
    rw [gq_real, gq_real, zpow_of_eq e.natAbs (by omega)]; push_cast; rfl

end SymVerif.C05
