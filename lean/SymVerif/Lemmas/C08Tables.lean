import SymVerif.Lemmas.C08Surd
import SymVerif.Gen.TrigTables
import Mathlib.Analysis.SpecialFunctions.Trigonometric.Basic
import Mathlib.Analysis.SpecialFunctions.Trigonometric.Inverse
import Mathlib.Analysis.SpecialFunctions.Trigonometric.Arctan
import Mathlib.Tactic.IntervalCases
/-!
C08: every entry of the generated special-angle tables has the value the code uses it for
(`sin_table()[n] = sin(pi*n/12)`, `asin(key) = pi/value`, `atan(key) = pi/value`) - and the four
rows of `inverse_cst` for which this is false.  Claimed theorems of the property: at the end of the file.
-/
namespace SymVerif.Funcs
open Real Gen.TrigTables

theorem sqrt5_sq : (√5 : ℝ) * √5 = 5 := Real.mul_self_sqrt (by norm_num)

/-- real value of `sin_table()[i]` (`0` beyond the table, where no theorem looks) -/
noncomputable def tabR (i : Nat) : ℝ := ((sinTable[i]?).map Recipe.evalR).getD 0

theorem sin_pi_div_twelve : sin (π / 12) = (√3 - 1) / (2 * √2) := by
  rw [show π / 12 = π / 3 - π / 4 by ring, sin_sub, sin_pi_div_three, cos_pi_div_four, cos_pi_div_three,
    sin_pi_div_four, eq_div_iff (by positivity)]
  linear_combination ((√3 - 1) / 2) * sqrt2_sq

theorem sin_five_pi_div_twelve : sin (5 * π / 12) = (√3 + 1) / (2 * √2) := by
  rw [show 5 * π / 12 = π / 4 + π / 6 by ring, sin_add, sin_pi_div_four, cos_pi_div_six, cos_pi_div_four,
    sin_pi_div_six, eq_div_iff (by positivity)]
  linear_combination ((√3 + 1) / 2) * sqrt2_sq

theorem tabR_base (i : Nat) (hi : i ≤ 6) : tabR i = sin (π * (i : ℝ) / 12) := by
  interval_cases i
  all_goals simp only [tabR, sinTable, List.getElem?_cons_succ, List.getElem?_cons_zero, Option.map_some,
    Option.getD_some, Recipe.evalR, Int.cast_ofNat, Int.cast_one, Int.cast_zero, Nat.cast_ofNat, Nat.cast_one,
    Nat.cast_zero]
  · rw [mul_zero, zero_div, sin_zero]
  · rw [mul_one, sin_pi_div_twelve]
  · rw [show π * 2 / 12 = π / 6 by ring, sin_pi_div_six]
  · rw [show π * 3 / 12 = π / 4 by ring, sin_pi_div_four]
  · rw [show π * 4 / 12 = π / 3 by ring, sin_pi_div_three]
  · rw [mul_comm π, sin_five_pi_div_twelve]
  · rw [show π * 6 / 12 = π / 2 by ring, sin_pi_div_two]

theorem sinTable_mirror : ∀ i ≤ 6, sinTable[12 - i]? = sinTable[i]? := by decide

/-- the second half negates the first; entries 12 and 18 are the literals `0` and `-1`, hence the two exceptions -/
theorem sinTable_neg : ∀ i < 12, i ≠ 0 → i ≠ 6 →
    sinTable[12 + i]? = (sinTable[i]?).map (Recipe.mul (.int (-1))) := by decide

theorem tabR_add_twelve (i : Nat) (hi : i < 12) : tabR (12 + i) = -tabR i := by
  by_cases h0 : i = 0
  · subst h0; simp [tabR, sinTable, Recipe.evalR]
  by_cases h6 : i = 6
  · subst h6; simp [tabR, sinTable, Recipe.evalR]
  unfold tabR
  rw [sinTable_neg i hi h0 h6]
  cases sinTable[i]? with
  | none => simp only [Option.map_none, Option.getD_none, neg_zero]
  | some r => simp only [Option.map_some, Option.getD_some, Recipe.evalR, Int.cast_neg, Int.cast_one, neg_one_mul]

/-- real value of the key / the value of row `i` of `inverse_cst`, of `inverse_tct` (`0` / `1` beyond the table, where no
theorem looks) -/
noncomputable def cstKey (i : Nat) : ℝ := ((inverseCst[i]?).map (fun p => p.1.evalR)).getD 0
noncomputable def cstVal (i : Nat) : ℝ := ((inverseCst[i]?).map (fun p => p.2.evalR)).getD 1
noncomputable def tctKey (i : Nat) : ℝ := ((inverseTct[i]?).map (fun p => p.1.evalR)).getD 0
noncomputable def tctVal (i : Nat) : ℝ := ((inverseTct[i]?).map (fun p => p.2.evalR)).getD 1

theorem sin_pi_div_ten : sin (π / 10) = (√5 - 1) / 4 := by
  rw [← cos_pi_div_two_sub, show π / 2 - π / 10 = 2 * (π / 5) by ring, cos_two_mul, cos_pi_div_five]
  linear_combination (1 / 8 : ℝ) * sqrt5_sq

theorem arcsin_pi_div {n y : ℝ} (hn : 2 ≤ n) (h : sin (π / n) = y) : arcsin y = π / n :=
  arcsin_eq_of_sin_eq h ⟨(neg_nonpos.mpr (by positivity)).trans (by positivity),
    div_le_div_of_nonneg_left pi_pos.le two_pos hn⟩

theorem arcsin_neg_pi_div {n y : ℝ} (hn : 2 ≤ n) (h : sin (π / n) = y) : arcsin (-y) = π / (-n) := by
  rw [arcsin_neg, arcsin_pi_div hn h, div_neg]

/-- rows of `inverse_cst` whose value is right: `asin(key) = pi/value` -/
def cstGood (i : Nat) : Bool := i < 12 && !(i == 4 || i == 5 || i == 6 || i == 7)

/-- the four rows of `inverse_cst` that are wrong, as real numbers; rows 5 and 7 negate rows 4 and 6 -/
theorem cst_row4 : cstKey 4 = (√3 + 1) / (2 * √2) ∧ cstVal 4 = 12 := by
  simp only [cstKey, cstVal, inverseCst, List.getElem?_cons_succ, List.getElem?_cons_zero, Option.map_some,
    Option.getD_some, Recipe.evalR, Int.cast_ofNat, Int.cast_one, and_self]

theorem cst_row5 : cstKey 5 = -cstKey 4 ∧ cstVal 5 = -cstVal 4 := by
  simp only [cstKey, cstVal, inverseCst, List.getElem?_cons_succ, List.getElem?_cons_zero, Option.map_some,
    Option.getD_some, Recipe.evalR, Int.cast_ofNat, Int.cast_one, Int.cast_neg, neg_one_mul, and_self]

theorem cst_row6 : cstKey 6 = √(5 - √5) / 8 ∧ cstVal 6 = 5 := by
  simp only [cstKey, cstVal, inverseCst, List.getElem?_cons_succ, List.getElem?_cons_zero, Option.map_some,
    Option.getD_some, Recipe.evalR, Int.cast_ofNat, and_self]

theorem cst_row7 : cstKey 7 = -cstKey 6 ∧ cstVal 7 = -cstVal 6 := by
  simp only [cstKey, cstVal, inverseCst, List.getElem?_cons_succ, List.getElem?_cons_zero, Option.map_some,
    Option.getD_some, Recipe.evalR, Int.cast_ofNat, Int.cast_one, Int.cast_neg, neg_one_mul, and_self]

theorem arcsin_neg_row_wrong {k v k' v' : ℝ} (hk : k' = -k) (hv : v' = -v) (h : arcsin k ≠ π / v) :
    arcsin k' ≠ π / v' := by
  rw [hk, hv, arcsin_neg, div_neg]
  exact fun h' => h (neg_injective h')

/-- `C5` of constants.cpp is `sqrt(5 - sqrt 5)/8`; `sin(pi/5)` is `sqrt((5 - sqrt 5)/8)` -/
theorem sin_sq_pi_div_five : sin (π / 5) ^ 2 = (5 - √5) / 8 := by
  rw [sin_sq, cos_pi_div_five]
  linear_combination (-1 / 16 : ℝ) * sqrt5_sq

theorem sqrt5_lt : (√5 : ℝ) < 5 := by
  rw [Real.sqrt_lt' (by norm_num)]; norm_num

theorem arctan_pi_div {n y : ℝ} (hn : 2 < n) (h : tan (π / n) = y) : arctan y = π / n :=
  arctan_eq_of_tan_eq h ⟨(neg_neg_of_pos (by positivity)).trans (by positivity),
    div_lt_div_of_pos_left pi_pos two_pos hn⟩

theorem arctan_neg_pi_div {n y : ℝ} (hn : 2 < n) (h : tan (π / n) = y) : arctan (-y) = π / (-n) := by
  rw [arctan_neg, arctan_pi_div hn h, div_neg]

theorem rpow_two_two : (2 : ℝ) ^ (2 : ℝ) = 4 := by rw [Real.rpow_two]; norm_num
theorem rpow_two_three : (2 : ℝ) ^ (3 : ℝ) = 8 := by
  rw [show (3 : ℝ) = ((3 : ℕ) : ℝ) by norm_num, Real.rpow_natCast]; norm_num
theorem rpow_neg_two_three : (-2 : ℝ) ^ (3 : ℝ) = -8 := by
  rw [show (3 : ℝ) = ((3 : ℕ) : ℝ) by norm_num, Real.rpow_natCast]; norm_num

theorem cos_pi_div_twelve : cos (π / 12) = (√3 + 1) / (2 * √2) := by
  rw [← sin_pi_div_two_sub, show π / 2 - π / 12 = 5 * π / 12 by ring, sin_five_pi_div_twelve]

theorem tan_pi_div_twelve : tan (π / 12) = 2 - √3 := by
  rw [tan_eq_sin_div_cos, sin_pi_div_twelve, cos_pi_div_twelve, div_div_div_cancel_right₀ (by positivity),
    div_eq_iff (by positivity)]
  linear_combination (1 : ℝ) * sqrt3_sq

/-- rows of `inverse_tct` proved here (the other six - pi/8, 3pi/8, 2pi/5 and their negatives - are
checked numerically by the harness only) -/
def tctProved (i : Nat) : Bool := i == 0 || i == 1 || i == 2 || i == 3 || i == 8 || i == 9 || i == 12 || i == 13

end SymVerif.Funcs

namespace SymVerif.C08
open SymVerif SymVerif.Funcs Real Gen.TrigTables

/-- **the sin table is correct**: every entry of `sin_table()` (as generated from functions.cpp/constants.cpp) is
`sin(pi·i/12)` -/
theorem sinTable_value (i : Nat) (hi : i < 24) : tabR i = Real.sin (π * (i : ℝ) / 12) := by
  have half : ∀ j < 12, tabR j = sin (π * (j : ℝ) / 12) := fun j hj => by
    by_cases h6 : j ≤ 6
    · exact tabR_base j h6
    · obtain ⟨k, hk, rfl⟩ : ∃ k ≤ 6, j = 12 - k := ⟨12 - j, by omega, by omega⟩
      have : tabR (12 - k) = tabR k := by unfold tabR; rw [sinTable_mirror k hk]
      rw [this, tabR_base k hk, Nat.cast_sub (by omega), Nat.cast_ofNat,
        show π * (12 - (k : ℝ)) / 12 = π - π * k / 12 by ring, sin_pi_sub]
  by_cases h12 : i < 12
  · exact half i h12
  · obtain ⟨j, hj, rfl⟩ : ∃ j < 12, i = 12 + j := ⟨i - 12, by omega, by omega⟩
    rw [tabR_add_twelve j hj, half j hj, Nat.cast_add, Nat.cast_ofNat,
      show π * (12 + (j : ℝ)) / 12 = π * j / 12 + π by ring, sin_add_pi]

/-- **inverse_cst, correct rows**: each is `sin(π/n) = key` for a special angle, the odd rows its negative -/
theorem inverseCst_value_partial (i : Nat) (h : cstGood i = true) : arcsin (cstKey i) = π / cstVal i := by
  have hi : i < 12 := of_decide_eq_true ((Bool.and_eq_true _ _).mp h).1
  interval_cases i <;> try exact absurd h (by decide)  -- the rows the predicate excludes
  all_goals simp only [cstKey, cstVal, inverseCst, List.getElem?_cons_succ, List.getElem?_cons_zero, Option.map_some,
    Option.getD_some, Recipe.evalR, Int.cast_ofNat, Int.cast_one, Int.cast_neg, neg_one_mul, neg_div]
  · -- row 0
    exact arcsin_pi_div (by norm_num) sin_pi_div_three
  · -- row 1
    exact arcsin_neg_pi_div (by norm_num) sin_pi_div_three
  · -- row 2
    rw [show (2 : ℝ) * 2 = 4 by norm_num]; exact arcsin_pi_div (by norm_num) sin_pi_div_four
  · -- row 3
    rw [show (-2 : ℝ) * 2 = -4 by norm_num]; exact arcsin_neg_pi_div (by norm_num) sin_pi_div_four
  · -- row 8
    exact arcsin_pi_div (by norm_num) sin_pi_div_ten
  · -- row 9
    exact arcsin_neg_pi_div (by norm_num) sin_pi_div_ten
  · -- row 10
    exact arcsin_pi_div (by norm_num) sin_pi_div_six
  · -- row 11
    exact arcsin_neg_pi_div (by norm_num) sin_pi_div_six

/-- **defect** N8: row 4 of `inverse_cst` maps `(√3+1)/(2√2) = sin(5π/12)` to 12: it says
`asin((√3+1)/(2√2)) = pi/12`; the true value is `5·pi/12` -/
theorem inverseCst_row4_wrong : arcsin (cstKey 4) = 5 * π / 12 ∧ arcsin (cstKey 4) ≠ π / cstVal 4 := by
  have h : arcsin (cstKey 4) = 5 * π / 12 := by
    rw [cst_row4.1]
    exact arcsin_eq_of_sin_eq sin_five_pi_div_twelve ⟨by linarith [pi_pos], by linarith [pi_pos]⟩
  refine ⟨h, ?_⟩
  rw [h, cst_row4.2]
  intro hc
  linarith [pi_pos]

theorem inverseCst_row5_wrong : arcsin (cstKey 5) ≠ π / cstVal 5 :=
  arcsin_neg_row_wrong cst_row5.1 cst_row5.2 inverseCst_row4_wrong.2

/-- **defect** N7: row 6 says `asin(sqrt(5 - sqrt 5)/8) = pi/5`; `C5 = sqrt(5 - sqrt 5)/8` is not `sin(pi/5)` -/
theorem inverseCst_row6_wrong : arcsin (cstKey 6) ≠ π / cstVal 6 := by
  rw [cst_row6.1, cst_row6.2]
  intro hc
  have hpos : (0 : ℝ) ≤ 5 - √5 := by linarith [sqrt5_lt]
  have hk0 : 0 ≤ √(5 - √5) / 8 := by positivity
  have hk1 : √(5 - √5) / 8 ≤ 1 := by
    rw [div_le_one (by norm_num), Real.sqrt_le_left (by norm_num)]
    linarith [Real.sqrt_nonneg (5 : ℝ)]
  have hs : sin (π / 5) = √(5 - √5) / 8 := by
    rw [← hc]; exact sin_arcsin (by linarith) hk1
  have h2 := sin_sq_pi_div_five
  rw [hs, div_pow, Real.sq_sqrt hpos] at h2
  linarith [sqrt5_lt]

theorem inverseCst_row7_wrong : arcsin (cstKey 7) ≠ π / cstVal 7 :=
  arcsin_neg_row_wrong cst_row7.1 cst_row7.2 inverseCst_row6_wrong

/-- **inverse_tct, proved rows**: `atan(key) = pi/value` -/
theorem inverseTct_value_partial (i : Nat) (h : tctProved i = true) : arctan (tctKey i) = π / tctVal i := by
  have hi : i < 14 := by
    have h' := h
    simp only [tctProved, Bool.or_eq_true, beq_iff_eq] at h'
    omega
  interval_cases i <;> try exact absurd h (by decide)  -- the rows the predicate excludes
  all_goals simp only [tctKey, tctVal, inverseTct, List.getElem?_cons_succ, List.getElem?_cons_zero, Option.map_some,
    Option.getD_some, Recipe.evalR, Int.cast_ofNat, Int.cast_one, Int.cast_neg, neg_one_mul, neg_div, rpow_two_two]
  · -- row 0
    rw [show (2 : ℝ) * 3 = 6 by norm_num]; exact arctan_pi_div (by norm_num) tan_pi_div_six
  · -- row 1
    rw [show (-2 : ℝ) * 3 = -6 by norm_num]; exact arctan_neg_pi_div (by norm_num) tan_pi_div_six
  · -- row 2
    exact arctan_pi_div (by norm_num) tan_pi_div_three
  · -- row 3
    exact arctan_neg_pi_div (by norm_num) tan_pi_div_three
  · -- row 8
    rw [show (2 : ℝ) * 2 * 3 = 12 by norm_num]; exact arctan_pi_div (by norm_num) tan_pi_div_twelve
  · -- row 9
    rw [show (-2 : ℝ) * 2 * 3 = -12 by norm_num, ← neg_sub]
    exact arctan_neg_pi_div (by norm_num) tan_pi_div_twelve
  · -- row 12
    exact arctan_one
  · -- row 13
    rw [arctan_neg, arctan_one, div_neg]

end SymVerif.C08
