import Mathlib.Algebra.MvPolynomial.Eval
import SymVerif.Model.MPoly
/-! Semantics of the association-list dictionaries of `Model/MPoly.lean` in `MvPolynomial ℕ R` (`monoOf`, `dictMv`), the
container invariants `Canon` and `KeysOk` (zeros allowed), lookup, `stripZeros`, and one `+=` / `-=` step. -/

open SymVerif.MPoly MvPolynomial

namespace SymVerif.C22
-- lemmas on plain lists inherit `[DecidableEq R]` (four `[CommRing R]`) of the section unused
set_option linter.unusedSectionVars false

variable {R : Type} [CommRing R] [DecidableEq R]

/-- the monomial `∏ vars[k] ^ e[k]` as a finitely supported exponent map on variable names -/
noncomputable def monoOf : List Var → Mono → (ℕ →₀ ℕ)
  | v :: vs, e :: es => Finsupp.single v e + monoOf vs es
  | _, _ => 0

/-- the polynomial denoted by a dictionary whose exponent vectors are read over `vars` -/
noncomputable def dictMv (vars : List Var) : Dict R → MvPolynomial ℕ R
  | [] => 0
  | kc :: t => monomial (monoOf vars kc.1) kc.2 + dictMv vars t

def keys (d : Dict R) : List Mono := d.map Prod.fst

def LenOk (n : Nat) (d : Dict R) : Prop := ∀ kc ∈ d, kc.1.length = n
def NoZero (d : Dict R) : Prop := ∀ kc ∈ d, kc.2 ≠ 0
instance (n : Nat) (d : Dict R) : Decidable (LenOk n d) := by unfold LenOk; infer_instance
instance (d : Dict R) : Decidable (NoZero d) := by unfold NoZero; infer_instance
/-- lengths right and keys distinct, zeros allowed: the state of `p` inside `mul`, and what `translate`, `coeff` and
`from_dict` ask of a dictionary -/
def KeysOk (n : Nat) (d : Dict R) : Prop := LenOk n d ∧ (keys d).Nodup
/-- the container invariant of `UDictWrapper` with `vec_size = n`: `KeysOk` and no stored zero -/
structure Canon (n : Nat) (d : Dict R) : Prop where
  len : LenOk n d
  nz : NoZero d
  nodup : (keys d).Nodup

theorem Canon.keysOk {n : Nat} {d : Dict R} (h : Canon n d) : KeysOk n d := ⟨h.len, h.nodup⟩

@[simp] theorem monoOf_nil_left (e : Mono) : monoOf [] e = 0 := by
  cases e <;> rfl
@[simp] theorem monoOf_nil_right (v : List Var) : monoOf v [] = 0 := by
  cases v <;> rfl
@[simp] theorem monoOf_cons (v : Var) (vs : List Var) (e : Nat) (es : Mono) :
    monoOf (v :: vs) (e :: es) = Finsupp.single v e + monoOf vs es := rfl

@[simp] theorem dictMv_nil (vars : List Var) : dictMv vars ([] : Dict R) = 0 := rfl
@[simp] theorem dictMv_cons (vars : List Var) (kc : Mono × R) (t : Dict R) :
    dictMv vars (kc :: t) = monomial (monoOf vars kc.1) kc.2 + dictMv vars t := rfl

theorem monoOf_replicate_zero (vars : List Var) (n : Nat) : monoOf vars (List.replicate n 0) = 0 := by
  induction vars generalizing n with
  | nil => simp
  | cons v vs ih =>
    cases n with
    | zero => simp
    | succ n => simp [List.replicate_succ, ih]

theorem monoOf_zipWith_add (vars : List Var) (a b : Mono) (h : a.length = b.length) :
    monoOf vars (List.zipWith (· + ·) a b) = monoOf vars a + monoOf vars b := by
  induction vars generalizing a b with
  | nil => simp only [monoOf_nil_left, add_zero]
  | cons v vs ih =>
    cases a with
    | nil => rw [List.zipWith_nil_left, monoOf_nil_right, zero_add, List.length_eq_zero_iff.mp h.symm,
        monoOf_nil_right]
    | cons x xs =>
      cases b with
      | nil => exact absurd h (Nat.succ_ne_zero _)
      | cons y ys =>
        rw [List.zipWith_cons_cons, monoOf_cons, monoOf_cons, monoOf_cons, ih xs ys (Nat.succ.inj h),
          Finsupp.single_add, add_add_add_comm]

theorem monoOf_apply_of_not_mem (l : List Var) (e : Mono) (a : Var) (h : a ∉ l) : monoOf l e a = 0 := by
  induction l generalizing e with
  | nil => simp
  | cons v vs ih =>
    cases e with
    | nil => simp
    | cons x xs =>
      simp only [List.mem_cons, not_or] at h
      simp only [monoOf_cons, Finsupp.add_apply, ih xs h.2, add_zero]
      rw [Finsupp.single_apply, if_neg (fun e => h.1 e.symm)]

theorem monoOf_injective (l : List Var) (e e' : Mono) (hl : l.Nodup) (h1 : e.length = l.length)
    (h2 : e'.length = l.length) (h : monoOf l e = monoOf l e') : e = e' := by
  induction l generalizing e e' with
  | nil => rw [List.length_eq_zero_iff.mp h1, List.length_eq_zero_iff.mp h2]
  | cons v vs ih =>
    cases e with
    | nil => exact absurd h1.symm (Nat.succ_ne_zero _)
    | cons x xs =>
      cases e' with
      | nil => exact absurd h2.symm (Nat.succ_ne_zero _)
      | cons y ys =>
        obtain ⟨hv, hvs⟩ := List.nodup_cons.mp hl
        rw [monoOf_cons, monoOf_cons] at h
        -- at `v` only the head contributes
        have hx : x = y := by
          have := DFunLike.congr_fun h v
          rwa [Finsupp.add_apply, Finsupp.add_apply, Finsupp.single_eq_same, Finsupp.single_eq_same,
            monoOf_apply_of_not_mem vs _ v hv, monoOf_apply_of_not_mem vs _ v hv, add_zero, add_zero] at this
        subst hx
        rw [ih xs ys hvs (Nat.succ.inj h1) (Nat.succ.inj h2) (add_left_cancel h)]

theorem monoOf_set (s : List Var) (acc : Mono) (t x : Nat) (ht : t < s.length)
    (h0 : acc[t]? = some 0) : monoOf s (acc.set t x) = monoOf s acc + Finsupp.single (s[t]'ht) x := by
  induction s generalizing acc t with
  | nil => simp at ht
  | cons v vs ih =>
    cases acc with
    | nil => simp at h0
    | cons y ys =>
      cases t with
      | zero =>
        simp only [List.getElem?_cons_zero, Option.some.injEq] at h0
        subst h0
        simp only [List.set_cons_zero, monoOf_cons, List.getElem_cons_zero, Finsupp.single_zero, zero_add]
        exact add_comm _ _
      | succ t =>
        simp only [List.getElem?_cons_succ] at h0
        simp only [List.length_cons, Nat.add_lt_add_iff_right] at ht
        simp only [List.set_cons_succ, monoOf_cons, List.getElem_cons_succ,
          ih ys t ht h0]
        exact (add_assoc _ _ _).symm

@[simp] theorem keys_cons (kc : Mono × R) (t : Dict R) : keys (kc :: t) = kc.1 :: keys t := rfl

theorem mem_keys_of_mem {d : Dict R} {kc : Mono × R} (h : kc ∈ d) : kc.1 ∈ keys d :=
  List.mem_map_of_mem (f := Prod.fst) h

theorem keysOk_nil (n : Nat) : KeysOk n ([] : Dict R) :=
  ⟨List.forall_mem_nil _, List.nodup_nil⟩

theorem lenOk_iff_keys {n : Nat} {d : Dict R} : LenOk n d ↔ ∀ k ∈ keys d, k.length = n :=
  (List.forall_mem_map (f := Prod.fst) (P := fun k : Mono => k.length = n)).symm

theorem canon_nil (n : Nat) : Canon n ([] : Dict R) :=
  ⟨List.forall_mem_nil _, List.forall_mem_nil _, List.nodup_nil⟩

theorem canon_cons {n : Nat} {kc : Mono × R} {t : Dict R} :
    Canon n (kc :: t) ↔ kc.1.length = n ∧ kc.2 ≠ 0 ∧ kc.1 ∉ keys t ∧ Canon n t := by
  constructor
  · intro h
    exact ⟨h.len kc List.mem_cons_self, h.nz kc List.mem_cons_self, (List.nodup_cons.mp h.nodup).1,
      fun x hx => h.len x (List.mem_cons_of_mem _ hx), fun x hx => h.nz x (List.mem_cons_of_mem _ hx),
      (List.nodup_cons.mp h.nodup).2⟩
  · rintro ⟨hl, hz, hk, ht⟩
    exact ⟨List.forall_mem_cons.mpr ⟨hl, ht.len⟩, List.forall_mem_cons.mpr ⟨hz, ht.nz⟩,
      List.nodup_cons.mpr ⟨hk, ht.nodup⟩⟩

theorem find?_eq_none_iff (d : Dict R) (k : Mono) : find? d k = none ↔ k ∉ keys d := by
  induction d with
  | nil => exact iff_of_true rfl List.not_mem_nil
  | cons kc t ih =>
    obtain ⟨k', c⟩ := kc
    rw [find?, keys_cons, List.mem_cons, not_or]
    by_cases h : k' = k
    · rw [if_pos h]
      exact iff_of_false (Option.some_ne_none c) (fun hn => hn.1 h.symm)
    · rw [if_neg h, ih]
      exact (and_iff_right (Ne.symm h)).symm

theorem find?_eq_some_iff {d : Dict R} {k : Mono} {c : R} (hn : (keys d).Nodup) :
    find? d k = some c ↔ (k, c) ∈ d := by
  induction d with
  | nil => exact iff_of_false (Option.some_ne_none c).symm List.not_mem_nil
  | cons kc t ih =>
    obtain ⟨k', c'⟩ := kc
    obtain ⟨hk', ht⟩ := List.nodup_cons.mp hn
    rw [find?, List.mem_cons, Prod.mk.injEq]
    by_cases hk : k' = k
    · subst hk
      rw [if_pos rfl, Option.some.injEq]
      exact ⟨fun h => Or.inl ⟨rfl, h.symm⟩,
        fun h => h.elim (fun e => e.2.symm) (fun hm => absurd (mem_keys_of_mem hm) hk')⟩
    · rw [if_neg hk, ih ht]
      exact ⟨Or.inr, fun h => h.elim (fun e => absurd e.1.symm hk) id⟩

theorem stripZeros_cons (kc : Mono × R) (t : Dict R) :
    stripZeros (kc :: t) = if kc.2 = 0 then stripZeros t else kc :: stripZeros t := by
  by_cases h : kc.2 = 0 <;> simp [stripZeros, h]

theorem dictMv_stripZeros (vars : List Var) (d : Dict R) : dictMv vars (stripZeros d) = dictMv vars d := by
  induction d with
  | nil => rfl
  | cons kc t ih =>
    rw [stripZeros_cons]
    split
    · next h => rw [ih, dictMv_cons, h, monomial_zero, zero_add]
    · rw [dictMv_cons, dictMv_cons, ih]

theorem canon_stripZeros {n : Nat} {d : Dict R} (h : KeysOk n d) : Canon n (stripZeros d) where
  len := fun kc hk => h.1 kc (List.mem_of_mem_filter hk)
  nz := fun _ hk => of_decide_eq_true (List.mem_filter.mp hk).2
  nodup := h.2.sublist (List.filter_sublist.map Prod.fst)

theorem stripZeros_of_noZero {d : Dict R} (h : NoZero d) : stripZeros d = d :=
  List.filter_eq_self.mpr fun kc hk => decide_eq_true (h kc hk)

theorem monomial_add (m : ℕ →₀ ℕ) (a b : R) : monomial m (a + b) = monomial m a + monomial m b :=
  map_add _ a b

theorem monomial_neg (m : ℕ →₀ ℕ) (a : R) : monomial m (-a) = -monomial m a :=
  LinearMap.map_neg _ a

theorem dictMv_addTerm (vars : List Var) (d : Dict R) (k : Mono) (c : R) :
    dictMv vars (addTerm d k c) = dictMv vars d + monomial (monoOf vars k) c := by
  induction d with
  | nil => exact add_comm _ _
  | cons kc t ih =>
    obtain ⟨k', c'⟩ := kc
    rw [addTerm, dictMv_cons]
    by_cases hk : k' = k
    · subst hk
      rw [if_pos rfl, add_right_comm, ← monomial_add]
      by_cases hz : c' + c = 0
      · rw [if_pos hz, hz, monomial_zero, zero_add]
      · rw [if_neg hz, dictMv_cons]
    · rw [if_neg hk, dictMv_cons, ih, add_assoc]

theorem subTerm_eq_addTerm (d : Dict R) (k : Mono) (c : R) : subTerm d k c = addTerm d k (-c) := by
  induction d with
  | nil => rfl
  | cons kc t ih =>
    obtain ⟨k', c'⟩ := kc
    simp only [subTerm, addTerm, ih, sub_eq_add_neg]

theorem dictMv_subTerm (vars : List Var) (d : Dict R) (k : Mono) (c : R) :
    dictMv vars (subTerm d k c) = dictMv vars d - monomial (monoOf vars k) c := by
  rw [subTerm_eq_addTerm, dictMv_addTerm, monomial_neg, sub_eq_add_neg]

/-- so that `Canon` of `+=` is inherited from `KeysOk` of the accumulator step of `mul` -/
theorem addTerm_eq_stripZeros_accTerm {d : Dict R} (hd : NoZero d) (k : Mono) {c : R} (hc : c ≠ 0) :
    addTerm d k c = stripZeros (accTerm d k c) := by
  induction d with
  | nil => exact (stripZeros_of_noZero (List.forall_mem_singleton.mpr hc)).symm
  | cons kc t ih =>
    obtain ⟨k', c'⟩ := kc
    obtain ⟨hc', ht⟩ := List.forall_mem_cons.mp hd
    rw [addTerm, accTerm]
    by_cases hk : k' = k
    · rw [if_pos hk, if_pos hk]
      by_cases hz : c' + c = 0
      · rw [if_pos hz, stripZeros_cons, if_pos hz]
        exact (stripZeros_of_noZero ht).symm
      · rw [if_neg hz]
        exact (stripZeros_of_noZero (List.forall_mem_cons.mpr ⟨hz, ht⟩)).symm
    · rw [if_neg hk, if_neg hk, ih ht, stripZeros_cons, if_neg hc']

end SymVerif.C22
