/-
C04: exponents as dictionary values.  A summand of the safe Add fragment (`AOK`, exact) means
`(coefficient, term ↦ coefficient)` in the commutative monoid `ℚ(i) × (Expr → ℚ(i))`; the meaning is
injective and `add` adds meanings (Lemmas/C04Add.lean), so exponents form a value semantics `expVS`
for the generic dictionary algebra (Lemmas/C04DictG.lean).
-/
import Mathlib.Algebra.Group.Pi.Basic
import SymVerif.Lemmas.C04DictG
import SymVerif.Lemmas.C04Add

namespace SymVerif.AC
open SymVerif SymVerif.Arith

abbrev ExpVal := (ℚ × ℚ) × (Expr → ℚ × ℚ)

/-- legal exponent: an exact summand of the safe Add fragment -/
def expOK (a : Expr) : Prop := AOK a ∧ exact a = true

noncomputable def expVal (a : Expr) : ExpVal := (gq (repr a).1, fun t => lk (repr a).2 t)

/-- the pure sum of two exponents (`add(a, b)` of the model) -/
noncomputable def expAdd (a b : Expr) : Expr :=
  match addFromDict (radd (repr a) (repr b)).1 (radd (repr a) (repr b)).2 with
  | .ok r => r
  | .error _ => zero  -- never reached under `expOK` (`expAdd_spec`); it makes `add` total for `VS`

/-- `is_a<Integer>(v) && v.is_zero()`, the test of the found branch of `Mul::dict_add_term_new` (`datFound`); Integer
suffices: a canonical exact zero is the Integer 0 (`expIsZ_num`) -/
def expIsZ (a : Expr) : Bool := isInteger a && numIsZero a

theorem expOK_iff {a : Expr} : expOK a ↔ AOK a := ⟨And.left, fun h => ⟨h, h.exact⟩⟩

theorem expAdd_spec {a b : Expr} (ha : expOK a) (hb : expOK b) :
    addFromDict (radd (repr a) (repr b)).1 (radd (repr a) (repr b)).2 = .ok (expAdd a b)
    ∧ expOK (expAdd a b) ∧ repr (expAdd a b) = radd (repr a) (repr b) := by
  obtain ⟨r, hr, hok, hrep⟩ := AOK_fromDict (ha.1.nr.radd hb.1.nr)
  have e : expAdd a b = r := by unfold expAdd; rw [hr]
  rw [e]
  exact ⟨hr, ⟨hok, hok.exact⟩, hrep⟩

theorem expVal_inj {a b : Expr} (ha : expOK a) (hb : expOK b) (h : expVal a = expVal b) : a = b := by
  have e : repr a = repr b := rden_inj ha.1.nr hb.1.nr h
  have ea := ha.1.rebuild
  rw [e, hb.1.rebuild] at ea
  exact (Except.ok.inj ea).symm

theorem expVal_add {a b : Expr} (ha : expOK a) (hb : expOK b) :
    expVal (expAdd a b) = expVal a + expVal b := by
  show rden (repr (expAdd a b)) = _
  rw [(expAdd_spec ha hb).2.2]
  exact rden_radd ha.1.nr hb.1.nr

theorem expOK_num {e : Expr} (h : ExOK e) : expOK e := ⟨AOK_num h, exact_of_exOK h⟩

theorem expVal_num {e : Expr} (h : e.isNum = true) : expVal e = (gq e, 0) := by
  unfold expVal
  rw [repr_num h]
  rfl

theorem expVal_zero : expVal zero = 0 := by
  rw [expVal_num rfl, gq_zero]
  rfl

theorem eq_zero_of_expIsZ {a : Expr} (h : expIsZ a = true) : a = zero := by
  cases a with
  | int n =>
    have : n = 0 := by simpa [expIsZ, isInteger, numIsZero] using h
    rw [this]
    rfl
  | _ => cases h

theorem expIsZ_iff {a : Expr} (ha : expOK a) : expIsZ a = true ↔ expVal a = 0 := by
  constructor
  · intro h
    rw [eq_zero_of_expIsZ h, expVal_zero]
  · intro h
    obtain rfl := expVal_inj ha (expOK_num (exOK_int 0)) (h.trans expVal_zero.symm)
    rfl

theorem expIsZ_false_iff {a : Expr} (ha : expOK a) : expIsZ a = false ↔ expVal a ≠ 0 :=
  Bool.eq_false_iff.trans (not_congr (expIsZ_iff ha))

noncomputable def expVS : VS ExpVal where
  ok := expOK
  val := expVal
  inj := expVal_inj
  add := expAdd
  add_ok := fun ha hb => (expAdd_spec ha hb).2.1
  val_add := expVal_add
  isZ := expIsZ
  isZ_iff := expIsZ_iff

theorem expOK_isNum {v : Expr} (hv : expOK v) (hn : v.isNum = true) : ExOK v := hv.1.exOK_of_isNum hn

theorem expIsZ_num {c : Expr} (hc : ExOK c) : expIsZ c = numIsZero c := by
  cases h : numIsZero c with
  | false => rw [expIsZ, h, Bool.and_false]
  | true =>
    obtain rfl := numIsZero_eq_zero hc h
    rfl

theorem expAdd_num {a b : Expr} (ha : a.isNum = true) (hb : b.isNum = true) :
    expAdd a b = ofG (gq a + gq b) := by
  unfold expAdd
  rw [repr_num ha, repr_num hb]
  rfl

/-- what `dict_add_term_new` computes for the new exponent: `addnum` on two Numbers, `add` otherwise -/
theorem expAdd_model {old e : Expr} (ho : expOK old) (he : expOK e) :
    (if (e.isNum && old.isNum) = true then numAdd old e else addCore old e) = .ok (expAdd old e) := by
  split
  · rename_i h
    simp only [Bool.and_eq_true] at h
    rw [numAdd_eq (expOK_isNum ho h.2) (expOK_isNum he h.1), expAdd_num h.2 h.1]
  · rw [addCore_eq ho.1 he.1]
    exact (expAdd_spec ho he).1

end SymVerif.AC
