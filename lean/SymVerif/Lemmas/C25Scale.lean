import SymVerif.Lemmas.C25Canon
/-!
C25 — the operations that leave `p` and `j` alone: `conjugate`, `csr_scale_rows`,
`csr_scale_columns` (in-place sweeps over `x`), and `csr_diagonal` (the binary search of `get`, row
by row).
-/
namespace SymVerif.C25
open SymVerif.CSR Finset

theorem conjugate_spec {m : Mat} (h : CanonCSR m) : conjugate m = .ok m := by
  unfold conjugate
  exact mk_of_canon h

theorem CanonCSR.with_x {m : Mat} (h : CanonCSR m) {x' : Array Q} (hs : x'.size = m.x.size) :
    CanonCSR { m with x := x' } :=
  { psize := h.psize, xsize := hs.trans h.xsize, p0 := h.p0, plast := h.plast,
    pmono := h.pmono, sorted := h.sorted, jlt := h.jlt }

theorem dense_scaled (m : Mat) {x' : Array Q} {i c : Nat} {t : Q}
    (h : ∀ k, m.p[i]! ≤ k → k < m.p[i + 1]! → m.j[k]! = c → x'[k]! = m.x[k]! * t) :
    dense { m with x := x' } i c = dense m i c * t := by
  unfold dense
  rw [Finset.sum_mul]
  refine sum_Ico_congr (fun k hk1 hk2 => ?_)
  by_cases hc : m.j[k]! = c
  · rw [cellOf_hit hc, cellOf_hit hc]; exact h k hk1 hk2 hc
  · rw [cellOf_miss hc, cellOf_miss hc, zero_mul]

theorem scaleRange_spec (s : Q) :
    ∀ n jj (x : Array Q), jj + n ≤ x.size →
      ∃ x', scaleRange s n jj x = .ok x' ∧ x'.size = x.size ∧
        (∀ k, k < jj → x'[k]! = x[k]!) ∧ (∀ k, jj + n ≤ k → x'[k]! = x[k]!) ∧
        ∀ k, jj ≤ k → k < jj + n → x'[k]! = x[k]! * s := by
  intro n jj x hsz
  exact sweep_spec (scaleRange s) (g := fun _ v => v * s) (ok := fun _ _ => True) (h0 := fun _ _ => rfl)
    (hs := fun n l a h _ => by rw [scaleRange]; simp only [rd_lt h, ok_bind, wr_lt _ h])
    n jj x hsz (fun _ _ _ => trivial)

theorem scaleRowsLoop_spec (p : Array Nat) (X : Array Q) (row : Nat) (hps : p.size = row + 1)
    (hmono : MonoTo p row) :
    ∀ n i (x : Array Q), i + n = row → p[row]! ≤ x.size → row ≤ X.size →
      (∀ r, i ≤ r → r < row → X[r]! ≠ 0) →
      ∃ x', scaleRowsLoop p X n i x = .ok x' ∧ x'.size = x.size ∧
        (∀ k, k < p[i]! → x'[k]! = x[k]!) ∧
        (∀ r, i ≤ r → r < row → ∀ k, p[r]! ≤ k → k < p[r + 1]! → x'[k]! = x[k]! * X[r]!) := by
  intro n
  induction n with
  | zero =>
    intro i x _ _ _ _
    exact ⟨x, rfl, rfl, fun _ _ => rfl, fun r h1 h2 => by omega⟩
  | succ n ih =>
    intro i x hin hx hX hnz
    have hi : i < row := by omega
    have hXi : i < X.size := Nat.lt_of_lt_of_le hi hX
    unfold scaleRowsLoop
    simp only [rd_lt hXi, ok_bind, hnz i (Nat.le_refl _) hi, if_false, (rd_row hps hi).1, (rd_row hps hi).2]
    obtain ⟨hm1, hm2⟩ := hmono.row_le hi
    obtain ⟨x1, e1, s1, hbelow, habove, hin⟩ :=
      scaleRange_spec X[i]! (p[i + 1]! - p[i]!) p[i]! x (by omega)
    rw [Nat.add_sub_cancel' hm1] at habove hin
    simp only [e1, ok_bind]
    obtain ⟨x', e2, s2, hkeep, hrows⟩ := ih (i + 1) x1 (by omega) (by omega) hX
      (fun r hr1 hr2 => hnz r (Nat.le_of_succ_le hr1) hr2)
    refine ⟨x', e2, s2.trans s1, fun k hk => ?_, fun r hr1 hr2 k hk1 hk2 => ?_⟩
    · rw [hkeep k (Nat.lt_of_lt_of_le hk hm1), hbelow k hk]
    · rcases Nat.lt_or_eq_of_le hr1 with hlt | rfl
      · rw [hrows r hlt hr2 k hk1 hk2, habove k (Nat.le_trans (hmono (i + 1) r hlt (Nat.le_of_lt hr2)) hk1)]
      · rw [hkeep k hk2, hin k hk1 hk2]

theorem scaleRows_spec {m : Mat} (h : CanonCSR m) (X : Array Q) (hX : X.size = m.row)
    (hnz : ∀ r, r < m.row → X[r]! ≠ 0) :
    ∃ m', scaleRows m X = .ok m' ∧ CanonCSR m' ∧ m'.row = m.row ∧ m'.col = m.col ∧
      ∀ i c, i < m.row → dense m' i c = dense m i c * X[i]! := by
  obtain ⟨x', e, s, _, g⟩ := scaleRowsLoop_spec m.p X m.row h.psize h.pmono m.row 0 m.x (by omega)
    (by rw [h.plast, h.xsize]) (by omega) (fun r _ hr => hnz r hr)
  unfold scaleRows
  have : ¬ m.row ≠ X.size := by omega
  simp only [this, if_false, e, ok_bind, pure_ok]
  exact ⟨_, rfl, h.with_x s, rfl, rfl, fun i c hi =>
    dense_scaled m (fun k hk1 hk2 _ => g i (Nat.zero_le _) hi k hk1 hk2)⟩

theorem scaleColsLoop_spec (j : Array Nat) (X : Array Q) :
    ∀ n i (x : Array Q), i + n ≤ x.size → i + n ≤ j.size → (∀ k, k < j.size → j[k]! < X.size) →
      ∃ x', scaleColsLoop j X n i x = .ok x' ∧ x'.size = x.size ∧
        (∀ k, k < i → x'[k]! = x[k]!) ∧ ∀ k, i ≤ k → k < i + n → x'[k]! = x[k]! * X[j[k]!]! := by
  intro n i x hx hj hX
  obtain ⟨x', h1, h2, h3, _, h5⟩ := sweep_spec (scaleColsLoop j X) (g := fun k v => v * X[j[k]!]!)
    (ok := fun k _ => k < j.size) (h0 := fun _ _ => rfl)
    (hs := fun n l a h hl => by
      rw [scaleColsLoop]; simp only [rd_lt hl, ok_bind, rd_lt (hX l hl), rd_lt h, wr_lt _ h])
    n i x hx (fun k _ hk2 => Nat.lt_of_lt_of_le hk2 hj)
  exact ⟨x', h1, h2, h3, h5⟩

theorem scaleCols_spec {m : Mat} (h : CanonCSR m) (X : Array Q) (hX : X.size = m.col)
    (hnz : ∀ c, c < m.col → X[c]! ≠ 0) :
    ∃ m', scaleCols m X = .ok m' ∧ CanonCSR m' ∧ m'.row = m.row ∧ m'.col = m.col ∧
      ∀ i c, i < m.row → dense m' i c = dense m i c * X[c]! := by
  have hps := h.psize
  have hrow : m.row < m.p.size := by omega
  obtain ⟨x', e, s, _, g⟩ := scaleColsLoop_spec m.j X m.j.size 0 m.x (by rw [h.xsize]; omega) (by omega)
    (fun k hk => by rw [hX]; exact h.jlt k hk)
  have hany : X.any (fun s => s == 0) = false := by
    rw [Array.any_eq_false]
    intro k hk
    have := hnz k (by omega)
    rw [getElem!_pos X k hk] at this
    simpa using this
  unfold scaleCols
  have : ¬ m.col ≠ X.size := by omega
  -- the model runs the loop over `nnz = p[row]`: `h.plast` makes that `m.j.size`
  simp only [this, if_false, rd_lt hrow, ok_bind, h.plast, hany, Bool.false_eq_true, e, pure_ok]
  exact ⟨_, rfl, h.with_x s, rfl, rfl, fun i c hi => dense_scaled m (fun k _ hk2 hc => by
    rw [g k (Nat.zero_le k) (by rw [Nat.zero_add]; exact Nat.lt_of_lt_of_le hk2 (h.row_le hi).2), hc])⟩

theorem diagLoop_spec {m : Mat} (h : CanonCSR m) :
    ∀ n i, i + n ≤ m.row →
      diagLoop m n i = .ok ((List.range' i n).map (fun r => dense m r r)) := by
  intro n
  induction n with
  | zero => intro i _; rfl
  | succ n ih =>
    intro i hin
    have hi : i < m.row := by omega
    unfold diagLoop
    simp only [(h.rd_row hi).1, (h.rd_row hi).2, ok_bind, getLoop_row h hi i, ih (i + 1) (by omega), pure_ok,
      List.range'_succ, List.map_cons]

theorem diagonal_spec {m : Mat} (h : CanonCSR m) :
    diagonal m = .ok ((List.range (min m.row m.col)).map (fun r => dense m r r)) := by
  unfold diagonal
  rw [diagLoop_spec h _ 0 (by omega), List.range_eq_range']

end SymVerif.C25
