import Mathlib.FieldTheory.Finite.Basic
import Mathlib.Algebra.Polynomial.Derivative
import Mathlib.Tactic.Ring
import SymVerif.Model.GF

/-!
C23: the abstraction `toPoly : List ℕ → (ZMod p)[X]`, the class
invariant, and the ring operations, eval, diff and the modular inverse of the model.
-/
namespace SymVerif.C23
open Polynomial SymVerif.GF

/-- abstraction function: coefficient vector (lowest exponent first) ↦ polynomial over `ZMod p` -/
noncomputable def toPoly (p : ℕ) : Poly → (ZMod p)[X]
  | [] => 0
  | a :: l => C (a : ZMod p) + X * toPoly p l

/-- all coefficients reduced modulo `p` -/
def Red (p : ℕ) (l : Poly) : Prop := ∀ x ∈ l, x < p

variable {p : ℕ}

@[simp] theorem toPoly_nil : toPoly p [] = 0 := rfl
@[simp] theorem toPoly_cons (a : ℕ) (l : Poly) : toPoly p (a :: l) = C (a : ZMod p) + X * toPoly p l := rfl

theorem toPoly_of_isEmpty {l : Poly} (h : l.isEmpty) : toPoly p l = 0 := by
  rw [List.isEmpty_iff.mp h, toPoly_nil]

theorem toPoly_append (a b : Poly) : toPoly p (a ++ b) = toPoly p a + X ^ a.length * toPoly p b := by
  induction a with
  | nil => rw [List.nil_append, toPoly_nil, zero_add, List.length_nil, pow_zero, one_mul]
  | cons x a ih =>
    simp only [List.cons_append, toPoly_cons, ih, List.length_cons, mul_add, ← mul_assoc,
      ← add_assoc, pow_succ']

theorem coeff_toPoly (l : Poly) (i : ℕ) : (toPoly p l).coeff i = ((l.getD i 0 : ℕ) : ZMod p) := by
  induction l generalizing i with
  | nil => simp only [toPoly_nil, coeff_zero, List.getD_nil, Nat.cast_zero]
  | cons a l ih =>
    cases i with
    | zero => simp only [toPoly_cons, coeff_add, coeff_C_zero, coeff_X_mul_zero, add_zero, List.getD_cons_zero]
    | succ i => simp only [toPoly_cons, coeff_add, coeff_C_succ, coeff_X_mul, zero_add, ih, List.getD_cons_succ]

theorem getD_lt (l : Poly) (i : ℕ) (h : i < l.length) : l.getD i 0 = l[i] := by
  rw [List.getD_eq_getElem?_getD, List.getElem?_eq_getElem h, Option.getD_some]

theorem getD_of_le (l : Poly) (i : ℕ) (h : l.length ≤ i) : l.getD i 0 = 0 := by
  rw [List.getD_eq_getElem?_getD, List.getElem?_eq_none h, Option.getD_none]

theorem getD_length_sub_one (l : Poly) : l.getD (l.length - 1) 0 = l.getLastD 0 := by
  rw [List.getD_eq_getElem?_getD, ← List.getLast?_eq_getElem?, List.getLastD_eq_getLast?]

theorem strip_cons (a : ℕ) (l : Poly) :
    (strip l = [] ∧ a = 0 ∧ strip (a :: l) = []) ∨
      (¬(strip l = [] ∧ a = 0) ∧ strip (a :: l) = a :: strip l) := by
  have e : strip (a :: l) = if strip l = [] ∧ a = 0 then [] else a :: strip l := by
    simp only [strip, Bool.and_eq_true, List.isEmpty_iff, beq_iff_eq]
  by_cases h : strip l = [] ∧ a = 0
  · exact .inl ⟨h.1, h.2, by rw [e, if_pos h]⟩
  · exact .inr ⟨h, by rw [e, if_neg h]⟩

theorem strip_eq_nil_iff (l : Poly) : strip l = [] ↔ ∀ x ∈ l, x = 0 := by
  induction l with
  | nil => exact iff_of_true rfl (fun _ h => nomatch h)
  | cons a l ih =>
    rw [List.forall_mem_cons, ← ih]
    rcases strip_cons a l with ⟨hs, ha, h⟩ | ⟨hn, h⟩
    · exact iff_of_true h ⟨ha, hs⟩
    · rw [h]
      exact iff_of_false (List.cons_ne_nil _ _) (fun h' => hn ⟨h'.2, h'.1⟩)

theorem toPoly_strip (l : Poly) : toPoly p (strip l) = toPoly p l := by
  induction l with
  | nil => rfl
  | cons a l ih =>
    rcases strip_cons a l with ⟨hs, ha, h⟩ | ⟨_, h⟩
    · rw [h, ha, toPoly_cons, ← ih, hs]
      simp only [toPoly_nil, Nat.cast_zero, C_0, mul_zero, add_zero]
    · rw [h, toPoly_cons, toPoly_cons, ih]

theorem WF.red {l : Poly} (h : WF p l) : Red p l := h.1

theorem wf_nil : WF p [] := ⟨fun _ h => (nomatch h), fun h => (nomatch h)⟩

theorem wf_strip {l : Poly} (h : Red p l) : WF p (strip l) := by
  induction l with
  | nil => exact wf_nil
  | cons a l ih =>
    obtain ⟨ha, hl⟩ := List.forall_mem_cons.mp h
    rcases strip_cons a l with ⟨_, _, e⟩ | ⟨hn, e⟩
    · rw [e]
      exact wf_nil
    · rw [e]
      refine ⟨List.forall_mem_cons.mpr ⟨ha, (ih hl).1⟩, ?_⟩
      cases hs : strip l with
      | nil => exact fun h0 => hn ⟨hs, (Option.some.inj h0 : a = 0)⟩
      | cons b s => rw [List.getLast?_cons_cons, ← hs]; exact (ih hl).2

theorem wf_of_cons {a : ℕ} {l : Poly} (h : WF p (a :: l)) : WF p l :=
  ⟨(List.forall_mem_cons.mp h.1).2, fun hl => h.2 (by rw [List.getLast?_cons, hl]; rfl)⟩

theorem strip_of_wf {l : Poly} (h : WF p l) : strip l = l := by
  induction l with
  | nil => rfl
  | cons a l ih =>
    rcases strip_cons a l with ⟨hs, ha, _⟩ | ⟨_, e⟩
    · rw [ih (wf_of_cons h)] at hs
      exact absurd (by rw [hs, ha]; rfl) h.2
    · rw [e, ih (wf_of_cons h)]

theorem eq_of_cast_eq {x y : ℕ} (hx : x < p) (hy : y < p) (h : (x : ZMod p) = y) : x = y := by
  rw [ZMod.natCast_eq_natCast_iff', Nat.mod_eq_of_lt hx, Nat.mod_eq_of_lt hy] at h
  exact h

theorem cast_eq_zero_of_lt {x : ℕ} (h : x < p) (h0 : (x : ZMod p) = 0) : x = 0 :=
  eq_of_cast_eq h (Nat.zero_lt_of_lt h) (h0.trans Nat.cast_zero.symm)

theorem getLastD_ne_zero_of_wf {l : Poly} (h : WF p l) (hne : l ≠ []) :
    ((l.getLastD 0 : ℕ) : ZMod p) ≠ 0 := by
  have hx := List.getLast?_eq_some_getLast hne
  rw [List.getLastD_eq_getLast?, hx, Option.getD_some]
  exact fun h0 => h.2 (cast_eq_zero_of_lt (h.1 _ (List.mem_of_getLast? hx)) h0 ▸ hx)

theorem toPoly_eq_zero_iff {l : Poly} (h : WF p l) : toPoly p l = 0 ↔ l = [] := by
  refine ⟨fun h0 => by_contra fun hne => getLastD_ne_zero_of_wf h hne ?_, fun e => by rw [e, toPoly_nil]⟩
  rw [← getD_length_sub_one, ← coeff_toPoly, h0, coeff_zero]

theorem natDegree_toPoly_le (l : Poly) : (toPoly p l).natDegree ≤ l.length - 1 :=
  natDegree_le_iff_coeff_eq_zero.mpr fun N hN => by
    rw [coeff_toPoly, getD_of_le _ _ (Nat.le_of_pred_lt hN), Nat.cast_zero]

theorem natDegree_toPoly {l : Poly} (h : WF p l) : (toPoly p l).natDegree = l.length - 1 := by
  by_cases hne : l = []
  · rw [hne, toPoly_nil, natDegree_zero, List.length_nil]
  · refine le_antisymm (natDegree_toPoly_le l) (le_natDegree_of_ne_zero ?_)
    rw [coeff_toPoly, getD_length_sub_one]
    exact getLastD_ne_zero_of_wf h hne

theorem leadingCoeff_toPoly {l : Poly} (h : WF p l) :
    (toPoly p l).leadingCoeff = ((l.getLastD 0 : ℕ) : ZMod p) := by
  rw [leadingCoeff, natDegree_toPoly h, coeff_toPoly, getD_length_sub_one]

theorem intEmod_cast (hp : 0 < p) (z : ℤ) : (((z % (p : ℤ)).toNat : ℕ) : ZMod p) = (z : ZMod p) := by
  have h : 0 ≤ z % (p : ℤ) := Int.emod_nonneg _ (Int.natCast_ne_zero.mpr hp.ne')
  rw [← Int.cast_natCast, Int.toNat_of_nonneg h, ZMod.intCast_mod]

theorem intEmod_lt (hp : 0 < p) (z : ℤ) : (z % (p : ℤ)).toNat < p :=
  (Int.toNat_lt (Int.emod_nonneg _ (Int.natCast_ne_zero.mpr hp.ne'))).mpr
    (Int.emod_lt_of_pos _ (Int.natCast_pos.mpr hp))

theorem toPoly_map {f : ℕ → ℕ} {c : ZMod p} {l : Poly} (h : ∀ x ∈ l, ((f x : ℕ) : ZMod p) = c * x) :
    toPoly p (l.map f) = C c * toPoly p l := by
  induction l with
  | nil => exact (mul_zero _).symm
  | cons x l ih =>
    simp only [List.map_cons, toPoly_cons, ih (fun y hy => h y (List.mem_cons_of_mem _ hy)),
      h x List.mem_cons_self, C_mul, mul_add, mul_left_comm X]

theorem toPoly_map_mul_left (x : ℕ) (b : Poly) :
    toPoly p (b.map (fun y => (x * y) % p)) = C (x : ZMod p) * toPoly p b :=
  toPoly_map fun y _ => by rw [ZMod.natCast_mod, Nat.cast_mul]

theorem toPoly_map_mul_right (c : ℕ) (b : Poly) :
    toPoly p (b.map (fun y => y * c % p)) = C (c : ZMod p) * toPoly p b :=
  toPoly_map fun y _ => by rw [ZMod.natCast_mod, Nat.cast_mul, mul_comm]

theorem red_map_mod (hp : 0 < p) (f : ℕ → ℕ) (b : Poly) : Red p (b.map (fun y => f y % p)) :=
  List.forall_mem_map.mpr fun _ _ => Nat.mod_lt _ hp

theorem toPoly_addAux (a b : Poly) : toPoly p (addAux p a b) = toPoly p a + toPoly p b := by
  fun_induction addAux p a b with
  | case1 b => exact (zero_add _).symm
  | case2 a => exact (add_zero _).symm
  | case3 x a y b ih =>
    simp only [toPoly_cons, ih, ZMod.natCast_mod, Nat.cast_add, C_add, mul_add]
    exact add_add_add_comm ..

theorem red_addAux (hp : 0 < p) {a b : Poly} (ha : Red p a) (hb : Red p b) : Red p (addAux p a b) := by
  fun_induction addAux p a b with
  | case1 b => exact hb
  | case2 a => exact ha
  | case3 x a y b ih =>
    exact List.forall_mem_cons.mpr ⟨Nat.mod_lt _ hp,
      ih (List.forall_mem_cons.mp ha).2 (List.forall_mem_cons.mp hb).2⟩

theorem addAux_comm (a b : Poly) : addAux p a b = addAux p b a := by
  fun_induction addAux p a b with
  | case1 b => cases b <;> rfl
  | case2 a => rfl
  | case3 x a y b ih => rw [addAux, ih, Nat.add_comm]

theorem addAux_getLast_gt {a b : Poly} (h : b.length < a.length) :
    (addAux p a b).getLast? = a.getLast? := by
  induction b generalizing a with
  | nil => cases a <;> rfl
  | cons y b ih =>
    match a, h with  -- `a` is longer than `y :: b`, so it has two entries
    | x :: x' :: a, h =>
      rw [addAux, List.getLast?_cons, ih (Nat.lt_of_succ_lt_succ h), List.getLast?_cons_cons,
        List.getLast?_cons]
      rfl

theorem add_spec (a b : Poly) : toPoly p (add p a b) = toPoly p a + toPoly p b := by
  fun_cases add p a b with
  | case1 h => rw [toPoly_of_isEmpty h, add_zero]
  | case2 _ h => rw [toPoly_of_isEmpty h, zero_add]
  | case3 => rw [toPoly_strip, toPoly_addAux]
  | case4 => exact toPoly_addAux a b

theorem add_wf (hp : 0 < p) {a b : Poly} (ha : WF p a) (hb : WF p b) : WF p (add p a b) := by
  fun_cases add p a b with
  | case1 => exact ha
  | case2 => exact hb
  | case3 => exact wf_strip (red_addAux hp ha.1 hb.1)
  | case4 _ _ h3 =>
    refine ⟨red_addAux hp ha.1 hb.1, ?_⟩
    rcases Nat.lt_or_gt_of_ne (mt beq_iff_eq.mpr h3) with h | h
    · rw [addAux_comm, addAux_getLast_gt h]; exact hb.2
    · rw [addAux_getLast_gt h]; exact ha.2

theorem negC_cast {x : ℕ} (hx : x < p) : ((negC p x : ℕ) : ZMod p) = -(x : ZMod p) := by
  unfold negC
  split
  · rename_i h; simp only [beq_iff_eq.mp h, Nat.cast_zero, neg_zero]
  · simp only [Nat.cast_sub hx.le, ZMod.natCast_self, zero_sub]

theorem negC_lt {x : ℕ} (hx : x < p) : negC p x < p := by
  unfold negC
  split
  · exact Nat.zero_lt_of_lt hx
  · rename_i h
    exact Nat.sub_lt (Nat.zero_lt_of_lt hx) (Nat.pos_of_ne_zero (mt beq_iff_eq.mpr h))

theorem toPoly_neg {a : Poly} (ha : Red p a) : toPoly p (neg p a) = -toPoly p a :=
  (toPoly_map fun x hx => (negC_cast (ha x hx)).trans (neg_one_mul _).symm).trans
    (by rw [C_neg, C_1, neg_one_mul])

theorem wf_map_of_eq_zero {f : ℕ → ℕ} {a : Poly} (ha : WF p a) (hr : ∀ x ∈ a, f x < p)
    (h0 : ∀ x ∈ a, f x = 0 → x = 0) : WF p (a.map f) := by
  refine ⟨List.forall_mem_map.mpr hr, fun hl => ?_⟩
  rw [List.getLast?_map] at hl
  obtain ⟨x, hx, hfx⟩ := Option.map_eq_some_iff.mp hl
  exact ha.2 (h0 x (List.mem_of_getLast? hx) hfx ▸ hx)

theorem neg_wf {a : Poly} (ha : WF p a) : WF p (neg p a) :=
  wf_map_of_eq_zero ha (fun x hx => negC_lt (ha.1 x hx)) fun x hx h =>
    cast_eq_zero_of_lt (ha.1 x hx) (neg_eq_zero.mp ((negC_cast (ha.1 x hx)).symm.trans (by rw [h, Nat.cast_zero])))

theorem subC_eq {x y : ℕ} (hy : y < p) : subC p x y = (x + negC p y) % p :=
  have hp : 0 < p := Nat.zero_lt_of_lt hy
  eq_of_cast_eq (intEmod_lt hp _) (Nat.mod_lt _ hp)
    (by rw [subC, intEmod_cast hp, Int.cast_sub, Int.cast_natCast, Int.cast_natCast, ZMod.natCast_mod,
      Nat.cast_add, negC_cast hy, sub_eq_add_neg])

theorem subAux_eq_addAux_neg (a : Poly) {b : Poly} (hb : Red p b) :
    subAux p a b = addAux p a (neg p b) := by
  fun_induction subAux p a b with
  | case1 a => cases a <;> rfl
  | case2 b => rfl
  | case3 x a y b ih =>
    rw [subC_eq (hb y List.mem_cons_self), ih fun t ht => hb t (List.mem_cons_of_mem _ ht)]
    rfl

theorem sub_eq_add_of_red (a : Poly) {b : Poly} (hb : Red p b) : sub p a b = add p a (neg p b) := by
  unfold sub add
  rw [subAux_eq_addAux_neg a hb]
  simp only [neg, List.isEmpty_map, List.length_map]

theorem toPoly_sub (a : Poly) {b : Poly} (hb : Red p b) :
    toPoly p (sub p a b) = toPoly p a - toPoly p b := by
  rw [sub_eq_add_of_red a hb, add_spec, toPoly_neg hb, sub_eq_add_neg]

theorem toPoly_mulAux (a b : Poly) : toPoly p (mulAux p a b) = toPoly p a * toPoly p b := by
  fun_induction mulAux p a b with
  | case1 b => exact (zero_mul _).symm
  | case2 x a b ih =>
    simp only [toPoly_addAux, toPoly_map_mul_left, toPoly_cons, ih, Nat.cast_zero, C_0,
      zero_add, add_mul, mul_assoc]

theorem red_mulAux (hp : 0 < p) (a b : Poly) : Red p (mulAux p a b) := by
  fun_induction mulAux p a b with
  | case1 b => exact fun _ h => nomatch h
  | case2 x a b ih => exact red_addAux hp (red_map_mod hp _ b) (List.forall_mem_cons.mpr ⟨hp, ih⟩)

theorem mul_spec (a b : Poly) : toPoly p (mul p a b) = toPoly p a * toPoly p b := by
  fun_cases mul p a b with
  | case1 h => rw [toPoly_of_isEmpty h, zero_mul]
  | case2 _ h => rw [toPoly_of_isEmpty h, mul_zero]
  | case3 => rw [toPoly_strip, toPoly_mulAux]

theorem mul_wf (hp : 0 < p) {a b : Poly} (ha : WF p a) (hb : WF p b) : WF p (mul p a b) := by
  fun_cases mul p a b with
  | case1 => exact ha
  | case2 => exact hb
  | case3 => exact wf_strip (red_mulAux hp a b)

theorem mulAssign_spec (a b : Poly) : toPoly p (mulAssign p a b) = toPoly p a * toPoly p b := by
  unfold mulAssign
  split
  · rename_i h; rw [toPoly_of_isEmpty h, zero_mul]
  · split
    · exact (mul_zero _).symm
    · simp only [toPoly_strip, toPoly_map_mul_right, toPoly_cons, toPoly_nil, mul_zero, add_zero]
      exact mul_comm ..
    · exact mul_spec a b

theorem mulAssign_wf (hp : 0 < p) {a b : Poly} (ha : WF p a) (hb : WF p b) : WF p (mulAssign p a b) := by
  unfold mulAssign
  split
  · exact ha
  · split
    · exact wf_nil
    · exact wf_strip (red_map_mod hp _ a)
    · exact mul_wf hp ha hb

theorem toPoly_sqr (a : Poly) : toPoly p (sqr p a) = toPoly p a * toPoly p a := mul_spec a a

theorem sqr_wf (hp : 0 < p) {a : Poly} (ha : WF p a) : WF p (sqr p a) := mul_wf hp ha ha

theorem scale_spec (a : Poly) (c : ℕ) : toPoly p (scale p a c) = C (c : ZMod p) * toPoly p a := by
  fun_cases scale p a c with
  | case1 h => rw [toPoly_of_isEmpty h, mul_zero]
  | case2 _ h => simp only [beq_iff_eq.mp h, toPoly_nil, Nat.cast_zero, C_0, zero_mul]
  | case3 => rw [toPoly_strip, toPoly_map_mul_right]

theorem red_singleton {t : ℕ} (h : t < p) : Red p [t] := fun _ hy => List.eq_of_mem_singleton hy ▸ h

theorem addConst_zero (a : Poly) : addConst p a 0 = a := rfl

theorem addConst_nil {c : ℤ} (hc : c ≠ 0) : addConst p [] c = strip [(c % (p : ℤ)).toNat] := by
  unfold addConst
  rw [if_neg (mt beq_iff_eq.mp hc)]
  rfl

theorem addConst_cons {c : ℤ} (hc : c ≠ 0) (x : ℕ) (l : Poly) :
    addConst p (x :: l) c =
      if l.isEmpty then strip [(((x : ℤ) + c) % (p : ℤ)).toNat] else (((x : ℤ) + c) % (p : ℤ)).toNat :: l := by
  unfold addConst
  rw [if_neg (mt beq_iff_eq.mp hc)]

theorem addConst_spec (hp : 0 < p) (a : Poly) (c : ℤ) :
    toPoly p (addConst p a c) = toPoly p a + C (c : ZMod p) := by
  by_cases hc : c = 0
  · rw [hc, addConst_zero, Int.cast_zero, C_0, add_zero]
  · cases a with
    | nil =>
      simp only [addConst_nil hc, toPoly_strip, toPoly_cons, intEmod_cast hp, toPoly_nil, mul_zero,
        add_zero, zero_add]
    | cons x l =>
      have e : toPoly p ((((x : ℤ) + c) % (p : ℤ)).toNat :: l) = toPoly p (x :: l) + C (c : ZMod p) := by
        simp only [toPoly_cons, intEmod_cast hp, Int.cast_add, Int.cast_natCast, C_add]
        exact add_right_comm ..
      rw [addConst_cons hc]
      by_cases h : l.isEmpty
      · rw [if_pos h, toPoly_strip, ← List.isEmpty_iff.mp h, e]
      · rw [if_neg h, e]

theorem addConst_wf (hp : 0 < p) {a : Poly} (ha : WF p a) (c : ℤ) : WF p (addConst p a c) := by
  by_cases hc : c = 0
  · rwa [hc, addConst_zero]
  · cases a with
    | nil =>
      rw [addConst_nil hc]
      exact wf_strip (red_singleton (intEmod_lt hp c))
    | cons x l =>
      rw [addConst_cons hc]
      by_cases h : l.isEmpty
      · rw [if_pos h]
        exact wf_strip (red_singleton (intEmod_lt hp _))
      · rw [if_neg h]
        refine ⟨List.forall_mem_cons.mpr ⟨intEmod_lt hp _, (List.forall_mem_cons.mp ha.1).2⟩, ?_⟩
        cases l with
        | nil => exact absurd rfl h
        | cons b l => exact ha.2

theorem toPoly_subConst (hp : 0 < p) (a : Poly) (c : ℤ) :
    toPoly p (subConst p a c) = toPoly p a - C (c : ZMod p) := by
  simp only [subConst, addConst_spec hp, Int.cast_neg, C_neg, sub_eq_add_neg]

theorem toPoly_fromVec (hp : 0 < p) (v : List ℤ) :
    toPoly p (fromVec p v) = (v.map (fun z => (z : ZMod p))).foldr (fun c acc => C c + X * acc) 0 := by
  rw [fromVec, toPoly_strip]
  induction v with
  | nil => rfl
  | cons z v ih =>
    rw [List.map_cons, toPoly_cons, ih, intEmod_cast hp]
    rfl

theorem fromVec_wf (hp : 0 < p) (v : List ℤ) : WF p (fromVec p v) :=
  wf_strip (List.forall_mem_map.mpr fun z _ => intEmod_lt hp z)

theorem toPoly_fromVec_const (hp : 0 < p) (c : ℤ) : toPoly p (fromVec p [c]) = C (c : ZMod p) := by
  rw [fromVec, toPoly_strip, List.map_cons, List.map_nil, toPoly_cons, toPoly_nil, mul_zero, add_zero,
    intEmod_cast hp]

theorem toPoly_fromVec_one (hp : 0 < p) : toPoly p (fromVec p [1]) = 1 := by
  rw [toPoly_fromVec_const hp, Int.cast_one, C_1]

theorem toPoly_X (hp : 1 < p) : toPoly p (fromVec p [0, 1]) = X := by
  have h0 := Nat.zero_lt_of_lt hp
  simp only [fromVec, toPoly_strip, List.map_cons, List.map_nil, toPoly_cons,
    toPoly_nil, intEmod_cast h0, Int.cast_zero, Int.cast_one, C_0, C_1, mul_zero,
    add_zero, zero_add, mul_one]

/-- `one p` and `fromVec p [1]` unfold to the same term -/
theorem toPoly_one (hp : 0 < p) : toPoly p (one p) = 1 := toPoly_fromVec_one hp

theorem wf_one (hp : 0 < p) : WF p (one p) := fromVec_wf hp [1]

theorem eval_spec (a : Poly) (x : ℤ) :
    ((GF.eval p a x : ℤ) : ZMod p) = Polynomial.eval (x : ZMod p) (toPoly p a) := by
  induction a with
  | nil => exact Int.cast_zero.trans eval_zero.symm
  | cons c a ih =>
    have : GF.eval p (c :: a) x = (GF.eval p a x * x + (c : ℤ)).tmod (p : ℤ) := rfl
    -- `z.tmod p = z - p * (z.tdiv p)`, and `p` is zero in `ZMod p`
    simp only [this, Int.tmod_def, Int.cast_sub, ZMod.natCast_self, zero_mul, sub_zero, Int.cast_add,
      Int.cast_mul, ih, Int.cast_natCast, toPoly_cons, eval_add, eval_C, eval_mul, eval_X]
    rw [add_comm, mul_comm]

theorem toPoly_diffAux (i : ℕ) (l : Poly) :
    toPoly p (diffAux p i l) = (i : (ZMod p)[X]) * toPoly p l + X * derivative (toPoly p l) := by
  fun_induction diffAux p i l with
  | case1 i => simp only [toPoly_nil, mul_zero, derivative_zero, add_zero]
  | case2 i x l ih =>
    simp only [toPoly_cons, ih, ZMod.natCast_mod, Nat.cast_mul, C_mul, derivative_add,
      derivative_C, zero_add, derivative_mul, derivative_X, one_mul, Nat.cast_add, Nat.cast_one,
      ← C_eq_natCast]
    ring

theorem red_diffAux (hp : 0 < p) (i : ℕ) (l : Poly) : Red p (diffAux p i l) := by
  fun_induction diffAux p i l with
  | case1 i => exact fun _ h => nomatch h
  | case2 i x l ih => exact List.forall_mem_cons.mpr ⟨Nat.mod_lt _ hp, ih⟩

theorem diff_spec (a : Poly) : toPoly p (diff p a) = derivative (toPoly p a) := by
  unfold diff
  rw [toPoly_strip]
  cases a with
  | nil => exact derivative_zero.symm
  | cons c l =>
    simp only [List.tail_cons, toPoly_diffAux, toPoly_cons, derivative_add, derivative_C, zero_add,
      derivative_mul, derivative_X, Nat.cast_one]

theorem diff_wf (hp : 0 < p) (a : Poly) : WF p (diff p a) := wf_strip (red_diffAux hp _ _)

theorem npowModAux_succ (b m fuel e : ℕ) (h : e ≠ 0) :
    npowModAux b m (fuel + 1) e =
      npowModAux b m fuel (e / 2) * npowModAux b m fuel (e / 2) % m * b ^ (e % 2) % m := by
  rw [npowModAux, if_neg h]
  rcases Nat.mod_two_eq_zero_or_one e with h2 | h2
  · rw [h2, pow_zero, mul_one, Nat.mod_mod]; rfl
  · rw [h2, pow_one]; rfl

theorem npowModAux_eq (b m fuel e : ℕ) (he : e ≤ fuel) : npowModAux b m fuel e = b ^ e % m := by
  induction fuel generalizing e with
  | zero => rw [Nat.le_zero.mp he, npowModAux, pow_zero]
  | succ fuel ih =>
    by_cases h : e = 0
    · rw [h, npowModAux, if_pos rfl, pow_zero]
    · have hle : e / 2 ≤ fuel :=
        Nat.le_of_lt_succ (lt_of_lt_of_le (Nat.div_lt_self (Nat.pos_of_ne_zero h) Nat.one_lt_two) he)
      -- `b ^ e = (b ^ (e / 2)) ^ 2 * b ^ (e % 2)`, read modulo `m`
      rw [npowModAux_succ b m fuel e h, ih _ hle, ← Nat.mul_mod, Nat.mod_mul_mod, ← pow_add, ← two_mul,
        ← pow_add, Nat.div_add_mod]

theorem npowMod_eq (b e m : ℕ) : npowMod b e m = b ^ e % m := npowModAux_eq b m e e le_rfl

theorem invMod_cast [Fact p.Prime] {x : ℕ} (hx : (x : ZMod p) ≠ 0) :
    ((invMod p x : ℕ) : ZMod p) = (x : ZMod p)⁻¹ := by
  rw [invMod, npowMod_eq, ZMod.natCast_mod, Nat.cast_pow]
  refine eq_inv_of_mul_eq_one_left ?_
  rw [← pow_succ, ← Nat.sub_add_comm (Fact.out : p.Prime).two_le]
  exact ZMod.pow_card_sub_one_eq_one hx

theorem invMod_lt (hp : 0 < p) (x : ℕ) : invMod p x < p := by
  rw [invMod, npowMod_eq]
  exact Nat.mod_lt _ hp

theorem length_eq_of_wf {l : Poly} (hw : WF p l) :
    l.length = if toPoly p l = 0 then 0 else (toPoly p l).natDegree + 1 := by
  by_cases hl : l = []
  · rw [hl, toPoly_nil, if_pos rfl, List.length_nil]
  · rw [if_neg (mt (toPoly_eq_zero_iff hw).mp hl), natDegree_toPoly hw,
      Nat.sub_add_cancel (List.length_pos_iff.mpr hl)]

theorem toPoly_injective {a b : Poly} (ha : WF p a) (hb : WF p b) (h : toPoly p a = toPoly p b) : a = b := by
  have hlen : a.length = b.length := by rw [length_eq_of_wf ha, length_eq_of_wf hb, h]
  refine List.ext_getElem hlen fun i h1 h2 =>
    eq_of_cast_eq (ha.1 _ (List.getElem_mem h1)) (hb.1 _ (List.getElem_mem h2)) ?_
  rw [← getD_lt a i h1, ← getD_lt b i h2, ← coeff_toPoly, ← coeff_toPoly, h]

end SymVerif.C23
