/-
C03: the Add side (add.cpp) re-establishes the invariant.
Loop invariant of `Add::dict_add_term`: the dictionary is sorted (duplicate free), every key is a
valid Add key (not a Number, a Mul only with coefficient one) — or the transient key `1` that
`add(a, b)` uses for the numeric part — and every coefficient is a canonical non-zero Number.
-/
import SymVerif.Lemmas.C03Inv
import SymVerif.Lemmas.Basic

namespace SymVerif.Arith

/-- `t` may be a key of an Add dictionary -/
structure AddKeyOK (t : Expr) : Prop where
  inv : inv t = true
  notNum : t.isNum = false
  mulOne : ∀ c fs, t = .mul c fs → numIsOne c = true

/-- an entry of an Add dictionary under construction: the key may still be the transient `1` -/
structure AddEntOK (p : Expr × Expr) : Prop where
  key : p.1 = one ∨ AddKeyOK p.1
  num : NumOK p.2
  nz : numIsZero p.2 = false

structure AddDictOK (d : Dict) : Prop where
  sorted : Sorted d
  ent : ∀ p ∈ d, AddEntOK p

/-- the transient key `1` of `add(a, b)` is gone -/
def NoOneKey (d : Dict) : Prop := ∀ p ∈ d, p.1 ≠ one

theorem AddDictOK.nil : AddDictOK [] := ⟨by simp [Sorted], by simp⟩

theorem AddDictOK.erase {d : Dict} {t : Expr} (hd : AddDictOK d) : AddDictOK (derase d t) :=
  ⟨sorted_derase hd.sorted, fun p hp => hd.ent p (mem_derase hp)⟩

theorem addEntryCanon_iff (p : Expr × Expr) : addEntryCanon p = true ↔
    p.1.isNum = false ∧ p.2.isNum = true ∧ numIsZero p.2 = false ∧ ∀ c fs, p.1 = .mul c fs → numIsOne c = true := by
  unfold addEntryCanon
  cases hp : p.1 <;> simp [and_assoc]

theorem addEntryCanon_of {p : Expr × Expr} (h : AddEntOK p) (h1 : p.1 ≠ one) :
    addEntryCanon p = true := by
  rcases h.key with e | hk
  · exact absurd e h1
  · exact (addEntryCanon_iff p).mpr ⟨hk.notNum, h.num.1, h.nz, hk.mulOne⟩

theorem inv_add_dict {c : Expr} {ts : Dict} (h : inv (.add c ts) = true) :
    NumOK c ∧ AddDictOK ts ∧ NoOneKey ts := by
  obtain ⟨h1, h2, h3, h4⟩ := inv_add_iff.mp h
  unfold addCanonTop at h3
  simp only [Bool.and_eq_true, List.all_eq_true] at h3
  obtain ⟨⟨⟨hn, _⟩, _⟩, hall⟩ := h3
  refine ⟨⟨hn, inv_canon h1⟩, ⟨h4, ?_⟩, ?_⟩
  · intro p hp
    obtain ⟨a1, a2, a3, a4⟩ := (addEntryCanon_iff p).mp (hall p hp)
    exact ⟨Or.inr ⟨(h2 p hp).1, a1, a4⟩, ⟨a2, inv_canon (h2 p hp).2⟩, a3⟩
  · intro p hp e
    have a1 := ((addEntryCanon_iff p).mp (hall p hp)).1
    rw [e] at a1
    cases a1

theorem addDict_entries {d : Dict} (hd : AddDictOK d) (h1 : NoOneKey d) :
    ∀ p ∈ d, AddKeyOK p.1 ∧ NumOK p.2 := by
  intro p hp
  have he := hd.ent p hp
  rcases he.key with e | hk
  · exact absurd e (h1 p hp)
  · exact ⟨hk, he.num⟩

theorem inv_add_of {coef : Expr} {d : Dict} (hc : NumOK coef) (hd : AddDictOK d) (h1 : NoOneKey d)
    (hne : d ≠ []) (hl : d.length ≠ 1 ∨ numIsZero coef = false) : inv (.add coef d) = true := by
  refine inv_add_iff.mpr ⟨hc.inv, fun p hp => ?_, ?_, hd.sorted⟩
  · obtain ⟨hk, hn⟩ := addDict_entries hd h1 p hp
    exact ⟨hk.inv, hn.inv⟩
  · unfold addCanonTop
    simp only [Bool.and_eq_true, List.all_eq_true]
    refine ⟨⟨⟨hc.1, ?_⟩, ?_⟩, fun p hp => addEntryCanon_of (hd.ent p hp) (h1 p hp)⟩
    · simp [hne]
    · rcases hl with h | h <;> simp [h]

theorem addFromDict_inv {coef r : Expr} {d : Dict} (hc : NumOK coef) (hd : AddDictOK d)
    (h1 : NoOneKey d) (h : addFromDict coef d = .ok r) : inv r = true := by
  unfold addFromDict at h
  split at h
  · exact Except.ok.inj h ▸ hc.inv   -- no entry
  · rename_i k v   -- one entry `(k, v)`
    have he := hd.ent (k, v) (List.mem_singleton.mpr rfl)
    have hk := (addDict_entries hd h1 (k, v) (List.mem_singleton.mpr rfl)).1
    split at h
    · split at h
      · cases h   -- `v` not a Number: badCast
      · split at h
        · exact Except.ok.inj h ▸ he.num.inv   -- `v` is 0
        · split at h
          · exact Except.ok.inj h ▸ hk.inv   -- `v` is 1
          · rename_i hv1
            have hnotone : numIsOne v = false := Bool.eq_false_iff.mpr fun hone =>
              hv1 (isIntLit_iff.mpr (numIsOne_canon he.num.2 hone))
            have single : ∀ {b e}, inv b = true → inv e = true → factorOK b e = true →
                inv (.mul v [(b, e)]) = true := fun hb hee hf =>
              inv_mul_of he.num he.nz (.single hb hee hf) (List.cons_ne_nil _ _) (.inr hnotone)
            split at h
            · exact Except.ok.inj h ▸ mulFromDict_inv he.num (inv_mul_dict hk.inv)   -- `k` a Mul
            · obtain ⟨hb, hee, _, hf⟩ := inv_pow_iff.mp hk.inv   -- `k` a Pow
              exact Except.ok.inj h ▸ single hb hee hf
            · rename_i hnm hnp   -- anything else
              exact Except.ok.inj h ▸ single hk.inv numOK_one.inv
                (factorOK_atom hk.notNum (isMul_eq_false hnm) (isPow_eq_false hnp))
    · rename_i hz   -- one entry, `coef ≠ 0`
      exact Except.ok.inj h ▸ inv_add_of hc hd h1 (List.cons_ne_nil _ _)
        (.inr (Bool.eq_false_iff.mpr hz))
  · rename_i hne1 hne2   -- two or more entries
    exact Except.ok.inj h ▸ inv_add_of hc hd h1 hne1 (.inl (length_ne_one_of_not_single hne2))

theorem AddKeyOK.ne_one {t : Expr} (h : AddKeyOK t) : t ≠ one := by
  intro e; have := h.notNum; simp [e, one, Expr.isNum] at this

theorem addDictAddTerm_ok {d d' : Dict} {coef t : Expr} (hd : AddDictOK d) (hc : NumOK coef)
    (ht : t = one ∨ AddKeyOK t) (h : addDictAddTerm d coef t = .ok d') :
    AddDictOK d' ∧ (NoOneKey d → t ≠ one → NoOneKey d') := by
  unfold addDictAddTerm at h
  split at h
  · obtain rfl := Except.ok.inj h
    split
    · rename_i hz
      exact ⟨⟨sorted_dinsert hd.sorted, forall_dinsert hd.ent ⟨ht, hc, by simpa using hz⟩⟩,
        fun h1 hne => forall_dinsert h1 hne⟩
    · exact ⟨hd, fun h1 _ => h1⟩
  · rename_i v hf
    obtain ⟨v', hv, h⟩ := bind_eq_ok h
    obtain rfl := Except.ok.inj h
    split
    · exact ⟨hd.erase,
        fun h1 _ p hp => h1 p (mem_derase hp)⟩
    · rename_i hz
      exact ⟨⟨sorted_dset hd.sorted, forall_dset hd.ent
          ⟨ht, numAdd_ok (hd.ent _ (dfind_some hf)).num.2 hc.2 hv, by simpa using hz⟩⟩,
        fun h1 hne => forall_dset h1 hne⟩

theorem addDictAddTerm_key {d d' : Dict} {coef t : Expr} (hd : AddDictOK d) (h1 : NoOneKey d)
    (hc : NumOK coef) (hk : AddKeyOK t) (h : addDictAddTerm d coef t = .ok d') :
    AddDictOK d' ∧ NoOneKey d' :=
  have hd' := addDictAddTerm_ok hd hc (.inr hk) h
  ⟨hd'.1, hd'.2 h1 hk.ne_one⟩

theorem addKeyOK_mulFromDict_one {fs : Dict} (hd : MulDictOK fs) (hne : fs ≠ []) :
    AddKeyOK (mulFromDict one fs) := by
  have hi := mulFromDict_inv numOK_one hd
  rcases mulFromDict_cases_nz (c := one) rfl hne with ⟨b, rfl, e⟩ | ⟨b, x, -, -, e⟩ | ⟨e, -⟩ <;> rw [e] at hi ⊢
  · obtain ⟨h1, h2⟩ := factorOK_one (hd.fac _ (List.mem_singleton.mpr rfl))
    exact ⟨hi, h1, fun c fs' e => by rw [e] at h2; cases h2⟩
  · exact ⟨hi, rfl, fun _ _ e => by cases e⟩
  · exact ⟨hi, rfl, fun _ _ e => by cases e; rfl⟩

theorem asCoefTerm_ok {self c t : Expr} (hs : inv self = true) (h : asCoefTerm self = .ok (c, t)) :
    NumOK c ∧ ((self.isNum = true ∧ t = one ∧ c = self)
      ∨ (self.isNum = false ∧ AddKeyOK t ∧ numIsZero c = false)) := by
  unfold asCoefTerm at h
  split at h
  · rename_i mc fs
    obtain ⟨hmc, hnz, hne⟩ := inv_mul_top hs
    split at h
    · cases h
      exact ⟨hmc, .inr ⟨rfl, addKeyOK_mulFromDict_one (inv_mul_dict hs) hne, hnz⟩⟩
    · rename_i h1
      cases h
      obtain rfl := isIntLit_iff.mp (by simpa using h1)
      refine ⟨numOK_one, .inr ⟨rfl, ⟨hs, rfl, ?_⟩, rfl⟩⟩
      intro c' fs' e
      cases e; rfl
  · cases h
  · rename_i hnm hna
    split at h
    · rename_i hn
      cases h
      exact ⟨⟨hn, inv_canon hs⟩, .inl ⟨hn, rfl, rfl⟩⟩
    · rename_i hn
      cases h
      have hn : self.isNum = false := Bool.eq_false_iff.mpr hn
      exact ⟨numOK_one, .inr ⟨hn, ⟨hs, hn, fun c' fs' e => absurd e (hnm c' fs')⟩, rfl⟩⟩

theorem asCoefTerm_nonNum {self c t : Expr} (hs : inv self = true) (hn : ¬self.isNum = true)
    (h : asCoefTerm self = .ok (c, t)) : NumOK c ∧ AddKeyOK t := by
  obtain ⟨hc, ⟨hnum, -, -⟩ | ⟨-, hk, -⟩⟩ := asCoefTerm_ok hs h
  · exact absurd hnum hn
  · exact ⟨hc, hk⟩

theorem asCoefTerm_key {a c t : Expr} (ha : inv a = true) (h : asCoefTerm a = .ok (c, t)) :
    NumOK c ∧ (t = one ∨ AddKeyOK t) := by
  obtain ⟨hc, ⟨_, e, _⟩ | ⟨_, hk, _⟩⟩ := asCoefTerm_ok ha h
  · exact ⟨hc, .inl e⟩
  · exact ⟨hc, .inr hk⟩

theorem addMergeLoop_ok : ∀ {l d d' : Dict}, AddDictOK d → NoOneKey d →
    (∀ p ∈ l, AddKeyOK p.1 ∧ NumOK p.2) → addMergeLoop d l = .ok d' → AddDictOK d' ∧ NoOneKey d'
  | [], d, d', hd, h1, _, h => by
    simp [addMergeLoop] at h; subst h; exact ⟨hd, h1⟩
  | (k, v) :: r, d, d', hd, h1, hl, h => by
    unfold addMergeLoop at h
    obtain ⟨d1, hs, h⟩ := bind_eq_ok h
    have hk := hl (k, v) (List.mem_cons_self ..)
    obtain ⟨hd1, h11⟩ := addDictAddTerm_key hd h1 hk.2 hk.1 hs
    exact addMergeLoop_ok hd1 h11 (fun p hp => hl p (List.mem_cons_of_mem _ hp)) h

theorem addOntoAdd_inv {coef b r : Expr} {d : Dict} (hc : NumOK coef) (hd : AddDictOK d)
    (h1 : NoOneKey d) (hb : inv b = true) (h : addOntoAdd coef d b = .ok r) : inv r = true := by
  unfold addOntoAdd at h
  split at h
  · rename_i hbn
    dsimp only at h
    split at h
    · obtain ⟨c', hs, h⟩ := bind_eq_ok h
      exact addFromDict_inv (numAdd_ok hc.2 (inv_canon hb) hs) hd h1 h
    · exact addFromDict_inv hc hd h1 h
  · rename_i hbn
    obtain ⟨⟨c2, t⟩, hs, h⟩ := bind_eq_ok h
    obtain ⟨d', hs2, h⟩ := bind_eq_ok h
    obtain ⟨hc2, hk⟩ := asCoefTerm_nonNum hb hbn hs
    obtain ⟨hd', h1'⟩ := addDictAddTerm_key hd h1 hc2 hk hs2
    exact addFromDict_inv hc hd' h1' h

theorem addCore_inv {a b r : Expr} (ha : inv a = true) (hb : inv b = true)
    (h : addCore a b = .ok r) : inv r = true := by
  unfold addCore at h
  split at h
  · rename_i ac ad bc bd
    obtain ⟨hac, had, ha1⟩ := inv_add_dict ha
    obtain ⟨hbc, hbd, hb1⟩ := inv_add_dict hb
    obtain ⟨d, hs, h⟩ := bind_eq_ok h
    obtain ⟨c, hs2, h⟩ := bind_eq_ok h
    obtain ⟨hd, hd1⟩ := addMergeLoop_ok had ha1 (addDict_entries hbd hb1) hs
    exact addFromDict_inv (numAdd_ok hac.2 hbc.2 hs2) hd hd1 h
  · obtain ⟨hac, had, ha1⟩ := inv_add_dict ha
    exact addOntoAdd_inv hac had ha1 hb h
  · obtain ⟨hbc, hbd, hb1⟩ := inv_add_dict hb
    exact addOntoAdd_inv hbc hbd hb1 ha h
  · obtain ⟨⟨c1, t1⟩, hs1, h⟩ := bind_eq_ok h
    obtain ⟨d1, hs2, h⟩ := bind_eq_ok h
    obtain ⟨⟨c2, t2⟩, hs3, h⟩ := bind_eq_ok h
    obtain ⟨d2, hs4, h⟩ := bind_eq_ok h
    obtain ⟨hc1, ht1⟩ := asCoefTerm_key ha hs1
    obtain ⟨hc2, ht2⟩ := asCoefTerm_key hb hs3
    have hd2 := (addDictAddTerm_ok (addDictAddTerm_ok AddDictOK.nil hc1 ht1 hs2).1 hc2 ht2 hs4).1
    split at h
    · rename_i hf
      exact addFromDict_inv numOK_zero hd2 (dfind_none hf) h
    · rename_i v hf
      exact addFromDict_inv (hd2.ent _ (dfind_some hf)).num
        hd2.erase
        (not_mem_derase hd2.sorted) h

/-- `Add::coef_dict_add_term` with `c = 1` (the only use, in `add(vec_basic)`) -/
theorem coefDictAddTerm_ok {coef coef' term : Expr} {d d' : Dict} (hc : NumOK coef)
    (hd : AddDictOK d) (h1 : NoOneKey d) (ht : inv term = true)
    (h : coefDictAddTerm coef d one term = .ok (coef', d')) :
    NumOK coef' ∧ AddDictOK d' ∧ NoOneKey d' := by
  unfold coefDictAddTerm at h
  split at h
  · rename_i hn
    obtain ⟨m, hs, h⟩ := bind_eq_ok h
    obtain ⟨c2, hs2, h⟩ := bind_eq_ok h
    cases h
    exact ⟨numAdd_ok hc.2 (numMul_ok numOK_one.2 (inv_canon ht) hs).2 hs2, hd, h1⟩
  · rename_i hn
    split at h
    · rename_i tc td
      obtain ⟨htc, htd, ht1⟩ := inv_add_dict ht
      rw [if_pos (show numIsOne one = true from rfl)] at h
      obtain ⟨d1, hs, h⟩ := bind_eq_ok h
      obtain ⟨c2, hs2, h⟩ := bind_eq_ok h
      cases h
      obtain ⟨hd1, hd11⟩ := addMergeLoop_ok hd h1 (addDict_entries htd ht1) hs
      exact ⟨numAdd_ok hc.2 htc.2 hs2, hd1, hd11⟩
    · obtain ⟨⟨c2, t⟩, hs, h⟩ := bind_eq_ok h
      obtain ⟨m, hs2, h⟩ := bind_eq_ok h
      obtain ⟨d1, hs3, h⟩ := bind_eq_ok h
      cases h
      obtain ⟨hc2, hk⟩ := asCoefTerm_nonNum ht hn hs
      exact ⟨hc, addDictAddTerm_key hd h1 (numMul_ok numOK_one.2 hc2.2 hs2) hk hs3⟩

theorem addNLoop_ok : ∀ {l : List Expr} {coef coef' : Expr} {d d' : Dict}, NumOK coef →
    AddDictOK d → NoOneKey d → (∀ a ∈ l, inv a = true) →
    addNLoop coef d l = .ok (coef', d') → NumOK coef' ∧ AddDictOK d' ∧ NoOneKey d'
  | [], coef, coef', d, d', hc, hd, h1, _, h => by
    cases h
    exact ⟨hc, hd, h1⟩
  | a :: r, coef, coef', d, d', hc, hd, h1, hl, h => by
    unfold addNLoop at h
    obtain ⟨⟨c1, d1⟩, hs, h⟩ := bind_eq_ok h
    obtain ⟨hc1, hd1, hd11⟩ := coefDictAddTerm_ok hc hd h1 (hl a (List.mem_cons_self ..)) hs
    exact addNLoop_ok hc1 hd1 hd11 (fun x hx => hl x (List.mem_cons_of_mem _ hx)) h

end SymVerif.Arith
