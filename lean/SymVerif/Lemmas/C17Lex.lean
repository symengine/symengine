/-
Tokenizer round trip for `Model/Parser.lean`: the text of a token, followed by a byte that cannot extend it, is
read back as that token (`lexTok_text`); a rendered token sequence with arbitrary whitespace between the tokens is
read back as the sequence (`lexAll_render`).  Both, and the bounds proof of `Props/C18.lean`, read the scanning loop
through `scanWhile_eq` (it is `takeWhile`/`dropWhile`).  Core Lean only.
-/
import SymVerif.Model.Parser

namespace SymVerif
namespace Parser

theorem alpha_not_dig {c : UInt8} (h : isAlpha c = true) : isDig c = false := by
  simp only [isAlpha, Bool.or_eq_true, Bool.and_eq_true, decide_eq_true_eq, beq_iff_eq] at h
  simp only [isDig, Bool.and_eq_false_iff, decide_eq_false_iff_not]
  simp only [UInt8.le_iff_toNat_le, ← UInt8.toNat_inj] at h ⊢
  simp at h ⊢
  omega

theorem alpha_ne {c : UInt8} (h : isAlpha c = true) : c ≠ 0 ∧ c ≠ 46 := by
  simp only [isAlpha, Bool.or_eq_true, Bool.and_eq_true, decide_eq_true_eq, beq_iff_eq] at h
  simp only [UInt8.le_iff_toNat_le, ← UInt8.toNat_inj] at h
  constructor <;> (intro hc; subst hc; simp at h)

/-- what the clauses of `Follow` ask of the next byte, for a whitespace byte -/
theorem ws_props {c : UInt8} (h : isWs c = true) :
    isIdCont c = false ∧ isDig c = false ∧ isAlpha c = false ∧ c ≠ 46 ∧ c ≠ 42 ∧ c ≠ 61 := by
  simp only [isWs, Bool.or_eq_true, beq_iff_eq] at h
  rcases h with (((h | h) | h) | h) | h <;> subst h <;> decide

theorem not_ws_of_alpha {c : UInt8} (hc : isAlpha c = true) : isWs c = false := by
  cases hw : isWs c
  · rfl
  · rw [(ws_props hw).2.2.1] at hc; cases hc

theorem not_ws_of_numHead {c : UInt8} (hc : (isDig c || c == 46) = true) : isWs c = false := by
  cases hw : isWs c
  · rfl
  · obtain ⟨_, h2, _, h4, _⟩ := ws_props hw
    simp [h2, h4] at hc

/-- the scanning loop is `takeWhile`/`dropWhile` with a bounds check: it needs a byte to stop at -/
theorem scanWhile_eq (p : UInt8 → Bool) : ∀ cur : Bytes,
    scanWhile p cur = if cur.dropWhile p = [] then .error .oob else .ok (cur.takeWhile p, cur.dropWhile p)
  | [] => rfl
  | c :: r => by
    unfold scanWhile
    rw [scanWhile_eq p r]
    by_cases hc : p c = true
    · rw [if_pos hc, List.takeWhile_cons_of_pos hc, List.dropWhile_cons_of_pos hc]
      by_cases hd : List.dropWhile p r = []
      · rw [if_pos hd, if_pos hd]
      · rw [if_neg hd, if_neg hd]
    · rw [if_neg hc, List.takeWhile_cons_of_neg hc, List.dropWhile_cons_of_neg hc, if_neg (List.cons_ne_nil _ _)]

theorem scanWhile_append (p : UInt8 → Bool) (xs : Bytes) (c : UInt8) (rest : Bytes)
    (hx : ∀ x ∈ xs, p x = true) (hc : p c = false) : scanWhile p (xs ++ c :: rest) = .ok (xs, c :: rest) := by
  have hc' : ¬ p c = true := by rw [hc]; exact Bool.false_ne_true
  rw [scanWhile_eq, List.dropWhile_append_of_pos hx, List.takeWhile_append_of_pos hx,
    List.dropWhile_cons_of_neg hc', List.takeWhile_cons_of_neg hc', if_neg (List.cons_ne_nil _ _), List.append_nil]

theorem takeWhile_all (p : UInt8 → Bool) : ∀ (l : Bytes), (∀ c ∈ l, p c = true) → l.takeWhile p = l
  | [], _ => rfl
  | a :: t, h => by
    simp only [List.takeWhile, h a (by simp)]
    rw [takeWhile_all p t (fun c hc => h c (by simp [hc]))]

-- bytes, here and below: 0 the terminator, 33 `!`, 42 `*`, 43 `+`, 45 `-`, 46 `.`, 60 `<`, 61 `=`, 62 `>`, 69 `E`, 101 `e`
def tokText : Tok → Bytes
  | .eof => [0]
  | .op c => [c]
  | .pow => [42, 42]
  | .le => [60, 61]
  | .ge => [62, 61]
  | .ne => [33, 61]
  | .eq => [61, 61]
  | .pwise => pwiseText
  | .ident s => s
  | .num s => s
  | .imul s => s

def AllDig (l : Bytes) : Prop := ∀ x ∈ l, isDig x = true

/-- `([eE][-+]?dig+)?` -/
def IsExp (ex : Bytes) : Prop :=
  ex = [] ∨ ∃ e ds, (e = 101 ∨ e = 69) ∧ ds ≠ [] ∧ AllDig ds ∧
    (ex = e :: ds ∨ ∃ sg, (sg = 43 ∨ sg = 45) ∧ ex = e :: sg :: ds)

/-- the texts of the `numeric` rule -/
inductive IsNumeral : Bytes → Prop
  | int (a ex : Bytes) : a ≠ [] → AllDig a → IsExp ex → IsNumeral (a ++ ex)
  | frac (a b ex : Bytes) : AllDig a → AllDig b → b ≠ [] → IsExp ex → IsNumeral (a ++ 46 :: b ++ ex)
  | dot (a : Bytes) : a ≠ [] → AllDig a → IsNumeral (a ++ [46])

/-- `char (char | dig)*` -/
def IsIdText (s : Bytes) : Prop := ∃ c t, s = c :: t ∧ isAlpha c = true ∧ ∀ x ∈ t, isIdCont x = true

theorem lexExp_text {ex : Bytes} (hex : IsExp ex) (h : UInt8) (rest : Bytes) (hd : isDig h = false)
    (he : h ≠ 101 ∧ h ≠ 69) : lexExp (ex ++ h :: rest) = .ok (ex, h :: rest) := by
  rcases hex with rfl | ⟨e, ds, hE, hne, hds, hx⟩
  · obtain ⟨h1, h2⟩ := he
    simp only [List.nil_append]
    unfold lexExp
    have : (h == 101 || h == 69) = false := by simp [h1, h2]
    simp [this]
  · have heE : (e == 101 || e == 69) = true := by simpa using hE
    obtain ⟨d0, ds', rfl⟩ := List.exists_cons_of_ne_nil hne
    have hd0 : isDig d0 = true := hds d0 (by simp)
    have hsc := scanWhile_append isDig (d0 :: ds') h rest hds hd
    simp only [List.cons_append] at hsc
    rcases hx with rfl | ⟨sg, hsg, rfl⟩
    · -- no sign: the first exponent digit is not a sign
      have hns : (d0 == 43 || d0 == 45) = false := by
        cases h43 : (d0 == 43 || d0 == 45)
        · rfl
        · simp only [Bool.or_eq_true, beq_iff_eq] at h43
          rcases h43 with rfl | rfl <;> revert hd0 <;> decide
      simp only [List.cons_append]
      unfold lexExp
      simp only [heE, if_true, hns, Bool.false_eq_true, if_false]
      rw [hsc]
      simp
    · have hs : (sg == 43 || sg == 45) = true := by simpa using hsg
      simp only [List.cons_append]
      unfold lexExp
      simp only [heE, if_true, hs]
      rw [hsc]
      simp

theorem lexNumTail_num (text : Bytes) (h : UInt8) (rest : Bytes) (ha : isAlpha h = false) :
    lexNumTail text (h :: rest) = .ok (.num text, h :: rest) := by
  unfold lexNumTail
  simp [ha]

theorem lexNumTail_imul (text id : Bytes) (hid : IsIdText id) (h : UInt8) (rest : Bytes)
    (hh : isIdCont h = false) :
    lexNumTail text (id ++ h :: rest) = .ok (.imul (text ++ id), h :: rest) := by
  obtain ⟨c, t, rfl, hc, ht⟩ := hid
  have hall : ∀ x ∈ c :: t, isIdCont x = true :=
    List.forall_mem_cons.mpr ⟨by simp [isIdCont, hc], ht⟩
  have := scanWhile_append isIdCont (c :: t) h rest hall hh
  simp only [List.cons_append] at this ⊢
  unfold lexNumTail
  simp only [hc, if_true, this]

/-- the head of `ex ++ h :: T` is where the digit scan of `lexNumber` stops -/
theorem exp_head {ex : Bytes} (hex : IsExp ex) (h : UInt8) (T : Bytes) (hd : isDig h = false) (h46 : h ≠ 46) :
    ∃ d L, ex ++ h :: T = d :: L ∧ isDig d = false ∧ d ≠ 46 := by
  rcases hex with rfl | ⟨e, ds, hE, _, _, hx⟩
  · exact ⟨h, T, rfl, hd, h46⟩
  · have : isDig e = false ∧ e ≠ 46 := by rcases hE with rfl | rfl <;> decide
    rcases hx with rfl | ⟨sg, _, rfl⟩
    · exact ⟨e, _, rfl, this.1, this.2⟩
    · exact ⟨e, _, rfl, this.1, this.2⟩

/-- `lexNumber` on a numeral followed by a tail whose first byte cannot extend the numeral -/
theorem lexNumber_text {x : Bytes} (hx : IsNumeral x) (h : UInt8) (T : Bytes)
    (hd : isDig h = false) (h46 : h ≠ 46) (he : h ≠ 101 ∧ h ≠ 69) :
    lexNumber (x ++ h :: T) = lexNumTail x (h :: T) := by
  cases hx with
  | int a ex hne ha hex =>
    obtain ⟨d, L, hL, hdd, hd46⟩ := exp_head hex h T hd h46
    have hs : scanWhile isDig (a ++ ex ++ h :: T) = .ok (a, ex ++ h :: T) := by
      rw [List.append_assoc, hL]
      exact scanWhile_append isDig a d L ha hdd
    unfold lexNumber
    rw [hs]
    simp only
    -- `hL` only shows the head of the rest to the `match` of `lexNumber`; it is undone so that `lexExp` gets the text
    rw [hL]
    simp only
    have : (d == 46) = false := by simp [hd46]
    rw [← hL]
    simp only [this, Bool.false_eq_true, if_false]
    rw [lexExp_text hex h T hd he]
  | frac a b ex ha hb hbne hex =>
    obtain ⟨d, L, hL, hdd, hd46⟩ := exp_head hex h T hd h46
    have hs : scanWhile isDig (a ++ 46 :: b ++ ex ++ h :: T) = .ok (a, 46 :: (b ++ (ex ++ h :: T))) := by
      have : a ++ 46 :: b ++ ex ++ h :: T = a ++ 46 :: (b ++ (ex ++ h :: T)) := by simp
      rw [this]
      exact scanWhile_append isDig a 46 _ ha (by decide)
    have hs2 : scanWhile isDig (b ++ (ex ++ h :: T)) = .ok (b, ex ++ h :: T) := by
      rw [hL]; exact scanWhile_append isDig b d L hb hdd
    unfold lexNumber
    rw [hs]
    simp only [beq_self_eq_true, if_true, hs2]
    have hbe : b.isEmpty = false := by cases b <;> simp_all
    simp only [hbe, Bool.false_eq_true, if_false]
    rw [lexExp_text hex h T hd he]
  | dot a hne ha =>
    have hs : scanWhile isDig (a ++ [46] ++ h :: T) = .ok (a, 46 :: h :: T) := by
      have : a ++ [46] ++ h :: T = a ++ 46 :: (h :: T) := by simp
      rw [this]
      exact scanWhile_append isDig a 46 _ ha (by decide)
    have hs2 : scanWhile isDig (h :: T) = .ok ([], h :: T) := by
      exact scanWhile_append isDig [] h T (fun _ h => nomatch h) hd
    unfold lexNumber
    rw [hs]
    simp only [beq_self_eq_true, if_true, hs2, List.isEmpty_nil]
    have hae : a.isEmpty = false := by cases a <;> simp_all
    simp only [hae, Bool.false_eq_true, if_false]

theorem numeral_head {x : Bytes} (hx : IsNumeral x) :
    ∃ c r, x = c :: r ∧ (isDig c || c == 46) = true := by
  have dig : ∀ (a : Bytes) (tl : Bytes), a ≠ [] → AllDig a →
      ∃ c r, a ++ tl = c :: r ∧ (isDig c || c == 46) = true := by
    intro a tl hne ha
    obtain ⟨c, t, rfl⟩ := List.exists_cons_of_ne_nil hne
    have hc := ha c (by simp)
    exact ⟨c, t ++ tl, rfl, by simp [hc]⟩
  cases hx with
  | int a ex hne ha _ => exact dig a ex hne ha
  | frac a b ex ha _ _ _ =>
    cases a with
    | nil => exact ⟨46, _, rfl, by decide⟩
    | cons c t =>
      have := dig (c :: t) (46 :: b ++ ex) (by simp) ha
      simpa using this
  | dot a hne ha => exact dig a [46] hne ha

/-- tokens a printed form may contain, with well-formed texts.  An implicit-multiplication token whose identifier
starts with `e`/`E` is left out: the model reads `2ex` as it should (`lexExp` backtracks), but `lexNumber_text` is
proved only for a following byte other than `e`/`E`. -/
def ValidTok : Tok → Prop
  | .ident s => IsIdText s ∧ s ≠ pwiseText
  | .num s => IsNumeral s
  | .imul s => ∃ n id, IsNumeral n ∧ IsIdText id ∧ (∀ c t, id = c :: t → c ≠ 101 ∧ c ≠ 69) ∧ s = n ++ id
  | .op c => isOp1 c = true ∨ c = 42 ∨ c = 60 ∨ c = 62
  | .eof => False
  | .pwise => False
  | _ => True

/-- the byte after the token text does not extend the token (after a numeral a letter would: the longer match is
IMPLICIT_MUL; after `*`, `<`, `>` the second byte of `**`, `<=`, `>=` would; a two-byte token is the longest match
already) -/
def Follow : Tok → UInt8 → Prop
  | .ident _, h => isIdCont h = false
  | .imul _, h => isIdCont h = false
  | .num _, h => isDig h = false ∧ h ≠ 46 ∧ isAlpha h = false
  | .op c, h => (c = 42 → h ≠ 42) ∧ ((c = 60 ∨ c = 62) → h ≠ 61)
  | _, _ => True

theorem idCont_of_alpha {c : UInt8} (h : isAlpha c = true) : isIdCont c = true := by simp [isIdCont, h]

theorem not_alpha_of_not_idCont {c : UInt8} (h : isIdCont c = false) : isAlpha c = false ∧ isDig c = false := by
  simp only [isIdCont, Bool.or_eq_false_iff] at h; exact h

theorem lexTok_numHead {c : UInt8} {r : Bytes} (hc : (isDig c || c == 46) = true) :
    lexTok (c :: r) = lexNumber (c :: r) := by
  have h0 : (c == 0) = false := by
    cases h : c == 0
    · rfl
    · have := eq_of_beq h; subst this; revert hc; decide
  unfold lexTok
  simp only [h0, Bool.false_eq_true, if_false, hc, if_true]

/-- `*`, `<`, `>` followed by a byte that does not make the two-byte token -/
theorem lexTok_op_short {c k h : UInt8} (hck : c = 42 ∧ k = 42 ∨ (c = 60 ∨ c = 62) ∧ k = 61) (hh : h ≠ k)
    (rest : Bytes) : lexTok (c :: h :: rest) = .ok (.op c, h :: rest) := by
  have : (h == k) = false := by simp [hh]
  rcases hck with ⟨rfl, rfl⟩ | ⟨rfl | rfl, rfl⟩ <;> (unfold lexTok; simp [isDig, isAlpha, this])

theorem lexTok_text {t : Tok} (hv : ValidTok t) (h : UInt8) (rest : Bytes) (hf : Follow t h) :
    lexTok (tokText t ++ h :: rest) = .ok (t, h :: rest) := by
  cases t with
  | eof => exact absurd hv id
  | pwise => exact absurd hv id
  | ident s =>
    obtain ⟨⟨c, tl, rfl, hc, htl⟩, hne⟩ := hv
    have hs := scanWhile_append isIdCont tl h rest htl hf
    simp only [tokText, List.cons_append]
    unfold lexTok
    have h0 : (c == 0) = false := by simp [(alpha_ne hc).1]
    have hnum : (isDig c || c == 46) = false := by simp [alpha_not_dig hc, (alpha_ne hc).2]
    simp only [h0, Bool.false_eq_true, if_false, hnum, hc, if_true, hs, if_neg hne]
  | num s =>
    obtain ⟨hd, h46, ha⟩ := hf
    obtain ⟨c, r, rfl, hc⟩ := numeral_head hv
    have he : h ≠ 101 ∧ h ≠ 69 := by
      constructor <;> (intro hh; subst hh; revert ha; decide)
    have hl := lexNumber_text hv h rest hd h46 he
    simp only [tokText] at hl ⊢
    simp only [List.cons_append] at hl ⊢
    rw [lexTok_numHead hc, hl]
    exact lexNumTail_num _ h rest ha
  | imul s =>
    obtain ⟨n, id, hn, hid, hne, rfl⟩ := hv
    obtain ⟨c, r, rfl, hc⟩ := numeral_head hn
    obtain ⟨ic, it, rfl, hic, hit⟩ := hid
    have hicE := hne ic it rfl
    have hl := lexNumber_text hn ic (it ++ h :: rest) (alpha_not_dig hic) (alpha_ne hic).2 hicE
    have ht := lexNumTail_imul (c :: r) (ic :: it) ⟨ic, it, rfl, hic, hit⟩ h rest hf
    simp only [tokText, List.cons_append, List.append_assoc] at hl ht ⊢
    rw [lexTok_numHead hc, hl]
    exact ht
  | pow => rfl
  | le => rfl
  | ge => rfl
  | ne => rfl
  | eq => rfl
  | op c =>
    obtain ⟨hf1, hf2⟩ := hf
    simp only [tokText, List.cons_append, List.nil_append]
    rcases hv with hv | rfl | rfl | rfl
    · simp only [isOp1, Bool.or_eq_true, beq_iff_eq] at hv
      rcases hv with ((((((((rfl | rfl) | rfl) | rfl) | rfl) | rfl) | rfl) | rfl) | rfl) | rfl <;> rfl
    · exact lexTok_op_short (.inl ⟨rfl, rfl⟩) (hf1 rfl) rest
    · exact lexTok_op_short (.inr ⟨.inl rfl, rfl⟩) (hf2 (.inl rfl)) rest
    · exact lexTok_op_short (.inr ⟨.inr rfl, rfl⟩) (hf2 (.inr rfl)) rest

def AllWs (l : Bytes) : Prop := ∀ x ∈ l, isWs x = true

/-- the bytes of a token sequence with the whitespace `ws i` in front of the i-th token -/
def render (ws : Nat → Bytes) : Nat → List Tok → Bytes
  | _, [] => []
  | i, t :: r => ws i ++ (tokText t ++ render ws (i + 1) r)

def firstByte (t : Tok) : UInt8 := (tokText t).headD 0

/-- wherever no whitespace separates two tokens, the first byte of the second does not extend the first -/
def SepOK (ws : Nat → Bytes) : Nat → List Tok → Prop
  | i, t1 :: t2 :: r => (ws (i + 1) = [] → Follow t1 (firstByte t2)) ∧ SepOK ws (i + 1) (t2 :: r)
  | _, _ => True

theorem follow_of_ws {c : UInt8} (h : isWs c = true) (t : Tok) : Follow t c := by
  obtain ⟨hid, hdig, halpha, h46, h42, h61⟩ := ws_props h
  cases t with
  | ident | imul => exact hid
  | num => exact ⟨hdig, h46, halpha⟩
  | op => exact ⟨fun _ => h42, fun _ => h61⟩
  | _ => trivial

theorem tok_head {t : Tok} (hv : ValidTok t ∨ t = .eof) :
    ∃ c tl, tokText t = c :: tl ∧ isWs c = false := by
  rcases hv with hv | rfl
  · cases t with
    | eof => exact absurd hv id
    | pwise => exact absurd hv id
    | ident s =>
      obtain ⟨⟨c, tl, rfl, hc, _⟩, _⟩ := hv
      exact ⟨c, tl, rfl, not_ws_of_alpha hc⟩
    | num s =>
      obtain ⟨c, r, rfl, hc⟩ := numeral_head hv
      exact ⟨c, r, rfl, not_ws_of_numHead hc⟩
    | imul s =>
      obtain ⟨n, id, hn, _, _, rfl⟩ := hv
      obtain ⟨c, r, rfl, hc⟩ := numeral_head hn
      exact ⟨c, r ++ id, rfl, not_ws_of_numHead hc⟩
    | pow => exact ⟨42, [42], rfl, by decide⟩
    | le => exact ⟨60, [61], rfl, by decide⟩
    | ge => exact ⟨62, [61], rfl, by decide⟩
    | ne => exact ⟨33, [61], rfl, by decide⟩
    | eq => exact ⟨61, [61], rfl, by decide⟩
    | op c =>
      refine ⟨c, [], rfl, ?_⟩
      rcases hv with hv | rfl | rfl | rfl
      · simp only [isOp1, Bool.or_eq_true, beq_iff_eq] at hv
        rcases hv with ((((((((rfl | rfl) | rfl) | rfl) | rfl) | rfl) | rfl) | rfl) | rfl) | rfl <;> decide
      · decide
      · decide
      · decide
  · exact ⟨0, [], rfl, by decide⟩

theorem render_head (ws : Nat → Bytes) (hws : ∀ i, AllWs (ws i)) (j : Nat) (t : Tok) (r : List Tok)
    (hv : ValidTok t ∨ t = .eof) :
    ∃ h R, render ws j (t :: r) = h :: R ∧ (isWs h = true ∨ (ws j = [] ∧ h = firstByte t)) := by
  obtain ⟨c, tl, hc, _⟩ := tok_head hv
  cases hw : ws j with
  | nil =>
    refine ⟨c, tl ++ render ws (j + 1) r, ?_, Or.inr ⟨rfl, ?_⟩⟩
    · simp [render, hw, hc]
    · simp [firstByte, hc]
  | cons w wt =>
    refine ⟨w, wt ++ (tokText t ++ render ws (j + 1) r), ?_, Or.inl ?_⟩
    · simp [render, hw]
    · exact hws j w (by simp [hw])

/-- **Tokenizer round trip**: a sequence of valid tokens, rendered with arbitrary whitespace (possibly none) between
them - none only where the next byte cannot extend the previous token - and terminated by NUL, is read back as
exactly that sequence followed by END_OF_FILE. -/
theorem lexAll_render (ws : Nat → Bytes) (hws : ∀ i, AllWs (ws i)) :
    ∀ (L : List Tok) (i f : Nat), (∀ t ∈ L, ValidTok t) → SepOK ws i (L ++ [.eof]) → L.length + 1 ≤ f →
      lexAll f (render ws i (L ++ [.eof])) = .ok (L ++ [.eof])
  | [], i, f, _, _, hf => by
    obtain ⟨f', rfl⟩ : ∃ f', f = f' + 1 := ⟨f - 1, by simp at hf; omega⟩
    have hs : scanWhile isWs (ws i ++ 0 :: []) = .ok (ws i, [0]) :=
      scanWhile_append isWs (ws i) 0 [] (hws i) (by decide)
    simp only [List.nil_append, render, tokText, List.append_nil]
    unfold lexAll lex
    rw [hs]
    simp [lexTok]
  | t :: r, i, f, hv, hsep, hf => by
    obtain ⟨f', rfl⟩ : ∃ f', f = f' + 1 := ⟨f - 1, by simp at hf; omega⟩
    have hvt : ValidTok t := hv t (by simp)
    obtain ⟨c, tl, hc, hcw⟩ := tok_head (Or.inl hvt)
    have hnext : ∃ t2 r2, r ++ [Tok.eof] = t2 :: r2 ∧ (ValidTok t2 ∨ t2 = .eof) := by
      cases r with
      | nil => exact ⟨.eof, [], rfl, Or.inr rfl⟩
      | cons t2 r2 => exact ⟨t2, r2 ++ [.eof], rfl, Or.inl (hv t2 (by simp))⟩
    obtain ⟨t2, r2, hr, hv2⟩ := hnext
    obtain ⟨h, R, hR, hh⟩ := render_head ws hws (i + 1) t2 r2 hv2
    have hsepc : SepOK ws i (t :: t2 :: r2) := by
      have := hsep
      simp only [List.cons_append, hr] at this
      exact this
    have hfollow : Follow t h := by
      rcases hh with hw | ⟨hw, rfl⟩
      · exact follow_of_ws hw t
      · exact hsepc.1 hw
    have hs : scanWhile isWs (ws i ++ c :: (tl ++ render ws (i + 1) (r ++ [.eof])))
        = .ok (ws i, c :: (tl ++ render ws (i + 1) (r ++ [.eof]))) :=
      scanWhile_append isWs (ws i) c _ (hws i) hcw
    have ht := lexTok_text hvt h R hfollow
    have hne : t ≠ .eof := by intro h0; subst h0; exact hvt
    have ih := lexAll_render ws hws r (i + 1) f' (fun t ht => hv t (by simp [ht])) (hr ▸ hsepc.2)
      (by simp at hf; omega)
    simp only [List.cons_append, render, hc]
    unfold lexAll lex
    rw [hs]
    simp only
    have ht' : lexTok (c :: (tl ++ render ws (i + 1) (r ++ [Tok.eof]))) = .ok (t, render ws (i + 1) (r ++ [Tok.eof])) := by
      rw [hr, hR]
      have := ht
      rw [hc] at this
      simpa using this
    rw [ht']
    simp only [hne, if_false]
    rw [ih]

theorem render_snoc_eof (ws : Nat → Bytes) : ∀ (L : List Tok) (i : Nat),
    render ws i (L ++ [.eof]) = render ws i L ++ (ws (i + L.length) ++ [0])
  | [], i => by simp [render, tokText]
  | t :: r, i => by
    simp only [List.cons_append, render, List.length_cons]
    rw [render_snoc_eof ws r (i + 1)]
    have : i + 1 + r.length = i + (r.length + 1) := by omega
    rw [this]
    simp only [List.append_assoc]

theorem render_length (ws : Nat → Bytes) : ∀ (L : List Tok) (i : Nat), (∀ t ∈ L, ValidTok t) →
    L.length ≤ (render ws i L).length
  | [], _, _ => by simp [render]
  | t :: r, i, hv => by
    obtain ⟨c, tl, hc, _⟩ := tok_head (Or.inl (hv t (by simp)))
    have := render_length ws r (i + 1) (fun t ht => hv t (by simp [ht]))
    simp only [render, hc, List.length_append, List.length_cons]
    omega

/-- the string handed to `parse`: the rendered tokens and trailing whitespace (the terminator is the string's own) -/
def renderInput (ws : Nat → Bytes) (L : List Tok) : Bytes := render ws 0 L ++ ws L.length

/-- the model tokenizer applied to the rendered string, as `Parser::parse` applies it (the fuel is the one
`parseBytesWith` passes) -/
theorem lexAll_renderInput (ws : Nat → Bytes) (hws : ∀ i, AllWs (ws i)) (L : List Tok)
    (hv : ∀ t ∈ L, ValidTok t) (hsep : SepOK ws 0 (L ++ [.eof])) :
    lexAll ((renderInput ws L).length + 2) (renderInput ws L ++ [0]) = .ok (L ++ [.eof]) := by
  have h1 : renderInput ws L ++ [0] = render ws 0 (L ++ [.eof]) := by
    rw [render_snoc_eof]; simp [renderInput]
  rw [h1]
  apply lexAll_render ws hws L 0 _ hv hsep
  have := render_length ws L 0 hv
  simp only [renderInput, List.length_append]
  omega

end Parser
end SymVerif
