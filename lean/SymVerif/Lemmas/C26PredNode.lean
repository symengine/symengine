import SymVerif.Lemmas.C26Pred
/-!
Soundness of the predicate visitors on MatrixAdd and HadamardProduct, and the induction over the expression
(`pred_sound_aux`).
-/
namespace SymVerif.MatExpr
open MExpr

/-- the combination of entries at `(i, j)` whose vanishing, with squareness, is predicate `p` (for `IsLin p`); additive in `f` -/
def lin (p : Pred) (f : Nat → Nat → GQ) (i j : Nat) : GQ :=
  match p with
  | .diagonal => if i ≠ j then f i j else 0
  | .lower => if i < j then f i j else 0
  | .upper => if j < i then f i j else 0
  | .symmetric => f i j - f j i
  | _ => 0

def IsLin (p : Pred) : Prop := p = .diagonal ∨ p = .symmetric ∨ p = .lower ∨ p = .upper

theorem holds_iff_lin {p : Pred} (hp : IsLin p) (v : Val) :
    v.Holds p ↔ v.r = v.c ∧ ∀ i j, i < v.r → j < v.c → lin p v.f i j = 0 := by
  rcases hp with rfl | rfl | rfl | rfl
  case inr.inl =>  -- symmetric
    exact and_congr_right fun _ => forall₂_congr fun i j => imp_congr_right fun _ => imp_congr_right fun _ =>
      sub_eq_zero.symm
  all_goals
    refine and_congr_right fun _ => forall₂_congr fun i j => imp_congr_right fun _ => imp_congr_right fun _ => ?_
    simp only [lin]
    exact ⟨fun h => by split <;> [exact h (by assumption); rfl], fun h hij => by rwa [if_pos hij] at h⟩

theorem lin_add (p : Pred) (f g : Nat → Nat → GQ) (i j : Nat) :
    lin p (fun i j => f i j + g i j) i j = lin p f i j + lin p g i j := by
  cases p <;> simp only [lin] <;> (try split) <;> ring

theorem lin_zero (p : Pred) (i j : Nat) : lin p (fun _ _ => 0) i j = 0 := by
  cases p <;> simp [lin]

theorem lin_listSum (p : Pred) (l : List Val) (i j : Nat) :
    lin p (fun i j => (l.map fun w => w.f i j).sum) i j = (l.map fun w => lin p w.f i j).sum := by
  induction l with
  | nil => simpa using lin_zero p i j
  | cons a t ih =>
    simp only [List.map_cons, List.sum_cons]
    rw [← ih]
    exact lin_add p _ _ i j

theorem addRuleLoop_t {l : List Tri} {found : Bool} (h : addRuleLoop l found = .t) :
    found = false ∧ ∀ a ∈ l, a = .t := by
  induction l generalizing found with
  | nil => cases found <;> simp [addRuleLoop] at h ⊢
  | cons a t ih =>
    cases a <;> simp only [addRuleLoop] at h
    case t =>
      obtain ⟨h1, h2⟩ := ih h
      exact ⟨h1, List.forall_mem_cons.2 ⟨rfl, h2⟩⟩
    case f =>
      cases found
      · exact absurd (ih h).1 nofun
      · cases h
    case u =>
      cases h

theorem addRuleLoop_true_f {l : List Tri} (h : addRuleLoop l true = .f) (hn : ∀ a ∈ l, a ≠ .f) :
    ∀ a ∈ l, a = .t := by
  induction l with
  | nil => nofun
  | cons a t ih =>
    cases a <;> simp only [addRuleLoop] at h
    case t =>
      exact List.forall_mem_cons.2 ⟨rfl, ih h fun a ha => hn a (List.mem_cons_of_mem _ ha)⟩
    case f =>
      exact absurd rfl (hn .f (.head _))
    case u =>
      cases h

/-- the loop answers `false` at the second `false` whatever follows; with at most one (`hc`), `false` means one `f` among `t`s -/
theorem addRuleLoop_false_f {l : List Tri} (h : addRuleLoop l false = .f)
    (hc : l.countP (· == .f) ≤ 1) :
    ∃ l1 l2, l = l1 ++ .f :: l2 ∧ (∀ a ∈ l1, a = .t) ∧ (∀ a ∈ l2, a = .t) := by
  induction l with
  | nil => cases h
  | cons a t ih =>
    cases a <;> simp only [addRuleLoop] at h
    case t =>
      rw [List.countP_cons_of_neg (by decide)] at hc
      obtain ⟨l1, l2, rfl, h1, h2⟩ := ih h hc
      exact ⟨.t :: l1, l2, rfl, List.forall_mem_cons.2 ⟨rfl, h1⟩, h2⟩
    case f =>
      simp only [if_neg Bool.false_ne_true] at h
      rw [List.countP_cons_of_pos (by decide)] at hc
      have hn : ∀ a ∈ t, a ≠ .f := by
        intro a ha hf
        subst hf
        have : 0 < t.countP (· == Tri.f) := List.countP_pos_iff.2 ⟨.f, ha, by decide⟩
        omega
      exact ⟨[], t, rfl, nofun, addRuleLoop_true_f h hn⟩
    case u =>
      cases h

theorem firstDefinite_spec {l : List Tri} {x : Tri} (h : firstDefinite l = x) (hx : x ≠ .u) : x ∈ l := by
  induction l with
  | nil => simp [firstDefinite] at h; exact absurd h.symm hx
  | cons a t ih =>
    cases a <;> simp only [firstDefinite] at h
    case t =>
      simp [← h]
    case f =>
      simp [← h]
    case u =>
      simp [ih h]

theorem sound_square_of_first {env : Env} {e : MExpr} {l : List MExpr}
    (hrule : evalPred .square e = firstDefinite (l.map (evalPred .square)))
    (hS : ∀ t ∈ l, Sound env .square t)
    (hdims : ∀ t ∈ l, (valOf env e).r = (valOf env t).r ∧ (valOf env e).c = (valOf env t).c) :
    Sound env .square e := by
  constructor <;> intro h <;> rw [hrule] at h <;>
    obtain ⟨t, ht, hte⟩ := List.mem_map.1 (firstDefinite_spec h nofun) <;> have hdt := hdims t ht
  · show (valOf env e).r = (valOf env e).c
    rw [hdt.1, hdt.2]; exact (hS t ht).1 hte
  · show ¬ (valOf env e).r = (valOf env e).c
    rw [hdt.1, hdt.2]; exact (hS t ht).2 hte

theorem Sound.unknown {env : Env} {p : Pred} {e : MExpr} (h : evalPred p e = .u) : Sound env p e := by
  rw [Sound, h]; exact ⟨nofun, nofun⟩

mutual
  /-- sizes fit, every IdentityMatrix has a positive size and every MatrixAdd satisfies
      `MatrixAdd::is_canonical` — as far as the predicate visitors look into the expression -/
  def PredWF (env : Env) : MExpr → Prop
    | ident n => 0 < n.eval env
    | dense r c v => v.length = r * c
    | add ts => ts ≠ [] ∧ PredWFAll env ts ∧ SameDims (valsOf env ts) ∧ addCanonical ts = true
    | had fs => fs ≠ [] ∧ PredWFAll env fs ∧ SameDims (valsOf env fs)
    | zero _ _ => True
    | diag _ => True
    | sym _ => True
    | mul _ _ => True
    | transpose _ => True
    | conj _ => True
  def PredWFAll (env : Env) : List MExpr → Prop
    | [] => True
    | e :: t => PredWF env e ∧ PredWFAll env t
end

theorem anyTrue_t {l : List Tri} : anyTrue l = .t ↔ Tri.t ∈ l := by
  unfold anyTrue
  split
  next h => exact iff_of_true rfl (let ⟨_, ha, e⟩ := List.any_eq_true.1 h; eq_of_beq e ▸ ha)
  next h => exact iff_of_false nofun fun ht => h (List.any_eq_true.2 ⟨_, ht, beq_self_eq_true _⟩)

theorem allTrue_t {l : List Tri} : allTrue l = .t ↔ ∀ a ∈ l, a = Tri.t := by
  unfold allTrue
  split
  next h => exact iff_of_true rfl fun a ha => eq_of_beq (List.all_eq_true.1 h a ha)
  next h => exact iff_of_false nofun fun ht => h (List.all_eq_true.2 fun a ha => beq_iff_eq.2 (ht a ha))

theorem hadRule_ne_f {p : Pred} (hp : p ≠ .square) (l : List Tri) : hadRule p l ≠ .f := by
  cases p
  case square => exact absurd rfl hp
  case zero | real | toeplitz => exact fun h => Tri.noConfusion h
  case diagonal | lower | upper =>
    show (if l.any (· == .t) then Tri.t else .u) ≠ .f
    split <;> exact fun h => Tri.noConfusion h
  case symmetric =>
    show (if l.all (· == .t) then Tri.t else .u) ≠ .f
    split <;> exact fun h => Tri.noConfusion h

theorem addCanonical_spec {ts : List MExpr} (h : addCanonical ts = true) :
    (∀ t ∈ ts, (isZeroM t || isAdd t) = false) ∧ countP isDense ts ≤ 1 := by
  simp only [addCanonical, Bool.and_eq_true, Bool.not_eq_true', Bool.or_eq_false_iff, List.any_eq_false,
    decide_eq_false_iff_not] at h
  obtain ⟨⟨⟨_, hnone⟩, hcount⟩, _⟩ := h
  have hdense : ¬ countP isDense ts > 1 := hcount.2
  exact ⟨fun t ht => by simpa using hnone t ht, by omega⟩

theorem evalPred_had_ne_f {p : Pred} (hp : p ≠ .square) (fs : List MExpr) : evalPred p (had fs) ≠ .f :=
  hadRule_ne_f hp _
/-- In a canonical MatrixAdd only an ImmutableDenseMatrix term can answer `false` to is_diagonal / symmetric / lower / upper
    (zero and nested sums are excluded, no other class ever answers `false`); with at most one dense term at most one
    term answers `false` (`countF_le_one`), which is what the rule of the C++ loop needs. -/
theorem evalPred_f_isDense {p : Pred} (hp : IsLin p) {ts : List MExpr} (hc : addCanonical ts = true)
    {t : MExpr} (ht : t ∈ ts) (hf : evalPred p t = .f) : isDense t = true := by
  have hnt := (addCanonical_spec hc).1 t ht
  cases t with
  | ident n => rcases hp with rfl | rfl | rfl | rfl <;> simp [evalPred, leafPred] at hf
  | zero r c => simp [isZeroM] at hnt
  | diag d => rcases hp with rfl | rfl | rfl | rfl <;> simp [evalPred, leafPred] at hf
  | dense r c v => rfl
  | sym n => simp [evalPred] at hf
  | add ts => simp [isAdd] at hnt
  | mul s fs => simp [evalPred] at hf
  | had fs => exact absurd hf (evalPred_had_ne_f (by rcases hp with rfl | rfl | rfl | rfl <;> nofun) fs)
  | transpose e => simp [evalPred] at hf
  | conj e => simp [evalPred] at hf

theorem countF_le_one {p : Pred} (hp : IsLin p) {ts : List MExpr} (hc : addCanonical ts = true) :
    (ts.map (evalPred p)).countP (· == .f) ≤ 1 := by
  rw [List.countP_map]
  calc ts.countP ((· == Tri.f) ∘ evalPred p) ≤ ts.countP isDense := by
        apply List.countP_mono_left
        intro t ht h
        exact evalPred_f_isDense hp hc ht (by simpa using h)
    _ = countP isDense ts := by simp [countP, List.countP_eq_length_filter]
    _ ≤ 1 := (addCanonical_spec hc).2

theorem sound_add (env : Env) (p : Pred) (ts : List MExpr) (hne : ts ≠ [])
    (hd : SameDims (valsOf env ts)) (hc : addCanonical ts = true)
    (hS : ∀ t ∈ ts, Sound env p t) : Sound env p (add ts) := by
  have hvne := valsOf_ne_nil (env := env) hne
  have hdims : ∀ t ∈ ts, (valOf env (add ts)).r = (valOf env t).r ∧ (valOf env (add ts)).c = (valOf env t).c :=
    sumV_isFold.dims hne hd
  by_cases hp : IsLin p
  · have hrule : evalPred p (add ts) = addRuleLoop (ts.map (evalPred p)) false := by
      rcases hp with rfl | rfl | rfl | rfl <;> simp [evalPred, addRule, evalPredList_eq_map]
    have hlinsum : ∀ i j, lin p (valOf env (add ts)).f i j
        = (ts.map fun t => lin p (valOf env t).f i j).sum := by
      intro i j
      simp only [valOf]
      rw [show (sumV (valsOf env ts)).f = _ from funext₂ (sumV_isFold.f hvne), lin_listSum, valsOf_eq_map, List.map_map]; rfl
    have zt : ∀ t ∈ ts, evalPred p t = .t → ∀ i j, i < (valOf env (add ts)).r → j < (valOf env (add ts)).c →
        lin p (valOf env t).f i j = 0 := fun t ht hte i j hi hj =>
      ((holds_iff_lin hp _).1 ((hS t ht).1 hte)).2 i j ((hdims t ht).1 ▸ hi) ((hdims t ht).2 ▸ hj)
    have zsum : ∀ ts' : List MExpr, (∀ t ∈ ts', t ∈ ts ∧ evalPred p t = .t) →
        ∀ i j, i < (valOf env (add ts)).r → j < (valOf env (add ts)).c →
        (ts'.map fun t => lin p (valOf env t).f i j).sum = 0 := fun ts' hts' i j hi hj =>
      List.sum_eq_zero fun x hx => by
        obtain ⟨t, ht, rfl⟩ := List.mem_map.1 hx
        exact zt t (hts' t ht).1 (hts' t ht).2 i j hi hj
    constructor
    · intro h
      rw [hrule] at h
      have hall := (addRuleLoop_t h).2
      obtain ⟨t0, ht0⟩ := List.exists_mem_of_ne_nil ts hne
      have h0 := (holds_iff_lin hp _).1 ((hS t0 ht0).1 (hall _ (List.mem_map_of_mem ht0)))
      refine (holds_iff_lin hp _).2 ⟨(hdims t0 ht0).1.trans (h0.1.trans (hdims t0 ht0).2.symm), fun i j hi hj => ?_⟩
      rw [hlinsum]
      exact zsum ts (fun t ht => ⟨ht, hall _ (List.mem_map_of_mem ht)⟩) i j hi hj
    · -- one term `w` answers `false`, all others `true`: `lin` of the sum is `lin` of `w`
      intro h
      rw [hrule] at h
      obtain ⟨l1, l2, hl, h1, h2⟩ := addRuleLoop_false_f h (countF_le_one hp hc)
      obtain ⟨ts1, ts2', rfl, hm1, hm2⟩ := List.map_eq_append_iff.1 hl
      obtain ⟨w, ts2, rfl, hw, hm3⟩ := List.map_eq_cons_iff.1 hm2
      rw [holds_iff_lin hp]
      rintro ⟨hsq, hz⟩
      have hdw := hdims w (by simp)
      refine (hS w (by simp)).2 hw ((holds_iff_lin hp _).2 ⟨hdw.1.symm.trans (hsq.trans hdw.2), fun i j hi hj => ?_⟩)
      have hi := hdw.1 ▸ hi
      have hj := hdw.2 ▸ hj
      have hzz := hz i j hi hj
      rw [hlinsum] at hzz
      simp only [List.map_append, List.map_cons, List.sum_append, List.sum_cons] at hzz
      rw [zsum ts1 (fun t ht => ⟨by simp [ht], h1 _ (hm1 ▸ List.mem_map_of_mem ht)⟩) i j hi hj,
        zsum ts2 (fun t ht => ⟨by simp [ht], h2 _ (hm3 ▸ List.mem_map_of_mem ht)⟩) i j hi hj] at hzz
      simpa using hzz
  · cases p
    case square =>
      exact sound_square_of_first (by simp [evalPred, addRule, evalPredList_eq_map]) hS hdims
    case zero | real | toeplitz => exact Sound.unknown rfl
    case diagonal | symmetric | lower | upper => exact absurd (by simp [IsLin]) hp

theorem sound_had (env : Env) (p : Pred) (fs : List MExpr) (hne : fs ≠ [])
    (hd : SameDims (valsOf env fs)) (hS : ∀ t ∈ fs, Sound env p t) : Sound env p (had fs) := by
  have hdims : ∀ t ∈ fs, (valOf env (had fs)).r = (valOf env t).r ∧ (valOf env (had fs)).c = (valOf env t).c :=
    hadV_isFold.dims hne hd
  have hf : (valOf env (had fs)).f = fun i j => (fs.map fun t => (valOf env t).f i j).prod :=
    funext₂ (hadV_isFold.f_valsOf hne)
  -- one factor with the property makes the product have it (diagonal, lower, upper)
  have hany : ∀ (cond : Nat → Nat → Prop),
      (∃ t ∈ fs, (valOf env t).r = (valOf env t).c ∧ ∀ i j, i < (valOf env t).r → j < (valOf env t).c →
        cond i j → (valOf env t).f i j = 0) →
      (valOf env (had fs)).r = (valOf env (had fs)).c ∧
        ∀ i j, i < (valOf env (had fs)).r → j < (valOf env (had fs)).c → cond i j →
          (valOf env (had fs)).f i j = 0 := by
    intro cond ⟨t, ht, hsq, hz⟩
    have hdt := hdims _ ht
    refine ⟨hdt.1.trans (hsq.trans hdt.2.symm), fun i j hi hj hc => ?_⟩
    rw [hf]
    apply List.prod_eq_zero
    rw [← hz i j (hdt.1 ▸ hi) (hdt.2 ▸ hj) hc]
    exact List.mem_map.2 ⟨t, ht, rfl⟩
  cases p
  case zero | real | toeplitz => exact Sound.unknown rfl
  case diagonal | lower | upper =>
    refine ⟨fun h => ?_, fun h => ?_⟩
    · simp only [evalPred, hadRule, evalPredList_eq_map] at h
      obtain ⟨t, ht, hte⟩ := List.mem_map.1 (anyTrue_t.1 h)
      have := (hS t ht).1 hte
      exact hany _ ⟨t, ht, this.1, this.2⟩
    · exact absurd h (evalPred_had_ne_f (by decide) fs)
  case symmetric =>
    refine ⟨fun h => ?_, fun h => ?_⟩
    · simp only [evalPred, hadRule, evalPredList_eq_map] at h
      have hh : ∀ t ∈ fs, evalPred .symmetric t = .t := fun t ht => allTrue_t.1 h _ (List.mem_map_of_mem ht)
      obtain ⟨t0, ht0⟩ := List.exists_mem_of_ne_nil fs hne
      have hd0 := hdims _ ht0
      have h0 := (hS t0 ht0).1 (hh t0 ht0)
      refine ⟨hd0.1.trans (h0.1.trans hd0.2.symm), fun i j hi hj => ?_⟩
      rw [hf]
      simp only
      congr 1
      apply List.map_congr_left
      intro t ht
      have hdt := hdims _ ht
      exact ((hS t ht).1 (hh t ht)).2 i j (hdt.1 ▸ hi) (hdt.2 ▸ hj)
    · exact absurd h (evalPred_had_ne_f (by decide) fs)
  case square =>
    exact sound_square_of_first (by simp [evalPred, hadRule, evalPredList_eq_map]) hS hdims

mutual
  theorem pred_sound_aux (env : Env) (p : Pred) : ∀ e, PredWF env e → Sound env p e
    | ident n, h => sound_ident env p n h
    | zero r c, _ => sound_zero env p r c
    | diag d, _ => sound_diag env p d
    | dense r c v, h => sound_dense env p r c v h
    | sym _, _ => Sound.unknown rfl
    | mul _ _, _ => Sound.unknown rfl
    | transpose _, _ => Sound.unknown rfl
    | conj _, _ => Sound.unknown rfl
    | add ts, h => sound_add env p ts h.1 h.2.2.1 h.2.2.2 (pred_sound_list env p ts h.2.1)
    | had fs, h => sound_had env p fs h.1 h.2.2 (pred_sound_list env p fs h.2.1)
  theorem pred_sound_list (env : Env) (p : Pred) :
      ∀ l, PredWFAll env l → ∀ e ∈ l, Sound env p e
    | [], _ => by simp
    | a :: t, h => List.forall_mem_cons.2 ⟨pred_sound_aux env p a h.1, pred_sound_list env p t h.2⟩
end

end SymVerif.MatExpr
