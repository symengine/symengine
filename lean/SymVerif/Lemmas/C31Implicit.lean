/-
C31: the implicitly characterised functions against *any* solution of their defining equation:
tan / tanh (`atan T = A`), lambertw (`W e^W = A`), asin / asinh (`R²(1 ∓ A²) = 1`), rational powers
(`D^den = B^num`, positive constant term).
-/
import SymVerif.Lemmas.C31Tan
import SymVerif.Lemmas.C31Lambert

namespace SymVerif.C31
open SymVerif.Series PowerSeries

theorem tan_sound (q g : Poly) (prec : ℕ) (hp : 1 ≤ prec) (h : seriesTan q prec = .ok g) {A T : ℚ⟦X⟧}
    (hq : EqMod prec (toPS q) A) (hT0 : constantCoeff T = 0) (hT : fatan T = A) :
    EqMod prec (toPS g) T := by
  obtain ⟨hg0, hg⟩ := series_tan_spec q g prec hp h
  have : EqMod prec (fatan (toPS g)) (fatan T) := hT ▸ hg.trans hq
  rw [fatan_eq_fat, fatan_eq_fat] at this
  exact fat_inj 1 prec hg0 hT0 this

theorem tanh_sound (q g : Poly) (prec : ℕ) (hp : 1 ≤ prec) (h : seriesTanh q prec = .ok g) {A T : ℚ⟦X⟧}
    (hq : EqMod prec (toPS q) A) (hT0 : constantCoeff T = 0) (hT : fatanh T = A) :
    EqMod prec (toPS g) T := by
  obtain ⟨hg0, hg⟩ := series_tanh_spec q g prec hp h
  have : EqMod prec (fatanh (toPS g)) (fatanh T) := hT ▸ hg.trans hq
  rw [fatanh_eq_fat, fatanh_eq_fat] at this
  exact fat_inj (-1) prec hg0 hT0 this

theorem lambertw_sound (q g : Poly) (prec : ℕ) (hp : 1 ≤ prec) (h : seriesLambertw q prec = .ok g)
    {A W : ℚ⟦X⟧} (hq : EqMod prec (toPS q) A) (hW0 : constantCoeff W = 0) (hW : W * fexp W = A) :
    EqMod prec (toPS g) W := by
  obtain ⟨hg0, hg⟩ := series_lambertw_spec q g prec hp h
  exact lambert_inj prec hg0 hW0 (hW ▸ hg.trans hq)

/-- `hr0` is guarded: at `prec = 1` the root is computed to order 0, where nothing is known of its constant term -/
theorem integ_root_sound {q r : Poly} {prec : ℕ} (hp : 1 ≤ prec) {A R T : ℚ⟦X⟧}
    (hq : EqMod prec (toPS q) A) (hr : EqMod (prec - 1) (toPS r ^ 2 * T) 1)
    (hr0 : 1 ≤ prec - 1 → 0 < constantCoeff (toPS r)) (hR : R * R * T = 1) (hR0 : constantCoeff R = 1) :
    EqMod prec (toPS (integrate (mulFull (diff q) r))) (integ (d⁄dX ℚ A * R)) := by
  obtain ⟨n, rfl⟩ : ∃ n, prec = n + 1 := ⟨prec - 1, by omega⟩
  have hrR : EqMod n (toPS r) R :=
    pos_root_unique (m := 2) (by omega) hr0 (by rw [hR0]; exact one_pos)
      (hr.of_mul_eq_one (by rw [pow_two]; exact hR))
  rw [toPS_integrate, toPS_mulFull, toPS_diff]
  exact (hq.derivative.mul hrR).integ

theorem asin_sound (q g : Poly) (prec : ℕ) (hp : 1 ≤ prec) (h : seriesAsin q prec = .ok g)
    {A R : ℚ⟦X⟧} (hq : EqMod prec (toPS q) A) (hR : R * R * (1 - A * A) = 1)
    (hR0 : constantCoeff R = 1) :
    EqMod prec (toPS g) (integ (d⁄dX ℚ A * R)) := by
  obtain ⟨r, rfl, _, hpos, hr⟩ := seriesAsin_ok h
  exact integ_root_sound hp hq (hr A (hq.mono (Nat.sub_le _ _))) hpos hR hR0

theorem asinh_sound (q g : Poly) (prec : ℕ) (hp : 1 ≤ prec) (h : seriesAsinh q prec = .ok g)
    {A R : ℚ⟦X⟧} (hq : EqMod prec (toPS q) A) (hR : R * R * (1 + A * A) = 1)
    (hR0 : constantCoeff R = 1) :
    EqMod prec (toPS g) (integ (d⁄dX ℚ A * R)) := by
  obtain ⟨r, rfl, _, hpos, hr⟩ := seriesAsinh_ok h
  exact integ_root_sound hp hq (hr A (hq.mono (Nat.sub_le _ _))) hpos hR hR0

theorem powRat_root (p proot : Poly) (den prec : ℕ) (hden : 2 ≤ den) (hp : 1 ≤ prec)
    (h : nthroot p (den : Int) prec = .ok proot) {B : ℚ⟦X⟧} (hpB : EqMod prec (toPS p) B) :
    EqMod prec (toPS proot ^ den) B ∧ 0 < constantCoeff (toPS proot) := by
  obtain ⟨hpos, _, _, hc⟩ := nthroot_spec p proot (den : Int) prec (by simpa using hden) h
  have := hpos (by omega)
  rw [Int.natAbs_natCast] at this
  exact ⟨this.trans hpB, hc hp⟩

theorem powRat_sound_pos (p g : Poly) (n den prec : ℕ) (hn : 1 ≤ n) (hden : 2 ≤ den) (hp : 1 ≤ prec)
    (h : powRat p (n : Int) den prec = .ok g) {B D : ℚ⟦X⟧} (hpB : EqMod prec (toPS p) B)
    (hD : D ^ den = B ^ n) (hD0 : 0 < constantCoeff D) : EqMod prec (toPS g) D := by
  obtain ⟨proot, hroot, ht⟩ := bind_ok.mp h
  obtain ⟨hr, hr0⟩ := powRat_root p proot den prec hden hp hroot hpB
  have hpow : EqMod prec ((toPS proot ^ n) ^ den) (D ^ den) := by
    rw [hD, ← pow_mul, mul_comm, pow_mul]
    exact hr.pow n
  exact (powPosBranch_spec hn ht).trans
    (pos_root_unique (by omega) (fun _ => by rw [map_pow]; exact pow_pos hr0 n) hD0 hpow)

theorem powRat_sound_neg (p g : Poly) (n den prec : ℕ) (hn : 1 ≤ n) (hden : 2 ≤ den) (hp : 1 ≤ prec)
    (h : powRat p (-(n : Int)) den prec = .ok g) {B D : ℚ⟦X⟧} (hpB : EqMod prec (toPS p) B)
    (hD : D ^ den * B ^ n = 1) (hD0 : 0 < constantCoeff D) : EqMod prec (toPS g) D := by
  obtain ⟨proot, hroot, ht⟩ := bind_ok.mp h
  obtain ⟨hr, hr0⟩ := powRat_root p proot den prec hden hp hroot hpB
  have hg : EqMod prec (toPS g * toPS proot ^ n) 1 := by
    rw [powNegBranch hn, Int.neg_neg, Int.toNat_natCast] at ht
    split at ht
    · next h1 =>
      subst h1
      rw [pow_one]; exact invert_spec proot g prec ht
    · obtain ⟨q, hq, hi⟩ := bind_ok.mp ht
      exact (EqMod.mul_left _ (powTrunc_pos_spec hn hq)).symm.trans (invert_spec q g prec hi)
  have hpow : EqMod prec (toPS g ^ den) (D ^ den) := by
    refine EqMod.of_mul_eq_one ?_ hD
    have : EqMod prec (toPS g ^ den * (toPS proot ^ den) ^ n) 1 := by
      have := hg.pow den
      rwa [one_pow, mul_pow, ← pow_mul, mul_comm n den, pow_mul] at this
    exact (EqMod.mul_left _ (hr.pow n)).symm.trans this
  refine pos_root_unique (by omega) (fun _ => ?_) hD0 hpow
  have hc := constantCoeff_eq_of_eqMod hp hg
  rw [map_mul, map_pow, map_one] at hc
  exact pos_of_mul_eq_one hc (pow_pos hr0 n)

end SymVerif.C31
