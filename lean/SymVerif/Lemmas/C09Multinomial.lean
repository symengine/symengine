/-
Soundness of the model of `multinomial_coefficients_mpz` (Model/Multinomial.lean): every entry `(k, c)` of an
`.ok` result satisfies `k.length = m`, `k.sum = n` and `c * ∏ kᵢ! = n!`, i.e. `c = n!/∏kᵢ!`.

Proof: loop invariant over `step` —
  * `t` has length `m` and sum `n`; the entries of `t` before position `j` are zero;
  * every entry of the table is sound;
  * every key of the table is the current `t` or comes before it in the order in which the loop visits the
    exponent vectors (`Before`), so no key is written twice (`multinomial_keys_nodup`).
`sortTab` keeps one entry per key (`sortTab_keys`, `sortTab_length`).
The arithmetic core is the recurrence `(n − t₀)·M(t) = (t₀ + 1)·Σ_{k ≥ 1} M(t + e₀ − e_k)`.
-/
import Mathlib.Data.Nat.Factorial.Basic
import Mathlib.Data.Nat.Choose.Multinomial
import Mathlib.Tactic.Ring
import Mathlib.Tactic.Linarith
import SymVerif.Model.Multinomial
import SymVerif.Lemmas.Basic

namespace SymVerif
namespace Multinomial

open Nat

/-- `∏ kᵢ!` -/
def prodFact : List Nat → Nat
  | [] => 1
  | a :: t => a ! * prodFact t

/-- the entry `(k, c)` is the multinomial coefficient of the composition `k` of `n` -/
def Sound (n : Nat) (e : List Nat × Nat) : Prop := e.1.sum = n ∧ e.2 * prodFact e.1 = n !

theorem prodFact_pos (l : List Nat) : 0 < prodFact l := by
  induction l with
  | nil => simp [prodFact]
  | cons a t ih => simp only [prodFact]; exact Nat.mul_pos (factorial_pos a) ih

theorem prodFact_dvd (l : List Nat) : prodFact l ∣ (l.sum)! := by
  induction l with
  | nil => simp [prodFact]
  | cons a t ih =>
    simp only [prodFact, List.sum_cons]
    exact dvd_trans (Nat.mul_dvd_mul_left _ ih) (factorial_mul_factorial_dvd_factorial_add a t.sum)

theorem sum_set {l : List Nat} {i a : Nat} (v : Nat) (h : l[i]? = some a) :
    (l.set i v).sum + a = l.sum + v := by
  simpa using List.sum_map_set id v h

theorem prodFact_dec {l : List Nat} {i a : Nat} (h : l[i]? = some a) (ha : a ≠ 0) :
    prodFact (l.set i (a - 1)) * a = prodFact l := by
  induction l generalizing i with
  | nil => simp at h
  | cons b t ih =>
    cases i with
    | zero =>
      simp only [List.getElem?_cons_zero, Option.some.injEq] at h
      subst h
      rw [List.set_cons_zero, prodFact, prodFact, Nat.mul_right_comm, Nat.mul_comm _ b,
        Nat.mul_factorial_pred ha]
    | succ i =>
      rw [List.set_cons_succ, prodFact, prodFact, Nat.mul_assoc, ih (i := i) h]

theorem lookup_mem {r : Tab} {t : List Nat} {c : Nat} (h : lookup r t = some c) : (t, c) ∈ r := by
  induction r with
  | nil => cases h
  | cons e r ih =>
    simp only [lookup] at h
    split at h
    · rename_i hk
      cases h
      exact hk ▸ List.mem_cons_self
    · exact List.mem_cons_of_mem _ (ih h)

/-- one summand of the recurrence: the coefficient of `t − e_i` times `∏ t!` is `n! · tᵢ` -/
theorem entry_identity {n : Nat} {r : Tab} (hr : ∀ e ∈ r, Sound n e) {t : List Nat} {i ti c : Nat}
    (hi : t[i]? = some ti) (h0 : ti ≠ 0) (hl : lookup r (t.set i (ti - 1)) = some c) :
    c * prodFact t = n ! * ti := by
  have hs := (hr _ (lookup_mem hl)).2
  simp only at hs
  rw [← prodFact_dec hi h0, ← hs]; ring

theorem innerSum_spec {n : Nat} {r : Tab} (hr : ∀ e ∈ r, Sound n e) (t : List Nat) :
    ∀ {cnt k s : Nat}, k + cnt = t.length → innerSum r t k cnt = .ok s →
      s * prodFact t = n ! * (t.drop k).sum := by
  intro cnt
  induction cnt with
  | zero =>
    intro k s hk h
    simp only [innerSum, Except.ok.injEq] at h
    subst h
    have : t.drop k = [] := List.drop_eq_nil_of_le (by omega)
    simp [this]
  | succ cnt ih =>
    intro k s hk h
    simp only [innerSum] at h
    split at h
    · cases h
    · rename_i tk htk
      split at h
      · cases h
      · rename_i here hhere
        split at h
        · cases h
        · rename_i rest hrest
          simp only [Except.ok.injEq] at h
          subst h
          have hlt : k < t.length := by omega
          have hd : t.drop k = tk :: t.drop (k + 1) := by
            rw [List.drop_eq_getElem_cons hlt]
            congr 1
            rw [List.getElem?_eq_getElem hlt] at htk
            exact Option.some.inj htk
          have ihr := ih (k := k + 1) (by omega) hrest
          have hh : here * prodFact t = n ! * tk := by
            by_cases h0 : tk = 0
            · simp only [h0, if_true, Option.some.injEq] at hhere
              subst hhere; simp [h0]
            · simp only [h0, if_false] at hhere
              exact entry_identity hr htk h0 hhere
          rw [hd, List.sum_cons, Nat.add_mul, hh, ihr]; ring

theorem drop_sum_skip_zeros (l : List Nat) (a : Nat) :
    ∀ (d : Nat), (∀ i, a ≤ i → i < a + d → l[i]? = some 0) → (l.drop a).sum = (l.drop (a + d)).sum := by
  intro d
  induction d with
  | zero => intro _; rfl
  | succ d ih =>
    intro hz
    rw [ih (fun i h1 h2 => hz i h1 (by omega))]
    obtain ⟨hlt, h0⟩ := List.getElem?_eq_some_iff.1 (hz (a + d) (by omega) (by omega))
    rw [List.drop_eq_getElem_cons hlt, h0, List.sum_cons, Nat.zero_add, Nat.add_assoc]

/-- `b` comes after `a` in the order in which the loop visits the exponent vectors: they agree beyond
position `p`, where `b` is larger (`getD · 0`, so that `irrefl` and `trans` need no lengths) -/
def Before (a b : List Nat) : Prop := ∃ p, a.getD p 0 < b.getD p 0 ∧ ∀ i, p < i → a.getD i 0 = b.getD i 0

theorem Before.irrefl (a : List Nat) : ¬ Before a a := fun ⟨_, h, _⟩ => Nat.lt_irrefl _ h

theorem Before.trans {a b c : List Nat} : Before a b → Before b c → Before a c := by
  rintro ⟨p, hp, hp'⟩ ⟨q, hq, hq'⟩
  rcases Nat.lt_trichotomy p q with h | rfl | h
  · exact ⟨q, by rw [hp' q h]; exact hq, fun i hi => by rw [hp' i (by omega), hq' i hi]⟩
  · exact ⟨p, Nat.lt_trans hp hq, fun i hi => by rw [hp' i hi, hq' i hi]⟩
  · exact ⟨p, by rw [← hq' p h]; exact hp, fun i hi => by rw [hp' i hi, hq' i (by omega)]⟩

structure Inv (m n : Nat) (s : St) : Prop where
  len : s.t.length = m
  sum : s.t.sum = n
  /-- position 0 included: a turn that goes on to `j + 1` had `tj ≤ 1` and stored `t[0] = tj − 1 = 0` -/
  zeros : ∀ i, i < s.j → s.t[i]? = some 0
  sound : ∀ e ∈ s.r, e.1.length = m ∧ Sound n e
  below : ∀ e ∈ s.r, e.1 = s.t ∨ Before e.1 s.t
  nodup : (s.r.map (·.1)).Nodup

/-- `t[0] -= 1; r[t] = v·tj/(n − t[0])` stores the multinomial coefficient of the new `t`.  The division is exact because
the multiplier `tj` is `t2[0]` (`htj`: `j = 0`, or `t[0] = tj` was just assigned), `hv` is the recurrence of the head
comment with `v = Σ_{k ≥ 1} M(t2 − e_k)`, and `hsum` is taken after `t[j+1] += 1`, before `t[0] -= 1`. -/
theorem finish_spec {m n : Nat} {r : Tab} {t2 : List Nat} {j' v tj : Nat} {s' : St}
    (hlen : t2.length = m) (hsum : t2.sum = n + 1) (htj : t2[0]? = some tj)
    (hv : v * prodFact t2 = n ! * (t2.drop 1).sum)
    (h : finish n r t2 j' v tj = .ok s') :
    s'.t = t2.set 0 (tj - 1) ∧ s'.j = j' ∧ s'.t.length = m ∧ s'.t.sum = n ∧
      ∃ c, s'.r = (s'.t, c) :: r ∧ c * prodFact s'.t = n ! := by
  cases t2 with
  | nil => simp at htj
  | cons t0 rest =>
    simp only [List.getElem?_cons_zero, Option.some.injEq] at htj
    subst htj
    simp only [finish, List.getElem?_cons_zero] at h
    split at h
    · cases h
    · rename_i h0
      split at h
      · cases h
      · split at h
        · cases h
        · rename_i hd
          simp only [Except.ok.injEq] at h
          subst h
          simp only [List.sum_cons] at hsum
          simp only [List.drop_succ_cons, List.drop_zero] at hv
          obtain ⟨b, rfl⟩ : ∃ b, t0 = b + 1 := ⟨t0 - 1, by omega⟩
          simp only [Nat.add_sub_cancel, List.set_cons_zero] at hd ⊢
          have hrest : rest.sum = n - b := by omega
          refine ⟨trivial, trivial, by simpa using hlen, by simp only [List.sum_cons]; omega, _, rfl, ?_⟩
          -- `∏ t! ∣ n!` with quotient `M`; then `v·(b+1) = M·(n−b)`, so the stored quotient is `M`
          obtain ⟨M, hM⟩ : prodFact (b :: rest) ∣ n ! := by
            have := prodFact_dvd (b :: rest)
            rwa [List.sum_cons, show b + rest.sum = n by omega] at this
          simp only [prodFact] at hM hv ⊢
          rw [factorial_succ] at hv
          have key : v * (b + 1) = M * (n - b) := by
            apply Nat.eq_of_mul_eq_mul_right (Nat.mul_pos (factorial_pos b) (prodFact_pos rest))
            rw [← hrest]
            calc v * (b + 1) * (b ! * prodFact rest) = v * ((b + 1) * b ! * prodFact rest) := by ring
              _ = n ! * rest.sum := hv
              _ = b ! * prodFact rest * M * rest.sum := by rw [hM]
              _ = M * rest.sum * (b ! * prodFact rest) := by ring
          rw [key, Nat.mul_div_cancel _ (by omega : 0 < n - b), hM, Nat.mul_comm]

theorem getD_of_getElem? {l : List Nat} {i a : Nat} (h : l[i]? = some a) : l.getD i 0 = a := by
  rw [List.getD_eq_getElem?_getD, h]; rfl

/-- the vector after `if (j) { t[j] = 0; t[0] = tj; }`: the `let t1` of `Multinomial.step` spelt the same, so that
`step_inv` folds it by `rfl` -/
def t1Of (s : St) (tj : Nat) : List Nat := if s.j = 0 then s.t else (s.t.set s.j 0).set 0 tj

theorem t1_props {m n : Nat} {s : St} (hinv : Inv m n s) {tj : Nat} (htj : s.t[s.j]? = some tj) :
    (t1Of s tj).length = m ∧ (t1Of s tj).sum = n ∧ (t1Of s tj)[0]? = some tj ∧
      (∀ i, i < s.j + 1 → i ≠ 0 → (t1Of s tj)[i]? = some 0) ∧
      ∀ i, s.j < i → (t1Of s tj)[i]? = s.t[i]? := by
  unfold t1Of
  by_cases hj : s.j = 0
  · simp only [hj, if_true]
    refine ⟨hinv.len, hinv.sum, by rw [hj] at htj; exact htj, ?_, fun _ _ => trivial⟩
    intro i hi hi0; omega
  · simp only [hj, if_false]
    have hjlt : s.j < s.t.length := lt_of_getElem? htj
    have hz0 : s.t[0]? = some 0 := hinv.zeros 0 (by omega)
    have hA0 : (s.t.set s.j 0)[0]? = some 0 := by
      rw [List.getElem?_set_ne (by omega)]; exact hz0
    have hsumA : (s.t.set s.j 0).sum + tj = s.t.sum + 0 := sum_set 0 htj
    have hsumB : ((s.t.set s.j 0).set 0 tj).sum + 0 = (s.t.set s.j 0).sum + tj := sum_set tj hA0
    refine ⟨by simp [hinv.len], by have := hinv.sum; omega, ?_, ?_, ?_⟩
    · rw [List.getElem?_set_self (by simp; omega)]
    · intro i hi hi0
      rw [List.getElem?_set_ne (by omega)]
      by_cases hij : i = s.j
      · subst hij; rw [List.getElem?_set_self hjlt]
      · rw [List.getElem?_set_ne (by omega), hinv.zeros i (by omega)]
    · intro i hi
      rw [List.getElem?_set_ne (by omega), List.getElem?_set_ne (by omega)]

theorem step_inv {m n : Nat} {s s' : St} (hinv : Inv m n s) (h : step m n s = .ok s') : Inv m n s' := by
  unfold step at h
  split at h
  · cases h
  · rename_i tj htj
    obtain ⟨hl1, hs1, h10, hz1, hup⟩ := t1_props hinv htj
    simp only [show (if s.j = 0 then s.t else (s.t.set s.j 0).set 0 tj) = t1Of s tj from rfl] at h
    have hsound : ∀ e ∈ s.r, Sound n e := fun e he => (hinv.sound e he).2
    -- both branches end in `t[j + 1] += 1; …; t[0] -= 1; r[t] = …` with `j' = 0`, or `j' = j + 1` when `tj ≤ 1`
    have tail : ∀ {t2 : List Nat} {tn j' v : Nat}, (t1Of s tj)[s.j + 1]? = some tn →
        (t1Of s tj).set (s.j + 1) (tn + 1) = t2 → v * prodFact t2 = n ! * (t2.drop 1).sum →
        finish n s.r t2 j' v tj = .ok s' → (j' = 0 ∨ j' = s.j + 1 ∧ tj ≤ 1) → Inv m n s' := by
      intro t2 tn j' v htn ht2 hv hf hj
      subst ht2
      have hjlt : s.j + 1 < (t1Of s tj).length := lt_of_getElem? htn
      have hsum2 : ((t1Of s tj).set (s.j + 1) (tn + 1)).sum = n + 1 := by have := sum_set (tn + 1) htn; omega
      obtain ⟨ht, hj', hlen', hsum', c, hr', hc⟩ :=
        finish_spec (m := m) (hlen := by simp [hl1]) (hsum := hsum2)
          (htj := by rw [List.getElem?_set_ne (by omega)]; exact h10) hv hf
      have hget : ∀ i, i ≠ 0 → i ≠ s.j + 1 → s'.t[i]? = (t1Of s tj)[i]? := by
        intro i h0 h1
        rw [ht, List.getElem?_set_ne (by omega), List.getElem?_set_ne (by omega)]
      have habove : Before s.t s'.t := by
        refine ⟨s.j + 1, ?_, fun i hi => ?_⟩
        · have h1 : s'.t[s.j + 1]? = some (tn + 1) := by
            rw [ht, List.getElem?_set_ne (by omega), List.getElem?_set_self hjlt]
          rw [getD_of_getElem? h1, getD_of_getElem? (by rw [← hup _ (Nat.lt_succ_self _)]; exact htn)]
          exact Nat.lt_succ_self _
        · rw [List.getD_eq_getElem?_getD, List.getD_eq_getElem?_getD, hget i (by omega) (by omega),
            hup i (by omega)]
      have hall : ∀ e ∈ s.r, Before e.1 s'.t := fun e he =>
        (hinv.below e he).elim (fun h => h ▸ habove) (fun h => h.trans habove)
      refine ⟨hlen', hsum', ?_, ?_, ?_, ?_⟩
      · intro i hi
        rw [hj'] at hi
        rcases hj with rfl | ⟨rfl, htj1⟩
        · omega
        · by_cases hi0 : i = 0
          · subst hi0
            rw [ht, List.getElem?_set_self (by simp; omega), show tj - 1 = 0 by omega]
          · rw [hget i hi0 (by omega)]
            exact hz1 i (by omega) hi0
      · rw [hr']; exact List.forall_mem_cons.2 ⟨⟨hlen', hsum', hc⟩, hinv.sound⟩
      · rw [hr']; exact List.forall_mem_cons.2 ⟨Or.inl rfl, fun e he => Or.inr (hall e he)⟩
      · rw [hr', List.map_cons, List.nodup_cons]
        refine ⟨fun hmem => ?_, hinv.nodup⟩
        obtain ⟨e, he, heq⟩ := List.mem_map.1 hmem
        exact Before.irrefl _ (heq ▸ hall e he)
    by_cases hbig : 1 < tj
    · -- t[j + 1] += 1; j = 0
      simp only [hbig, if_true] at h
      split at h
      · cases h
      · rename_i tn htn
        split at h
        · cases h
        · rename_i sum hsum
          have hm1 : 1 + (m - 1) = ((t1Of s tj).set (s.j + 1) (tn + 1)).length := by
            rw [List.length_set, hl1]
            have := lt_of_getElem? h10
            omega
          exact tail htn rfl (innerSum_spec hsound _ hm1 hsum) h (Or.inl rfl)
    · -- j += 1; v = r[t]; t[j] += 1
      simp only [hbig, if_false] at h
      split at h
      · cases h
      · rename_i v0 hv0
        split at h
        · cases h
        · rename_i tn htn
          split at h
          · cases h
          · rename_i sum hsum
            obtain ⟨hjlt, hget⟩ := List.getElem?_eq_some_iff.1 htn
            generalize ht2 : (t1Of s tj).set (s.j + 1) (tn + 1) = t2 at hsum h
            have hlen2 : t2.length = m := by rw [← ht2, List.length_set, hl1]
            have h2j : t2[s.j + 1]? = some (tn + 1) := by rw [← ht2, List.getElem?_set_self hjlt]
            have hne : ∀ i, i ≠ s.j + 1 → t2[i]? = (t1Of s tj)[i]? := fun i hi => by
              rw [← ht2, List.getElem?_set_ne (Ne.symm hi)]
            have hback : t2.set (s.j + 1) (tn + 1 - 1) = t1Of s tj := by
              rw [← ht2, List.set_set, Nat.add_sub_cancel, ← hget, List.set_getElem_self]
            -- `v0` is the summand of position `j + 1`, so `v0 + sum` is the inner sum from `j + 1` on; the count is written
            -- `… + 1` so that `innerSum` unfolds exactly one turn
            have hin : innerSum s.r t2 (s.j + 1) (m - (s.j + 2) + 1) = .ok (v0 + sum) := by
              simp only [innerSum, h2j, Nat.add_one_ne_zero, if_false, hback, hv0, hsum]
            have hskip : (t2.drop 1).sum = (t2.drop (s.j + 1)).sum := by
              have hz := drop_sum_skip_zeros t2 1 s.j (fun i h1 h2 => by
                rw [hne i (by omega)]
                exact hz1 i (by omega) (by omega))
              rwa [Nat.add_comm 1 s.j] at hz
            refine tail htn ht2 ?_ h (Or.inr ⟨rfl, by omega⟩)
            rw [hskip]
            exact innerSum_spec hsound t2 (by rw [hlen2]; omega) hin

theorem loop_inv {m n : Nat} : ∀ (f : Nat) {s s' : St}, Inv m n s → loop m n f s = .ok s' → Inv m n s' := by
  intro f
  induction f with
  | zero =>
    intro s s' hinv h
    simp only [loop] at h
    split at h
    · cases h
    · exact Except.ok.inj h ▸ hinv
  | succ f ih =>
    intro s s' hinv h
    simp only [loop] at h
    split at h
    · obtain ⟨s1, hst, h⟩ := bind_eq_ok h
      exact ih (step_inv hinv hst) h
    · exact Except.ok.inj h ▸ hinv

theorem init_inv {m n : Nat} (hm : 2 ≤ m) : Inv m n ⟨initT m n, 0, [(initT m n, 1)]⟩ := by
  have hlen : (initT m n).length = m := by simp [initT]; omega
  have hsum : (initT m n).sum = n := by simp [initT]
  have hpf : prodFact (initT m n) = n ! := by
    simp only [initT, prodFact]
    have : ∀ k, prodFact (List.replicate k 0) = 1 := by
      intro k; induction k with
      | zero => simp [prodFact]
      | succ k ih => simp [List.replicate_succ, prodFact, ih]
    rw [this]; simp
  refine ⟨hlen, hsum, by intro i hi; exact absurd hi (Nat.not_lt_zero _), ?_, ?_, by simp⟩
  · intro e he
    simp only [List.mem_singleton] at he
    subst he
    exact ⟨hlen, hsum, by simp [hpf]⟩
  · intro e he
    simp only [List.mem_singleton] at he
    exact Or.inl (by rw [he])

theorem multinomial_inv {m n : Nat} {r : Tab} (h : multinomial m n = .ok r) : ∃ s, Inv m n s ∧ s.r = r := by
  unfold multinomial at h
  split at h
  · cases h
  · rename_i hm
    have hinv := init_inv (m := m) (n := n) (by omega)
    split at h
    · simp only [Except.ok.injEq] at h
      exact ⟨_, hinv, h⟩
    · cases hl : loop m n (fuel m n) ⟨initT m n, 0, [(initT m n, 1)]⟩ with
      | error e => rw [hl] at h; cases h
      | ok s' =>
        rw [hl] at h
        simp only [Except.map, Except.ok.injEq] at h
        exact ⟨s', loop_inv _ hinv hl, h⟩

/-- **Soundness of the multinomial table**: every entry `(k, c)` produced by the model of
`multinomial_coefficients_mpz(m, n)` is a composition of `n` into `m` parts together with its multinomial
coefficient: `c · ∏ kᵢ! = n!`. -/
theorem multinomial_sound {m n : Nat} {r : Tab} (h : multinomial m n = .ok r) :
    ∀ e ∈ r, e.1.length = m ∧ e.1.sum = n ∧ e.2 * prodFact e.1 = n ! := by
  obtain ⟨s, hinv, rfl⟩ := multinomial_inv h
  exact fun e he => ⟨(hinv.sound e he).1, (hinv.sound e he).2⟩

/-- no exponent vector is written twice: each turn of the loop moves to a later vector -/
theorem multinomial_keys_nodup {m n : Nat} {r : Tab} (h : multinomial m n = .ok r) : (r.map (·.1)).Nodup := by
  obtain ⟨s, hinv, rfl⟩ := multinomial_inv h
  exact hinv.nodup

/-- the coefficient is the quotient `n!/∏kᵢ!` -/
theorem multinomial_coeff {m n : Nat} {r : Tab} (h : multinomial m n = .ok r) :
    ∀ e ∈ r, e.2 = n ! / prodFact e.1 := by
  intro e he
  have := (multinomial_sound h e he).2.2
  rw [← this, Nat.mul_div_cancel _ (prodFact_pos _)]

theorem prodFact_eq_prod (l : List Nat) : prodFact l = ∏ i ∈ Finset.range l.length, (l.getD i 0)! := by
  induction l with
  | nil => simp [prodFact]
  | cons a t ih =>
    rw [prodFact, List.length_cons, Finset.prod_range_succ', ih]
    simp [Nat.mul_comm]

theorem sum_eq_sum (l : List Nat) : l.sum = ∑ i ∈ Finset.range l.length, l.getD i 0 := by
  induction l with
  | nil => simp
  | cons a t ih =>
    rw [List.sum_cons, List.length_cons, Finset.sum_range_succ', ih]
    simp [Nat.add_comm]

theorem multinomial_eq_nat_multinomial {m n : Nat} {r : Tab} (h : multinomial m n = .ok r) :
    ∀ e ∈ r, e.2 = Nat.multinomial (Finset.range m) (fun i => e.1.getD i 0) := by
  intro e he
  obtain ⟨hl, hs, hc⟩ := multinomial_sound h e he
  have hspec := Nat.multinomial_spec (Finset.range m) (fun i => e.1.getD i 0)
  rw [← hl, ← prodFact_eq_prod, ← sum_eq_sum, hs] at hspec
  have hp := prodFact_pos e.1
  apply Nat.eq_of_mul_eq_mul_right hp
  rw [hc, ← hspec, ← hl]; ring

theorem mem_keys_insertSorted (e : List Nat × Nat) (k : List Nat) (l : Tab) :
    k ∈ (insertSorted e l).map (·.1) ↔ k = e.1 ∨ k ∈ l.map (·.1) := by
  induction l with
  | nil => simp [insertSorted]
  | cons f r ih =>
    simp only [insertSorted]
    split
    · rename_i h; simp only [List.map_cons, List.mem_cons, h, or_self_left]
    · split
      · simp only [List.map_cons, List.mem_cons]
      · simp only [List.map_cons, List.mem_cons, ih]; exact or_left_comm

theorem nodup_keys_insertSorted {e : List Nat × Nat} {l : Tab} (he : e.1 ∉ l.map (·.1))
    (hl : (l.map (·.1)).Nodup) : ((insertSorted e l).map (·.1)).Nodup := by
  induction l with
  | nil => simp [insertSorted]
  | cons f r ih =>
    simp only [List.map_cons, List.mem_cons, not_or, List.nodup_cons] at he hl
    simp only [insertSorted, if_neg he.1]
    split
    · simp only [List.map_cons, List.nodup_cons, List.mem_cons, not_or]
      exact ⟨he, hl⟩
    · simp only [List.map_cons, List.nodup_cons, mem_keys_insertSorted, not_or]
      exact ⟨⟨fun h => he.1 h.symm, hl.1⟩, ih he.2 hl.2⟩

theorem sortTab_keys (r : Tab) :
    ((sortTab r).map (·.1)).Nodup ∧ ∀ k, k ∈ (sortTab r).map (·.1) ↔ k ∈ r.map (·.1) := by
  have key : ∀ (l acc : Tab), (acc.map (·.1)).Nodup →
      ((l.foldl (fun acc e => insertSorted e (acc.filter (·.1 ≠ e.1))) acc).map (·.1)).Nodup ∧
      ∀ k, k ∈ (l.foldl (fun acc e => insertSorted e (acc.filter (·.1 ≠ e.1))) acc).map (·.1) ↔
        k ∈ l.map (·.1) ∨ k ∈ acc.map (·.1) := by
    intro l
    induction l with
    | nil => intro acc h; simp [h]
    | cons e l ih =>
      intro acc h
      have hf : ((acc.filter (·.1 ≠ e.1)).map (·.1)).Nodup := h.sublist (List.filter_sublist.map _)
      have he : e.1 ∉ (acc.filter (·.1 ≠ e.1)).map (·.1) := by simp
      obtain ⟨h1, h2⟩ := ih _ (nodup_keys_insertSorted he hf)
      refine ⟨h1, fun k => ?_⟩
      rw [List.foldl_cons, h2, mem_keys_insertSorted]
      -- filtering `acc` removes exactly the key `e.1`, which `insertSorted` puts back
      by_cases hk : k = e.1 <;> simp [hk]
  obtain ⟨h1, h2⟩ := key r.reverse [] List.nodup_nil
  refine ⟨h1, fun k => ?_⟩
  rw [sortTab, h2]; simp

theorem sortTab_length {r : Tab} (h : (r.map (·.1)).Nodup) : (sortTab r).length = r.length := by
  simpa using ((List.perm_ext_iff_of_nodup (sortTab_keys r).1 h).2 (sortTab_keys r).2).length_eq

end Multinomial
end SymVerif
