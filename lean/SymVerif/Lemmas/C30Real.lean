import Mathlib.Data.Complex.Basic
import SymVerif.Lemmas.C30Alg
/-!
C30 — realness decisions of the checker over ℂ: if the square roots of non-negative rationals are real
(true for the principal root), `isRealRP p` implies that `p` denotes a real number and `isNonRealRP p` implies
that it does not.
-/
namespace SymVerif.C30
open SymVerif.Solve SymVerif.Solve.RP

variable (sq : ℚ → ℂ) (hsq : ∀ r : ℚ, sq r * sq r = (r : ℂ))
  (hreal : ∀ r : ℚ, 0 ≤ r → (sq r).im = 0)

include hreal in
theorem monoVal_im_zero (m : Mono) (h : m.all (fun a => decide (0 ≤ a)) = true) : (monoVal sq m).im = 0 := by
  induction m with
  | nil => simp
  | cons a as ih =>
    simp only [List.all_cons, Bool.and_eq_true, decide_eq_true_eq] at h
    rw [monoVal_cons, Complex.mul_im, ih h.2, hreal a h.1]
    ring

include hreal in
theorem ev_im_zero_of_all (p : RP)
    (h : p.all (fun t => t.2.all (fun a => decide (0 ≤ a))) = true) : (ev sq p).im = 0 := by
  induction p with
  | nil => simp
  | cons t p ih =>
    simp only [List.all_cons, Bool.and_eq_true] at h
    rw [ev_cons, Complex.add_im, ih h.2]
    simp only [termVal, Complex.mul_im, Complex.ratCast_im, monoVal_im_zero sq hreal t.2 h.1]
    ring

include hsq hreal in
theorem isRealRP_sound (p : RP) (h : isRealRP p = true) : (ev sq p).im = 0 := by
  rw [← ev_norm sq hsq p]
  exact ev_im_zero_of_all sq hreal (norm p) h

theorem monoVal_erase (s : ℚ) (m : Mono) (h : s ∈ m) : sq s * monoVal sq (m.erase s) = monoVal sq m :=
  List.prod_map_erase sq h

theorem ev_splitAtom (s : ℚ) (p : RP) :
    ev sq p = ev sq (splitAtom s p).1 + sq s * ev sq (splitAtom s p).2 := by
  induction p with
  | nil => simp [splitAtom]
  | cons t p ih =>
    have hfold : splitAtom s (t :: p) =
        (if t.2.contains s then ((splitAtom s p).1, (t.1, t.2.erase s) :: (splitAtom s p).2)
         else (t :: (splitAtom s p).1, (splitAtom s p).2)) := rfl
    rw [hfold, ev_cons, ih]
    split_ifs with hc
    · have hmem : s ∈ t.2 := by simpa using hc
      simp only [ev_cons, termVal]
      rw [← monoVal_erase sq s t.2 hmem]
      ring
    · simp only [ev_cons]
      ring

include hsq hreal in
theorem isNonRealRP_sound (p : RP) (h : isNonRealRP p = true) : (ev sq p).im ≠ 0 := by
  simp only [isNonRealRP, Bool.and_eq_true] at h
  obtain ⟨⟨hu, hw⟩, hnz⟩ := h
  have hu0 := isRealRP_sound sq hsq hreal _ hu
  have hw0 := isRealRP_sound sq hsq hreal _ hw
  have hwre : (ev sq (splitAtom (-1) (norm p)).2).re ≠ 0 := fun h0 =>
    isNonZero_sound sq hsq _ hnz (Complex.ext h0 hw0)
  -- `sq (-1)` is not real, its square being negative; so `u + sq (-1) · w` with `u`, `w` real, `w ≠ 0` is not real
  have him : (sq (-1)).im ≠ 0 := fun h0 => by
    have h1 := congrArg Complex.re (hsq (-1))
    rw [Complex.mul_re, h0, mul_zero, sub_zero] at h1
    have := mul_self_nonneg (sq (-1)).re
    rw [h1] at this
    norm_num at this
  rw [← ev_norm sq hsq p, ev_splitAtom sq (-1) (norm p), Complex.add_im, Complex.mul_im, hu0, hw0, mul_zero,
    zero_add, zero_add]
  exact mul_ne_zero him hwre

end SymVerif.C30
