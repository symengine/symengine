import Mathlib.Data.Int.ModEq
import Mathlib.Tactic.Ring
import Mathlib.Tactic.Linarith
import SymVerif.Lemmas.C43Gcd
/-! C43, `mp_powm` of mp_boost.cpp (sign fix-up around Boost's truncated `powm`) against the specification.
Claimed theorems of the property: `powmod_meaning`, `powm`. -/
namespace SymVerif.C43
open SymVerif

section
/- Both modular power loops are the same square-and-multiply recursion, up to the reduction `red`
(`· % m` in the specification, truncated `Int.tmod · c` in Boost's `eval_powm`); `h0`, `hs` are its equations. -/
variable (red : Int → Int) (go : Nat → Int → Int → Nat → Int)
  (h0 : ∀ acc base e, go 0 acc base e = acc)
  (hs : ∀ f acc base e, go (f + 1) acc base e =
    if e = 0 then acc else go f (if e % 2 = 1 then red (acc * base) else acc) (red (base * base)) (e / 2))
include h0 hs

theorem sqmul_modEq {m : Int} (hred : ∀ x, red x ≡ x [ZMOD m]) :
    ∀ (fuel : Nat) (acc base : Int) (e : Nat), e < 2 ^ fuel → go fuel acc base e ≡ acc * base ^ e [ZMOD m] := by
  intro fuel
  induction fuel with
  | zero =>
    intro acc base e he
    rw [h0, show e = 0 by simpa using he, pow_zero, mul_one]
  | succ f ih =>
    intro acc base e he
    rw [hs]
    by_cases he0 : e = 0
    · rw [if_pos he0, he0, pow_zero, mul_one]
    rw [if_neg he0]
    refine (ih _ _ _ (by rw [Nat.pow_succ] at he; omega)).trans ?_
    have hsq : red (base * base) ^ (e / 2) ≡ (base * base) ^ (e / 2) [ZMOD m] := (hred _).pow _
    by_cases hodd : e % 2 = 1
    · rw [if_pos hodd, show acc * base ^ e = (acc * base) * (base * base) ^ (e / 2) by
        conv_lhs => rw [show e = 2 * (e / 2) + 1 by omega]
        rw [pow_succ, pow_mul]; ring]
      exact (hred _).mul hsq
    · rw [if_neg hodd, show acc * base ^ e = acc * (base * base) ^ (e / 2) by
        conv_lhs => rw [show e = 2 * (e / 2) by omega]
        rw [pow_mul]; ring]
      exact (Int.ModEq.refl acc).mul hsq

/-- if one round keeps `P` for the accumulator and `Q` for the base, the result has `P` (used for its range and its sign) -/
theorem sqmul_invariant (P Q : Int → Prop) (hP : ∀ acc base, P acc → Q base → P (red (acc * base)))
    (hQ : ∀ base, Q base → Q (red (base * base))) :
    ∀ (fuel : Nat) (acc base : Int) (e : Nat), P acc → Q base → P (go fuel acc base e) := by
  intro fuel
  induction fuel with
  | zero => intro acc base e hp _; rwa [h0]
  | succ f ih =>
    intro acc base e hp hq
    rw [hs]
    split
    · exact hp
    · exact ih _ _ _ (by split; exacts [hP _ _ hp hq, hp]) (hQ _ hq)

end

/-- the specification's `powModNat` is `b^e mod m` in `[0,|m|)` -/
theorem powmod_meaning (b : Int) (e : Nat) (m : Int) (hm : m ≠ 0) : MpSpec.powModNat b e m = b ^ e % m := by
  unfold MpSpec.powModNat
  have h1 := sqmul_modEq (· % m) (MpSpec.powModNat.go m) (fun _ _ _ => rfl) (fun _ _ _ _ => rfl)
    (fun x => Int.mod_modEq x m) (e.log2 + 1) (1 % m) (b % m) e Nat.lt_log2_self
  have h2 := sqmul_invariant (· % m) (MpSpec.powModNat.go m) (fun _ _ _ => rfl) (fun _ _ _ _ => rfl)
    (fun x => 0 ≤ x ∧ x < (m.natAbs : Int)) (fun _ => True)
    (fun _ _ _ _ => ⟨Int.emod_nonneg _ hm, Int.emod_lt _ hm⟩) (fun _ _ => trivial)
    (e.log2 + 1) (1 % m) (b % m) e ⟨Int.emod_nonneg _ hm, Int.emod_lt _ hm⟩ trivial
  apply GmpSpec.eq_emod_of_range h2.1 h2.2
  refine h1.trans ?_
  have : (1 % m) * (b % m) ^ e ≡ 1 * b ^ e [ZMOD m] := (Int.mod_modEq _ _).mul ((Int.mod_modEq _ _).pow _)
  simpa using this

theorem bpowm_modEq {a : Int} {p : Nat} {c : Int} : MpBoost.bpowm a p c ≡ a ^ p [ZMOD c] := by
  unfold MpBoost.bpowm
  refine (GmpSpec.tmod_modEq _ _).trans ?_
  have := sqmul_modEq (Int.tmod · c) (MpBoost.bpowm.go c) (fun _ _ _ => rfl) (fun _ _ _ _ => rfl)
    (fun x => GmpSpec.tmod_modEq x c) (p.log2 + 1) 1 a p Nat.lt_log2_self
  simpa using this

theorem bpowm_abs_lt (a : Int) (p : Nat) {c : Int} (hc : c ≠ 0) :
    (MpBoost.bpowm a p c).natAbs < c.natAbs := by
  unfold MpBoost.bpowm
  exact GmpSpec.tmod_natAbs_lt _ hc

/-- **`mp_powm` (mp_boost.cpp, with the `mp_abs(m)` repair) = specification** for every modulus `m ≠ 0`,
every base and every exponent (a negative exponent is undefined on both sides when the base is not
invertible). -/
theorem powm (b e m : Int) (hm : m ≠ 0) : MpBoost.powm b e m = MpSpec.powm b e m := by
  unfold MpBoost.powm MpSpec.powm
  by_cases hneg : e < 0
  · have : ¬ e ≥ 0 := by omega
    simp only [hneg, if_true, this, if_false]
    rw [invert b m hm]
    cases hinv : MpSpec.invert b m with
    | none => rfl
    | some bi =>
      simp only
      congr 1
      obtain ⟨r0, -, -⟩ := invert_meaning b m bi hm hinv
      have hn : e.natAbs = (-e).toNat := by omega
      rw [hn, powmod_meaning _ _ _ hm]
      -- the inverse `bi` is `≥ 0` (`r0`), so all intermediate values are: the truncated result is the residue itself and
      -- the C++ needs no fix-up here
      have hnn : 0 ≤ MpBoost.bpowm bi (-e).toNat m := by
        unfold MpBoost.bpowm
        exact Int.tmod_nonneg _ (sqmul_invariant (Int.tmod · m) (MpBoost.bpowm.go m) (fun _ _ _ => rfl)
          (fun _ _ _ _ => rfl) (0 ≤ ·) (0 ≤ ·) (fun _ _ h1 h2 => Int.tmod_nonneg _ (Int.mul_nonneg h1 h2))
          (fun _ h => Int.tmod_nonneg _ (Int.mul_nonneg h h)) _ 1 bi _ (by omega) r0)
      have hlt := bpowm_abs_lt bi (-e).toNat hm
      exact GmpSpec.eq_emod_of_range hnn (by omega) bpowm_modEq
  · have : e ≥ 0 := by omega
    simp only [hneg, if_false, this, if_true]
    rw [powmod_meaning _ _ _ hm]
    exact congrArg some (GmpSpec.fixup_eq_emod (bpowm_abs_lt b e.toNat hm) bpowm_modEq)

end SymVerif.C43
