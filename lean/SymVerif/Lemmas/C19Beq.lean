/-
A sound boolean equality on object graphs, to *check* address consistency of concrete graphs by evaluation.
-/
import SymVerif.Lemmas.C19Nodes

namespace SymVerif.Codec

mutual
  def beqT : T → T → Bool
    | .mk a tc fs, .mk a' tc' fs' => a == a' && tc == tc' && beqFlds fs fs'
  termination_by structural x => x
  def beqFlds : List Fld → List Fld → Bool
    | [], [] => true
    | f :: fs, g :: gs => beqFld f g && beqFlds fs gs
    | _, _ => false
  termination_by structural x => x
  def beqFld : Fld → Fld → Bool
    | .str s, .str s' => s == s'
    | .u64 v, .u64 v' => v == v'
    | .f64 v, .f64 v' => v == v'
    | .byte b, .byte b' => b == b'
    | .ptr t, .ptr t' => beqT t t'
    | .seq n l, .seq n' l' => n == n' && beqTs l l'
    | _, _ => false
  termination_by structural x => x
  def beqTs : List T → List T → Bool
    | [], [] => true
    | t :: ts, u :: us => beqT t u && beqTs ts us
    | _, _ => false
  termination_by structural x => x
end

mutual
  theorem beqT_sound : ∀ x y : T, beqT x y = true → x = y
    | .mk a tc fs, .mk a' tc' fs', h => by
      simp only [beqT, Bool.and_eq_true, beq_iff_eq] at h
      rw [h.1.1, h.1.2, beqFlds_sound fs fs' h.2]
  termination_by structural x => x
  theorem beqFlds_sound : ∀ x y : List Fld, beqFlds x y = true → x = y
    | [], [], _ => rfl
    | f :: fs, g :: gs, h => by
      simp only [beqFlds, Bool.and_eq_true] at h
      rw [beqFld_sound f g h.1, beqFlds_sound fs gs h.2]
    | [], _ :: _, h | _ :: _, [], h => absurd h Bool.false_ne_true
  termination_by structural x => x
  theorem beqFld_sound : ∀ x y : Fld, beqFld x y = true → x = y
    | .str s, y, h => by
      cases y with
      | str s' => exact congrArg _ (eq_of_beq h)
      | _ => exact absurd h Bool.false_ne_true
    | .u64 v, y, h => by
      cases y with
      | u64 v' => exact congrArg _ (eq_of_beq h)
      | _ => exact absurd h Bool.false_ne_true
    | .f64 v, y, h => by
      cases y with
      | f64 v' => exact congrArg _ (eq_of_beq h)
      | _ => exact absurd h Bool.false_ne_true
    | .byte b, y, h => by
      cases y with
      | byte b' => exact congrArg _ (eq_of_beq h)
      | _ => exact absurd h Bool.false_ne_true
    | .ptr t, y, h => by
      cases y with
      | ptr t' => exact congrArg _ (beqT_sound t t' h)
      | _ => exact absurd h Bool.false_ne_true
    | .seq n l, y, h => by
      cases y with
      | seq n' l' =>
        simp only [beqFld, Bool.and_eq_true, beq_iff_eq] at h
        rw [h.1, beqTs_sound l l' h.2]
      | _ => exact absurd h Bool.false_ne_true
  termination_by structural x => x
  theorem beqTs_sound : ∀ x y : List T, beqTs x y = true → x = y
    | [], [], _ => rfl
    | t :: ts, u :: us, h => by
      simp only [beqTs, Bool.and_eq_true] at h
      rw [beqT_sound t u h.1, beqTs_sound ts us h.2]
    | [], _ :: _, h | _ :: _, [], h => absurd h Bool.false_ne_true
  termination_by structural x => x
end

def consistentB (l : List T) : Bool := l.all fun x => l.all fun y => x.addr != y.addr || beqT x y

theorem consistent_of_check (l : List T) (h : consistentB l = true) : Consistent l := by
  intro x hx y hy hxy
  simp only [consistentB, List.all_eq_true, Bool.or_eq_true, bne_iff_ne, ne_eq] at h
  rcases h x hx y hy with h1 | h1
  · exact absurd hxy h1
  · exact beqT_sound x y h1

end SymVerif.Codec
