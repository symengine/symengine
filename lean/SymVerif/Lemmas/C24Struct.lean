import SymVerif.Lemmas.C24Basic
/-! Entry-level specifications of the structural operations of `Model/Dense.lean`:
each operation succeeds on well-formed inputs that satisfy the C++ assertion (so no access is
out of bounds) and every entry of the result is the stated expression in the entries of the inputs. -/
namespace SymVerif.Dense

theorem fresh_size (r c : Nat) : (DM.fresh r c).m.size = r * c := by simp [DM.fresh]

/-- the call `x` returns a well-formed `r × c` matrix with entries `v i j` -/
def Returns (x : M DM) (r c : Nat) (v : Nat → Nat → X) : Prop :=
  ∃ C, x = .ok C ∧ C.row = r ∧ C.col = c ∧ C.wf ∧ ∀ i, i < r → ∀ j, j < c → C.at i j = v i j

theorem fillFresh (r c : Nat) (v : Nat → Nat → X) (body : Nat → Nat → Array X → M (Array X))
    (hb : ∀ i, i < r → ∀ j, j < c → ∀ m : Array X, m.size = r * c →
      body i j m = wr m (i * c + j) (v i j)) :
    Returns (do
      let m ← forN r 0 (fun i m => forN c 0 (fun j m => body i j m) m) (DM.fresh r c).m
      pure { row := r, col := c, m := m }) r c v := by
  obtain ⟨m, hok, hs, h1, _⟩ := gridFill r c r c (fun i _ => i) (fun _ j => j) v body (DM.fresh r c).m
    (fresh_size r c) hb (fun _ hi _ hj => ⟨hi, hj⟩) (fun _ _ _ _ _ _ _ _ e1 e2 => ⟨e1, e2⟩)
  exact ⟨{ row := r, col := c, m := m }, by rw [hok]; rfl, rfl, rfl, hs, h1⟩

theorem binBody (op : X → X → X) (A B : DM) (hA : A.wf) (hB : B.wf) (hr : A.row = B.row)
    (hc : A.col = B.col) {i j : Nat} (hi : i < A.row) (hj : j < A.col) (c : Array X) :
    (do wr c (i * A.col + j) (op (← rd A.m (i * A.col + j)) (← rd B.m (i * A.col + j)))) =
      wr c (i * A.col + j) (op (A.at i j) (B.at i j)) := by
  rw [rd_cell hA hi hj, rd_cell (hB.trans (by rw [← hr, ← hc])) hi hj, DM.at, DM.at, ← hc]; rfl

theorem unBody (f : X → X) (A : DM) (hA : A.wf) {i j : Nat} (hi : i < A.row) (hj : j < A.col)
    (c : Array X) (t : Nat) :
    (do wr c t (f (← rd A.m (i * A.col + j)))) = wr c t (f (A.at i j)) := by
  rw [rd_cell hA hi hj]; rfl

theorem addDense_spec (A B : DM) (hA : A.wf) (hB : B.wf) (hr : A.row = B.row) (hc : A.col = B.col) :
    Returns (addDense A B) A.row A.col fun i j => X.add (A.at i j) (B.at i j) := by
  have hq : (A.row == B.row && A.col == B.col) = true := by simp [hr, hc]
  simp only [addDense, req_true hq, bind_ok]
  exact fillFresh A.row A.col _ _ fun i hi j hj c _ => binBody X.add A B hA hB hr hc hi hj c

theorem emulDense_spec (A B : DM) (hA : A.wf) (hB : B.wf) (hr : A.row = B.row) (hc : A.col = B.col) :
    Returns (emulDense A B) A.row A.col fun i j => X.mul (A.at i j) (B.at i j) := by
  have hq : (A.row == B.row && A.col == B.col) = true := by simp [hr, hc]
  simp only [emulDense, req_true hq, bind_ok]
  exact fillFresh A.row A.col _ _ fun i hi j hj c _ => binBody X.mul A B hA hB hr hc hi hj c

theorem addScalar_spec (A : DM) (k : X) (hA : A.wf) :
    Returns (addScalar A k) A.row A.col fun i j => X.add (A.at i j) k :=
  fillFresh A.row A.col _ _ fun _ hi _ hj c _ => unBody (X.add · k) A hA hi hj c _

theorem mulScalar_spec (A : DM) (k : X) (hA : A.wf) :
    Returns (mulScalar A k) A.row A.col fun i j => X.mul (A.at i j) k :=
  fillFresh A.row A.col _ _ fun _ hi _ hj c _ => unBody (X.mul · k) A hA hi hj c _

theorem transposeDense_spec (A : DM) (hA : A.wf) :
    Returns (transposeDense A) A.col A.row fun j i => A.at i j := by
  -- the loops run over `A`'s `(i, j)`, the storage is `A.col × A.row`: iteration `(i, j)` owns cell `(j, i)`
  obtain ⟨c, hcok, hs, h1, _⟩ := gridFill (r := A.col) (c := A.row) (n1 := A.row) (n2 := A.col)
    (fun _ j => j) (fun i _ => i)
    (fun i j => A.at i j)
    (fun i j c => do wr c (j * A.row + i) (← rd A.m (i * A.col + j)))
    (DM.fresh A.col A.row).m (fresh_size _ _)
    (fun i hi j hj c _ => unBody id A hA hi hj c _)
    (fun _ hi _ hj => ⟨hj, hi⟩) (fun _ _ _ _ _ _ _ _ e1 e2 => ⟨e2, e1⟩)
  refine ⟨{ DM.fresh A.col A.row with m := c }, ?_, rfl, rfl, hs, fun j hj i hi => h1 i hi j hj⟩
  simp only [transposeDense]
  show (forN A.row 0 (fun i b => forN A.col 0 (fun j b => do
    wr b (j * A.row + i) (← rd A.m (i * A.col + j))) b) (DM.fresh A.col A.row).m >>= _) = _
  rw [hcok]; rfl

/-- the `k` loop of mul_dense_dense at the level of entries -/
def dotX (A B : DM) (r c : Nat) : X :=
  accF (fun k acc => X.add acc (X.mul (A.at r k) (B.at k c))) X.zero A.col

theorem mulCell_spec (A B : DM) (hA : A.wf) (hB : B.wf) (hk : A.col = B.row) (r c : Nat)
    (hr : r < A.row) (hc : c < B.col) (cm : Array X) (hs : cm.size = A.row * B.col) :
    mulCell A B B.col r c cm = wr cm (r * B.col + c) (dotX A B r c) := by
  obtain ⟨cm0, h0, hs0, v0⟩ := wr_cell hs hr hc X.zero
  simp only [mulCell, h0, bind_ok]
  rw [forN_cell0 hr hc (fun k acc => X.add acc (X.mul (A.at r k) (B.at k c))) _ cm0 hs0 A.col]
  · rw [v0 r c hc, if_pos ⟨rfl, rfl⟩, wr_wr h0]; rfl
  · intro k hk2 m' hs' _
    rw [rd_cell hs' hr hc, rd_cell hA hr hk2, rd_cell hB (hk ▸ hk2) hc]
    rfl

theorem mulDense_spec (A B : DM) (hA : A.wf) (hB : B.wf) (hk : A.col = B.row) :
    Returns (mulDense A B) A.row B.col (dotX A B) := by
  have hq : (A.col == B.row) = true := by simp [hk]
  simp only [mulDense, req_true hq, bind_ok]
  exact fillFresh A.row B.col _ (fun i j c => mulCell A B B.col i j c) fun i hi j hj c hs =>
    mulCell_spec A B hA hB hk i j hi hj c hs

theorem step_iff {t n s : Nat} (hs : 0 < s) : t < (n + s - 1) / s ↔ t * s < n := by
  rw [Nat.lt_div_iff_mul_lt hs]; omega

/-- submatrix_dense with arbitrary steps: the positions `(t*rs, u*cs)` receive the entries of `A`,
    every other position keeps the zero the model pre-fills (the C++ leaves the caller's content) -/
theorem submatrixDense_spec (A : DM) (r0 c0 r1 c1 rs cs : Nat) (hA : A.wf)
    (h1 : r0 ≤ r1) (h2 : c0 ≤ c1) (h3 : r1 < A.row) (h4 : c1 < A.col) (hrs : 0 < rs) (hcs : 0 < cs) :
    ∃ C, submatrixDense A r0 c0 r1 c1 rs cs = .ok C ∧ C.row = r1 - r0 + 1 ∧ C.col = c1 - c0 + 1 ∧ C.wf ∧
      (∀ t u, t * rs < C.row → u * cs < C.col → C.at (t * rs) (u * cs) = A.at (r0 + t * rs) (c0 + u * cs)) ∧
      (∀ i j, i < C.row → j < C.col → (¬ (rs ∣ i ∧ cs ∣ j)) → C.at i j = X.zero) := by
  let row := r1 - r0 + 1
  let col := c1 - c0 + 1
  obtain ⟨c, hcok, hs, hv, hfr⟩ := gridFill row col ((row + rs - 1) / rs) ((col + cs - 1) / cs)
    (fun t _ => t * rs) (fun _ u => u * cs)
    (fun t u => A.at (r0 + t * rs) (c0 + u * cs))
    (fun t u b => do wr b ((t * rs) * col + u * cs) (← rd A.m ((r0 + t * rs) * A.col + c0 + u * cs)))
    (Array.replicate (row * col) X.zero) Array.size_replicate
    (by
      intro t ht u hu b _
      have a1 := (step_iff hrs).mp ht
      have a2 := (step_iff hcs).mp hu
      rw [Nat.add_assoc, rd_cell hA (show r0 + t * rs < A.row by omega) (show c0 + u * cs < A.col by omega)]
      rfl)
    (fun t ht u hu => ⟨(step_iff hrs).mp ht, (step_iff hcs).mp hu⟩)
    (fun _ _ _ _ _ _ _ _ e1 e2 =>
      ⟨Nat.eq_of_mul_eq_mul_right hrs e1, Nat.eq_of_mul_eq_mul_right hcs e2⟩)
  refine ⟨{ row := row, col := col, m := c }, ?_, rfl, rfl, hs, ?_, ?_⟩
  · have q1 : (decide (r1 ≥ r0) && decide (c1 ≥ c0)) = true := by simp [h1, h2]
    have q2 : decide (r1 < A.row) = true := by simp [h3]
    have q3 : decide (c1 < A.col) = true := by simp [h4]
    have q4 : ¬ (rs = 0 ∨ cs = 0) := by omega
    simp only [submatrixDense, req_true q1, req_true q2, req_true q3, bind_ok, if_neg q4, forStep]
    show (forN _ 0 _ _ >>= _) = _
    rw [hcok]; rfl
  · intro t u ht hu
    exact hv t ((step_iff hrs).mpr ht) u ((step_iff hcs).mpr hu)
  · intro i j hi hj hnd
    refine (hfr i j hj fun t _ u _ e => hnd ⟨⟨t, by rw [Nat.mul_comm]; exact e.1⟩,
      ⟨u, by rw [Nat.mul_comm]; exact e.2⟩⟩).trans ?_
    exact cell_replicate X.zero hi hj

end SymVerif.Dense
