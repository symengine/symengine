/-
C31: `comp` as Mathlib's substitution, the formal exponential `exp ∘ S` (Mathlib's `PowerSeries.exp` substituted),
and the congruence lemmas `S ≡ S' mod X^n → F S ≡ F S' mod X^n` that turn the per-function specifications into
the `_specC` form composed along an expression tree.
-/
import Mathlib.RingTheory.PowerSeries.Exp
import Mathlib.RingTheory.PowerSeries.Substitution
import SymVerif.Lemmas.C31ExpLog
import SymVerif.Lemmas.C31Atan
import SymVerif.Lemmas.C31SinCos

namespace SymVerif.C31
open SymVerif.Series PowerSeries

theorem comp_eq_subst (a : ℕ → ℚ) {S : ℚ⟦X⟧} (hS : constantCoeff S = 0) :
    comp a S = (PowerSeries.mk a).subst S := by
  ext e
  rw [coeff_subst' (HasSubst.of_constantCoeff_zero' hS), comp, coeff_mk,
    finsum_eq_sum_of_support_subset (s := Finset.range (e + 1))]
  · rw [psum, map_sum]
    apply Finset.sum_congr rfl
    intro d _
    rw [coeff_C_mul, coeff_mk, smul_eq_mul]
  · intro d hd
    by_contra hcon
    rw [Finset.coe_range, Set.mem_Iio, not_lt] at hcon
    exact hd (smul_eq_zero_of_right _ (coeff_pow_of_lt hS hcon))

/-- `exp ∘ S` as a formal power series -/
noncomputable def fexp (S : ℚ⟦X⟧) : ℚ⟦X⟧ := (PowerSeries.exp ℚ).subst S

theorem constantCoeff_fexp {S : ℚ⟦X⟧} (hS : constantCoeff S = 0) : constantCoeff (fexp S) = 1 := by
  rw [fexp, PowerSeries.exp, ← comp_eq_subst _ hS, constantCoeff_comp]
  simp

theorem isExpOf_fexp {S : ℚ⟦X⟧} (hS : constantCoeff S = 0) : IsExpOf S (fexp S) := by
  have hs : HasSubst S := HasSubst.of_constantCoeff_zero' hS
  refine ⟨constantCoeff_fexp hS, ?_⟩
  unfold fexp
  rw [derivative_subst hs, derivative_exp]

theorem fatan_congr {n : ℕ} {S S' : ℚ⟦X⟧} (h : EqMod n S S') (hS : constantCoeff S = 0) :
    EqMod n (fatan S) (fatan S') := by
  rw [fatan_eq_fat, fatan_eq_fat]
  exact (fat_expands 1).congr h hS

theorem fatanh_congr {n : ℕ} {S S' : ℚ⟦X⟧} (h : EqMod n S S') (hS : constantCoeff S = 0) :
    EqMod n (fatanh S) (fatanh S') := by
  rw [fatanh_eq_fat, fatanh_eq_fat]
  exact (fat_expands (-1)).congr h hS

theorem fexp_congr {n : ℕ} {S S' : ℚ⟦X⟧} (h : EqMod n S S') (hS : constantCoeff S = 0) :
    EqMod n (fexp S) (fexp S') := eqMod_of_pos fun hn =>
  isExpOf_congr (isExpOf_fexp hS) (isExpOf_fexp (by rw [← constantCoeff_eq_of_eqMod hn h, hS])) h

theorem specC_of_spec {F : ℚ⟦X⟧ → ℚ⟦X⟧} {c : ℚ} {prec : ℕ} {s g : Poly} {S : ℚ⟦X⟧}
    (hF : ∀ {S S'}, EqMod prec S S' → constantCoeff S = c → EqMod prec (F S) (F S'))
    (hp : 1 ≤ prec) (h : constantCoeff (toPS s) = c ∧ EqMod prec (toPS g) (F (toPS s))) (hs : EqMod prec (toPS s) S) :
    constantCoeff S = c ∧ EqMod prec (toPS g) (F S) := by
  have hS : constantCoeff S = c := by rw [← constantCoeff_eq_of_eqMod hp hs, h.1]
  exact ⟨hS, h.2.trans (hF hs h.1)⟩

theorem exp_specC (s g : Poly) (prec : ℕ) (hp : 1 ≤ prec) (h : seriesExp s prec = .ok g) {S : ℚ⟦X⟧}
    (hs : EqMod prec (toPS s) S) : constantCoeff S = 0 ∧ EqMod prec (toPS g) (fexp S) := by
  obtain ⟨hc, hE⟩ := seriesExp_ok h
  exact specC_of_spec fexp_congr hp ⟨hc, hE _ (isExpOf_fexp hc)⟩ hs

theorem log_specC (s g : Poly) (prec : ℕ) (hp : 1 ≤ prec) (h : seriesLog s prec = .ok g) {S : ℚ⟦X⟧}
    (hs : EqMod prec (toPS s) S) : constantCoeff S = 1 ∧ EqMod prec (toPS g) (flog S) :=
  specC_of_spec flog_expands.congr hp (series_log_spec s g prec h) hs

theorem atan_specC (s g : Poly) (prec : ℕ) (hp : 1 ≤ prec) (h : seriesAtan s prec = .ok g) {S : ℚ⟦X⟧}
    (hs : EqMod prec (toPS s) S) : constantCoeff S = 0 ∧ EqMod prec (toPS g) (fatan S) :=
  specC_of_spec fatan_congr hp (series_atan_spec s g prec h) hs

theorem atanh_specC (s g : Poly) (prec : ℕ) (hp : 1 ≤ prec) (h : seriesAtanh s prec = .ok g) {S : ℚ⟦X⟧}
    (hs : EqMod prec (toPS s) S) : constantCoeff S = 0 ∧ EqMod prec (toPS g) (fatanh S) :=
  specC_of_spec fatanh_congr hp (series_atanh_spec s g prec h) hs

theorem sin_specC (s g : Poly) (prec : ℕ) (hp : 1 ≤ prec) (h : seriesSin s prec = .ok g) {S : ℚ⟦X⟧}
    (hs : EqMod prec (toPS s) S) : constantCoeff S = 0 ∧ EqMod prec (toPS g) (comp sinC S) :=
  specC_of_spec (fun h _ => comp_congr sinC h) hp (sin_spec s g prec h) hs

theorem cos_specC (s g : Poly) (prec : ℕ) (hp : 1 ≤ prec) (h : seriesCos s prec = .ok g) {S : ℚ⟦X⟧}
    (hs : EqMod prec (toPS s) S) : constantCoeff S = 0 ∧ EqMod prec (toPS g) (comp cosC S) :=
  specC_of_spec (fun h _ => comp_congr cosC h) hp (cos_spec s g prec h) hs

theorem sec_specC (s g : Poly) (prec : ℕ) (hp : 1 ≤ prec) (h : seriesSec s prec = .ok g) {S : ℚ⟦X⟧}
    (hs : EqMod prec (toPS s) S) : constantCoeff S = 0 ∧ EqMod prec (toPS g) (comp cosC S)⁻¹ := by
  obtain ⟨c, hc, h⟩ := bind_ok.mp h
  obtain ⟨hS, hcs⟩ := cos_specC s c prec hp hc hs
  exact ⟨hS, (invert_specC hp h hcs).2⟩

/-- series_sinh and series_cosh differ in the operation `op` that combines `exp ∘ S` and its inverse; `h` is their
model text verbatim, so that a hypothesis about `seriesSinh` / `seriesCosh` fits as it is -/
theorem expInv_specC {op : Poly → Poly → Poly} {s g : Poly} {prec : ℕ} (hp : 1 ≤ prec) {S : ℚ⟦X⟧}
    (h : (if Series.coeff s 0 != 0 then Except.error Err.notRational else do
      let p1 ← seriesExp s prec
      let p2 ← invert p1 prec
      pure (scale (1 / 2) (op p1 p2))) = .ok g) (hs : EqMod prec (toPS s) S) :
    constantCoeff S = 0 ∧ ∃ p1 p2, g = scale (1 / 2) (op p1 p2) ∧
      EqMod prec (toPS p1) (fexp S) ∧ EqMod prec (toPS p2) (fexp S)⁻¹ := by
  obtain ⟨p1, h1, h⟩ := bind_ok.mp (guard_ok h).2
  obtain ⟨p2, h2, h⟩ := bind_ok.mp h
  obtain ⟨hS, he⟩ := exp_specC s p1 prec hp h1 hs
  exact ⟨hS, p1, p2, (Except.ok.inj h).symm, he, (invert_specC hp h2 he).2⟩

theorem sinh_specC (s g : Poly) (prec : ℕ) (hp : 1 ≤ prec) (h : seriesSinh s prec = .ok g) {S : ℚ⟦X⟧}
    (hs : EqMod prec (toPS s) S) :
    constantCoeff S = 0 ∧ EqMod prec (toPS g) (C (1 / 2 : ℚ) * (fexp S - (fexp S)⁻¹)) := by
  obtain ⟨hS, p1, p2, rfl, ha, hb⟩ := expInv_specC (op := psub) hp h hs
  rw [toPS_scale, toPS_psub]
  exact ⟨hS, (ha.sub hb).mul_left _⟩

theorem cosh_specC (s g : Poly) (prec : ℕ) (hp : 1 ≤ prec) (h : seriesCosh s prec = .ok g) {S : ℚ⟦X⟧}
    (hs : EqMod prec (toPS s) S) :
    constantCoeff S = 0 ∧ EqMod prec (toPS g) (C (1 / 2 : ℚ) * (fexp S + (fexp S)⁻¹)) := by
  obtain ⟨hS, p1, p2, rfl, ha, hb⟩ := expInv_specC (op := padd) hp h hs
  rw [toPS_scale, toPS_padd]
  exact ⟨hS, (ha.add hb).mul_left _⟩

end SymVerif.C31
