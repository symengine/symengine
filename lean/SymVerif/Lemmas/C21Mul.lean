import SymVerif.Lemmas.C21Basic

/-! C21: schoolbook multiplication (`ODictWrapper::mul`), what `pow`, `*=` and `divides` need of a multiplication (`MulOK`), `operator*=`. -/
-- as in C21Basic: some lemmas inherit `[DecidableEq R]` unused
set_option linter.unusedSectionVars false
open Polynomial
namespace SymVerif.C21
open SymVerif.UPoly

variable {R : Type} [CommRing R] [DecidableEq R]

theorem toPoly_accTerm (d : Dict R) (k : Nat) (v : R) :
    toPoly (accTerm d k v) = toPoly d + monomial k v := by
  induction d with
  | nil => rw [accTerm, toPoly_cons, toPoly_nil, zero_add, zero_add, add_zero]
  | cons p t ih =>
    obtain ⟨k', c'⟩ := p
    rw [accTerm]
    split
    · rw [toPoly_cons, ih, toPoly_cons, add_assoc]
    · split
      · rename_i h2
        subst h2
        rw [toPoly_cons, toPoly_cons, map_add, add_right_comm]
      · rw [toPoly_cons, toPoly_cons, zero_add, add_comm]

/-- `p.dict_[k] += v` is a write through `operator[]`: the walk of `setKey`, with the sum as the value stored -/
theorem accTerm_eq_setKey (d : Dict R) (k : Nat) (v : R) : ∃ c, accTerm d k v = setKey d k c := by
  induction d with
  | nil => exact ⟨0 + v, rfl⟩
  | cons p t ih =>
    obtain ⟨k', c'⟩ := p
    obtain ⟨c, hc⟩ := ih
    by_cases h1 : k' < k
    · exact ⟨c, by rw [accTerm, setKey, if_pos h1, if_pos h1, hc]⟩
    · by_cases h2 : k' = k
      · exact ⟨c' + v, by rw [accTerm, setKey, if_neg h1, if_neg h1, if_pos h2, if_pos h2, h2]⟩
      · exact ⟨0 + v, by rw [accTerm, setKey, if_neg h1, if_neg h1, if_neg h2, if_neg h2]⟩

theorem sorted_accTerm {d : Dict R} {k : Nat} {v : R} (hd : Sorted d) : Sorted (accTerm d k v) := by
  obtain ⟨c, hc⟩ := accTerm_eq_setKey d k v
  rw [hc]
  exact sorted_setKey hd

theorem toPoly_mulAcc_row (b : Dict R) (k1 : Nat) (c1 : R) (p : Dict R) :
    toPoly (b.foldl (fun p i2 => accTerm p (k1 + i2.1) (c1 * i2.2)) p)
      = toPoly p + monomial k1 c1 * toPoly b := by
  induction b generalizing p with
  | nil => rw [List.foldl_nil, toPoly_nil, mul_zero, add_zero]
  | cons q t ih =>
    rw [List.foldl_cons, ih, toPoly_accTerm, toPoly_cons, mul_add, monomial_mul_monomial, add_assoc]

theorem sorted_mulAcc_row (b : Dict R) (k1 : Nat) (c1 : R) {p : Dict R} (hp : Sorted p) :
    Sorted (b.foldl (fun p i2 => accTerm p (k1 + i2.1) (c1 * i2.2)) p) := by
  induction b generalizing p with
  | nil => exact hp
  | cons q t ih => exact ih (sorted_accTerm hp)

/-- `mulAcc` from any accumulator `p` -/
theorem toPoly_mulAcc_loop (a b p : Dict R) :
    toPoly (a.foldl (fun p i1 => b.foldl (fun p i2 => accTerm p (i1.1 + i2.1) (i1.2 * i2.2)) p) p)
      = toPoly p + toPoly a * toPoly b := by
  induction a generalizing p with
  | nil => rw [List.foldl_nil, toPoly_nil, zero_mul, add_zero]
  | cons q t ih => rw [List.foldl_cons, ih, toPoly_mulAcc_row, toPoly_cons, add_mul, add_assoc]

theorem sorted_mulAcc_loop (a b : Dict R) {p : Dict R} (hp : Sorted p) :
    Sorted (a.foldl (fun p i1 => b.foldl (fun p i2 => accTerm p (i1.1 + i2.1) (i1.2 * i2.2)) p) p) := by
  induction a generalizing p with
  | nil => exact hp
  | cons q t ih => exact ih (sorted_mulAcc_row b q.1 q.2 hp)

theorem toPoly_mulAcc (a b : Dict R) : toPoly (mulAcc a b) = toPoly a * toPoly b := by
  rw [mulAcc, toPoly_mulAcc_loop, toPoly_nil, zero_add]

theorem sorted_mulAcc (a b : Dict R) : Sorted (mulAcc a b) := sorted_mulAcc_loop a b sorted_nil

theorem toPoly_mulGeneric (a b : Dict R) : toPoly (mulGeneric a b) = toPoly a * toPoly b := by
  unfold mulGeneric
  split
  · rename_i h; rw [List.isEmpty_iff.1 h, toPoly_nil, zero_mul]
  · split
    · rename_i h; rw [List.isEmpty_iff.1 h, toPoly_nil, mul_zero]
    · show toPoly (fromMap (mulAcc a b)) = _
      rw [toPoly_fromMap, toPoly_mulAcc]

theorem canon_mulGeneric (a b : Dict R) : Canon (mulGeneric a b) := by
  unfold mulGeneric
  split
  · rename_i h; rw [List.isEmpty_iff.1 h]; exact canon_nil
  · split
    · rename_i h; rw [List.isEmpty_iff.1 h]; exact canon_nil
    · show Canon (fromMap (mulAcc a b))
      exact canon_fromMap (sorted_mulAcc a b)

/-- what the generic theorems need to know about a `Wrapper::mul` -/
def MulOK (mul : Dict R → Dict R → Except Err (Dict R)) : Prop :=
  ∀ a b, Canon a → Canon b → ∃ r, mul a b = .ok r ∧ Canon r ∧ toPoly r = toPoly a * toPoly b

theorem gmul_ok : MulOK (gmul : Dict R → Dict R → Except Err (Dict R)) := by
  intro a b ha hb
  exact ⟨mulGeneric a b, rfl, canon_mulGeneric a b, toPoly_mulGeneric a b⟩

theorem mulAssign_ok [NoZeroDivisors R] {mul : Dict R → Dict R → Except Err (Dict R)} (hmul : MulOK mul) :
    MulOK (mulAssign mul) := by
  intro a b ha hb
  unfold mulAssign
  split
  · rename_i h
    refine ⟨a, rfl, ha, ?_⟩
    simp [List.isEmpty_iff.1 h]
  · split
    · rename_i h
      refine ⟨[], rfl, canon_nil, ?_⟩
      simp [List.isEmpty_iff.1 h]
    · split
      · rename_i c _
        have hc : c ≠ 0 := (noZero_cons.1 hb.2).1
        refine ⟨_, rfl, canon_map_mul ha (fun _ hx => mul_ne_zero hx hc), ?_⟩
        rw [toPoly_map_mul, toPoly_singleton, monomial_zero_left]
      · exact hmul a b ha hb

end SymVerif.C21
