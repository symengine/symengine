import SymVerif.Lemmas.C27Sem

/-! FiniteSet with Interval: union (the `left`/`right` flag loop) and complement (the cutting loop over the
numerically sorted elements); FiniteSet with the other classes: filters. -/
namespace SymVerif.Sets

/-- the step function of the fold in `fsUnionIv`: a copy of the anonymous function written there, which has to stay
    identical to it (`fsUnionIv_ok` unfolds this name to meet the model term) -/
def fsUnionStep (s e : ENum) (lo ro : Bool) (st : FsUnionSt) (a : ENum) : FsUnionSt :=
  if ivContains s e lo ro a then st
  else if st.left && s == a then { st with left := false }
  else if st.right && e == a then { st with right := false }
  else { st with container := insertK ENum.hash a st.container }

section
variable {s e : ENum} {lo ro : Bool}

/-- one element `a` of the loop of `FiniteSet::set_union(Interval)`: the loop asks `contains` of the interval with its
    original flags `lo ro`, the pending interval has `st.left st.right`, which start as `lo ro` and are only ever closed
    (`hl`, `hr`): a point of the original interval is a point of the pending one -/
theorem fsUnionStep_spec (hse : s < e) (st : FsUnionSt) (a : ENum) (hl : st.left = true → lo = true)
    (hr : st.right = true → ro = true) :
    let st' := fsUnionStep s e lo ro st a
    ((st'.left = true → lo = true) ∧ (st'.right = true → ro = true)) ∧
    ∀ q, (ENum.fin q ∈ st'.container ∨ memIv s e st'.left st'.right q) ↔
      (ENum.fin q = a ∨ ENum.fin q ∈ st.container ∨ memIv s e st.left st.right q) := by
  unfold fsUnionStep
  dsimp only
  split
  · rename_i hc
    exact ⟨⟨hl, hr⟩, fun q => (or_iff_right_of_imp fun (hq : ENum.fin q = a) =>
      Or.inr (memIv_weaken hl hr ((ivContains_iff s e lo ro q hse).1 (hq ▸ hc)))).symm⟩
  · split
    · rename_i hc
      simp only [Bool.and_eq_true, beq_iff_eq] at hc
      obtain ⟨hleft, rfl⟩ := hc
      refine ⟨⟨fun h => Bool.noConfusion h, hr⟩, fun q => ?_⟩
      rw [hleft, memIv_close_left hse]
      exact or_left_comm
    · split
      · rename_i hc
        simp only [Bool.and_eq_true, beq_iff_eq] at hc
        obtain ⟨hright, rfl⟩ := hc
        refine ⟨⟨hl, fun h => Bool.noConfusion h⟩, fun q => ?_⟩
        rw [hright, memIv_close_right hse]
        exact or_left_comm
      · exact ⟨⟨hl, hr⟩, fun q => by rw [mem_insertK soundBEq_ENum, or_assoc]⟩

theorem fsUnionFold_spec (hse : s < e) : ∀ (l : List ENum) (st : FsUnionSt), (st.left = true → lo = true) →
    (st.right = true → ro = true) →
    let st' := l.foldl (fsUnionStep s e lo ro) st
    ∀ q, (ENum.fin q ∈ st'.container ∨ memIv s e st'.left st'.right q) ↔
      (ENum.fin q ∈ l ∨ ENum.fin q ∈ st.container ∨ memIv s e st.left st.right q)
  | [], st, _, _ => fun q => (or_iff_right List.not_mem_nil).symm
  | a :: t, st, hl, hr => fun q => by
    have h1 := fsUnionStep_spec hse st a hl hr
    rw [List.foldl_cons, fsUnionFold_spec hse t _ h1.1.1 h1.1.2 q, h1.2 q, List.mem_cons, or_assoc]
    exact or_left_comm
end

theorem fsUnionIv_ok (l : List ENum) (s e : ENum) (lo ro : Bool) (hse : s < e) :
    Den (fsUnionIv l s e lo ro) fun q => ENum.fin q ∈ l ∨ memIv s e lo ro q := by
  unfold fsUnionIv
  have core := fsUnionFold_spec hse l { left := lo, right := ro, container := [] } id id
  simp only [List.not_mem_nil, false_or] at core
  unfold fsUnionStep at core
  generalize (l.foldl _ _ : FsUnionSt) = st at core ⊢
  have hwfo : WF (SetE.iv s e lo ro) := by simpa [WF] using hse
  dsimp only
  split
  · split
    · rename_i hflags
      simp only [Bool.and_eq_true, beq_iff_eq] at hflags
      exact (pairAny_ok makeUnion_ok (WF_finiteset _) hwfo).congr fun q => by
        rw [← core q, mem_finiteset]; simp only [mem, hflags.1, hflags.2]
    · exact (pairAny_ok makeUnion_ok (WF_finiteset _) (WF_interval)).congr fun q => by
        rw [← core q, mem_finiteset, mem_interval]
  · rename_i hemp
    have hemp' : st.container = [] := List.isEmpty_iff.1 (by simpa using hemp)
    split
    · rename_i hflags
      simp only [Bool.and_eq_true, beq_iff_eq] at hflags
      exact Den.ok hwfo fun q => by rw [← core q]; simp [mem, hemp', hflags.1, hflags.2]
    · exact Den.ok (WF_interval) fun q => by rw [← core q, mem_interval]; simp [hemp']

theorem mem_insertNum (x y : ENum) (l : List ENum) : y ∈ insertNum x l ↔ y = x ∨ y ∈ l := by
  induction l with
  | nil => exact List.mem_singleton.trans (or_iff_left List.not_mem_nil).symm
  | cons z t ih =>
    unfold insertNum
    split
    · exact List.mem_cons
    · rw [List.mem_cons, ih, List.mem_cons]
      exact or_left_comm

theorem pairwise_insertNum (x : ENum) (l : List ENum) (h : l.Pairwise (· ≤ ·)) :
    (insertNum x l).Pairwise (· ≤ ·) := by
  induction l with
  | nil => simp [insertNum]
  | cons z t ih =>
    unfold insertNum
    rw [List.pairwise_cons] at h
    split
    · rename_i hlt
      have hlt' : x < z := (ENum.lt_iff x z).1 hlt
      rw [List.pairwise_cons]
      refine ⟨fun y hy => ?_, List.pairwise_cons.2 h⟩
      rcases List.mem_cons.1 hy with rfl | hy
      · exact hlt'.le
      · exact hlt'.le.trans (h.1 y hy)
    · rename_i hlt
      have hge : z ≤ x := by
        by_contra hc
        exact hlt ((ENum.lt_iff x z).2 (not_le.1 hc))
      rw [List.pairwise_cons]
      refine ⟨fun y hy => ?_, ih h.2⟩
      rcases (mem_insertNum x y t).1 hy with rfl | hy
      · exact hge
      · exact h.1 y hy

theorem mem_sortNum (y : ENum) (l : List ENum) : y ∈ sortNum l ↔ y ∈ l := by
  unfold sortNum; rw [mem_foldl_insert mem_insertNum]; simp

theorem pairwise_sortNum (l : List ENum) : (sortNum l).Pairwise (· ≤ ·) := by
  unfold sortNum
  suffices ∀ acc : List ENum, acc.Pairwise (· ≤ ·) →
      (l.foldl (fun acc x => insertNum x acc) acc).Pairwise (· ≤ ·) from this [] List.Pairwise.nil
  induction l with
  | nil => intro acc h; simpa using h
  | cons z t ih => intro acc h; exact ih _ (pairwise_insertNum z acc h)

/-- invariants of the cutting loop: the pending piece `(last, e)` starts at `s` with the flag of the interval, or, open,
    at an element that was cut out (`hstart`); the elements still to come are sorted and lie at or above `last`, except
    those at or below `s`, which the loop skips (`hrest`) -/
theorem fsComplLoop_spec (s e : ENum) :
    ∀ (rest : List ENum) (st : FsComplSt), (hsorted : rest.Pairwise (· ≤ ·)) →
      (hlo : s ≤ st.last) → (hhi : st.last < e) → (hstart : st.last = s ∨ st.lo = true) →
      (hrest : ∀ y ∈ rest, st.last ≤ y ∨ y ≤ s) → (hw : WFL st.intervals) →
      let st' := fsComplLoop s e rest st
      (s ≤ st'.last ∧ st'.last < e ∧ WFL st'.intervals) ∧
      ∀ q : ℚ, (memAny st'.intervals q ∨ memIv st'.last e st'.lo st'.ro q) ↔
        (memAny st.intervals q ∨ (memIv st.last e st.lo st.ro q ∧ ENum.fin q ∉ rest)) := by
  intro rest
  induction rest with
  | nil => intro st _ hlo hhi _ _ hw; simp [fsComplLoop, hlo, hhi, hw]
  | cons a t ih =>
    intro st hsorted hlo hhi hstart hrest hw
    rw [List.pairwise_cons] at hsorted
    simp only [fsComplLoop, ENum.max2_eq, beq_iff_eq, List.mem_cons, not_or]
    have ha := hrest a List.mem_cons_self
    have hrest_t : ∀ y ∈ t, st.last ≤ y ∨ y ≤ s := fun y hy => hrest y (List.mem_cons_of_mem _ hy)
    have htl : ∀ {q : ℚ}, ENum.fin q < a → ENum.fin q ∉ t := fun hq hy => absurd (hsorted.1 _ hy) (not_le.2 hq)
    split
    · rename_i hle
      have hle' : a ≤ s := max_eq_right_iff.1 hle
      split
      · rename_i has
        subst has
        have := ih { st with lo := true } hsorted.2 hlo hhi (hstart := Or.inr rfl) hrest_t hw
        refine ⟨this.1, fun q => (this.2 q).trans ?_⟩
        exact or_congr_right ((and_congr_left' (memIv_open_left hlo hstart)).trans and_assoc)
      · rename_i has
        have := ih st hsorted.2 hlo hhi hstart hrest_t hw
        refine ⟨this.1, fun q => (this.2 q).trans ?_⟩
        -- `a < s ≤ last`, so `a` is not in the pending piece anyway
        exact or_congr_right (and_congr_right fun hm => (and_iff_right (show ¬ ENum.fin q = a from fun hq =>
          has (le_antisymm hle' (hlo.trans (hq ▸ hm.lb))))).symm)
    · rename_i hnle
      have hgt : s < a := lt_of_not_ge fun h => hnle (max_eq_right h)
      have hla : st.last ≤ a := ha.resolve_right (not_le.2 hgt)
      split
      · -- a ≥ e : break; `a` and everything after it lies at or beyond `e`
        rename_i hge
        have hge' : e ≤ a := max_eq_left_iff.1 hge
        split
        · rename_i hae
          subst hae
          refine ⟨⟨hlo, hhi, hw⟩, fun q => or_congr_right ?_⟩
          rw [← and_assoc, ← memIv_open_right]
          exact (and_iff_left_of_imp fun hm => htl hm.ub_lt).symm
        · rename_i hae
          refine ⟨⟨hlo, hhi, hw⟩, fun q => or_congr_right ?_⟩
          have hlt : e < a := lt_of_le_of_ne hge' (Ne.symm hae)
          exact (and_iff_left_of_imp fun hm => ⟨(hm.ub.trans_lt hlt).ne, htl (hm.ub.trans_lt hlt)⟩).symm
      · rename_i hnge
        have hlt : a < e := lt_of_not_ge fun h => hnge (max_eq_left h)
        have := ih { st with intervals := insertK SetE.hash (interval st.last a st.lo true) st.intervals,
                             last := a, lo := true } hsorted.2 (hlo := hgt.le) (hhi := hlt) (hstart := Or.inr rfl)
          (hrest := fun y hy => Or.inl (hsorted.1 y hy)) (hw := WFL_insertK hw WF_interval)
        refine ⟨this.1, fun q => (this.2 q).trans ?_⟩
        simp only [memAny_insertK, mem_interval]
        rw [← and_assoc, memIv_split hla hlt]
        -- a point of the piece cut off lies below `a`, hence is none of the later elements
        have hpiece : memIv st.last a st.lo true q ↔ (memIv st.last a st.lo true q ∧ ENum.fin q ∉ t) :=
          (and_iff_left_of_imp fun hp => htl hp.ub_lt).symm
        rw [or_and_right, ← hpiece]
        exact or_assoc.trans or_left_comm

theorem fsComplIv_ok (l : List ENum) (s e : ENum) (lo ro : Bool) (hse : s < e) :
    Den (fsComplIv l s e lo ro) fun q => memIv s e lo ro q ∧ ENum.fin q ∉ l := by
  unfold fsComplIv fsComplIvOn
  have hspec := fsComplLoop_spec s e (sortNum l) { last := s, lo := lo, ro := ro, intervals := [] }
    (pairwise_sortNum l) (hlo := le_rfl) (hhi := hse) (hstart := Or.inl rfl) (hrest := fun y _ => le_total s y)
    (hw := trivial)
  dsimp only at hspec ⊢
  revert hspec
  generalize fsComplLoop s e (sortNum l) { last := s, lo := lo, ro := ro, intervals := [] } = st
  rintro ⟨⟨hs1, hs2, hw⟩, hq⟩
  have hmax : (ENum.max2 st.last e == e) = true := by
    simp only [ENum.max2_eq, beq_iff_eq]; exact max_eq_right hs2.le
  simp only [hmax, if_true]
  refine (makeUnion_ok (WFL_insertK hw (WF_interval))).congr fun q => ?_
  have := hq q
  simp only [memAny, false_or, mem_sortNum] at this
  rw [← this, memAny_insertK, mem_interval]
  exact or_comm

theorem fsFilter_ok (l : List ENum) {p : ENum → Bool} {P : ℚ → Prop} (hp : ∀ q, p (.fin q) = true ↔ P q) :
    Den (.ok (finiteset (l.filter p))) fun q => mem (.fs l) q ∧ P q :=
  Den.ok (WF_finiteset _) fun q => by rw [mem_finiteset, List.mem_filter, hp q]; rfl

/-- `FiniteSet::set_union(o)` for `o` a number set of integers -/
theorem fsUnionNum_ok (l : List ENum) (kind : Nat) :
    Den (if (l.filter (fun a => !inNumSet kind a)).isEmpty then (Except.ok (numSet kind) : Except Err SetE)
          else makeUnion (mkSS [numSet kind, finiteset (l.filter (fun a => !inNumSet kind a))]))
      fun q => mem (.fs l) q ∨ mem (numSet kind) q := by
  have key : ∀ q, (mem (numSet kind) q ∨ ENum.fin q ∈ l.filter (fun a => !inNumSet kind a)) ↔
      (mem (.fs l) q ∨ mem (numSet kind) q) := by
    intro q
    rw [List.mem_filter, Bool.not_eq_true', ← Bool.not_eq_true, inNumSet_iff]
    by_cases hn : mem (numSet kind) q
    · exact ⟨fun _ => Or.inr hn, fun _ => Or.inl hn⟩
    · exact ⟨fun h => h.elim Or.inr fun h => Or.inl h.1, fun h => h.elim (fun h => Or.inr ⟨h, hn⟩) Or.inl⟩
  split
  · rename_i hemp
    refine Den.ok (WF_numSet kind) fun q => ?_
    rw [← key q, List.isEmpty_iff.1 hemp]
    exact (or_iff_left List.not_mem_nil).symm
  · exact (pairAny_ok makeUnion_ok (WF_numSet kind) (WF_finiteset _)).congr fun q => by
      rw [mem_finiteset]; exact key q

end SymVerif.Sets
