import SymVerif.Lemmas.C25Dup
import SymVerif.Lemmas.C25Canon
/-!
C25 — `csr_binop_csr_canonical`: the row-wise merge of two canonical matrices.  The loop computes the
list function `mergeL` on each pair of rows (no order is needed for that); that the merge of two rows
is a row with entries `op` of theirs is `mergeL_spec`.
-/
namespace SymVerif.C25
open SymVerif.CSR Finset

/-- `pushNZ` on lists, at the front -/
def pushL (c : Nat) (r : Q) (l : List (Nat × Q)) : List (Nat × Q) := if r ≠ 0 then (c, r) :: l else l

/-- what `csr_binop_csr_canonical` makes of one row of `A` and one row of `B` -/
def mergeL (op : Q → Q → Q) : List (Nat × Q) → List (Nat × Q) → List (Nat × Q)
  | [], [] => []
  | a :: la, [] => pushL a.1 (op a.2 0) (mergeL op la [])
  | [], b :: lb => pushL b.1 (op 0 b.2) (mergeL op [] lb)
  | a :: la, b :: lb =>
    if a.1 = b.1 then pushL a.1 (op a.2 b.2) (mergeL op la lb)
    else if a.1 < b.1 then pushL a.1 (op a.2 0) (mergeL op la (b :: lb))
    else pushL b.1 (op 0 b.2) (mergeL op (a :: la) lb)
termination_by la lb => la.length + lb.length
decreasing_by
  all_goals simp only [List.length_cons]
  all_goals omega

theorem mem_pushL {c : Nat} {r : Q} {l : List (Nat × Q)} {a : Nat × Q} (h : a ∈ pushL c r l) :
    a.1 = c ∨ a ∈ l := by
  unfold pushL at h
  split at h
  · rcases List.mem_cons.mp h with rfl | h
    · exact .inl rfl
    · exact .inr h
  · exact .inr h

theorem rowSum_pushL (c' c : Nat) (r : Q) (l : List (Nat × Q)) :
    rowSum c' (pushL c r l) = pairVal c' (c, r) + rowSum c' l := by
  unfold pushL
  split
  · exact rowSum_cons ..
  · rename_i h
    rw [not_not.mp h, pairVal_zero, zero_add]

def Above (k : Nat) (l : List (Nat × Q)) : Prop := ∀ a ∈ l, k < a.1

theorem Above.rowSum {k : Nat} {l : List (Nat × Q)} (h : Above k l) : rowSum k l = 0 :=
  rowSum_of_ne fun a ha => Nat.ne_of_gt (h a ha)

/-- one step of the merge takes the head `(k, u)` off a row, or leaves the row alone (`u = 0`) -/
def Peel (k : Nat) (u : Q) (l l' : List (Nat × Q)) : Prop := l = (k, u) :: l' ∨ (u = 0 ∧ l' = l)

theorem Peel.rowSum {k : Nat} {u : Q} {l l' : List (Nat × Q)} (h : Peel k u l l') (c : Nat) :
    rowSum c l = pairVal c (k, u) + rowSum c l' := by
  rcases h with rfl | ⟨rfl, rfl⟩
  · exact rowSum_cons ..
  · rw [pairVal_zero, zero_add]

theorem Peel.keys {k : Nat} {u : Q} {l l' : List (Nat × Q)} (h : Peel k u l l') {P : Nat → Prop}
    (hl : ∀ a ∈ l, P a.1) : ∀ a ∈ l', P a.1 := by
  rcases h with rfl | ⟨_, rfl⟩
  · exact fun a ha => hl a (List.mem_cons_of_mem _ ha)
  · exact hl

/-- `l` is the merge of the rows `la`, `lb`: a row whose columns come from `la`, `lb` (`keys`, for any
predicate: used with `k < ·` and `· < col`) and whose entries are `op` of theirs -/
structure Merged (op : Q → Q → Q) (la lb l : List (Nat × Q)) : Prop where
  sorted : l.Pairwise (fun a b => a.1 < b.1)
  keys : ∀ P : Nat → Prop, (∀ a ∈ la, P a.1) → (∀ a ∈ lb, P a.1) → ∀ a ∈ l, P a.1
  sum : ∀ c, rowSum c l = op (rowSum c la) (rowSum c lb)

/-- `hk`: `k` is a key of `la` or of `lb`, in the form of `keys` -/
theorem Merged.push {op : Q → Q → Q} (hop : op 0 0 = 0) {la lb la' lb' l : List (Nat × Q)} {k : Nat}
    {u w : Q} (H : Merged op la' lb' l) (pa : Peel k u la la') (pb : Peel k w lb lb')
    (hA : Above k la') (hB : Above k lb')
    (hk : ∀ P : Nat → Prop, (∀ a ∈ la, P a.1) → (∀ a ∈ lb, P a.1) → P k) :
    Merged op la lb (pushL k (op u w) l) where
  sorted := by
    have := H.keys (k < ·) hA hB
    unfold pushL
    split
    · exact List.pairwise_cons.mpr ⟨this, H.sorted⟩
    · exact H.sorted
  keys := fun P h1 h2 a ha => by
    rcases mem_pushL ha with e | ha
    · rw [e]; exact hk P h1 h2
    · exact H.keys P (pa.keys h1) (pb.keys h2) a ha
  sum := fun c => by
    rw [rowSum_pushL, H.sum, pa.rowSum c, pb.rowSum c]
    by_cases h : k = c
    · subst h
      rw [hA.rowSum, hB.rowSum, hop]
      simp
    · simp [pairVal_ne _ h]

theorem mergeL_spec (op : Q → Q → Q) (hop : op 0 0 = 0) (la lb : List (Nat × Q)) :
    la.Pairwise (fun a b => a.1 < b.1) → lb.Pairwise (fun a b => a.1 < b.1) →
      Merged op la lb (mergeL op la lb) := by
  fun_induction mergeL op la lb with
  | case1 => -- both empty
    exact fun _ _ => ⟨List.Pairwise.nil, fun _ _ _ _ h => absurd h List.not_mem_nil, fun c => hop.symm⟩
  | case2 a la ih => -- `lb` empty
    intro ha hb
    obtain ⟨h1, h2⟩ := List.pairwise_cons.mp ha
    exact (ih h2 hb).push hop (.inl rfl) (.inr ⟨rfl, rfl⟩) h1 (fun _ h => absurd h List.not_mem_nil)
      (fun P h _ => h a List.mem_cons_self)
  | case3 b lb ih => -- `la` empty
    intro ha hb
    obtain ⟨h1, h2⟩ := List.pairwise_cons.mp hb
    exact (ih ha h2).push hop (.inr ⟨rfl, rfl⟩) (.inl rfl) (fun _ h => absurd h List.not_mem_nil) h1
      (fun P _ h => h b List.mem_cons_self)
  | case4 a la b lb h ih => -- equal columns
    intro ha hb
    obtain ⟨h1, h2⟩ := List.pairwise_cons.mp ha
    obtain ⟨h3, h4⟩ := List.pairwise_cons.mp hb
    exact (ih h2 h4).push hop (.inl rfl) (.inl (by rw [h])) h1 (h ▸ h3)
      (fun P h _ => h a List.mem_cons_self)
  | case5 a la b lb h h' ih => -- `a` first
    intro ha hb
    obtain ⟨h1, h2⟩ := List.pairwise_cons.mp ha
    obtain ⟨h3, _⟩ := List.pairwise_cons.mp hb
    exact (ih h2 hb).push hop (.inl rfl) (.inr ⟨rfl, rfl⟩) h1
      (List.forall_mem_cons.mpr ⟨h', fun x hx => Nat.lt_trans h' (h3 x hx)⟩)
      (fun P h _ => h a List.mem_cons_self)
  | case6 a la b lb h h' ih => -- `b` first
    intro ha hb
    obtain ⟨h1, _⟩ := List.pairwise_cons.mp ha
    obtain ⟨h3, h4⟩ := List.pairwise_cons.mp hb
    have hlt : b.1 < a.1 := Nat.lt_of_le_of_ne (Nat.le_of_not_lt h') (Ne.symm h)
    exact (ih ha h4).push hop (.inr ⟨rfl, rfl⟩) (.inl rfl)
      (List.forall_mem_cons.mpr ⟨hlt, fun x hx => Nat.lt_trans hlt (h1 x hx)⟩) h3
      (fun P _ h => h b List.mem_cons_self)

theorem pushNZ_size {cj : Array Nat} {cx : Array Q} (c : Nat) (r : Q) (hs : cj.size = cx.size) :
    (pushNZ cj cx c r).1.size = (pushNZ cj cx c r).2.size := by
  unfold pushNZ
  split
  · rw [Array.size_push, Array.size_push, hs]
  · exact hs

/-- arrays `(cj', cx')` that extend `pushNZ cj cx c r` extend `(cj, cx)`, by `pushL c r` of the rest:
stated from the end, as the induction hypothesis of the tail-recursive `mergeRow` has the final arrays -/
theorem pushNZ_spec {cj cj' : Array Nat} {cx cx' : Array Q} (c : Nat) (r : Q) (hs : cj.size = cx.size)
    (h1 : (pushNZ cj cx c r).1.size ≤ cj'.size)
    (h2 : ∀ k, k < (pushNZ cj cx c r).1.size →
      cj'[k]! = (pushNZ cj cx c r).1[k]! ∧ cx'[k]! = (pushNZ cj cx c r).2[k]!) :
    cj.size ≤ cj'.size ∧ (∀ k, k < cj.size → cj'[k]! = cj[k]! ∧ cx'[k]! = cx[k]!) ∧
      seg cj' cx' cj.size cj'.size = pushL c r (seg cj' cx' (pushNZ cj cx c r).1.size cj'.size) := by
  by_cases hr : r = 0
  · have hp : pushNZ cj cx c r = (cj, cx) := by simp [pushNZ, hr]
    rw [hp] at h1 h2 ⊢
    exact ⟨h1, h2, by rw [pushL, if_neg (not_not.mpr hr)]⟩
  · have hp : pushNZ cj cx c r = (cj.push c, cx.push r) := by simp [pushNZ, hr]
    rw [hp] at h1 h2 ⊢
    dsimp only at h1 h2 ⊢
    rw [Array.size_push] at h1 h2 ⊢
    obtain ⟨e1, e2⟩ := h2 cj.size (Nat.lt_succ_self _)
    refine ⟨Nat.le_of_succ_le h1, fun k hk => ?_, ?_⟩
    · obtain ⟨d1, d2⟩ := h2 k (Nat.lt_succ_of_lt hk)
      exact ⟨d1.trans (push_get!_lt cj c hk), d2.trans (push_get!_lt cx r (hs ▸ hk))⟩
    · rw [pushL, if_pos hr, seg_cons h1, e1, e2, push_get!_size, hs, push_get!_size]

/-- `aEnd + bEnd < a + b + f`: the fuel exceeds the work left, `(aEnd - a) + (bEnd - b)`, without subtraction -/
theorem mergeRow_spec (op : Q → Q → Q) (A B : Mat) (aEnd bEnd : Nat)
    (hAj : aEnd ≤ A.j.size) (hAx : A.x.size = A.j.size) (hBj : bEnd ≤ B.j.size) (hBx : B.x.size = B.j.size) :
    ∀ f a b (cj : Array Nat) (cx : Array Q), aEnd + bEnd < a + b + f → a ≤ aEnd → b ≤ bEnd →
      cj.size = cx.size →
      ∃ cj' cx', mergeRow op A B aEnd bEnd f a b cj cx = .ok (cj', cx') ∧ cj'.size = cx'.size ∧
        cj.size ≤ cj'.size ∧ (∀ k, k < cj.size → cj'[k]! = cj[k]! ∧ cx'[k]! = cx[k]!) ∧
        seg cj' cx' cj.size cj'.size = mergeL op (seg A.j A.x a aEnd) (seg B.j B.x b bEnd) := by
  intro f
  induction f with
  | zero => intro a b cj cx h h1 h2; omega
  | succ f ih =>
    intro a b cj cx hf ha hb hsz
    -- one generic step: emit column `c` with value `r` and continue at `(a', b')`
    have step : ∀ (c : Nat) (r : Q) (a' b' : Nat), aEnd + bEnd < a' + b' + f → a' ≤ aEnd → b' ≤ bEnd →
        ∃ cj' cx', mergeRow op A B aEnd bEnd f a' b' (pushNZ cj cx c r).1 (pushNZ cj cx c r).2
            = .ok (cj', cx') ∧ cj'.size = cx'.size ∧ cj.size ≤ cj'.size ∧
          (∀ k, k < cj.size → cj'[k]! = cj[k]! ∧ cx'[k]! = cx[k]!) ∧
          seg cj' cx' cj.size cj'.size
            = pushL c r (mergeL op (seg A.j A.x a' aEnd) (seg B.j B.x b' bEnd)) := by
      intro c r a' b' hf' ha' hb'
      obtain ⟨cj', cx', e, r1, r2, r3, r4⟩ := ih a' b' _ _ hf' ha' hb' (pushNZ_size c r hsz)
      obtain ⟨q1, q2, q3⟩ := pushNZ_spec c r hsz r2 r3
      exact ⟨cj', cx', e, r1, q1, q2, by rw [q3, r4]⟩
    unfold mergeRow
    by_cases hla : a < aEnd
    · have i1 : a < A.j.size := Nat.lt_of_lt_of_le hla hAj
      have i3 : a < A.x.size := hAx ▸ i1
      rw [seg_cons hla]
      by_cases hlb : b < bEnd
      · have i2 : b < B.j.size := Nat.lt_of_lt_of_le hlb hBj
        have i4 : b < B.x.size := hBx ▸ i2
        rw [seg_cons hlb, mergeL]
        simp only [hla, hlb, and_self, if_true, rd_lt i1, rd_lt i2, ok_bind]
        by_cases heq : A.j[a]! = B.j[b]!
        · simp only [heq, if_true, rd_lt i3, rd_lt i4, ok_bind]
          exact step _ _ (a + 1) (b + 1) (by omega) hla hlb
        · simp only [heq, if_false]
          by_cases hlt : A.j[a]! < B.j[b]!
          · simp only [hlt, if_true, rd_lt i3, ok_bind]
            -- fold the row that was not advanced back into `seg`, the form `step` is stated in
            -- (an exhausted row is `seg _ _ e e`); so in the three cases below
            rw [← seg_cons hlb]
            exact step _ _ (a + 1) b (by omega) hla hb
          · simp only [hlt, if_false, rd_lt i4, ok_bind]
            rw [← seg_cons hla]
            exact step _ _ a (b + 1) (by omega) ha hlb
      · have hbe : b = bEnd := Nat.le_antisymm hb (Nat.le_of_not_lt hlb)
        rw [hbe, seg_self, mergeL, if_neg (fun h => Nat.lt_irrefl _ h.2), if_pos hla]
        simp only [rd_lt i1, rd_lt i3, ok_bind]
        rw [← seg_self B.j B.x bEnd]
        exact step _ _ (a + 1) bEnd (by omega) hla (Nat.le_refl _)
    · have hae : a = aEnd := Nat.le_antisymm ha (Nat.le_of_not_lt hla)
      rw [hae, seg_self, if_neg (fun h => Nat.lt_irrefl _ h.1), if_neg (Nat.lt_irrefl _)]
      by_cases hlb : b < bEnd
      · have i2 : b < B.j.size := Nat.lt_of_lt_of_le hlb hBj
        have i4 : b < B.x.size := hBx ▸ i2
        rw [seg_cons hlb, mergeL]
        simp only [hlb, if_true, rd_lt i2, rd_lt i4, ok_bind]
        rw [← seg_self A.j A.x aEnd]
        exact step _ _ aEnd (b + 1) (by omega) (Nat.le_refl _) hlb
      · have hbe : b = bEnd := Nat.le_antisymm hb (Nat.le_of_not_lt hlb)
        rw [hbe, seg_self, mergeL, if_neg (Nat.lt_irrefl _)]
        exact ⟨cj, cx, rfl, hsz, Nat.le_refl _, fun _ _ => ⟨rfl, rfl⟩, seg_self ..⟩

theorem mergeRows_spec (op : Q → Q → Q) {A B : Mat} (hA : CanonCSR A) (hB : CanonCSR B)
    (hrow : A.row = B.row) :
    ∀ n i (cp cj : Array Nat) (cx : Array Q), i + n = A.row → cp.size = A.row + 1 →
      cj.size = cx.size → cp[i]! = cj.size →
      ∃ cp' cj' cx', mergeRows op A B n i cp cj cx = .ok (cp', cj', cx') ∧ cj'.size = cx'.size ∧
        RowsFrom i A.row cj.size cj'.size cp cp' cj cj' cx cx'
          (fun r l => l = mergeL op (rowL A r) (rowL B r)) := by
  intro n
  induction n with
  | zero =>
    intro i cp cj cx hin hps hsz hpi
    have : i = A.row := hin
    subst this
    exact ⟨cp, cj, cx, rfl, hsz, RowsFrom.nil hps hpi⟩
  | succ n ih =>
    intro i cp cj cx hin hps hsz hpi
    have hi : i < A.row := by omega
    have hin' : i + 1 + n = A.row := by omega
    have hiB : i < B.row := hrow ▸ hi
    have c2 : i + 1 < cp.size := hps ▸ Nat.succ_lt_succ hi
    have hrA := hA.row_le hi
    have hrB := hB.row_le hiB
    unfold mergeRows
    simp only [(hA.rd_row hi).1, (hA.rd_row hi).2, (hB.rd_row hiB).1, (hB.rd_row hiB).2, ok_bind]
    obtain ⟨cj1, cx1, e1, hsz1, hle, hkeep, hseg⟩ :=
      mergeRow_spec op A B A.p[i + 1]! B.p[i + 1]! hrA.2 hA.xsize hrB.2 hB.xsize
        ((A.p[i + 1]! - A.p[i]!) + (B.p[i + 1]! - B.p[i]!) + 1) A.p[i]! B.p[i]! cj cx
        (by omega) hrA.1 hrB.1 hsz
    simp only [e1, ok_bind, wr_lt _ c2]
    obtain ⟨cp', cj', cx', e2, t2, H⟩ :=
      ih (i + 1) (cp.set (i + 1) cj1.size c2) cj1 cx1 hin' (by rw [Array.size_set]; exact hps) hsz1
        (set_get!_eq ..)
    exact ⟨cp', cj', cx', e2, t2, H.cons c2 hpi hle hkeep hseg⟩

/-- `csr_binop_csr_canonical`, for an operation with `op 0 0 = 0` (add, sub, mul) -/
theorem binop_spec (op : Q → Q → Q) (hop : op 0 0 = 0) {A B : Mat} (hA : CanonCSR A)
    (hB : CanonCSR B) (hrow : A.row = B.row) (hcol : A.col = B.col) :
    ∃ C, binop op A B = .ok C ∧ CanonCSR C ∧ C.row = A.row ∧ C.col = A.col ∧
      ∀ i c, i < A.row → dense C i c = op (dense A i c) (dense B i c) := by
  have h0 : 0 < (Array.replicate (A.row + 1) 0).size := by
    rw [Array.size_replicate]; exact Nat.succ_pos _
  obtain ⟨cp, cj, cx, e, t2, H⟩ :=
    mergeRows_spec op hA hB hrow A.row 0
      ((Array.replicate (A.row + 1) 0).set 0 0 h0) #[] #[] (Nat.zero_add _)
      (by rw [Array.size_set, Array.size_replicate]) rfl (set_get!_eq ..)
  obtain ⟨hrows, hcan⟩ := H.canon (set_get!_eq ..) rfl t2.symm (fun _ _ => ⟨rfl, rfl⟩)
  have hM := fun r (hr : r < A.row) =>
    mergeL_spec op hop _ _ (hA.rowOk hr).1 (hB.rowOk (hrow ▸ hr)).1
  have hcanon := hcan A.col (fun r hr => by
    rw [hrows r hr]
    exact ⟨(hM r hr).sorted, (hM r hr).keys (· < A.col) (hA.rowOk hr).2
      (hcol ▸ (hB.rowOk (hrow ▸ hr)).2)⟩)
  unfold binop
  have hdim : ¬ ¬ (A.row = B.row ∧ A.col = B.col) := fun h => h ⟨hrow, hcol⟩
  -- the merged rows are strictly sorted, so the `csr_sum_duplicates` branch of `binop` is not entered
  have hnd := hasDuplicates_of_canon hcanon
  simp only [hdim, if_false, wr_lt _ h0, ok_bind, e, hnd, Bool.false_eq_true, pure_ok]
  refine ⟨_, rfl, hcanon, rfl, rfl, fun i c hi => ?_⟩
  rw [dense_eq_rowSum, dense_eq_rowSum, dense_eq_rowSum]
  exact (congrArg (rowSum c) (hrows i hi)).trans ((hM i hi).sum c)

end SymVerif.C25
