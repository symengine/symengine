/-
C03: induction step of `Spec` for `Rational::rpowrat`, `Mul::power_num` and its loop, and `pow`.
-/
import SymVerif.Lemmas.C03MulB

namespace SymVerif.Arith

variable {n : Nat}

theorem surd_dict {b : Int} {r : Int} {d : Nat} (hb1 : b ≠ 1)
    (hc : Q.canon ⟨r, d⟩ = true) (h0 : 0 < r) (hlt : r < d)
    (hrad : radOK b d = true) :
    MulDictOK (dinsert [] (.int b) (ofQ ⟨r, d⟩)) := by
  refine MulDictOK.nil.insert (exOK_int b).numOK.inv (ofQ_exOK hc).numOK.inv ?_
  rw [ofQ_rat (by omega)]
  exact (factorOK_int_rat b r d).mpr ⟨hb1, (radOK_iff.mp hrad).1, h0, hlt, hrad⟩

theorem rpowrat_cases {rv : Bool} {nn other : Int} {d : Nat} {r : Expr}
    (h : rpowrat (n + 1) rv nn d other = .ok r) :
    -- `other` is 1 or 0
    NumOK r
    -- negative with an exact root: `(-1)**(nn/d) * rt**nn`
    ∨ (∃ rt s p, rpowrat n rv nn d (-1) = .ok s ∧ numPowInt (.int rt) nn = .ok p
        ∧ mulF n rv s p = .ok r)
    -- positive with an exact root
    ∨ (∃ rt : Nat, numPowInt (.int rt) nn = .ok r)
    -- no exact root (looked for only if `d < 2^64`, `mp_fits_ulong_p`): `other**⌊nn/d⌋` times the surd, with `I`
    -- pulled out of a negative square root; the clause on `exactRoot` is the third one of `radOK_iff`
    ∨ (other ≠ 1 ∧ other ≠ 0
        ∧ (d < 2 ^ 64 → (if other < 0 then (other == -1 || (exactRoot other.natAbs d).isNone)
            else (exactRoot other.toNat d).isNone) = true)
        ∧ ∃ coef, numPowInt (.int other) (nn.fdiv d) = .ok coef
          ∧ ((other < 0 ∧ d = 2 ∧ ∃ c2, numMul coef imagUnit = .ok c2
              ∧ r = mulFromDict c2 (if other != -1 then dinsert [] (.int (-other)) (ofQ ⟨nn.fmod d, d⟩) else []))
            ∨ ((decide (other < 0) && d == 2) = false
              ∧ r = mulFromDict coef (dinsert [] (.int other) (ofQ ⟨nn.fmod d, d⟩))))) := by
  unfold rpowrat at h
  by_cases h1 : (other == 1) = true
  · rw [if_pos h1] at h; exact .inl (Except.ok.inj h ▸ numOK_one)
  rw [if_neg h1] at h
  by_cases h0 : (other == 0) = true
  · rw [if_pos h0] at h
    refine .inl (Except.ok.inj h ▸ ?_)
    split
    · exact numOK_zero
    · exact ⟨rfl, rfl⟩
  rw [if_neg h0] at h
  obtain ⟨early, he, h⟩ := bind_eq_ok h
  have h1 : other ≠ 1 := by simpa using h1
  have h0 : other ≠ 0 := by simpa using h0
  cases early with
  | some x =>
    -- which arm of the `early` block gave `some`: `d < 2^64`, then `other < 0`, `other ≠ -1`, the root
    obtain rfl := Except.ok.inj h
    refine .inr ?_
    split at he
    · split at he
      · split at he
        · split at he
          · obtain ⟨s, hs, he⟩ := bind_eq_ok he
            obtain ⟨p, hp, he⟩ := bind_eq_ok he
            obtain ⟨m, hm, he⟩ := bind_eq_ok he
            cases he
            exact .inl ⟨_, s, p, hs, hp, hm⟩
          · cases he
        · cases he
      · split at he
        · obtain ⟨p, hp, he⟩ := bind_eq_ok he
          cases he
          exact .inr (.inl ⟨_, hp⟩)
        · cases he
    · cases he
  | none =>
    -- the same block once more: no arm found a root
    refine .inr (.inr (.inr ⟨h1, h0, ?_, ?_⟩))
    · intro hd
      rw [if_pos hd] at he
      split at he
      · rename_i hneg
        rw [if_pos hneg]
        split at he
        · split at he
          · obtain ⟨s, hs, he⟩ := bind_eq_ok he
            obtain ⟨p, hp, he⟩ := bind_eq_ok he
            obtain ⟨m, hm, he⟩ := bind_eq_ok he
            cases he
          · rename_i hroot
            rw [hroot]; simp
        · rename_i hm1
          simp only [bne_iff_ne, ne_eq, Decidable.not_not] at hm1
          simp [hm1]
      · rename_i hneg
        rw [if_neg hneg]
        split at he
        · obtain ⟨p, hp, he⟩ := bind_eq_ok he
          cases he
        · rename_i hroot
          rw [hroot]; rfl
    · clear he
      unfold fdivmod at h
      obtain ⟨coef, hp, h⟩ := bind_eq_ok h
      refine ⟨coef, hp, ?_⟩
      dsimp only at h
      split at h
      · rename_i hneg
        obtain ⟨c2, hm, h⟩ := bind_eq_ok h
        rw [Bool.and_eq_true, decide_eq_true_eq, beq_iff_eq] at hneg
        exact .inl ⟨hneg.1, hneg.2, c2, hm, (Except.ok.inj h).symm⟩
      · rename_i hnot
        exact .inr ⟨Bool.eq_false_iff.mpr hnot, (Except.ok.inj h).symm⟩

theorem step_rpowrat (ih : Spec n) : ∀ rv nn d other r, ratCanon nn d = true →
    rpowrat (n + 1) rv nn d other = .ok r → inv r = true := by
  intro rv nn d other r hnd h
  rcases rpowrat_cases h with hr | ⟨rt, s, p, hs, hp, hm⟩ | ⟨rt, hp⟩
    | ⟨hne1, hne0, hroot, coef, hp, hr⟩
  · exact hr.inv
  · exact ih.mulF rv s p r (ih.rpowrat rv nn d (-1) s hnd hs) (numPowInt_ok (canon_int _) hp).inv hm
  · exact (numPowInt_ok (canon_int _) hp).inv
  · obtain ⟨hc, h0, hlt⟩ := fmod_facts hnd
    have hcoef := numPowInt_ok (canon_int other) hp
    rcases hr with ⟨hneg, hd2, c2, hm, rfl⟩ | ⟨hnot, rfl⟩
    · refine mulFromDict_inv (numMul_ok hcoef.2 numOK_imagUnit.2 hm) ?_
      by_cases hm1 : other = -1
      · simp [hm1]; exact MulDictOK.nil
      · rw [if_pos (by simpa using hm1)]
        refine surd_dict (by omega) hc h0 hlt ?_
        have hpos : ¬ (-other < 0) := by omega
        have e : (-other).toNat = other.natAbs := by omega
        refine radOK_iff.mpr ⟨by omega, by rw [decide_eq_false hpos]; rfl, fun hd => ?_⟩
        have := hroot hd
        rw [if_pos hneg] at this
        rw [if_neg hpos, e]
        simpa [hm1] using this
    · refine mulFromDict_inv hcoef (surd_dict hne1 hc h0 hlt ?_)
      exact radOK_iff.mpr ⟨hne0, hnot, hroot⟩

/-- a coefficient that `power_num` leaves inside the base: `±1`, or a Number without sign;
`(-3*x*y)**(1/2)` hands on `-x*y`, `(3*x*y)**(1/2)` hands on `x*y`, `(I*x*y)**(1/2)` itself -/
def Unsigned (c : Expr) : Prop :=
  isIntLit c 1 = true ∨ isIntLit c (-1) = true ∨ (numIsPositive c = false ∧ numIsNegative c = false)

theorem unsigned_of {sc : Expr} (hsc : NumOK sc)
    (h1 : (numIsNegative sc && !numIsMinusOne sc) = false)
    (h2 : (numIsPositive sc && !numIsOne sc) = false) : Unsigned sc := by
  by_cases hp : numIsPositive sc = true
  · exact .inl (isIntLit_iff.mpr (numIsOne_canon hsc.2 (by simpa [hp] using h2)))
  · by_cases hn : numIsNegative sc = true
    · exact .inr (.inl (isIntLit_iff.mpr (numIsMinusOne_canon hsc.2 (by simpa [hn] using h1))))
    · exact .inr (.inr ⟨by simpa using hp, by simpa using hn⟩)

theorem preOK_mul {c exp : Expr} {sd : Dict} (hc : isExactNum c = true) (hs : Unsigned c)
    (hi : isInteger exp = false) : preOK (.mul c sd) exp = true := by
  rcases hs with h | h | ⟨h1, h2⟩
  · simp [preOK, hc, hi, h]
  · simp [preOK, hc, hi, h]
  · simp [preOK, hc, hi, h1, h2]

theorem pre_mulFromDict {c exp : Expr} {sd : Dict} (hd : MulDictOK sd) (hne : sd ≠ [])
    (hc : ExOK c) (hcz : numIsZero c = false) (hs : Unsigned c)
    (he : NumOK exp) (hz : numIsZero exp = false) (hi : isInteger exp = false) :
    Pre (mulFromDict c sd) exp := by
  refine ⟨mulFromDict_inv hc.numOK hd, he.inv, (isNumZero_eq exp).trans hz, ?_⟩
  rcases mulFromDict_cases_nz hcz hne with ⟨b, rfl, e⟩ | ⟨b, x, -, -, e⟩ | ⟨e, -⟩
  · rw [e]
    obtain ⟨h1, h2⟩ := factorOK_one (hd.fac _ (List.mem_singleton.mpr rfl))
    exact preOK_of_atom h1 h2
  · rw [e]; rfl
  · rw [e]; exact preOK_mul hc.1 hs hi

theorem step_powerNum (ih : Spec n) : ∀ rv sc sd coef d exp c' d', inv (.mul sc sd) = true →
    isExactNum sc = true → St coef d → NumOK exp →
    powerNum (n + 1) rv sc sd coef d exp = .ok (c', d') → St c' d' := by
  intro rv sc sd coef d exp c' d' hm hex hs he h
  have hsc := inv_mul_coef hm
  unfold powerNum at h
  split at h
  · rename_i hz
    obtain ⟨p, hp, h⟩ := bind_eq_ok h
    obtain ⟨c1, hmu, h⟩ := bind_eq_ok h
    cases h
    exact ⟨numMul_ok hs.1.2 (numPow_ok he.2 hp).2 hmu, hs.2⟩
  · rename_i hz
    have hz : numIsZero exp = false := Bool.eq_false_iff.mpr hz
    obtain ⟨⟨nc, c1, d1⟩, hx, h⟩ := bind_eq_ok h
    suffices key : inv nc = true ∧ St c1 d1 from ih.mulInto rv c1 d1 nc c' d' key.2 key.1 h
    have hpw : ∀ b, ExOK b → ∀ r, powF n rv b exp = .ok r → inv r = true := fun b hb r hr =>
      ih.powF rv b exp r hb.numOK.inv he.inv (okBase_of_exact hb.1) hr
    split at hx
    · rename_i hi
      obtain ⟨nc', hp, hx⟩ := bind_eq_ok hx
      obtain ⟨⟨c2, d2⟩, hl, hx⟩ := bind_eq_ok hx
      cases hx
      refine ⟨hpw sc ⟨hex, hsc.2⟩ _ hp, ?_⟩
      obtain ⟨m, rfl⟩ := isInteger_iff.mp hi
      have hd := inv_mul_dict hm
      exact ih.powerNumLoop rv (iterOrder rv sd) m coef d c1 d1
        (fun p hp => ⟨(hd.ent p (iterOrder_mem hp)).1, (hd.ent p (iterOrder_mem hp)).2,
          hd.fac p (iterOrder_mem hp)⟩) (by simpa [numIsZero] using hz) hs hl
    · rename_i hi
      have hi : isInteger exp = false := Bool.eq_false_iff.mpr hi
      have arm : ∀ c, ExOK c → numIsZero c = false → Unsigned c → Pre (mulFromDict c sd) exp :=
        fun c hc hcz hu => pre_mulFromDict (inv_mul_dict hm) (inv_mul_ne_nil hm) hc hcz hu he hz hi
      split at hx
      · obtain ⟨m, hmm, hx⟩ := bind_eq_ok hx
        obtain ⟨nc', hp, hx⟩ := bind_eq_ok hx
        obtain ⟨⟨c2, d2⟩, hdn, hx⟩ := bind_eq_ok hx
        cases hx
        exact ⟨hpw m (exOK_numMul ⟨hex, hsc.2⟩ (exOK_int (-1)) hmm) _ hp,
          ih.datNew rv coef d exp _ c1 d1 hs (arm minusOne (exOK_int _) rfl (.inr (.inl rfl))) hdn⟩
      · rename_i hneg
        split at hx
        · obtain ⟨nc', hp, hx⟩ := bind_eq_ok hx
          obtain ⟨⟨c2, d2⟩, hdn, hx⟩ := bind_eq_ok hx
          cases hx
          exact ⟨hpw sc ⟨hex, hsc.2⟩ _ hp,
            ih.datNew rv coef d exp _ c1 d1 hs (arm one (exOK_int _) rfl (.inl rfl)) hdn⟩
        · -- the base is `.mul sc sd` itself, not a `mulFromDict`: `Pre` by hand
          rename_i hpos
          obtain ⟨⟨c2, d2⟩, hdn, hx⟩ := bind_eq_ok hx
          cases hx
          exact ⟨numOK_one.inv, ih.datNew rv coef d exp _ c1 d1 hs ⟨hm, he.inv, (isNumZero_eq exp).trans hz,
            preOK_mul hex (unsigned_of hsc (Bool.eq_false_iff.mpr hneg) (Bool.eq_false_iff.mpr hpos)) hi⟩ hdn⟩

theorem step_powerNumLoop (hexp : PowerExpOK) (ih : Spec n) : ∀ rv l m coef d c' d',
    (∀ p ∈ l, inv p.1 = true ∧ inv p.2 = true ∧ factorOK p.1 p.2 = true) → m ≠ 0 → St coef d →
    powerNumLoop (n + 1) rv l (.int m) coef d = .ok (c', d') → St c' d' := by
  intro rv l m coef d c' d' hl hm0 hs h
  cases l with
  | nil =>
    cases h
    exact hs
  | cons p r =>
    obtain ⟨k, v⟩ := p
    obtain ⟨hk, hv, hf⟩ := hl (k, v) (List.mem_cons_self ..)
    unfold powerNumLoop at h
    obtain ⟨newExp, hne, h⟩ := bind_eq_ok h
    obtain ⟨⟨c1, d1⟩, hstep, h⟩ := bind_eq_ok h
    have hni := ih.mulF rv v (.int m) newExp hv (exOK_int m).numOK.inv hne
    obtain ⟨hnz, hpre⟩ := hexp n rv k v m newExp hk hv hf hm0 hne
    have hP : (isMul k = false ∨ isInteger newExp = false) → Pre k newExp :=
      fun hc => ⟨hk, hni, hnz, hpre hc⟩
    refine ih.powerNumLoop rv r m c1 d1 c' d' (fun q hq => hl q (List.mem_cons_of_mem _ hq)) hm0 ?_ h
    split at hstep
    · split at hstep
      · rename_i hi
        exact ih.powerNum rv _ _ coef d newExp c1 d1 hk (factorOK_base hf).1 hs
          ⟨isNum_of_isInteger hi, inv_canon hni⟩ hstep
      · rename_i hni'
        exact ih.datNew rv coef d newExp _ c1 d1 hs (hP (.inr (Bool.eq_false_iff.mpr hni'))) hstep
    · rename_i hnm
      exact ih.datNew rv coef d newExp k c1 d1 hs (hP (.inl (isMul_eq_false hnm))) hstep

/-- hypotheses as in `Spec.powGeneric`; `c4`: not `(x**y)**n` -/
theorem pow_leaf {a b : Expr} (ha : inv a = true) (hb : inv b = true) (hob : okBase a = true)
    (hbz : isNumZero b = false) (hb1 : isIntLit b 1 = false) (ha0 : isIntLit a 0 = false)
    (ha1 : isIntLit a 1 = false)
    (c1 : (a.isNum && isInteger b) = false)
    (c2 : ((isInteger a || isRational a) && isRational b) = false)
    (c3 : (isMul a && b.isNum) = false) (c4 : (isPow a && isInteger b) = false) :
    inv (.pow a b) = true := by
  have hf : factorOK a b = true := by
    cases hbn : b.isNum with
    | false => rw [factorOK_of_nonNum hbn, hob, ha1]; rfl
    | true =>
      rw [hbn, Bool.and_true] at c3
      refine factorOK_of_found_stay ⟨hob, ha1⟩ hbz (fun hi => ?_)
        (fun hr => ?_) ha0 (fun mc mfs e => by rw [e] at c3; cases c3)
      · rw [hi, Bool.and_true] at c1 c4
        obtain ⟨x, y, z⟩ := nonNum_class c1
        exact ⟨by rw [x, y, z]; rfl, c4, c3⟩
      · rw [hr, Bool.and_true] at c2; exact c2
  exact inv_pow_of ha hb hf hb1

theorem step_powGeneric (ih : Spec n) : ∀ rv a b r, inv a = true → inv b = true → okBase a = true →
    isNumZero b = false → isIntLit b 1 = false → isIntLit a 0 = false → isIntLit a 1 = false →
    (a.isNum && isInteger b) = false → ((isInteger a || isRational a) && isRational b) = false →
    (isMul a && b.isNum) = false → powGeneric (n + 1) rv a b = .ok r → inv r = true := by
  intro rv a b r ha hb hob hbz hb1 ha0 ha1 c1 c2 c3 h
  have leaf := pow_leaf ha hb hob hbz hb1 ha0 ha1 c1 c2 c3
  unfold powGeneric at h
  split at h
  · rename_i ab ae
    obtain ⟨hab, hae, _, hfac⟩ := inv_pow_iff.mp ha
    split at h
    · obtain ⟨v, hm, h⟩ := bind_eq_ok h
      exact ih.powF rv ab v r hab (ih.mulF rv ae b v hae hb hm) (factorOK_base hfac).1 h
    · rename_i hi
      split at h
      · obtain ⟨v, hm, h⟩ := bind_eq_ok h
        exact ih.powF rv ab v r hab (ih.mulF rv minusOne b v numOK_minusOne.inv hb hm)
          (factorOK_base hfac).1 h
      · exact Except.ok.inj h ▸ leaf (by rw [Bool.eq_false_iff.mpr hi]; rfl)
  · rename_i hnp
    refine Except.ok.inj h ▸ leaf ?_
    rw [isPow_eq_false hnp]; rfl

theorem powF_cases {rv : Bool} {a b r : Expr} (h : powF (n + 1) rv a b = .ok r) :
    -- `b` is 0
    (isNumZero b = true ∧ numAdd one b = .ok r)
    -- `b` is 1
    ∨ r = a
    -- base 0, 1 or -1 with a Number literal as result
    ∨ NumOK r
    -- a Pow built on the spot: `0 ** b` (`b` not a Number), Complex base or Complex exponent
    ∨ (r = .pow a b ∧ factorOK a b = true ∧ isIntLit b 1 = false)
    -- Number ** Integer
    ∨ numPow a b = .ok r
    -- (Integer | Rational) ** Rational
    ∨ (powNumRat n rv a b = .ok r ∧ (isRational a || isInteger a) = true ∧ isRational b = true)
    -- Mul ** Number: `power_num`
    ∨ (∃ ac ad cd, a = .mul ac ad ∧ b.isNum = true ∧ powerNum n rv ac ad one [] b = .ok cd
        ∧ r = mulFromDict cd.1 cd.2)
    -- the tail of `pow`, with the negated tests of the arms above
    ∨ (powGeneric n rv a b = .ok r ∧ isNumZero b = false ∧ isIntLit b 1 = false
        ∧ isIntLit a 0 = false ∧ isIntLit a 1 = false ∧ (a.isNum = false ∨ b.isNum = false)
        ∧ (isMul a && b.isNum) = false) := by
  -- `split at h` on the whole body is slow to check: the outer conditions are decided by
  -- `by_cases` and rewritten away, `split` is left for the small remainders
  unfold powF at h
  by_cases hbz : isNumZero b = true
  · rw [if_pos hbz] at h; exact .inl ⟨hbz, h⟩
  rw [if_neg hbz] at h
  by_cases hb1 : isIntLit b 1 = true
  · rw [if_pos hb1] at h; exact .inr (.inl (Except.ok.inj h).symm)
  rw [if_neg hb1] at h
  rw [Bool.not_eq_true] at hbz hb1
  by_cases ha0 : isIntLit a 0 = true
  · rw [if_pos ha0] at h
    obtain rfl := isIntLit_iff.mp ha0
    refine .inr (.inr ?_)
    split at h
    · exact .inl (Except.ok.inj h ▸ numOK_zero)
    · split at h
      · exact .inl (Except.ok.inj h ▸ ⟨rfl, rfl⟩)
      · split at h
        · refine .inl ?_
          split at h
          · exact Except.ok.inj h ▸ numOK_zero
          · split at h
            · exact Except.ok.inj h ▸ ⟨rfl, rfl⟩
            · exact Except.ok.inj h ▸ numOK_nan
        · split at h
          · exact .inl (Except.ok.inj h ▸ numOK_nan)
          · rename_i hbn
            refine .inr (.inl ⟨(Except.ok.inj h).symm, ?_, hb1⟩)   -- on the spot: `0 ** b`
            simpa [factorOK, hbz] using hbn
  rw [if_neg ha0] at h
  by_cases h1c : (isIntLit a 1 && (!b.isNum || isComplex b)) = true
  · rw [if_pos h1c] at h
    exact .inr (.inr (.inl (Except.ok.inj h ▸ numOK_one)))
  rw [if_neg h1c] at h
  generalize hm1 : (if isIntLit a (-1) = true then _ else none : Option Expr) = m1 at h
  cases m1 with
  | some x =>
    refine .inr (.inr (.inl (Except.ok.inj h ▸ ?_)))
    split at hm1
    · split at hm1
      · obtain rfl := Option.some.inj hm1
        split
        · exact numOK_one
        · exact numOK_minusOne
      · exact Option.some.inj hm1 ▸ numOK_imagUnit
      · cases hm1
    · cases hm1
  | none =>
    clear hm1
    dsimp only at h
    rw [Bool.not_eq_true] at ha0
    by_cases hbn : b.isNum = true
    · rw [if_pos hbn] at h
      by_cases han : a.isNum = true
      · rw [if_pos han] at h
        by_cases hbi : isInteger b = true
        · rw [if_pos hbi] at h; exact .inr (.inr (.inr (.inr (.inl h))))   -- Number ** Integer
        rw [if_neg hbi] at h
        by_cases hbr : isRational b = true
        · rw [if_pos hbr] at h
          by_cases hari : (isRational a || isInteger a) = true
          · rw [if_pos hari] at h; exact .inr (.inr (.inr (.inr (.inr (.inl ⟨h, hari, hbr⟩)))))   -- ** Rational
          rw [if_neg hari] at h
          split at h
          · rename_i hac
            obtain ⟨re, im, rfl⟩ := isComplex_iff.mp hac
            refine .inr (.inr (.inr (.inl ⟨(Except.ok.inj h).symm, ?_, hb1⟩)))   -- on the spot: Complex base
            simpa [factorOK, hbz] using hbi
          · cases h
        rw [if_neg hbr] at h
        split at h
        · rename_i hbc
          split at h
          · rename_i hae
            obtain ⟨re, im, rfl⟩ := isComplex_iff.mp hbc
            exact .inr (.inr (.inr (.inl ⟨(Except.ok.inj h).symm,   -- on the spot: Complex exponent
              factorOK_exact_cplx hae ha0 (by simpa [hbc] using h1c), hb1⟩)))
          · cases h
        · cases h
      · rw [if_neg han] at h
        have ha1 : isIntLit a 1 = false :=
          Bool.eq_false_iff.mpr fun e => han (isIntLit_iff.mp e ▸ rfl)
        split at h
        · obtain ⟨cd, hp, h⟩ := bind_eq_ok h
          exact .inr (.inr (.inr (.inr (.inr (.inr (.inl   -- `power_num`
            ⟨_, _, cd, rfl, hbn, hp, (Except.ok.inj h).symm⟩))))))
        · rename_i hnm
          refine .inr (.inr (.inr (.inr (.inr (.inr (.inr   -- the tail, `a` not a Number
            ⟨h, hbz, hb1, ha0, ha1, .inl (Bool.eq_false_iff.mpr han), ?_⟩))))))
          rw [isMul_eq_false hnm]; rfl
    · rw [if_neg hbn] at h
      exact .inr (.inr (.inr (.inr (.inr (.inr (.inr   -- the tail, `b` not a Number
        ⟨h, hbz, hb1, ha0, by simpa [hbn] using h1c, .inr (Bool.eq_false_iff.mpr hbn), by simp [hbn]⟩))))))

theorem step_powF (ih : Spec n) : ∀ rv a b r, inv a = true → inv b = true → okBase a = true →
    powF (n + 1) rv a b = .ok r → inv r = true := by
  intro rv a b r ha hb hob h
  rcases powF_cases h with ⟨hbz, h⟩ | rfl | hr | ⟨rfl, hf, hb1⟩ | h | ⟨h, hari, hbr⟩
    | ⟨ac, ad, cd, rfl, hbn, hp, rfl⟩ | ⟨h, hbz, hb1, ha0, ha1, hab, hmb⟩
  · have hbn : b.isNum = true := by unfold isNumZero at hbz; exact (Bool.and_eq_true _ _ ▸ hbz).1
    exact (numAdd_ok numOK_one.2 (inv_canon hb) h).inv
  · exact ha
  · exact hr.inv
  · exact inv_pow_of ha hb hf hb1
  · exact (numPow_ok (inv_canon ha) h).inv
  · exact ih.powNumRat rv a b r (exOK_of_exactNum ha (by rw [Bool.or_comm (isInteger a), hari]; rfl)) (exOK_of_exactNum hb (by simp [hbr])) h
  · have := ih.powerNum rv ac ad one [] b cd.1 cd.2 ha hob ⟨numOK_one, .nil⟩ ⟨hbn, inv_canon hb⟩ hp
    exact mulFromDict_inv this.1 this.2
  · refine ih.powGeneric rv a b r ha hb hob hbz hb1 ha0 ha1 ?_ ?_ hmb h
    · rcases hab with e | e
      · rw [e]; rfl
      · rw [(nonNum_class e).1]; exact Bool.and_false _
    · rcases hab with e | e
      · rw [(nonNum_class e).1, (nonNum_class e).2.1]; rfl
      · rw [(nonNum_class e).2.1]; exact Bool.and_false _

end SymVerif.Arith
