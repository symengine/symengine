import Mathlib.Tactic.Ring
import Mathlib.Tactic.Linarith
import SymVerif.Lemmas.C32Basic
/-! `crt` (Cohen's incremental Chinese remaindering): two congruences merge into one exactly when
`gcd(m, mi) ∣ ri - r` (`crt_combine`, on variables). -/
namespace SymVerif.C32
open SymVerif.NTheory

theorem sgn_eq_sign (a : Int) : sgn a = a.sign := by
  unfold sgn
  split
  · exact (Int.sign_eq_one_of_pos ‹_›).symm
  · split
    · exact (Int.sign_eq_neg_one_of_neg ‹_›).symm
    · rw [show a = 0 by omega]; rfl

theorem mul_sgn (a : Int) : a * sgn a = (a.natAbs : Int) := by
  rw [sgn_eq_sign, Int.mul_sign_self]

theorem bezout_spec (a b : Int) :
    (bezout a b).1 = (Int.gcd a b : Int) ∧ a * (bezout a b).2.1 + b * (bezout a b).2.2 = (Int.gcd a b : Int) := by
  obtain ⟨h1, h2⟩ := egcd_spec a.natAbs b.natAbs
  simp only [bezout, sgn_eq_sign]
  exact ⟨congrArg Nat.cast h1, GmpSpec.bezout_of_natAbs h2⟩

/-- `x` solves the congruences `x ≡ rs[i] (mod ms[i])` -/
def Sol (x : Int) (rs ms : List Int) : Prop := ∀ p ∈ List.zip rs ms, p.2 ∣ x - p.1

theorem sol_cons {x r m : Int} {rs ms : List Int} : Sol x (r :: rs) (m :: ms) ↔ m ∣ x - r ∧ Sol x rs ms := by
  unfold Sol
  rw [List.zip_cons_cons]
  exact List.forall_mem_cons

theorem divides_spec (a b : Int) : divides a b = true ↔ b ∣ a := by
  unfold divides
  by_cases hb : b = 0
  · subst hb; simp
  · have : (b == 0) = false := by simpa using hb
    simp only [this, Bool.false_eq_true, if_false, beq_iff_eq]
    exact ⟨Int.dvd_of_emod_eq_zero, Int.emod_eq_zero_of_dvd⟩

theorem dvd_sub_fmod (a m x : Int) : m ∣ x - Int.fmod a m ↔ m ∣ x - a := by
  have h : m ∣ Int.fmod a m - a := by
    rw [Int.fmod_def]
    exact ⟨-(a.fdiv m), by ring⟩
  rw [← Int.dvd_add_left h, sub_add_sub_cancel]

theorem sol_nil_right (x : Int) (rs : List Int) : Sol x rs [] := by
  intro p hp
  rw [List.zip_nil_right] at hp
  cases hp

/-- Merging two congruences, on variables: with `g = gcd(m, mi) = m s + mi t`, `mi = g mq` and
    `ri - r = g tq`, the solutions of `x ≡ r (mod m)`, `x ≡ ri (mod mi)` are those of
    `x ≡ r + m s tq (mod m mq)`. -/
theorem crt_combine {m mi g s t mq tq r ri : Int} (hbez : m * s + mi * t = g) (hgm : g ∣ m)
    (hmq : g * mq = mi) (htq : g * tq = ri - r) (x : Int) :
    m * mq ∣ x - (r + m * s * tq) ↔ m ∣ x - r ∧ mi ∣ x - ri := by
  have e1 : x - r = x - (r + m * s * tq) + m * (s * tq) := by ring
  have e2 : x - ri = x - (r + m * s * tq) + mi * -(t * tq) := by
    have : ri = r + (m * s + mi * t) * tq := by rw [hbez, htq]; ring
    rw [this]
    ring
  constructor
  · intro h
    have hmi : mi ∣ m * mq := by
      obtain ⟨nq, rfl⟩ := hgm
      exact ⟨nq, by rw [← hmq]; ring⟩
    rw [e1, e2]
    exact ⟨Int.dvd_add ((Dvd.intro _ rfl).trans h) (Dvd.intro _ rfl), Int.dvd_add (hmi.trans h) (Dvd.intro _ rfl)⟩
  · rintro ⟨h1, h2⟩
    rw [e1] at h1
    rw [e2] at h2
    obtain ⟨u, hu⟩ := (Int.dvd_add_left (Dvd.intro _ rfl)).mp h1
    obtain ⟨v, hv⟩ := (Int.dvd_add_left (Dvd.intro _ rfl)).mp h2
    by_cases hg0 : g = 0
    · obtain ⟨nq, rfl⟩ := hgm
      rw [hu, hg0, zero_mul, zero_mul, zero_mul]
    · -- `g y = y (m s + mi t)` with `y = m u = mi v`
      rw [hu]
      refine ⟨v * s + u * t, mul_left_cancel₀ hg0 ?_⟩
      calc g * (m * u) = m * u * (m * s) + m * u * (mi * t) := by rw [← mul_add, hbez, mul_comm]
        _ = mi * v * (m * s) + m * u * (mi * t) := by rw [← hu, hv]
        _ = g * (m * mq * (v * s + u * t)) := by rw [← hmq]; ring

/-- the modulus after one step of the loop of `crt` (merging `x ≡ r (m)` with `x ≡ ri (mi)`) -/
def crtMod (m mi : Int) : Int := m * Int.tdiv mi (Int.gcd m mi : Nat)

/-- the remainder after that step -/
def crtRem (m mi r ri : Int) : Int :=
  Int.fmod (r + m * (bezout m mi).2.1 * Int.tdiv (ri - r) (Int.gcd m mi : Nat)) (crtMod m mi)

theorem crtLoop_cons (ri mi m r : Int) (rs ms : List Int) :
    crtLoop (ri :: rs) (mi :: ms) m r =
      if ((Int.gcd m mi : Nat) : Int) ∣ ri - r then
        (if crtMod m mi = 0 then .error .fpe else crtLoop rs ms (crtMod m mi) (crtRem m mi r ri))
      else .ok none := by
  rw [crtLoop, (bezout_spec m mi).1]
  by_cases hd : ((Int.gcd m mi : Nat) : Int) ∣ ri - r
  · rw [if_pos hd, (divides_spec _ _).mpr hd]
    simp only [Bool.not_true, Bool.false_eq_true, if_false, beq_iff_eq]
    rfl
  · rw [if_neg hd, Bool.eq_false_iff.mpr (mt (divides_spec _ _).mp hd)]
    rfl

theorem crt_merge {m mi r ri : Int} (hg : ((Int.gcd m mi : Nat) : Int) ∣ ri - r) (x : Int) :
    crtMod m mi ∣ x - crtRem m mi r ri ↔ m ∣ x - r ∧ mi ∣ x - ri := by
  rw [crtRem, dvd_sub_fmod]
  exact crt_combine (bezout_spec m mi).2 (Int.gcd_dvd_left m mi)
    (Int.mul_tdiv_cancel' (Int.gcd_dvd_right m mi)) (Int.mul_tdiv_cancel' hg) x

theorem crt_unmergeable {m mi r ri : Int} (hg : ¬ ((Int.gcd m mi : Nat) : Int) ∣ ri - r) (x : Int) :
    ¬ (m ∣ x - r ∧ mi ∣ x - ri) := by
  rintro ⟨h1, h2⟩
  apply hg
  have := Int.dvd_sub ((Int.gcd_dvd_left m mi).trans h1) ((Int.gcd_dvd_right m mi).trans h2)
  rwa [sub_sub_sub_cancel_left] at this

theorem crtMod_pos {m mi : Int} (hm : 0 < m) (hmi : 0 < mi) : 0 < crtMod m mi := by
  have hg : (0 : Int) < (Int.gcd m mi : Nat) := by exact_mod_cast Int.gcd_pos_of_ne_zero_left _ hm.ne'
  have hq : 0 < mi.tdiv (Int.gcd m mi : Nat) :=
    (mul_pos_iff_of_pos_left hg).mp (by rw [Int.mul_tdiv_cancel' (Int.gcd_dvd_right m mi)]; exact hmi)
  exact Int.mul_pos hm hq

theorem crtMod_ne_zero {m mi : Int} (hm : m ≠ 0) (hmi : mi ≠ 0) : crtMod m mi ≠ 0 := by
  intro h0
  have h := Int.mul_tdiv_cancel' (Int.gcd_dvd_right m mi)
  rcases mul_eq_zero.mp h0 with h1 | h1
  · exact hm h1
  · rw [h1, mul_zero] at h
    exact hmi h.symm

/-- When the loop returns `R`, the system `x ≡ r (mod m)`, `x ≡ rs[i] (mod ms[i])` is equivalent to a single
    congruence `x ≡ R (mod M)`; with positive moduli `M > 0`, and `R` is the canonical representative
    as soon as the loop takes a step (which reduces the remainder) or `r` is canonical already.
    When it returns nothing, the system has no solution. -/
theorem crtLoop_ok : ∀ (rs ms : List Int) (m r : Int) (res : Option Int), crtLoop rs ms m r = .ok res →
    match res with
    | some R => ∃ M : Int, (∀ x, M ∣ x - R ↔ m ∣ x - r ∧ Sol x rs ms) ∧
        (0 < m → (∀ x ∈ ms, 0 < x) → 0 < M ∧ (ms ≠ [] ∨ (0 ≤ r ∧ r < m) → 0 ≤ R ∧ R < M))
    | none => ∀ x, ¬ (m ∣ x - r ∧ Sol x rs ms) := by
  intro rs ms
  induction ms generalizing rs with
  | nil =>
    intro m r res h
    obtain rfl : some r = res := by cases rs <;> exact Except.ok.inj h
    exact ⟨m, fun x => (and_iff_left (sol_nil_right x rs)).symm,
      fun hm _ => ⟨hm, fun h => h.resolve_left fun h => h rfl⟩⟩
  | cons mi ms ih =>
    intro m r res h
    cases rs with
    | nil => cases h
    | cons ri rs =>
      rw [crtLoop_cons] at h
      split at h
      · rename_i hg
        split at h
        · cases h
        · have := ih rs _ _ res h
          cases res with
          | none => exact fun x => by rw [sol_cons, ← and_assoc, ← crt_merge hg]; exact this x
          | some R =>
            obtain ⟨M, hM, hpos⟩ := this
            refine ⟨M, fun x => ?_, fun hm hms => ?_⟩
            · rw [hM, crt_merge hg, sol_cons, and_assoc]
            · have hm' := crtMod_pos hm (hms mi (List.mem_cons_self ..))
              obtain ⟨h1, h2⟩ := hpos hm' (fun x hx => hms x (List.mem_cons_of_mem _ hx))
              exact ⟨h1, fun _ => h2 (.inr ⟨Int.fmod_nonneg_of_pos _ hm', Int.fmod_lt_of_pos _ hm'⟩)⟩
      · rename_i hg
        cases h
        exact fun x hx => crt_unmergeable hg x ⟨hx.1, (sol_cons.mp hx.2).1⟩

theorem crtLoop_total : ∀ (rs ms : List Int) (m r : Int), m ≠ 0 → (∀ x ∈ ms, x ≠ 0) → ms.length ≤ rs.length →
    ∃ res, crtLoop rs ms m r = .ok res := by
  intro rs ms
  induction ms generalizing rs with
  | nil => intro m r _ _ _; cases rs <;> exact ⟨_, rfl⟩
  | cons mi ms ih =>
    intro m r hm hnz hlen
    cases rs with
    | nil => simp at hlen
    | cons ri rs =>
      rw [crtLoop_cons]
      split
      · have hm' := crtMod_ne_zero hm (hnz mi (List.mem_cons_self ..))
        rw [if_neg hm']
        exact ih rs _ _ hm' (fun x hx => hnz x (List.mem_cons_of_mem _ hx))
          (Nat.le_of_succ_le_succ hlen)
      · exact ⟨_, rfl⟩

theorem crt_eq_ok {rem mod : List Int} {res : Option Int} (h : crt rem mod = .ok res) :
    ∃ r0 rs m0 ms, rem = r0 :: rs ∧ mod = m0 :: ms ∧ crtLoop rs ms m0 r0 = .ok res := by
  unfold crt at h
  split at h
  · cases h
  · split at h
    · cases h
    · cases h
    · exact ⟨_, _, _, _, rfl, rfl, h⟩

end SymVerif.C32
