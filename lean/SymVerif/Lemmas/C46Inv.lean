import SymVerif.Lemmas.C46Abs
/-!
C46: the invariant `AInv` holds initially and is preserved by every iteration (`astep`).
-/
namespace SymVerif.C46
open SymVerif.LDE

theorem fz_replicate_false (q i : ℕ) : fz (Array.replicate q false) i = false := by
  rw [fz, Array.getD_eq_getD_getElem?, Array.getElem?_replicate]
  split <;> rfl

theorem AInv.init (A : List Vec) (q : ℕ) (hq : 0 < q) :
    AInv A q [(List.replicate q 0, Array.replicate q false)] [] where
  shape := List.forall_mem_singleton.mpr
    ⟨List.length_replicate, Array.size_replicate, fun i => (cmp_replicate_zero q i).ge⟩
  free := List.forall_mem_singleton.mpr (by
    rw [cnt, Array.count_replicate]
    exact hq)
  depth := ⟨Nat.zero_le _, trivial⟩
  pair := List.pairwise_singleton _ _
  noreach := fun b hb => absurd hb List.not_mem_nil
  nodom := fun b hb => absurd hb List.not_mem_nil
  minimal := fun b hb => absurd hb List.not_mem_nil
  complete := fun m hm => Or.inr ⟨_, List.mem_singleton.mpr rfl,
    fun i => (cmp_replicate_zero q i).trans_le (hm.1.nonneg i),
    fun i hi => by simp [fz_replicate_false] at hi⟩
  nodup := List.nodup_nil

theorem AInv.step_sol {A : List Vec} {q : ℕ} {t : Vec} {F : Array Bool} {rest : List Ent}
    {basis : List Vec} (h : AInv A q ((t, F) :: rest) basis)
    (hz : isZero (mulVec A t) = true) (hnz : isZero t = false) :
    AInv A q rest (t :: basis) := by
  obtain ⟨htl, hFs, htnn⟩ : t.length = q ∧ F.size = q ∧ ∀ i, 0 ≤ cmp t i :=
    h.shape (t, F) List.mem_cons_self
  have hpair := List.pairwise_cons.mp h.pair
  have hsolt : IsSol A q t := ⟨htl, htnn, hz, hnz⟩
  refine ⟨fun e he => h.shape e (List.mem_cons_of_mem _ he),
    fun e he => h.free e (List.mem_cons_of_mem _ he), h.depth.2, hpair.2, ?noreach, ?nodom, ?minimal,
    ?complete, ?nodup⟩
  case noreach =>
    intro b hb e he
    rcases List.mem_cons.mp hb with rfl | hb
    · obtain ⟨⟨i, -, hlt⟩, -⟩ := hpair.1 e he
      exact fun hr => absurd (hr.1 i) (not_le.mpr hlt)
    · exact h.noreach b hb e (List.mem_cons_of_mem _ he)
  case nodom =>
    intro b hb e he
    rcases List.mem_cons.mp hb with rfl | hb
    · obtain ⟨-, i, hlt⟩ := hpair.1 e he
      exact fun hd => absurd (hd.1 i) (not_le.mpr hlt)
    · exact h.nodom b hb e (List.mem_cons_of_mem _ he)
  case minimal =>
    intro b hb
    rcases List.mem_cons.mp hb with rfl | hb
    · refine ⟨hsolt, fun v hv hle => ?_⟩
      -- a minimal `m ≤ v ≤ b` is in the basis or reachable from the stack: either way `m = b`
      obtain ⟨m, hm, hmle⟩ := exists_minimal_le hv
      have hmt : ∀ i, cmp m i ≤ cmp b i := fun i => (hmle i).trans (hle i)
      obtain rfl : b = m := by
        rcases h.complete m hm with hmem | ⟨e, he, hr⟩
        · by_contra hne
          exact h.nodom m hmem (b, F) List.mem_cons_self ⟨hmt, hne⟩
        · rcases List.mem_cons.mp he with rfl | he
          · exact vec_le_antisymm (htl.trans hm.1.len.symm) hr.1 hmt
          · obtain ⟨⟨i, -, hlt⟩, -⟩ := hpair.1 e he
            exact absurd ((hr.1 i).trans (hmt i)) (not_le.mpr hlt)
      exact vec_le_antisymm (hv.1.trans htl.symm) hle hmle
    · exact h.minimal b hb
  case complete =>
    intro m hm
    rcases h.complete m hm with hmem | ⟨e, he, hr⟩
    · exact Or.inl (List.mem_cons_of_mem _ hmem)
    · rcases List.mem_cons.mp he with rfl | he
      · exact Or.inl (hm.2 t hsolt hr.1 ▸ List.mem_cons_self)
      · exact Or.inr ⟨e, he, hr⟩
  case nodup =>
    exact List.nodup_cons.mpr ⟨fun hmem => h.noreach t hmem (t, F) List.mem_cons_self
      ⟨fun _ => le_rfl, fun _ _ => rfl⟩, h.nodup⟩

/-- the frame of four cases of `step_expand`: a fact about the children, and the old fact for the rest -/
theorem forall_mem_kids_append {P : Ent → Prop} {top : Ent} {kids rest : List Ent}
    (hk : ∀ e ∈ kids, P e) (hr : ∀ e ∈ top :: rest, P e) : ∀ e ∈ kids ++ rest, P e :=
  fun e he => (List.mem_append.mp he).elim (hk e) fun h => hr e (List.mem_cons_of_mem _ h)

theorem AInv.step_expand {A : List Vec} {q : ℕ} (hA : ∀ r ∈ A, r.length = q) {t : Vec}
    {F : Array Bool} {rest : List Ent} {basis : List Vec} (h : AInv A q ((t, F) :: rest) basis)
    (hbr : ¬ (isZero (mulVec A t) = true ∧ isZero t = false)) :
    AInv A q ((akids (kcond A (mulVec A t) basis (isZero t) t) t q 0 F).reverse ++ rest) basis := by
  obtain ⟨htl, hFs, htnn⟩ : t.length = q ∧ F.size = q ∧ ∀ i, 0 ≤ cmp t i :=
    h.shape (t, F) List.mem_cons_self
  have hpair := List.pairwise_cons.mp h.pair
  have hkid := fun e (he : e ∈ (akids (kcond A (mulVec A t) basis (isZero t) t) t q 0 F).reverse) =>
    akids_mem _ t q 0 F e (List.mem_reverse.mp he)
  have hbl : ∀ j, ∀ b ∈ basis, b.length = (incAt t j 1).length := fun j b hb => by
    rw [length_incAt, htl, (h.minimal b hb).1.len]
  refine ⟨?shape, ?free, ?depth, ?pair, ?noreach, ?nodom, h.minimal, ?complete, h.nodup⟩
  case shape =>
    refine forall_mem_kids_append (fun e he => ?_) h.shape
    obtain ⟨j, -, -, hvec, -, hsize, -, -⟩ := hkid e he
    exact ⟨by rw [hvec, length_incAt, htl], hsize.trans hFs,
      fun i => hvec ▸ (htnn i).trans (cmp_incAt_ge t j i)⟩
  case free =>
    refine forall_mem_kids_append (fun e he => ?_) h.free
    obtain ⟨j, -, hjq, -, hfree, hsize, -, -⟩ := hkid e he
    exact (hsize.trans hFs) ▸ cnt_lt_of_false (by omega) hfree
  case depth =>
    exact akids_depth _ t q 0 F (by omega) rest h.depth.2 h.depth.1
  case pair =>
    refine List.pairwise_append.mpr ⟨List.pairwise_reverse.mpr
      (akids_pairwise _ t q 0 F (by omega) (hFs.trans htl.symm)), hpair.2,
      fun e' he' e he => ?_⟩
    obtain ⟨j, -, -, hvec, hfree, -, hsup, -⟩ := hkid e' he'
    obtain ⟨⟨i, hFi, hlt⟩, i', hlt'⟩ := hpair.1 e he
    refine ⟨⟨i, hsup i hFi, ?_⟩, i', ?_⟩
    · rw [hvec, cmp_incAt_ne _ _ (ne_of_fz (hsup i hFi) hfree)]
      exact hlt
    · rw [hvec]
      exact hlt'.trans_le (cmp_incAt_ge t j i')
  case noreach =>
    intro b hb
    refine forall_mem_kids_append (fun e he => ?_) (h.noreach b hb)
    obtain ⟨j, -, -, hvec, hfree, -, hsup, -⟩ := hkid e he
    rw [hvec]
    intro hr
    refine h.noreach b hb (t, F) List.mem_cons_self
      ⟨fun x => (cmp_incAt_ge t j x).trans (hr.1 x), fun x hx => ?_⟩
    rw [hr.2 x (hsup x hx), cmp_incAt_ne _ _ (ne_of_fz (hsup x hx) hfree)]
  case nodom =>
    intro b hb
    refine forall_mem_kids_append (fun e he => ?_) (h.nodom b hb)
    obtain ⟨j, -, hjq, hvec, -, -, -, htest⟩ := hkid e he
    have hbs := (h.minimal b hb).1
    rw [hvec]
    rcases Bool.or_eq_true_iff.mp htest with htest | htest
    · exact (isMinimum_iff (hbl j)).mp (Bool.and_eq_true_iff.mp htest).2 b hb
    · -- `t = 0`: the child is a unit vector, and only `0` is strictly below it
      have ht0 := (isZero_iff t).mp htest
      rintro ⟨hle, hne⟩
      obtain ⟨x, -, hx⟩ := exists_lt_of_ne (hbl j b hb) hle hne.symm
      obtain rfl : x = j := by
        by_contra hxj
        rw [cmp_incAt_ne _ _ hxj, ht0] at hx
        exact absurd (hbs.nonneg x) (not_le.mpr hx)
      rw [cmp_incAt_self _ (by omega), ht0] at hx
      refine absurd ((isZero_iff b).mpr fun y => le_antisymm ?_ (hbs.nonneg y)) (by simp [hbs.ne_zero])
      by_cases hy : y = x
      · rw [hy]; omega
      · have := hle y
        rwa [cmp_incAt_ne _ _ hy, ht0] at this
  case complete =>
    intro m hm
    rcases h.complete m hm with hmem | ⟨e, he, hr⟩
    · exact Or.inl hmem
    rcases List.mem_cons.mp he with rfl | he
    swap
    · exact Or.inr ⟨e, List.mem_append_right _ he, hr⟩
    have htm : t ≠ m := by rintro rfl; exact hbr ⟨hm.1.sol, hm.1.ne_zero⟩
    -- (`0 ≤ j`, `0 + q`: `akids_reach` is stated for any start index)
    have hw : ∃ j, 0 ≤ j ∧ j < 0 + q ∧ cmp t j < cmp m j ∧
        kcond A (mulVec A t) basis (isZero t) t j = true := by
      cases htz : isZero t with
      | true =>
        obtain ⟨j, hj, hlt⟩ := exists_lt_of_ne (htl.trans hm.1.len.symm) hr.1 htm
        exact ⟨j, Nat.zero_le _, by omega, hlt, by simp [kcond]⟩
      | false =>
        have hAt : isZero (mulVec A t) = false := by simpa [htz] using hbr
        obtain ⟨j, hjq, hlt, hneg⟩ := exists_descent q A hA m t hr.1 hm.1.sol hAt
        have hTm := cmp_incAt_le hr.1 hlt
        refine ⟨j, Nat.zero_le _, by omega, hlt, ?_⟩
        rw [kcond, Bool.or_eq_true, Bool.and_eq_true, decide_eq_true_iff]
        refine Or.inl ⟨hneg, (isMinimum_iff (hbl j)).mpr fun b hb ⟨hle, hne⟩ => hne ?_⟩
        -- `b ≤ t + e_j ≤ m`, so `b = m` by minimality of `m`, and `t + e_j = m`
        have hbm := hm.2 b (h.minimal b hb).1 fun x => (hle x).trans (hTm x)
        rw [hbm] at hle ⊢
        exact vec_le_antisymm (by rw [length_incAt, htl, hm.1.len]) hTm hle
    obtain ⟨e, he, hre⟩ :=
      akids_reach _ t m hr.1 q 0 F hr.2 hw
    exact Or.inr ⟨e, List.mem_append_left _ (List.mem_reverse.mpr he), hre⟩

theorem AInv.step {A : List Vec} {q : ℕ} (hA : ∀ r ∈ A, r.length = q) {L : List Ent}
    {basis : List Vec} (h : AInv A q L basis) :
    AInv A q (astep A q (L, basis)).1 (astep A q (L, basis)).2 := by
  match L, h with
  | [], h => exact h
  | (t, F) :: rest, h =>
    rw [astep]
    by_cases hc : (isZero (mulVec A t) && !isZero t) = true
    · rw [if_pos hc]
      rw [Bool.and_eq_true, Bool.not_eq_true'] at hc
      exact h.step_sol hc.1 hc.2
    · rw [if_neg hc]
      exact h.step_expand hA fun h' => hc (by rw [h'.1, h'.2]; rfl)

end SymVerif.C46
