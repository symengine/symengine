import SymVerif.Lemmas.C05Pow
import SymVerif.Lemmas.C05PowK
import SymVerif.Lemmas.C05Arith
/-! `Complex::powcomp`: imaginary base via `I ** (e mod 4)`, general base via `pow_number`. -/
namespace SymVerif.C05
open SymVerif.Num
open Q (Rep)


variable {F : Type} [FloatOps F]

theorem gv_I : gv (.ofInt 0) (.ofInt 1) = Complex.I := by
  apply Complex.ext <;> simp [gv]
theorem gv_negI : gv (.ofInt 0) (.ofInt (-1)) = -Complex.I := by
  apply Complex.ext <;> simp [gv]

/-- the table `one, I, minus_one, -I` indexed by `e mod 4` is `I ** e` -/
theorem iPowRes_good (e : Int) : Good (F := F) (iPowRes e) (Complex.I ^ e) := by
  have hm : e % 4 = 0 ∨ e % 4 = 1 ∨ e % 4 = 2 ∨ e % 4 = 3 := by omega
  rw [Complex.I_zpow_eq_zpow_mod]
  unfold iPowRes
  rcases hm with h | h | h | h <;> rw [h]
  · exact ⟨rfl, rfl, by rw [zpow_zero]; exact (val_int 1).trans (by rw [Int.cast_one])⟩
  · exact ⟨rfl, rfl, by rw [zpow_one]; exact congrArg some gv_I⟩
  · exact ⟨rfl, rfl, by rw [zpow_ofNat, Complex.I_sq]; exact (val_int _).trans (by simp)⟩
  · exact ⟨rfl, rfl, by
      rw [zpow_ofNat, Complex.I_pow_three]; exact congrArg some gv_negI⟩

theorem imPow_good {im : Q} {y : ℚ} (him : Rep im y) (hn : im.num ≠ 0) (e : Int) (hs : e.natAbs ≤ hugeExp) :
    ∃ v, imPow (F := F) im e = .ok v ∧ Good v (gq y 0 ^ e) := by
  unfold imPow
  by_cases hd : im.den = 1
  · have hval : gq y 0 = (im.num : ℂ) := by
      rw [gq_real, ← him.eq]; simp [Q.toRat, hd]
    simp only [hd, beq_self_eq_true, if_true, hval]
    by_cases he : 0 ≤ e
    · exact powint_nonneg_good im.num e he hs
    · exact powint_neg_good im.num e hn (not_le.mp he) hs
  · simp only [hd, beq_iff_eq, if_false]
    exact powrat_good him hn e hs

theorem oneDiv_eq_div (x : Num F) (hx : Exact x) : oneDiv x = Num.div (.int 1) x := by
  cases x <;> simp only [Exact, Num.isExact, Bool.false_eq_true] at hx <;> rfl

theorem powcomp_good {re im : Q} {x y : ℚ} (hre : Rep re x) (him : Rep im y) (hn : im.num ≠ 0) (e : Int)
    (hs : e.natAbs ≤ hugeExp) :
    ∃ r, powcomp (F := F) re im e = .ok r ∧ Good r (gq x y ^ e) := by
  have hz : gq x y ≠ 0 := gq_ne_zero_of_im (him.ne_zero hn)
  have hb := (exp_guards hs).slong
  have h64 := (exp_guards hs).lt_two_pow
  unfold powcomp
  by_cases h0 : re.num = 0
  · simp only [h0, beq_self_eq_true, if_true]
    obtain ⟨v, hv, gvv⟩ := imPow_good (F := F) him hn e hs
    rw [hv]
    obtain ⟨r, hr, gr⟩ := mul_good gvv (iPowRes_good (F := F) e)
    refine ⟨r, hr, ?_⟩
    have hx : x = 0 := by rw [← hre.eq]; simp [Q.toRat, h0]
    have : gq x y = gq y 0 * Complex.I := by
      apply Complex.ext <;> simp [gq, hx]
    rw [this, mul_zpow]
    exact gr
  · have hb' : ¬ (decide (e > slongMax) || decide (e < -slongMax)) = true := by simpa using hb
    have h2 : ¬ e.natAbs > hugeExp := by omega
    simp only [h0, beq_iff_eq, if_false, hb', h2]
    by_cases hp : 0 < e
    · simp only [hp, if_true]
      refine ⟨_, rfl, ?_⟩
      rw [zpow_of_eq e.toNat (by omega)]
      exact powNumber_good (F := F) hre him e.toNat (by omega)
    · simp only [hp, if_false]
      have g0 := powNumber_good (F := F) hre him (-e).toNat (by omega)
      rw [oneDiv_eq_div _ g0.exact]
      have hne : powNumber (F := F) re im (-e).toNat ≠ .int 0 := by
        intro h
        have hv := g0.value
        rw [h, val_int] at hv
        have : (0 : ℂ) = gq x y ^ (-e).toNat := by simpa using hv
        exact pow_ne_zero _ hz this.symm
      obtain ⟨r, hr, gr⟩ := div_good (a := .int 1) ⟨rfl, rfl, rfl⟩ g0 hne
      refine ⟨r, hr, ?_⟩
      rw [zpow_of_eq_neg (-e).toNat (by omega)]
      simpa [gv_ofInt] using gr

theorem pow_good {a : Num F} {za : ℂ} (ha : Good a za) (e : Int) (hs : e.natAbs ≤ hugeExp) :
    ∃ r, Num.pow a (.int e) = .ok r ∧ (if a.isZero = true ∧ e < 0 then r = .infty 0 else Good r (za ^ e)) := by
  obtain ⟨n, rfl, rfl⟩ | ⟨q, x, hq, hd, rfl, rfl⟩ | ⟨re, im, x, y, hre, him, hi, rfl, rfl⟩ := ha.cases
  · show ∃ r, powint n e = .ok r ∧ _
    rw [gq_real, Rat.cast_intCast]
    by_cases he : 0 ≤ e
    · obtain ⟨r, hr, g⟩ := powint_nonneg_good (F := F) n e he hs
      exact ⟨r, hr, by rwa [if_neg (fun h => absurd h.2 (not_lt.mpr he))]⟩
    · by_cases hn : n = 0
      · subst hn
        exact ⟨_, powint_zero_neg e (not_le.mp he), by rw [if_pos ⟨rfl, not_le.mp he⟩]⟩
      · obtain ⟨r, hr, g⟩ := powint_neg_good (F := F) n e hn (not_le.mp he) hs
        exact ⟨r, hr, by rwa [if_neg (fun h => hn (beq_iff_eq.mp h.1))]⟩
  · have hq0 := Q.canon_num_ne_zero hq.canon hd
    obtain ⟨r, hr, g⟩ := powrat_good (F := F) hq hq0 e hs
    exact ⟨r, hr, by rwa [if_neg (fun h => hq0 (beq_iff_eq.mp h.1))]⟩
  · obtain ⟨r, hr, g⟩ := powcomp_good (F := F) hre him hi e hs
    exact ⟨r, hr, by rwa [if_neg (fun h => Bool.false_ne_true h.1)]⟩

end SymVerif.C05
