import SymVerif.Lemmas.C26Add
import Mathlib.Algebra.BigOperators.Group.Finset.Sigma
/-!
Algebra of the matrix product on `Val`: associativity, congruence, identity, the merge rules of
`matrix_mul` on concrete leaves, products of chains.
-/
namespace SymVerif.MatExpr
open MExpr

theorem mulV_assoc (a b c : Val) : mulV (mulV a b) c ≃ mulV a (mulV b c) := by
  refine ⟨rfl, rfl, fun i j _ _ => ?_⟩
  simp only [mulV, Finset.sum_mul, Finset.mul_sum]
  rw [Finset.sum_comm]
  apply Finset.sum_congr rfl; intro l _
  apply Finset.sum_congr rfl; intro k _
  ring

/-- `hc` is needed: the sum runs over `k < a.c`, `hb` speaks of the rows `k < b.r` -/
theorem mulV_congr {a a' b b' : Val} (ha : a ≃ a') (hb : b ≃ b') (hc : a.c = b.r) :
    mulV a b ≃ mulV a' b' := by
  refine ⟨ha.1, hb.2.1, fun i j hi hj => ?_⟩
  simp only [mulV] at hi hj ⊢
  rw [← ha.2.1]
  apply Finset.sum_congr rfl
  intro k hk
  have hk' : k < a.c := Finset.mem_range.1 hk
  rw [ha.2.2 i k hi hk', hb.2.2 k j (hc ▸ hk') hj]

theorem smulV_congr {a a' : Val} (s : GQ) (ha : a ≃ a') : smulV s a ≃ smulV s a' :=
  ⟨ha.1, ha.2.1, fun i j hi hj => by simp only [smulV]; rw [ha.2.2 i j hi hj]⟩

theorem mulV_smul_left (s : GQ) (a b : Val) : mulV (smulV s a) b ≃ smulV s (mulV a b) :=
  ⟨rfl, rfl, fun i j _ _ => by
    simp only [mulV, smulV, Finset.mul_sum]
    apply Finset.sum_congr rfl; intro k _; ring⟩

theorem mulV_smul_right (s : GQ) (a b : Val) : mulV a (smulV s b) ≃ smulV s (mulV a b) :=
  ⟨rfl, rfl, fun i j _ _ => by
    simp only [mulV, smulV, Finset.mul_sum]
    apply Finset.sum_congr rfl; intro k _; ring⟩

theorem smulV_smulV (s t : GQ) (a : Val) : smulV s (smulV t a) ≃ smulV (s * t) a :=
  ⟨rfl, rfl, fun i j _ _ => by simp only [smulV]; ring⟩

theorem smulV_one (a : Val) : smulV 1 a ≃ a :=
  ⟨rfl, rfl, fun i j _ _ => by simp only [smulV]; ring⟩

theorem smul_mul_smul (s t : GQ) (a b : Val) :
    smulV (s * t) (mulV a b) ≃ mulV (smulV s a) (smulV t b) :=
  (smulV_smulV s t _).symm.trans ((smulV_congr s (mulV_smul_right t a b).symm).trans (mulV_smul_left s a _).symm)

def identV (n : Nat) : Val := ⟨n, n, fun i j => if i = j then 1 else 0⟩

theorem mulV_ident_right {a : Val} {n : Nat} (h : a.c = n) : mulV a (identV n) ≃ a := by
  refine ⟨rfl, h.symm, fun i j _ hj => ?_⟩
  simp only [mulV, identV] at hj ⊢
  simp only [mul_ite, mul_one, mul_zero]
  rw [Finset.sum_ite_eq' (Finset.range a.c) j]
  simp [h, hj]

theorem mulV_ident_left {a : Val} {n : Nat} (h : n = a.r) : mulV (identV n) a ≃ a := by
  refine ⟨h, rfl, fun i j hi _ => ?_⟩
  simp only [mulV, identV] at hi ⊢
  simp only [ite_mul, one_mul, zero_mul]
  rw [Finset.sum_ite_eq (Finset.range n) i]
  simp [hi]

theorem foldl_range_sum (n : Nat) (g : Nat → GQ) :
    (List.range n).foldl (fun acc k => acc + g k) 0 = ∑ k ∈ Finset.range n, g k := by
  induction n with
  | zero => simp
  | succ m ih => rw [List.range_succ, List.foldl_append, ih, Finset.sum_range_succ]; simp

theorem diag_mul_diag {env : Env} {d0 d : List GQ} (h : d0.length = d.length) :
    mulV (valOf env (diag d0)) (valOf env (diag d)) ≃ valOf env (diag (List.zipWith (· * ·) d0 d)) := by
  have hl : d0.length = (List.zipWith (· * ·) d0 d).length := by rw [List.length_zipWith, h, Nat.min_self]
  refine ⟨hl, h.symm.trans hl, fun i j hi hj => ?_⟩
  have hi : i < d0.length := hi
  show ∑ k ∈ Finset.range d0.length, (if i = k then d0.getD i 0 else 0) * (if k = j then d.getD k 0 else 0) = _
  simp only [ite_mul, zero_mul]
  rw [Finset.sum_ite_eq (Finset.range d0.length) i, if_pos (Finset.mem_range.2 hi)]
  show _ = if i = j then (List.zipWith (· * ·) d0 d).getD i 0 else 0
  rw [getD_zipWith (mul_zero 0) h]
  by_cases hij : i = j
  · rw [if_pos hij, if_pos hij]
  · rw [if_neg hij, if_neg hij, mul_zero]

theorem dense_mul_diag {env : Env} {r c : Nat} {v d : List GQ} (hd : d.length = c) :
    mulV (valOf env (dense r c v)) (valOf env (diag d))
      ≃ valOf env (dense r c (mkFlat r c fun i j => ent v c i j * d.getD j 0)) := by
  refine ⟨rfl, hd, fun i j hi hj => ?_⟩
  have hi : i < r := hi
  have hj : j < c := hd ▸ hj
  show ∑ k ∈ Finset.range c, ent v c i k * (if k = j then d.getD k 0 else 0) = ent (mkFlat r c _) c i j
  rw [ent_mkFlat _ hi hj]
  simp only [mul_ite, mul_zero]
  rw [Finset.sum_ite_eq' (Finset.range c) j, if_pos (Finset.mem_range.2 hj)]

theorem diag_mul_dense {env : Env} {r c : Nat} {v d : List GQ} (hd : d.length = r) :
    mulV (valOf env (diag d)) (valOf env (dense r c v))
      ≃ valOf env (dense r c (mkFlat r c fun i j => ent v c i j * d.getD i 0)) := by
  refine ⟨hd, rfl, fun i j hi hj => ?_⟩
  have hi : i < d.length := hi
  have hj : j < c := hj
  show ∑ k ∈ Finset.range d.length, (if i = k then d.getD i 0 else 0) * ent v c k j
    = ent (mkFlat r c _) c i j
  rw [ent_mkFlat _ (hd ▸ hi) hj]
  simp only [ite_mul, zero_mul]
  rw [Finset.sum_ite_eq (Finset.range d.length) i, if_pos (Finset.mem_range.2 hi), mul_comm]

theorem dense_mul_dense {env : Env} {ar ac bc : Nat} {av bv : List GQ} :
    mulV (valOf env (dense ar ac av)) (valOf env (dense ac bc bv))
      ≃ valOf env (dense ar bc (mkFlat ar bc fun i j =>
          (List.range ac).foldl (fun acc k => acc + ent av ac i k * ent bv bc k j) 0)) := by
  refine ⟨rfl, rfl, fun i j hi hj => ?_⟩
  simp only [mulV, valOf] at hi hj ⊢
  rw [ent_mkFlat _ hi hj, foldl_range_sum]

theorem chainOk_cons_cons {v w : Val} {l : List Val} :
    ChainOk (v :: w :: l) ↔ v.c = w.r ∧ ChainOk (w :: l) := Iff.rfl

theorem chainOk_tail {v : Val} {l : List Val} (h : ChainOk (v :: l)) : ChainOk l := by
  cases l with
  | nil => trivial
  | cons w t => exact h.2

theorem chainOk_append_right {a b : List Val} (h : ChainOk (a ++ b)) : ChainOk b := by
  induction a with
  | nil => exact h
  | cons v t ih => exact ih (chainOk_tail h)

theorem prodV_cons_cons (v w : Val) (l : List Val) : prodV (v :: w :: l) = mulV v (prodV (w :: l)) := rfl

theorem prodV_single (v : Val) : prodV [v] = v := rfl

/-! `prodV []` is the 0×0 matrix, not a unit, so every fact about `ChainOk`/`prodV` on an append needs both
parts non-empty.  The proofs about `matrix_mul` therefore use chains with explicit end points, whose empty
product is an identity, and come back to `ChainOk`/`prodV` where a `MatrixMul` node is read or built. -/

/-- `l` is a chain of matrices leading from dimension `a` to dimension `b` -/
def Chain : Nat → Nat → List Val → Prop
  | a, b, [] => a = b
  | a, b, v :: l => v.r = a ∧ Chain v.c b l

/-- product of a chain that starts at dimension `a`; the empty chain is the identity -/
def prodI : Nat → List Val → Val
  | a, [] => identV a
  | _, v :: l => mulV v (prodI v.c l)

theorem chain_append {a c : Nat} {l₁ l₂ : List Val} :
    Chain a c (l₁ ++ l₂) ↔ ∃ b, Chain a b l₁ ∧ Chain b c l₂ := by
  induction l₁ generalizing a with
  | nil => exact ⟨fun h => ⟨a, rfl, h⟩, fun ⟨b, h₁, h₂⟩ => h₁ ▸ h₂⟩
  | cons v t ih =>
    exact ⟨fun h => have ⟨b, h₁, h₂⟩ := ih.1 h.2; ⟨b, ⟨h.1, h₁⟩, h₂⟩,
      fun ⟨b, h₁, h₂⟩ => ⟨h₁.1, ih.2 ⟨b, h₁.2, h₂⟩⟩⟩

theorem Chain.append {a b c : Nat} {l₁ l₂ : List Val} (h₁ : Chain a b l₁) (h₂ : Chain b c l₂) :
    Chain a c (l₁ ++ l₂) := chain_append.2 ⟨b, h₁, h₂⟩

theorem Chain.snoc {a b : Nat} {l : List Val} (h : Chain a b l) {v : Val} (hv : v.r = b) : Chain a v.c (l ++ [v]) :=
  h.append ⟨hv, rfl⟩

theorem Chain.rows {a b : Nat} {l : List Val} (h : Chain a b l) : (prodI a l).r = a := by
  cases l with
  | nil => rfl
  | cons v t => exact h.1

theorem Chain.cols {a b : Nat} {l : List Val} (h : Chain a b l) : (prodI a l).c = b := by
  induction l generalizing a with
  | nil => exact h
  | cons v t ih => exact ih h.2

theorem prodI_append {a b c : Nat} {l₁ l₂ : List Val} (h₁ : Chain a b l₁) (h₂ : Chain b c l₂) :
    prodI a (l₁ ++ l₂) ≃ mulV (prodI a l₁) (prodI b l₂) := by
  induction l₁ generalizing a with
  | nil => subst h₁; exact (mulV_ident_left h₂.rows.symm).symm
  | cons v t ih =>
    exact (mulV_congr (Val.Eqv.refl v) (ih h₁.2) (h₁.2.append h₂).rows.symm).trans (mulV_assoc _ _ _).symm

theorem prodI_snoc {a b : Nat} {l : List Val} (h : Chain a b l) {v : Val} (hv : v.r = b) :
    prodI a (l ++ [v]) ≃ mulV (prodI a l) v :=
  (prodI_append h (show Chain b v.c [v] from ⟨hv, rfl⟩)).trans
    (mulV_congr (Val.Eqv.refl _) (mulV_ident_right rfl) (h.cols.trans hv.symm))

theorem Chain.prodV_eqv {a b : Nat} : ∀ {l : List Val}, Chain a b l → l ≠ [] → prodV l ≃ prodI a l
  | [v], _, _ => (mulV_ident_right rfl).symm
  | v :: w :: l, h, _ =>
    mulV_congr (Val.Eqv.refl v) (Chain.prodV_eqv h.2 (List.cons_ne_nil w l)) (by rw [prodV_r]; exact h.2.1.symm)

theorem Chain.chainOk {a b : Nat} : ∀ {l : List Val}, Chain a b l → ChainOk l
  | [], _ => trivial
  | [_], _ => trivial
  | _ :: _ :: _, h => ⟨h.2.1.symm, Chain.chainOk h.2⟩

theorem chain_of_chainOk : ∀ {l : List Val}, l ≠ [] → ChainOk l → Chain (prodV l).r (prodV l).c l
  | [v], _, _ => ⟨rfl, rfl⟩
  | v :: w :: l, _, h => by
    have ih := chain_of_chainOk (List.cons_ne_nil w l) h.2
    rw [prodV_r] at ih
    exact ⟨rfl, h.1 ▸ ih⟩

/-- the proofs about `matrix_mul` go through `Chain` / `prodI` and use neither this nor `prodV_append` -/
theorem chainOk_append {a b : List Val} (ha : a ≠ []) (hb : b ≠ []) :
    ChainOk (a ++ b) ↔ ChainOk a ∧ ChainOk b ∧ (prodV a).c = (prodV b).r := by
  constructor
  · intro h
    obtain ⟨m, h1, h2⟩ := chain_append.1 (chain_of_chainOk (by simp [ha]) h)
    have ha' : (prodV a).c = m := (h1.prodV_eqv ha).2.1.trans h1.cols
    have hb' : (prodV b).r = m := (h2.prodV_eqv hb).1.trans h2.rows
    exact ⟨h1.chainOk, h2.chainOk, ha'.trans hb'.symm⟩
  · intro ⟨h1, h2, hl⟩
    exact ((chain_of_chainOk ha h1).append (hl ▸ chain_of_chainOk hb h2)).chainOk

theorem prodV_append {a b : List Val} (ha : a ≠ []) (hb : b ≠ []) (h : ChainOk (a ++ b)) :
    prodV (a ++ b) ≃ mulV (prodV a) (prodV b) := by
  have hC := chain_of_chainOk (by simp [ha]) h
  obtain ⟨m, h1, h2⟩ := chain_append.1 hC
  exact ((hC.prodV_eqv (by simp [ha])).trans (prodI_append h1 h2)).trans
    (mulV_congr (h1.prodV_eqv ha).symm (h2.prodV_eqv hb).symm (h1.cols.trans h2.rows.symm))

theorem prodV_zero_mem {l : List Val} {z : Val} (hz : z ∈ l) (hf : ∀ i j, z.f i j = 0) :
    ∀ i j, (prodV l).f i j = 0 := by
  induction l with
  | nil => simp at hz
  | cons v t ih =>
    cases t with
    | nil =>
      simp at hz; subst hz; exact hf
    | cons w t' =>
      intro i j
      rw [prodV_cons_cons]
      simp only [mulV]
      rcases List.mem_cons.1 hz with h | h
      · subst h; simp [hf]
      · have := ih h
        simp [this]

end SymVerif.MatExpr
