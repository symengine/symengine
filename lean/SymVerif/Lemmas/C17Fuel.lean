/-
Fuel of the two recursive-descent parsers (`Model/Parser.lean`, `Model/StrParse.lean`).  Two ways to be rid of it.
`ok_mono_of_succ` (with `ok_ite` for a step through an `if`): carry a successful answer from one amount of fuel to a
larger one; C17Pratt proves the fuel monotonicity of the five parser functions with it (`mono_all`).
`Ev`: speak only of what holds for every sufficiently large fuel, where two sub-answers meet at the larger of
their bounds and no monotonicity is needed; C16Parse is written in it, that being how `parse_flat` is stated.
Core Lean only.
-/
namespace SymVerif

theorem ok_mono_of_succ {ε β : Type} {F : Nat → Except ε β} (hs : ∀ f v, F f = .ok v → F (f + 1) = .ok v)
    {f g : Nat} {v : β} (h : F f = .ok v) (hfg : f ≤ g) : F g = .ok v := by
  induction hfg with
  | refl => exact h
  | step _ ih => exact hs _ _ ih

theorem ok_ite {ε β : Type} {p : Prop} [Decidable p] {a a' b b' : Except ε β} {v : β}
    (h : (if p then a else b) = .ok v) (ha : a = .ok v → a' = .ok v) (hb : b = .ok v → b' = .ok v) :
    (if p then a' else b') = .ok v := by
  split at h
  · rw [if_pos ‹p›]; exact ha h
  · rw [if_neg ‹¬p›]; exact hb h

/-- `F` answers `v` for every sufficiently large fuel -/
def Ev {ε β : Type} (F : Nat → Except ε β) (v : β) : Prop := ∃ f0, ∀ f, f0 ≤ f → F f = .ok v

namespace Ev

theorem of_succ {ε β : Type} {F : Nat → Except ε β} {v : β} (n : Nat) (h : ∀ f, n ≤ f → F (f + 1) = .ok v) : Ev F v :=
  ⟨n + 1, fun f hf => by
    cases f with
    | zero => cases hf
    | succ f => exact h f (Nat.le_of_succ_le_succ hf)⟩

/-- one unfolding of a fuelled function: `F (f + 1)` once `f` is beyond the bounds of two sub-answers -/
theorem step2 {ε β γ δ : Type} {F : Nat → Except ε β} {G : Nat → Except ε γ} {H : Nat → Except ε δ}
    {v : β} {a : γ} {b : δ} (hG : Ev G a) (hH : Ev H b)
    (h : ∀ f, G f = .ok a → H f = .ok b → F (f + 1) = .ok v) : Ev F v := by
  obtain ⟨g, hg⟩ := hG
  obtain ⟨k, hk⟩ := hH
  exact of_succ (max g k) fun f hf =>
    h f (hg f (Nat.le_trans (Nat.le_max_left g k) hf)) (hk f (Nat.le_trans (Nat.le_max_right g k) hf))

theorem step1 {ε β γ : Type} {F : Nat → Except ε β} {G : Nat → Except ε γ}
    {v : β} {a : γ} (hG : Ev G a) (h : ∀ f, G f = .ok a → F (f + 1) = .ok v) : Ev F v :=
  step2 hG hG fun f hg _ => h f hg

theorem step0 {ε β : Type} {F : Nat → Except ε β} {v : β} (h : ∀ f, F (f + 1) = .ok v) : Ev F v :=
  of_succ 0 fun f _ => h f

theorem map {ε β γ : Type} {F : Nat → Except ε β} {G : Nat → Except ε γ} {v : β} {w : γ} (hF : Ev F v)
    (h : ∀ f, F f = .ok v → G f = .ok w) : Ev G w :=
  hF.imp fun _ h0 f hf => h f (h0 f hf)

theorem exists_fuel {ε β : Type} {F : Nat → Except ε β} {v : β} (hF : Ev F v) : ∃ f, F f = .ok v :=
  hF.imp fun f h0 => h0 f (Nat.le_refl f)

end Ev

end SymVerif
