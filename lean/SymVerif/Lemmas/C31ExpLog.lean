/-
C31: series_log (the formal logarithm `flog S = ∫ S'/S`) and series_exp: Newton iteration for `log r = s`
through `flog_expands.newton`, the result stated against the solution of `E' = E·S'`, `E(0) = 1` (`IsExpOf`).
-/
import SymVerif.Lemmas.C31Newton

namespace SymVerif.C31
open SymVerif.Series PowerSeries

/-- formal logarithm of a power series with non-zero constant term (constant of integration 0) -/
noncomputable def flog (S : ℚ⟦X⟧) : ℚ⟦X⟧ := integ (d⁄dX ℚ S * S⁻¹)

theorem flog_one : flog 1 = 0 := by
  unfold flog
  rw [derivative_one, zero_mul, integ_zero]

@[simp] theorem constantCoeff_flog (S : ℚ⟦X⟧) : constantCoeff (flog S) = 0 := constantCoeff_integ _

theorem derivative_flog (S : ℚ⟦X⟧) : d⁄dX ℚ (flog S) = d⁄dX ℚ S * S⁻¹ := derivative_integ _

theorem flog_mul (A B : ℚ⟦X⟧) (hA : constantCoeff A ≠ 0) (hB : constantCoeff B ≠ 0) :
    flog (A * B) = flog A + flog B := by
  unfold flog
  rw [← integ_add]
  congr 1
  rw [Derivation.leibniz, PowerSeries.mul_inv_rev, smul_eq_mul, smul_eq_mul]
  linear_combination (d⁄dX ℚ B * B⁻¹) * PowerSeries.mul_inv_cancel A hA
    + (d⁄dX ℚ A * A⁻¹) * PowerSeries.mul_inv_cancel B hB

theorem eqMod_flog_one_add {m : ℕ} (hm : 1 ≤ m) {e : ℚ⟦X⟧} (he : EqMod m e 0) :
    EqMod (2 * m) (flog (1 + e)) e := by
  have he0 : constantCoeff e = 0 := constantCoeff_of_eqMod_zero hm he
  have hc : constantCoeff (1 + e) ≠ 0 := constantCoeff_one_add_ne_zero he0
  obtain ⟨n, rfl⟩ : ∃ n, m = n + 1 := ⟨m - 1, by omega⟩
  have : 2 * (n + 1) = (n + (n + 1)) + 1 := by ring
  rw [this]
  apply eqMod_of_derivative
  · rw [constantCoeff_flog, he0]
  · rw [derivative_flog, map_add, derivative_one, zero_add, ← eqMod_sub_zero]
    -- e'/(1+e) - e' = -(e'·e)/(1+e), and e'·e ≡ 0 modulo X^(n + (n+1))
    have key : d⁄dX ℚ e * (1 + e)⁻¹ - d⁄dX ℚ e = -(d⁄dX ℚ e * e) * (1 + e)⁻¹ := by
      linear_combination d⁄dX ℚ e * PowerSeries.mul_inv_cancel (1 + e) hc
    rw [key]
    have := ((eqMod_mul_zero he.derivative_zero he).neg).mul_right (1 + e)⁻¹
    rwa [neg_zero, zero_mul] at this

/-- `1/(1+X)`, with the signs written as `logFast` writes them at the next index -/
theorem inv_one_add_X :
    (1 + X : ℚ⟦X⟧)⁻¹ = PowerSeries.mk fun n => if (n + 1) % 2 = 0 then (-1 : ℚ) else 1 := by
  symm
  rw [PowerSeries.eq_inv_iff_mul_eq_one (constantCoeff_one_add_ne_zero constantCoeff_X)]
  ext n
  rw [mul_add, mul_one, map_add]
  cases n with
  | zero => rw [coeff_zero_mul_X, add_zero, coeff_mk, coeff_zero_one]; rfl
  | succ n =>
    rw [coeff_succ_mul_X, coeff_mk, coeff_mk, coeff_one, if_neg n.succ_ne_zero]
    by_cases h : (n + 1) % 2 = 0
    · rw [if_neg (by omega), if_pos h]; exact add_neg_cancel 1
    · rw [if_pos (by omega), if_neg h]; exact neg_add_cancel 1

theorem toPS_logFast (prec : ℕ) : EqMod prec (toPS (logFast prec)) (flog (1 + X)) := by
  intro k hk
  rw [coeff_toPS]
  unfold logFast flog
  rw [getD_map_range, if_pos hk]
  cases k with
  | zero => rw [coeff_zero_integ]; rfl
  | succ k =>
    rw [coeff_succ_integ, map_add, derivative_one, derivative_X, zero_add, one_mul, inv_one_add_X, coeff_mk]
    -- left: the model's entry at `i = k + 1` against `coeff k (1 + X)⁻¹ / (k + 1)`, the same `if` on both sides
    simp only [beq_iff_eq, Nat.succ_ne_zero, if_false, Nat.cast_succ]

/-- **series_log**: the result is the formal logarithm `∫ S'/S` modulo `X^prec`
(and the model only answers when the constant term is 1, i.e. when no `log(c)` constant is needed). -/
theorem series_log_spec (s g : Poly) (prec : ℕ) (h : seriesLog s prec = .ok g) :
    constantCoeff (toPS s) = 1 ∧ EqMod prec (toPS g) (flog (toPS s)) := by
  unfold seriesLog at h
  split at h
  · next h1 =>
    cases h
    rw [toPS_of_isOne h1, flog_one, toPS_nil]
    exact ⟨map_one _, EqMod.refl _ _⟩
  · split at h
    · next h2 =>
      cases h
      rw [toPS_of_isVarPlusOne h2]
      exact ⟨by simp, toPS_logFast prec⟩
    · split at h
      · cases h
      · next hp =>
        have hp' : prec ≠ 0 := fun h0 => hp (beq_iff_eq.mpr h0)
        obtain ⟨inv, hinv, h⟩ := bind_ok.mp h
        -- as in the C++, the test `coeff s 0 != 1` comes after the call of invert
        split at h
        · cases h
        · next hc =>
          obtain rfl := Except.ok.inj h
          have hcc : constantCoeff (toPS s) = 1 := by
            rw [constantCoeff_toPS]; exact of_not_not fun h' => hc (bne_iff_ne.mpr h')
          refine ⟨hcc, ?_⟩
          have hi : EqMod prec (toPS inv) (toPS s)⁻¹ := invert_eqMod hinv (EqMod.refl _ _) (invert_ok hinv).1
          obtain ⟨n, rfl⟩ : ∃ n, prec = n + 1 := ⟨prec - 1, by omega⟩
          rw [toPS_integrate]
          unfold flog
          apply EqMod.integ
          simp only [Nat.add_sub_cancel]
          refine (toPS_mulTrunc _ _ _).trans ?_
          rw [toPS_diff]
          exact EqMod.mul_left _ (hi.mono n.le_succ)

/-- `E` is the formal exponential of `S`:  `E(0) = 1` and `E' = E·S'` -/
def IsExpOf (S E : ℚ⟦X⟧) : Prop := constantCoeff E = 1 ∧ d⁄dX ℚ E = E * d⁄dX ℚ S

theorem IsExpOf.ne_zero {S E : ℚ⟦X⟧} (h : IsExpOf S E) : constantCoeff E ≠ 0 :=
  constantCoeff_ne_zero_of_eq_one h.1

theorem flog_eq_integ_of_isExpOf {S E : ℚ⟦X⟧} (h : IsExpOf S E) : flog E = integ (d⁄dX ℚ S) := by
  unfold flog
  rw [h.2, mul_right_comm, PowerSeries.mul_inv_cancel E h.ne_zero, one_mul]

theorem flog_of_isExpOf {S E : ℚ⟦X⟧} (h : IsExpOf S E) (hS : constantCoeff S = 0) : flog E = S :=
  (flog_eq_integ_of_isExpOf h).trans (integ_derivative S hS)

/-- `log (R + d·R) = log R + log (1 + d) ≡ log R + d` -/
theorem flog_expands : Expands flog (fun R => R) 1 := by
  refine ⟨constantCoeff_ne_zero_of_eq_one, fun {k R d} hk hR hd => ?_⟩
  have hd0 : constantCoeff d = 0 := constantCoeff_of_eqMod_zero hk hd
  have : R + d * R = R * (1 + d) := by ring
  rw [this, flog_mul R (1 + d) (constantCoeff_ne_zero_of_eq_one hR) (constantCoeff_one_add_ne_zero hd0)]
  exact (EqMod.refl _ _).add (eqMod_flog_one_add hk hd)

theorem isExpOf_congr {n : ℕ} {S S' E E' : ℚ⟦X⟧} (hE : IsExpOf S E) (hE' : IsExpOf S' E')
    (h : EqMod n S S') : EqMod n E E' := by
  refine flog_expands.inj hE.1 hE'.1 ?_
  rw [flog_eq_integ_of_isExpOf hE, flog_eq_integ_of_isExpOf hE']
  cases n with
  | zero => exact eqMod_zero _ _
  | succ n => exact h.derivative.integ

theorem isExpOf_unique {S E E' : ℚ⟦X⟧} (h : IsExpOf S E) (h' : IsExpOf S E') : E = E' := by
  ext k
  exact isExpOf_congr h h' (EqMod.refl (k + 1) S) k k.lt_succ_self

/-- the step of series_exp, `r·(s + 1 - log r)`, is the Newton step `r + (s - log r)·r` for `log r = s` -/
theorem expStep_eq {s a b : Poly} {st : ℕ} (hb : expStep (padd s [1]) a st = .ok b) :
    EqMod st (toPS b) (toPS a + (toPS s - flog (toPS a)) * toPS a) := by
  obtain ⟨l, hl, hb⟩ := bind_ok.mp hb
  obtain rfl := Except.ok.inj hb
  have : toPS a + (toPS s - flog (toPS a)) * toPS a = toPS a * (1 + (toPS s - flog (toPS a))) := by ring
  rw [this]
  refine (toPS_mulTrunc _ _ _).trans (EqMod.mul_left _ ?_)
  rw [toPS_psub, toPS_padd, toPS_one, add_sub_right_comm, add_comm]
  exact (EqMod.refl _ _).add ((EqMod.refl _ _).sub (series_log_spec a l st hl).2)

theorem toPS_expFast {E : ℚ⟦X⟧} (hE : IsExpOf X E) (prec : ℕ) : EqMod prec (toPS (expFast prec)) E := by
  have hrec : ∀ k, coeff k E / ((k + 1 : ℕ) : ℚ) = coeff (k + 1) E := fun k => by
    have := congrArg (coeff k) hE.2
    rw [coeff_derivative, derivative_X, mul_one] at this
    rw [Nat.cast_succ, ← this]
    exact mul_div_cancel_right₀ _ k.cast_add_one_ne_zero
  have hco : ∀ n i k, k < n → (expCoefs n (i + 1) (coeff i E)).getD k 0 = coeff (i + 1 + k) E := by
    intro n
    induction n with
    | zero => exact fun i k hk => absurd hk (Nat.not_lt_zero k)
    | succ n ih =>
      intro i k hk
      rw [expCoefs, hrec]
      cases k with
      | zero => rfl
      | succ k => rw [List.getD_cons_succ, ih (i + 1) k (Nat.lt_of_succ_lt_succ hk), Nat.add_assoc, Nat.add_comm 1 k]
  intro k hk
  rw [coeff_toPS]
  cases k with
  | zero => rw [coeff_zero_eq_constantCoeff_apply, hE.1]; rfl
  | succ k =>
    have := hco (prec - 1) 0 k (by omega)
    rw [coeff_zero_eq_constantCoeff_apply, hE.1, Nat.zero_add, Nat.add_comm] at this
    exact this

/-- **series_exp**: the argument has no constant term and the result agrees modulo `X^prec` with the (unique) formal
solution of `E' = E·S'`, `E(0) = 1` -/
theorem seriesExp_ok {s g : Poly} {prec : ℕ} (h : seriesExp s prec = .ok g) :
    constantCoeff (toPS s) = 0 ∧ ∀ E, IsExpOf (toPS s) E → EqMod prec (toPS g) E := by
  unfold seriesExp at h
  split at h
  · next h0 =>
    cases h
    rw [toPS_of_isZero h0, toPS_one]
    refine ⟨map_zero _, fun E hE => EqMod.of_eq (isExpOf_unique ⟨map_one _, ?_⟩ hE)⟩
    rw [derivative_one, map_zero, mul_zero]
  · split at h
    · next hv =>
      cases h
      rw [toPS_of_isVar hv]
      exact ⟨constantCoeff_X, fun E hE => toPS_expFast hE prec⟩
    · split at h
      · cases h
      · next hc =>
        have hS := constantCoeff_of_bne hc
        refine ⟨hS, fun E hE => eqMod_of_pos fun hp => ?_⟩
        obtain ⟨hg1, hg⟩ := flog_expands.newton (fun st a b _ _ hb => expStep_eq hb) hp
          (hr := by rw [toPS_one, map_one])
          (h1 := by rw [toPS_one, flog_one]; exact eqMod_one_iff.mpr (by rw [map_zero, hS])) h
        exact flog_expands.inj hg1 hE.1 (by rw [flog_of_isExpOf hE hS]; exact hg)

end SymVerif.C31
