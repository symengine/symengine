import SymVerif.Lemmas.C33Loops
import Mathlib.Data.List.TakeWhile
import Mathlib.NumberTheory.Bertrand
/-! Specifications of the API calls: `extend` and `generate_primes`, `Sieve::iterator::next_prime`
(with the lookups in the iterator table), and one call `step` on a world of sieve state and
iterators. -/
namespace SymVerif.C33
open SymVerif.Sieve

/-- `extend` runs `extendWith` with fuel 64 = 63 + 1 (any fuel from 6 on would do for limits below `2^31`) -/
theorem lt_tower_of_lt_maxLimit {n : Nat} (h : n < maxLimit) : n < 2 ^ 2 ^ 63 :=
  lt_trans h (Nat.pow_lt_pow_right (by omega) (by decide))

/-- The repaired `_extend` succeeds (no index out of range, no fuel exhaustion): afterwards the cache holds
`max(old, π(limit))` primes and the invariant still holds. -/
theorem extend_correct (s : State) (limit : Nat) (hinv : Inv s) (hlim : limit < maxLimit) :
    ∃ s', extend s limit = .ok s' ∧ Inv s' ∧ s'.size = max s.size (cnt (limit + 1)) ∧
      s'.sieveBits = s.sieveBits ∧ s'.clearFlag = s.clearFlag ∧ s.buf.size ≤ s'.buf.size := by
  obtain ⟨s', e, sz, g⟩ := extendWith_spec finishFixed 63 s limit hinv (fun _ _ _ _ _ => rfl)
    (lt_tower_of_lt_maxLimit hlim)
  exact ⟨s', e, g.inv, sz, g.bits, g.clear, g.buf⟩

/-- the primes `≤ limit`, in increasing order -/
abbrev primesUpTo (limit : Nat) : List Nat := (List.range (limit + 1)).filter (fun k => decide k.Prime)

theorem take_size_eq_map_np {s : State} (hinv : Inv s) :
    s.buf.toList.take s.size = (List.range s.size).map np := by
  apply List.ext_getElem?
  intro i
  have := hinv.size_le
  by_cases hi : i < s.size
  · rw [List.getElem?_take_of_lt hi]
    simp [hinv.nth i (by omega), hi]
  · rw [List.getElem?_eq_none (by simp; omega), List.getElem?_eq_none (by simp; omega)]

theorem takeWhile_map_np (n L : Nat) (h : cnt (L + 1) ≤ n) :
    ((List.range n).map np).takeWhile (· ≤ L) = (List.range (cnt (L + 1))).map np := by
  obtain ⟨d, rfl⟩ := Nat.exists_eq_add_of_le h
  rw [List.range_add, List.map_append, List.takeWhile_append_of_pos]
  · suffices hh : List.takeWhile (· ≤ L)
        (List.map np (List.map (cnt (L + 1) + ·) (List.range d))) = [] by rw [hh, List.append_nil]
    cases d with
    | zero => rfl
    | succ d =>
      rw [List.range_succ_eq_map, List.map_cons, List.map_cons, List.takeWhile_cons_of_neg]
      have : ¬ np (cnt (L + 1)) < L + 1 := mt idx_lt_cnt.2 (lt_irrefl _)
      simpa using this
  · intro a ha
    obtain ⟨i, hi, rfl⟩ := List.mem_map.1 ha
    have := idx_lt_cnt.1 (List.mem_range.1 hi)
    simpa using Nat.lt_succ_iff.1 this

theorem upTo_eq {s : State} (hinv : Inv s) (limit : Nat) (h : cnt (limit + 1) ≤ s.size) :
    s.upTo limit = primesUpTo limit := by
  unfold State.upTo primesUpTo
  rw [take_size_eq_map_np hinv, filter_range_prime, takeWhile_map_np _ _ h]

/-- From any state satisfying the invariant, `generate_primes(limit)` returns exactly the primes
`≤ limit` in increasing order, and re-establishes the invariant. -/
theorem generatePrimes_correct (s : State) (limit : Nat) (hinv : Inv s) (hlim : limit < maxLimit) :
    ∃ s', generatePrimes s limit = .ok (s', (List.range (limit + 1)).filter (fun k => decide k.Prime)) ∧
      Inv s' ∧ s'.sieveBits = s.sieveBits ∧ s'.clearFlag = s.clearFlag ∧
      s.buf.size ≤ s'.buf.size := by
  obtain ⟨s1, e, i1, sz, b1, c1, bf1⟩ := extend_correct s limit hinv hlim
  unfold generatePrimes
  rw [if_neg (by omega), e]
  simp only []
  rw [upTo_eq i1 limit (by rw [sz]; exact le_max_right _ _)]
  by_cases hc : s1.clearFlag = true
  · rw [if_pos hc]
    exact ⟨s1.clear, rfl, inv_clear i1, b1, c1, bf1⟩
  · rw [if_neg hc]
    exact ⟨s1, rfl, i1, b1, c1, bf1⟩

theorem generatePrimes_range (s : State) (limit : Nat) (hlim : maxLimit ≤ limit) :
    generatePrimes s limit = .error .range := by
  unfold generatePrimes
  rw [if_pos hlim]

/-- Bertrand's postulate, for the enumeration `np` -/
theorem np_succ_le_two_mul (i : Nat) : np (i + 1) ≤ 2 * np i := by
  obtain ⟨p, hp, h1, h2⟩ := Nat.exists_prime_lt_and_le_two_mul (np i) (prime_np i).ne_zero
  have : i + 1 ≤ cnt p := by
    have := cnt_lt_of_prime_lt (prime_np i) h1
    rw [cnt_np] at this; omega
  calc np (i + 1) ≤ np (cnt p) := np_le_np this
    _ = p := np_cnt hp
    _ ≤ 2 * np i := h2

/-- the limit `next_prime` passes to `_extend` when the iterator has run past the cache -/
noncomputable def extendTarget (it : Iter) : Nat :=
  if 0 < it.limit ∧ it.limit < 2 * np (it.index - 1) then it.limit else 2 * np (it.index - 1)

theorem extendTarget_eq (it : Iter) :
    (0 < it.limit ∧ it.limit < 2 * np (it.index - 1) ∧ extendTarget it = it.limit) ∨
    ((it.limit = 0 ∨ 2 * np (it.index - 1) ≤ it.limit) ∧
      extendTarget it = 2 * np (it.index - 1)) := by
  unfold extendTarget
  split
  · rename_i h; exact Or.inl ⟨h.1, h.2, rfl⟩
  · rename_i h; exact Or.inr ⟨by omega, rfl⟩

/-- An iterator at position `i` (anywhere inside the storage — possibly in the stale region
after a `clear` by somebody else, where `_primes[_index-1]` reads a value no longer logically
stored) returns the `i`-th prime and advances; or, only when its non-zero limit is smaller than
that prime and the prime is not cached, `limit + 1` without advancing; or reports that the
extension target is outside the modelled range (`≥ 2^31`).  Never out of bounds. -/
theorem nextPrime_correct (s : State) (it : Iter) (hinv : Inv s) (hidx : it.index ≤ s.buf.size) :
    ∃ s', Inv s' ∧ s.buf.size ≤ s'.buf.size ∧ s'.sieveBits = s.sieveBits ∧
      s'.clearFlag = s.clearFlag ∧
      ((nextPrime s it = .ok (s', { it with index := it.index + 1 }, np it.index) ∧
          it.index + 1 ≤ s'.buf.size ∧
          (it.index < s.size ∨ it.limit = 0 ∨ np it.index ≤ it.limit)) ∨
       (nextPrime s it = .ok (s', it, it.limit + 1) ∧ 0 < it.limit ∧ it.limit < np it.index ∧
          s.size ≤ it.index) ∨
       (nextPrime s it = .error .range ∧ s.size ≤ it.index ∧ maxLimit ≤ extendTarget it)) := by
  have hsl := hinv.size_le
  unfold nextPrime
  by_cases hge : it.index ≥ s.size
  · have h10 := hinv.ten_le
    rw [if_pos hge, if_neg (by omega)]
    have hp : s.buf.getD (it.index - 1) 0 = np (it.index - 1) := hinv.get (by omega)
    have htgt : (if (decide (it.limit > 0) && decide (it.limit < np (it.index - 1) * 2)) = true
        then it.limit else np (it.index - 1) * 2) = extendTarget it := by
      unfold extendTarget
      simp only [Bool.and_eq_true, decide_eq_true_eq, Nat.mul_comm _ 2]
    simp only [hp, htgt]
    by_cases hr : extendTarget it ≥ maxLimit
    · rw [if_pos hr]
      exact ⟨s, hinv, le_refl _, rfl, rfl, Or.inr (Or.inr ⟨rfl, hge, hr⟩)⟩
    · rw [if_neg hr]
      obtain ⟨s1, e, i1, sz, b1, c1, bf1⟩ := extend_correct s (extendTarget it) hinv (not_le.1 hr)
      have hsl1 := i1.size_le
      rw [e]
      simp only []
      refine ⟨s1, i1, bf1, b1, c1, ?_⟩
      have hkey : it.index < s1.size ↔ np it.index ≤ extendTarget it := by
        rw [sz, lt_max_iff, idx_lt_cnt, Nat.lt_succ_iff]
        exact or_iff_right (not_lt.2 hge)
      -- by Bertrand's postulate the target falls short of it only when it is the limit
      have hbert : np it.index ≤ 2 * np (it.index - 1) := by
        have := np_succ_le_two_mul (it.index - 1)
        rwa [show it.index - 1 + 1 = it.index by omega] at this
      obtain ⟨hhit, hmiss⟩ : (np it.index ≤ extendTarget it → it.limit = 0 ∨ np it.index ≤ it.limit) ∧
          (¬ np it.index ≤ extendTarget it → 0 < it.limit ∧ it.limit < np it.index) := by
        rcases extendTarget_eq it with ⟨h0, hl, et⟩ | ⟨hn, et⟩ <;> rw [et] <;> omega
      by_cases hlt : it.index < s1.size
      · rw [if_neg (not_le.2 hlt), i1.get (lt_of_lt_of_le hlt hsl1)]
        exact Or.inl ⟨rfl, le_trans hlt hsl1, Or.inr (hhit (hkey.1 hlt))⟩
      · rw [if_pos (not_lt.1 hlt)]
        obtain ⟨h0, hl⟩ := hmiss (fun h => hlt (hkey.2 h))
        exact Or.inr (Or.inl ⟨rfl, h0, hl, hge⟩)
  · rw [if_neg hge, hinv.get (lt_of_lt_of_le (not_le.1 hge) hsl)]
    exact ⟨s, hinv, le_refl _, rfl, rfl, Or.inl ⟨rfl, le_trans (not_le.1 hge) hsl, Or.inl (not_le.1 hge)⟩⟩

/-- `IterRun L i out j`: the values `out` returned by successive `next_prime` calls of an iterator
with limit `L` (0 = none) standing at position `i` and ending at position `j`: every value is
either the next prime in sequence (the position advances), or the end marker `L + 1`, which is
only produced when the next prime exceeds the non-zero limit (the position stays). -/
inductive IterRun (L : Nat) : Nat → List Nat → Nat → Prop
  | nil (i : Nat) : IterRun L i [] i
  | prime {i j : Nat} {out : List Nat} : IterRun L (i + 1) out j → IterRun L i (np i :: out) j
  | stop {i j : Nat} {out : List Nat} : 0 < L → L < np i → IterRun L i out j →
      IterRun L i ((L + 1) :: out) j

theorem IterRun.append {L i j k : Nat} {o1 o2 : List Nat} (h1 : IterRun L i o1 j)
    (h2 : IterRun L j o2 k) : IterRun L i (o1 ++ o2) k := by
  induction h1 with
  | nil => simpa using h2
  | prime _ ih => exact IterRun.prime (ih h2)
  | stop a b _ ih => exact IterRun.stop a b (ih h2)

theorem IterRun.all_gt {L i j : Nat} {out : List Nat} (h : IterRun L i out j) (hl : L < np i) :
    ∀ v ∈ out, L < v := by
  induction h with
  | nil => simp
  | prime _ ih =>
    intro v hv
    rcases List.mem_cons.1 hv with rfl | hv
    · exact hl
    · exact ih (lt_trans hl (np_lt_np (Nat.lt_succ_self _))) v hv
  | stop _ _ _ ih =>
    intro v hv
    rcases List.mem_cons.1 hv with rfl | hv
    · omega
    · exact ih hl v hv

/-- an iterator limit with which `next_prime` cannot fail: non-zero, and in the modelled range -/
def SafeLim (l : Nat) : Prop := 0 < l ∧ l < maxLimit

theorem extendTarget_lt {it : Iter} (h : SafeLim it.limit) : extendTarget it < maxLimit := by
  obtain ⟨h0, h1⟩ := h
  rcases extendTarget_eq it with ⟨_, _, et⟩ | ⟨hn, et⟩ <;> rw [et] <;> omega

/-- `nextPrime_correct` in the form that `nextMany_spec` iterates: a successful call is a
one-element `IterRun`. -/
theorem nextPrime_run (s : State) (it : Iter) (hinv : Inv s) (hidx : it.index ≤ s.buf.size) :
    (∃ s' it' v, nextPrime s it = .ok (s', it', v) ∧ Grows s s' ∧ it'.limit = it.limit ∧
        it'.index ≤ s'.buf.size ∧ IterRun it.limit it.index [v] it'.index) ∨
    (nextPrime s it = .error .range ∧ ¬ SafeLim it.limit) := by
  obtain ⟨s1, i1, bf1, b1, c1, h⟩ := nextPrime_correct s it hinv hidx
  have g1 : Grows s s1 := ⟨i1, b1, c1, bf1⟩
  rcases h with ⟨e, hi, _⟩ | ⟨e, h0, hl, _⟩ | ⟨e, _, hr⟩
  · exact .inl ⟨s1, _, _, e, g1, rfl, hi, .prime (.nil _)⟩
  · exact .inl ⟨s1, _, _, e, g1, rfl, le_trans hidx bf1, .stop h0 hl (.nil _)⟩
  · exact .inr ⟨e, fun h => absurd (extendTarget_lt h) (not_lt.2 hr)⟩

theorem nextMany_spec (k : Nat) (s : State) (it : Iter) (acc : List Nat) (hinv : Inv s)
    (hidx : it.index ≤ s.buf.size) :
    (∃ s' it' out, nextMany k s it acc = .ok (s', it', acc.reverse ++ out) ∧ Grows s s' ∧
        out.length = k ∧ it'.limit = it.limit ∧ it'.index ≤ s'.buf.size ∧
        IterRun it.limit it.index out it'.index) ∨
    (nextMany k s it acc = .error .range ∧ ¬ SafeLim it.limit) := by
  induction k generalizing s it acc with
  | zero =>
    exact .inl ⟨s, it, [], by simp [nextMany], Grows.refl hinv, rfl, rfl, hidx, IterRun.nil _⟩
  | succ k ih =>
    unfold nextMany
    rcases nextPrime_run s it hinv hidx with ⟨s1, it1, v, e, g1, lim1, idx1, run1⟩ | ⟨e, hne⟩
    · rw [e]; simp only []
      rcases ih s1 it1 (v :: acc) g1.inv idx1 with
        ⟨s', it', out, e', g', len, lim, idx, run⟩ | ⟨e', hne⟩
      · exact .inl ⟨s', it', v :: out, by rw [e']; simp, g1.trans g', by simp [len],
          lim.trans lim1, idx, run1.append (lim1 ▸ run)⟩
      · exact .inr ⟨e', lim1 ▸ hne⟩
    · exact .inr ⟨by rw [e], hne⟩

theorem lookup_filter (l : List (Nat × Iter)) (k k' : Nat) :
    lookupIter (l.filter (fun p => p.1 != k)) k' = if k' = k then none else lookupIter l k' := by
  induction l with
  | nil => simp [lookupIter]
  | cons hd tl ih =>
    obtain ⟨a, b⟩ := hd
    by_cases ha : a = k
    · subst ha
      simp only [List.filter_cons, bne_self_eq_false, Bool.false_eq_true, if_false, ih, lookupIter]
      by_cases hk : k' = a
      · simp [hk]
      · simp [hk]
    · simp only [List.filter_cons, lookupIter]
      have : (a != k) = true := by simp [ha]
      simp only [this, if_true, lookupIter, ih]
      by_cases hk : k' = k
      · subst hk
        have : (k' == a) = false := by simp; exact fun h => ha h.symm
        simp [this]
      · simp [hk]

theorem lookup_erase_self (l : List (Nat × Iter)) (k : Nat) :
    lookupIter (l.filter (fun p => p.1 != k)) k = none := by
  rw [lookup_filter, if_pos rfl]

theorem lookup_erase_ne (l : List (Nat × Iter)) {k k' : Nat} (h : k' ≠ k) :
    lookupIter (l.filter (fun p => p.1 != k)) k' = lookupIter l k' := by
  rw [lookup_filter, if_neg h]

theorem lookup_setIter_self (l : List (Nat × Iter)) (k : Nat) (v : Iter) :
    lookupIter (setIter l k v) k = some v := by
  simp [setIter, lookupIter]

theorem lookup_setIter_ne (l : List (Nat × Iter)) {k k' : Nat} (v : Iter) (h : k' ≠ k) :
    lookupIter (setIter l k v) k' = lookupIter l k' := by
  rw [setIter, lookupIter, if_neg (by simpa using h), lookup_erase_ne l h]

/-- invariant of a world: `Inv` of the sieve state, and every iterator stands inside the storage, which is what makes
the read `_primes[_index-1]` after somebody else's `clear` a read of a stored prime -/
structure WInv (w : World) : Prop where
  inv : Inv w.s
  idx : ∀ k it, lookupIter w.iters k = some it → it.index ≤ w.s.buf.size

theorem forall_init {P : Iter → Prop} : ∀ k it, lookupIter World.init.iters k = some it → P it := fun _ _ h => nomatch h

theorem winv_init : WInv World.init := ⟨inv_init, forall_init⟩

/-- every live iterator has a safe limit; along a strict history (`OpsOkStrict`) this excludes `Err.range` -/
def LimOk (w : World) : Prop := ∀ k it, lookupIter w.iters k = some it → SafeLim it.limit

theorem limOk_init : LimOk World.init := forall_init

/-- What a successful call must have returned (`out`) and done to the iterator table. -/
def OutOk (w : World) (op : Op) (out : List Nat) (w' : World) : Prop :=
  match op with
  | .gen limit => out = primesUpTo limit ∧ w'.iters = w.iters
  | .iterNew slot limit => out = [] ∧ lookupIter w'.iters slot = some { index := 0, limit := limit } ∧
      ∀ k, k ≠ slot → lookupIter w'.iters k = lookupIter w.iters k
  | .iterNext slot count =>
      (∀ k, k ≠ slot → lookupIter w'.iters k = lookupIter w.iters k) ∧
      match lookupIter w.iters slot with
      | none => out = [] ∧ lookupIter w'.iters slot = none
      | some it => out.length = count ∧ ∃ it', lookupIter w'.iters slot = some it' ∧
          it'.limit = it.limit ∧ IterRun it.limit it.index out it'.index
  | .iterDel slot => out = [] ∧ lookupIter w'.iters slot = none ∧
      ∀ k, k ≠ slot → lookupIter w'.iters k = lookupIter w.iters k
  | _ => out = [] ∧ w'.iters = w.iters

theorem inv_iterDestroy {s : State} (h : Inv s) :
    Inv (iterDestroy s) ∧ (iterDestroy s).buf.size = s.buf.size := by
  unfold iterDestroy
  split
  · exact ⟨inv_clear h, rfl⟩
  · exact ⟨h, rfl⟩

/-- the hypotheses are the clauses of `OutOk` about the iterator table -/
theorem forall_of_lookup_ne {P : Iter → Prop} {l l' : List (Nat × Iter)} (slot : Nat)
    (hl : ∀ k it, lookupIter l k = some it → P it) (hself : ∀ it, lookupIter l' slot = some it → P it)
    (hne : ∀ k, k ≠ slot → lookupIter l' k = lookupIter l k) : ∀ k it, lookupIter l' k = some it → P it := by
  intro k it h
  by_cases hk : k = slot
  · exact hself it (hk ▸ h)
  · exact hl k it (hne k hk ▸ h)

theorem forall_setIter {P : Iter → Prop} {l : List (Nat × Iter)}
    (hl : ∀ k it, lookupIter l k = some it → P it) (slot : Nat) {v : Iter} (hv : P v) :
    ∀ k it, lookupIter (setIter l slot v) k = some it → P it :=
  forall_of_lookup_ne slot hl (fun it h => Option.some.inj (lookup_setIter_self l slot v ▸ h) ▸ hv)
    (fun _ hk => lookup_setIter_ne l v hk)

theorem forall_erase {P : Iter → Prop} {l : List (Nat × Iter)}
    (hl : ∀ k it, lookupIter l k = some it → P it) (slot : Nat) :
    ∀ k it, lookupIter (l.filter (fun p => p.1 != slot)) k = some it → P it :=
  forall_of_lookup_ne slot hl (fun it h => nomatch (lookup_erase_self l slot).symm.trans h)
    (fun _ hk => lookup_erase_ne l hk)

theorem step_spec (w : World) (op : Op) (hw : WInv w) (hop : opOk op = true) :
    (∃ w' out, step w op = .ok (w', out) ∧ WInv w' ∧ OutOk w op out w' ∧
      (LimOk w → (∀ k l, op = .iterNew k l → SafeLim l) → LimOk w')) ∨
    (step w op = .error .range ∧ ∃ slot count it, op = .iterNext slot count ∧
      lookupIter w.iters slot = some it ∧ ¬ SafeLim it.limit) := by
  cases op with
  | gen limit =>
    left
    have hl : limit < maxLimit := of_decide_eq_true hop
    obtain ⟨s', e, i1, _, _, bf1⟩ := generatePrimes_correct w.s limit hw.inv hl
    exact ⟨{ w with s := s' }, primesUpTo limit, by simp [step, e],
      ⟨i1, fun k it h => le_trans (hw.idx k it h) bf1⟩, ⟨rfl, rfl⟩, fun h _ => h⟩
  | clear =>
    left
    exact ⟨_, [], rfl, ⟨inv_clear hw.inv, hw.idx⟩, ⟨rfl, rfl⟩, fun h _ => h⟩
  | setClear b =>
    left
    exact ⟨_, [], rfl, ⟨inv_settings hw.inv b hw.inv.bits, hw.idx⟩, ⟨rfl, rfl⟩, fun h _ => h⟩
  | setSize kib =>
    left
    have hk : 0 < kib := of_decide_eq_true (Bool.and_eq_true_iff.1 hop).1
    exact ⟨_, [], rfl, ⟨inv_settings hw.inv _ (Nat.mul_pos (Nat.mul_pos hk (by decide))
      (by decide)), hw.idx⟩, ⟨rfl, rfl⟩, fun h _ => h⟩
  | setBits bits =>
    left
    have hk : 0 < bits := of_decide_eq_true (Bool.and_eq_true_iff.1 hop).1
    exact ⟨_, [], rfl, ⟨inv_settings hw.inv _ hk, hw.idx⟩, ⟨rfl, rfl⟩, fun h _ => h⟩
  | iterNew slot limit =>
    left
    obtain ⟨s1, e, i1, b1⟩ : ∃ s1, step w (.iterNew slot limit) =
        .ok ({ s := s1, iters := setIter w.iters slot { index := 0, limit := limit } }, []) ∧
        Inv s1 ∧ s1.buf.size = w.s.buf.size := by
      cases hlk : lookupIter w.iters slot with
      | none => exact ⟨w.s, by simp only [step, hlk], hw.inv, rfl⟩
      | some it0 => exact ⟨iterDestroy w.s, by simp only [step, hlk], inv_iterDestroy hw.inv⟩
    exact ⟨_, [], e, ⟨i1, forall_setIter (b1 ▸ hw.idx) slot (Nat.zero_le _)⟩,
      ⟨rfl, lookup_setIter_self _ _ _, fun k hk => lookup_setIter_ne _ _ hk⟩,
      fun h hn => forall_setIter (P := fun it => SafeLim it.limit) h slot (hn slot limit rfl)⟩
  | iterNext slot count =>
    cases hlk : lookupIter w.iters slot with
    | none =>
      left
      refine ⟨w, [], by simp only [step, hlk], hw, ⟨fun _ _ => rfl, ?_⟩, fun h _ => h⟩
      rw [hlk]; exact ⟨rfl, rfl⟩
    | some it =>
      rcases nextMany_spec count w.s it [] hw.inv (hw.idx slot it hlk) with
        ⟨s', it', out, e, g, len, lim, idx, run⟩ | ⟨e, hne⟩
      · left
        refine ⟨{ s := s', iters := setIter w.iters slot it' }, out, by simp only [step, hlk, e]; rfl,
          ⟨g.inv, forall_setIter (fun k it2 h => le_trans (hw.idx k it2 h) g.buf) slot idx⟩,
          ⟨fun k hk => lookup_setIter_ne _ _ hk, ?_⟩, fun h _ =>
            forall_setIter (P := fun it => SafeLim it.limit) h slot (by rw [lim]; exact h slot it hlk)⟩
        rw [hlk]
        exact ⟨len, it', lookup_setIter_self _ _ _, lim, run⟩
      · right
        exact ⟨by simp only [step, hlk, e], slot, count, it, rfl, hlk, hne⟩
  | iterDel slot =>
    left
    cases hlk : lookupIter w.iters slot with
    | none =>
      exact ⟨w, [], by simp only [step, hlk], hw, ⟨rfl, hlk, fun _ _ => rfl⟩, fun h _ => h⟩
    | some it =>
      obtain ⟨i1, b1⟩ := inv_iterDestroy hw.inv
      exact ⟨{ s := iterDestroy w.s, iters := w.iters.filter (fun p => p.1 != slot) }, [],
        by simp only [step, hlk], ⟨i1, forall_erase (b1 ▸ hw.idx) slot⟩,
        ⟨rfl, lookup_erase_self _ _, fun k hk => lookup_erase_ne _ hk⟩,
        fun h _ => forall_erase (P := fun it => SafeLim it.limit) h slot⟩

end SymVerif.C33
