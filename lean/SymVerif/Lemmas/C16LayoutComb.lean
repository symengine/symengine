/-
C16 — one lemma per function of the printer: given well-parenthesised operands at the levels their precedence
classes promise (`GE`), the result is `W` at its level.
-/
import SymVerif.Lemmas.C16Layout

namespace SymVerif.StrP
open Expr

/-- `W (need (cprec e)) t`: `t` is well-parenthesised at the level the C++ precedence class of `e` promises -/
def GE (e : Expr) (t : PExpr) : Prop := WP t = true ∧ need (cprec e) ≤ lv t

/-- the operand is parenthesised (an atom), or its class is at least `p` -/
theorem parLT_ok {e : Expr} {t : PExpr} {p : Nat} (h : GE e t) : W (need p) (parLT e t p) := by
  unfold parLT; split
  · exact W.paren h.1 (need_le_17 p)
  · exact W.mono h (need_mono (by omega))

theorem parLT_ok_ne {e : Expr} {t : PExpr} {p : Nat} (h : GE e t) (hne : cprec e ≠ p) :
    W (need (p + 1)) (parLT e t p) := by
  unfold parLT; split
  · exact W.paren h.1 (need_le_17 _)
  · exact W.mono h (need_mono (by omega))

theorem parLE_eq (e : Expr) (t : PExpr) (p : Nat) : parLE e t p = parLT e t (p + 1) := by
  simp only [parLE, parLT, Nat.lt_succ_iff]

theorem parLE_ok {e : Expr} {t : PExpr} {p : Nat} (h : GE e t) : W (need (p + 1)) (parLE e t p) :=
  parLE_eq e t p ▸ parLT_ok h

theorem powP_ok {b e : Expr} {tb te : PExpr} (hb : GE b tb) (he : GE e te) : W 14 (powP b e tb te) := by
  unfold powP
  split
  · exact (W.call _ (List.cons_ne_nil _ _) (by simp only [WPs, he.1, Bool.and_self])).mono (by decide)
  · split
    · exact (W.call _ (List.cons_ne_nil _ _) (by simp only [WPs, hb.1, Bool.and_self])).mono (by decide)
    · -- `W.bin` does not apply: `**` is `%right`; both operands are atoms, so the three bounds are 28 ≤ 34, 28 ≤ 34, 27 < 34
      have l1 : W 17 (parLE b tb 3) := parLE_ok (p := 3) hb
      have l2 : W 17 (parLE e te 3) := parLE_ok (p := 3) he
      have e1 : 28 ≤ edge (parLE b tb 3) := lt_lv_le_edge _ (by have := l1.2; omega)
      have := l1.2
      have := l2.2
      refine ⟨wp_bin.2 ⟨l1.1, l2.1, ?_, ?_, ?_⟩, by simp [lv]⟩
      · simp [lbp]; omega
      · simp [lbp]; omega
      · simp; omega

theorem natP_ok (n : Nat) : W 17 (natP n) := W.leaf_num _

theorem signed_ok (p : Prop) [Decidable p] {t : PExpr} (h : W 17 t) :
    W 12 (if p then .neg t else t) ∧ (¬ p → W 17 (if p then .neg t else t)) := by
  split
  · rename_i hp; exact ⟨W.neg (h.mono (by decide)), fun h' => absurd hp h'⟩
  · exact ⟨h.mono (by decide), fun _ => h⟩

theorem intP_ok (n : Int) : W 12 (intP n) ∧ (¬ n < 0 → W 17 (intP n)) := signed_ok _ (natP_ok _)

theorem ratP_ok (n : Int) (d : Nat) : W 11 (ratP n d) := by
  unfold ratP
  split
  · exact (intP_ok n).1.mono (by decide)
  · exact W.bin level_div ((intP_ok n).1.mono (by decide)) ((natP_ok d).mono (by decide))

theorem ratAbsP_ok (n d : Nat) : W 11 (ratAbsP n d) := by
  unfold ratAbsP
  split
  · exact (natP_ok n).mono (by decide)
  · exact W.bin level_div ((natP_ok n).mono (by decide)) ((natP_ok d).mono (by decide))

theorem imagP_ok : W 17 imagP := W.leaf_id _

theorem mulI_ok {t : PExpr} (h : W 11 t) : W 11 (.bin .mul t imagP) :=
  W.bin level_mul h (imagP_ok.mono (by decide))

theorem int_GE (n : Int) : GE (int n) (intP n) := by
  obtain ⟨h12, h17⟩ := intP_ok n
  simp only [GE, cprec]
  split
  · exact h12.mono (by decide)
  · exact h17 ‹_›

theorem rat_GE (n : Int) (d : Nat) : GE (rat n d) (ratP n d) := (ratP_ok n d).mono (k := 10) (by decide)

/-- `qIsOne` (the one purely imaginary number that `cprec` rates an atom) lands in the positive unit branch of `cplxP` -/
theorem qIsOne_unit {q : Q} (h : qIsOne q = true) :
    (q.den == 1 && (q.num == 1 || q.num == -1)) = true ∧ q.num > 0 := by
  simp only [qIsOne, Bool.and_eq_true, beq_iff_eq] at h
  simp [h.1, h.2]

theorem cplx_GE (re im : Q) : GE (cplx re im) (cplxP re im) := by
  unfold GE cplxP cprec
  by_cases hre : re.num = 0
  · simp only [hre, bne_self_eq_false, Bool.false_eq_true, if_false, beq_self_eq_true, if_true]
    by_cases hu : (im.den == 1 && (im.num == 1 || im.num == -1)) = true
    · simp only [hu, if_true]
      by_cases hp : im.num > 0
      · simp only [hp, if_true]  -- text `I`: an atom, whatever the class
        exact imagP_ok.mono (need_le_17 _)
      · simp only [hp, if_false]  -- text `-I`: level 12, class 2 by `hq`
        have hq : qIsOne im = false := Bool.eq_false_iff.2 fun h => hp (qIsOne_unit h).2
        simp only [hq, Bool.false_eq_true, if_false]
        exact (W.neg (imagP_ok.mono (by decide))).mono (by decide)
    · simp only [hu, Bool.false_eq_true, if_false]  -- text `r*I`: level 11, class 2 by `hq`
      have hq : qIsOne im = false := Bool.eq_false_iff.2 fun h => hu (qIsOne_unit h).1
      simp only [hq, Bool.false_eq_true, if_false]
      exact mulI_ok (ratP_ok im.num im.den)
  · -- text `r ± i`: level 10, class 1
    have hre' : (re.num != 0) = true := by simp [hre]
    have hre'' : (re.num == 0) = false := by simp [hre]
    simp only [hre', if_true, hre'', Bool.false_eq_true, if_false]
    have hi : ∀ (p : Prop) [Decidable p],
        W 11 (if p then imagP else .bin .mul (ratAbsP im.num.natAbs im.den) imagP) := by
      intro p _
      split
      · exact imagP_ok.mono (by decide)
      · exact mulI_ok (ratAbsP_ok im.num.natAbs im.den)
    split
    · exact W.bin level_add ((ratP_ok re.num re.den).mono (by decide)) (hi _)
    · exact W.bin level_sub ((ratP_ok re.num re.den).mono (by decide)) (hi _)

theorem dblP_ok (b : UInt64) : W 12 (dblP b) ∧ (¬ dblSign b = true → W 17 (dblP b)) := signed_ok _ (W.leaf_num _)

theorem dbl_GE (b : UInt64) (hp : (!dblSign b || dblIsNeg b) = true) : GE (dbl b) (dblP b) := by
  obtain ⟨h12, h17⟩ := dblP_ok b
  simp only [GE, cprec]
  split
  · exact h12.mono (by decide)
  · rename_i h
    refine h17 fun hs => h ?_
    simpa [hs] using hp

theorem cdbl_GE (r i : UInt64) : GE (cdbl r i) (cdblP r i) := by
  unfold GE cdblP
  have hm : ∀ x : UInt64, W 11 (.bin .mul (dblP x) imagP) := fun x => mulI_ok ((dblP_ok x).1.mono (by decide))
  split
  · exact W.bin (n := 10) level_sub ((dblP_ok r).1.mono (by decide)) (hm _)
  · exact W.bin (n := 10) level_add ((dblP_ok r).1.mono (by decide)) (hm _)

theorem isNum_cprec {c : Expr} (h : isNum c = true) : 1 ≤ cprec c := by
  cases c <;> simp [isNum] at h <;> simp [cprec] <;> (repeat' split) <;> omega

theorem negNum_GE {e : Expr} (h : isNegRat e = true) : GE (negNum e) (numP (negNum e)) := by
  cases e <;> simp [isNegRat] at h
  · exact int_GE _
  · exact rat_GE _ _

theorem mem_insertTerm {x y : Item} : ∀ {l : List Item}, y ∈ insertTerm x l → y = x ∨ y ∈ l
  | [], h => by simp [insertTerm] at h; exact Or.inl h
  | z :: t, h => by
    unfold insertTerm at h
    split at h
    · simp at h; rcases h with h | h | h <;> simp [h]
    · split at h
      · simp at h
        rcases h with h | h
        · simp [h]
        · rcases mem_insertTerm h with h | h <;> simp [h]
      · exact Or.inr h

theorem mem_foldl_insertTerm {y : Item} : ∀ (l acc : List Item),
    y ∈ l.foldl (fun acc x => insertTerm x acc) acc → y ∈ acc ∨ y ∈ l
  | [], acc, h => Or.inl h
  | x :: l, acc, h => by
    simp only [List.foldl] at h
    rcases mem_foldl_insertTerm l _ h with h | h
    · rcases mem_insertTerm h with h | h
      · exact Or.inr (by simp [h])
      · exact Or.inl h
    · exact Or.inr (by simp [h])

theorem mem_sortTerms {y : Item} {l : List Item} (h : y ∈ sortTerms l) : y ∈ l := by
  rcases mem_foldl_insertTerm l [] h with h | h
  · simp at h
  · exact h

/-- what the induction knows about one dictionary entry with its two sub-layouts -/
def ItemOK (x : Item) : Prop := GE x.1 x.2.2.1 ∧ GE x.2.1 x.2.2.2

theorem termP_ok {k v : Expr} {tk tv : PExpr} (hk : GE k tk) (hv : GE v tv)
    (hkey : isInt v 1 = true → cprec k ≠ 1) : W 11 (termP k v tk tv) := by
  unfold termP
  split
  · rename_i h1
    exact parLT_ok_ne (p := 1) hk (hkey h1)
  · split
    · exact negLeft_W (parLT_ok (p := 2) hk) (by decide)
    · exact mulLeft_W (parLT_ok (p := 2) hv) (parLT_ok (p := 2) hk) (Nat.le_refl 11)

theorem addP_ok (c : Expr) (tc : PExpr) (items : List Item) (hc : GE c tc) (hnum : 1 ≤ cprec c)
    (hi : ∀ x ∈ items, ItemOK x ∧ (isInt x.2.1 1 = true → cprec x.1 ≠ 1)) : W 10 (addP c tc items) := by
  unfold addP
  have hts : ∀ u ∈ (sortTerms items).map (fun (x : Item) => match x with
      | (k, v, tk, tv) => termP k v tk tv), W 11 u := by
    intro u hu
    rw [List.mem_map] at hu
    obtain ⟨x, hx, rfl⟩ := hu
    obtain ⟨k, v, tk, tv⟩ := x
    obtain ⟨⟨hk, hv⟩, hkey⟩ := hi _ (mem_sortTerms hx)
    exact termP_ok hk hv hkey
  simp only
  split
  · exact chainAdd_all _ hts
  · exact chainAdd_wp _ (fun t ht => by cases ht; exact W.mono hc (need_mono hnum)) hts

/-- `one` is 1 for a factor of the numerator, -1 for one of the denominator; `e` is the exponent that is tested, `e'` the
one that is printed (`negNum e` in a denominator) -/
theorem facP_ok {b e e' : Expr} {tb te : PExpr} {one : Int} (hb : GE b tb) (he : GE e' te)
    (hkey : isInt e one = true → cprec b ≠ 2) :
    W 12 (if isInt e one = true then parLT b tb 2 else powP b e' tb te) := by
  split
  · rename_i h1; exact (parLT_ok_ne (p := 2) hb (hkey h1)).mono (by decide)
  · exact (powP_ok hb he).mono (by decide)

theorem quotP_ok {nT : PExpr} (hT : W 11 nT) : ∀ ds : List PExpr, (∀ u ∈ ds, W 12 u) →
    W 11 (match ds with
      | [] => nT
      | [d] => PExpr.bin .div nT d
      | ds => PExpr.bin .div nT (.paren (chainMul ds)))
  | [], _ => hT
  | [d], h => W.bin level_div hT (h d (by simp))
  | _ :: _ :: _, h => W.bin level_div hT (W.paren (chainMul_all _ h).1)

theorem mulP_ok (c : Expr) (tc : PExpr) (fs : List Item) (hc : GE c tc)
    (hi : ∀ x ∈ fs, ItemOK x ∧ ((isInt x.2.1 1 || isInt x.2.1 (-1)) = true → cprec x.1 ≠ 2)) :
    W 11 (mulP c tc fs) := by
  unfold mulP
  simp only
  have hfac : ∀ (P : Item → Bool) (F : Item → PExpr), (∀ x ∈ fs, P x = true → W 12 (F x)) →
      ∀ u ∈ (fs.filter P).map F, W 12 u := by
    intro P F h u hu
    obtain ⟨x, hx, rfl⟩ := List.mem_map.mp hu
    exact h x (List.mem_filter.1 hx).1 (List.mem_filter.1 hx).2
  have hnum := hfac (fun (x : Item) => match x with
        | (b, e, _, _) => !(isNegRat e && !(isE b))) (fun (x : Item) => match x with
        | (b, e, tb, te) => if isInt e 1 = true then parLT b tb 2 else powP b e tb te)
    fun (b, e, tb, te) hx _ =>
      facP_ok (hi _ hx).1.1 (hi _ hx).1.2 (fun h1 => (hi _ hx).2 (by simp [h1]))
  have hden := hfac (fun (x : Item) => match x with
        | (b, e, _, _) => (isNegRat e && !(isE b))) (fun (x : Item) => match x with
        | (b, e, tb, _) => if isInt e (-1) = true then parLT b tb 2 else powP b (negNum e) tb (numP (negNum e)))
    fun (b, e, tb, te) hx hd =>
      facP_ok (hi _ hx).1.1 (negNum_GE (Bool.and_eq_true_iff.mp hd).1) (fun h1 => (hi _ hx).2 (by simp [h1]))
  have hnumT : ∀ (b : Bool) (nf : List PExpr), (∀ u ∈ nf, W 12 u) →
      W 11 (chainMul ((if b = true then [] else [parLT c tc 2]) ++ nf))
    | false, nf, hnf => chainMul_wp _ (fun t ht => by cases ht; exact parLT_ok (p := 2) hc) hnf
    | true, nf, hnf => chainMul_all nf hnf
  split
  · exact negLeft_W (quotP_ok (hnumT _ _ hnum) _ hden) (by decide)
  · exact quotP_ok (hnumT _ _ hnum) _ hden

theorem relOp_level {h : String} {o : BinOp} (hr : relOp? h = some o) : 4 ≤ level o ∧ level o ≤ 9 := by
  unfold relOp? at hr
  split at hr
  · simp at hr; simp [← hr]
  · split at hr
    · simp at hr; simp [← hr]
    · split at hr
      · simp at hr; simp [← hr]
      · split at hr
        · simp at hr; simp [← hr]
        · simp at hr

theorem appP_ok (h : String) (args : List Expr) (targs : List PExpr) (hw : WPs targs = true) (hne : targs ≠ [])
    -- 10 = `need 1`: an operand that is not itself a relational; every relational level is ≤ 9
    (hrel : ∀ o, relOp? h = some o → ∃ a b, targs = [a, b] ∧ 10 ≤ lv a ∧ 10 ≤ lv b) :
    GE (app h args) (appP h targs) := by
  have hc : cprec (app h args) = if (relOp? h).isSome = true then 0 else 4 := by simp only [cprec]
  unfold GE appP
  rw [hc]
  cases hr : relOp? h with
  | none =>
    simp only [Option.isSome_none, Bool.false_eq_true, if_false]
    split
    · exact W.call _ hne hw
    · split
      · exact W.call _ hne hw
      · exact W.leaf_id _
  | some o =>
    obtain ⟨a, b, rfl, la, lb⟩ := hrel o hr
    simp only [Option.isSome_some, if_true]
    simp only [WPs, Bool.and_eq_true, and_true] at hw
    obtain ⟨l4, l9⟩ := relOp_level hr
    exact (W.bin rfl ⟨hw.1, by omega⟩ ⟨hw.2, by omega⟩ (by omega)).mono l4

end SymVerif.StrP
