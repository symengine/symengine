import Mathlib.Tactic.Ring
import Mathlib.Tactic.LinearCombination
import SymVerif.Model.MpSpec
import SymVerif.Model.MpBoost
/-! C43, sequences of mp_boost.cpp: factorial loop, Fibonacci / Lucas numbers by 2×2 matrix powers.
Claimed theorems of the property: `fac`, `matrix_pow`, `fib`, `fib2`, `lucnum`, `lucnum2`. -/
namespace SymVerif.C43
open SymVerif

/-- rule for a fuelled `for (; i ≤ n; ++i) a = body i a` (also used by `Lemmas/C43Bin.lean`), indexed by the number
`j = i - 1` of rounds done: if `body` carries `Q j` to `Q (j + 1)`, the result of a run with enough fuel
(`n ≤ j + fuel`) satisfies `Q n` -/
theorem forLoop_inv {α : Type} {n : Nat} {body : Nat → α → α} {loop : Nat → Nat → α → α}
    (h0 : ∀ i a, loop 0 i a = a)
    (hs : ∀ f i a, loop (f + 1) i a = if i ≤ n then loop f (i + 1) (body i a) else a)
    (Q : Nat → α → Prop) (hQ : ∀ j a, j + 1 ≤ n → Q j a → Q (j + 1) (body (j + 1) a)) :
    ∀ fuel j a, j ≤ n → n ≤ j + fuel → Q j a → Q n (loop fuel (j + 1) a) := by
  intro fuel
  induction fuel with
  | zero =>
    intro j a h1 h2 h
    rwa [h0, show n = j by omega]
  | succ f ih =>
    intro j a h1 h2 h
    rw [hs]
    by_cases hle : j + 1 ≤ n
    · rw [if_pos hle]
      exact ih (j + 1) _ hle (by omega) (hQ j a hle h)
    · rwa [if_neg hle, show n = j by omega]

theorem fac (n : Nat) : MpBoost.fac n = ((MpSpec.fac n : Nat) : Int) := by
  unfold MpBoost.fac
  -- `n = 0` apart: the loop starts at `i = 2` (`j = 1` rounds done), and `forLoop_inv` wants `j ≤ n`
  by_cases h : n = 0
  · subst h; rfl
  · exact forLoop_inv (loop := MpBoost.facLoop n) (fun _ _ => rfl) (fun _ _ _ => rfl)
      (fun j res => res = ((MpSpec.fac j : Nat) : Int))
      (fun j res _ h => by rw [h, MpSpec.fac]; push_cast; ring)
      (fuel := n) (j := 1) (a := 1) (by omega) (by omega) rfl

theorem M22.mul_assoc (x y z : MpBoost.M22) : (x.mul y).mul z = x.mul (y.mul z) := by
  cases x; cases y; cases z
  simp only [MpBoost.M22.mul, MpBoost.M22.mk.injEq]
  refine ⟨?_, ?_, ?_, ?_⟩ <;> ring

theorem M22.one_mul (x : MpBoost.M22) : MpBoost.M22.identity.mul x = x := by
  cases x; simp [MpBoost.M22.mul, MpBoost.M22.identity]

theorem M22.mul_one (x : MpBoost.M22) : x.mul MpBoost.M22.identity = x := by
  cases x; simp [MpBoost.M22.mul, MpBoost.M22.identity]

def mpow (x : MpBoost.M22) : Nat → MpBoost.M22
  | 0 => MpBoost.M22.identity
  | n + 1 => (mpow x n).mul x

theorem mpow_add (x : MpBoost.M22) (a b : Nat) : mpow x (a + b) = (mpow x a).mul (mpow x b) := by
  induction b with
  | zero => simp [mpow, M22.mul_one]
  | succ b ih => rw [← Nat.add_assoc]; simp only [mpow]; rw [ih, M22.mul_assoc]

/-- the recursive repeated squaring of `two_by_two_matrix::pow` computes the power -/
theorem matrix_pow (x : MpBoost.M22) (n : Nat) : x.pow n = mpow x n := by
  fun_induction MpBoost.M22.pow x n with
  | case1 => rfl
  | case2 => simp [mpow, M22.one_mul]
  | case3 => simp [mpow, M22.one_mul]
  | case4 n h0 h1 h2 hev h ih =>
    show h.mul h = mpow x n
    have hh : h = mpow x (n / 2) := ih
    rw [hh, ← mpow_add]
    congr 1; omega
  | case5 n h0 h1 h2 hodd h ih =>
    show (h.mul h).mul x = mpow x n
    have hh : h = mpow x ((n - 1) / 2) := ih
    rw [hh, ← mpow_add]
    have : n = ((n - 1) / 2 + (n - 1) / 2) + 1 := by omega
    conv_rhs => rw [this]
    rfl

theorem fib_succ_succ (n : Nat) : MpSpec.fib (n + 2) = MpSpec.fib n + MpSpec.fib (n + 1) := by
  simp [MpSpec.fib, MpSpec.fibPair]

theorem mpow_fib_succ (n : Nat) : mpow ⟨1, 1, 1, 0⟩ (n + 1) =
    ⟨(MpSpec.fib (n + 2) : Nat), (MpSpec.fib (n + 1) : Nat), (MpSpec.fib (n + 1) : Nat), (MpSpec.fib n : Nat)⟩ := by
  induction n with
  | zero => rfl
  | succ n ih =>
    rw [mpow, ih, fib_succ_succ (n + 1), fib_succ_succ n]
    simp only [MpBoost.M22.mul, MpBoost.M22.mk.injEq]
    push_cast
    refine ⟨?_, ?_, ?_, ?_⟩ <;> ring

theorem fib (n : Nat) : MpBoost.fib n = ((MpSpec.fib n : Nat) : Int) := by
  rw [MpBoost.fib, MpBoost.fibMatrix, matrix_pow]
  cases n with
  | zero => rfl
  | succ m => rw [mpow_fib_succ]

theorem fib2 (n : Nat) : MpBoost.fib2 n = MpSpec.fib2 n := by
  rw [MpBoost.fib2, MpBoost.fibMatrix, matrix_pow]
  cases n with
  | zero => rfl
  | succ m => rw [mpow_fib_succ]; rfl

theorem lucPair_succ (n : Nat) :
    MpSpec.lucPair (n + 1) = (((MpSpec.fib (n + 1) : Nat) : Int) + 2 * ((MpSpec.fib n : Nat) : Int),
                              ((MpSpec.fib (n + 2) : Nat) : Int) + 2 * ((MpSpec.fib (n + 1) : Nat) : Int)) := by
  induction n with
  | zero => rfl
  | succ n ih =>
    rw [MpSpec.lucPair, ih, fib_succ_succ (n + 1), fib_succ_succ n]
    refine Prod.ext rfl ?_
    push_cast
    ring

theorem lucMatrix_zero : MpBoost.lucMatrix 0 = ⟨1, 0, 2, 0⟩ := by
  rw [MpBoost.lucMatrix, matrix_pow]; rfl

theorem lucMatrix_succ (n : Nat) :
    MpBoost.lucMatrix (n + 1) = ⟨(MpSpec.lucPair (n + 1)).2, 0, (MpSpec.lucPair (n + 1)).1, 0⟩ := by
  rw [MpBoost.lucMatrix, matrix_pow, mpow_fib_succ, lucPair_succ]
  simp [MpBoost.M22.mul, mul_comm]

theorem lucnum (n : Nat) : MpBoost.lucnum n = MpSpec.lucnum n := by
  cases n with
  | zero => rw [MpBoost.lucnum, lucMatrix_zero]; rfl
  | succ m => rw [MpBoost.lucnum, lucMatrix_succ]; rfl

/-- `mp_lucnum2_ui` (with the `n = 0` repair) = `(L(n), L(n-1))` -/
theorem lucnum2 (n : Nat) : MpBoost.lucnum2 n = some (MpSpec.lucnum2 n) := by
  rcases n with _ | _ | k
  · rfl
  · rw [MpBoost.lucnum2, if_neg (Nat.succ_ne_zero _), lucMatrix_zero]; rfl
  · rw [MpBoost.lucnum2, if_neg (Nat.succ_ne_zero _), Nat.add_sub_cancel, lucMatrix_succ]; rfl

end SymVerif.C43
