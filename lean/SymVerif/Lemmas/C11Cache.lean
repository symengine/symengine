/-
C11, cache independence of the substitution model: if the keys of σ are pairwise different (σ is a map), the
traversal with the `visited` table — seeded with σ itself, as the `XReplaceVisitor` constructor does — returns
literally the same tree as the traversal that only consults σ.

Invariant of the table `m`:  (1) every entry maps a tree to its own image `subsE σ k`;
                             (2) whatever σ knows, the table knows (`find m e = none → lookup σ e = none`).
(1) for the seed is exactly `subsE σ k = σ k` for the keys `k`, which is where `KeysDistinct` is needed.
-/
import SymVerif.Lemmas.C11Struct

namespace SymVerif
namespace Subs
open Expr Diff

/-- no two entries of σ have the same key (by `Expr.eqb`, the test `Memo.find` performs) -/
def KeysDistinct : Sigma → Prop
  | [] => True
  | (k, _) :: t => (∀ k' v', (k', v') ∈ t → Expr.eqb k k' = false) ∧ KeysDistinct t

theorem lookup_of_mem : ∀ {σ : Sigma}, KeysDistinct σ → ∀ {k v : Expr}, (k, v) ∈ σ → lookup σ k = some v
  | [], _, k, v, h => by cases h
  | (k0, v0) :: t, hd, k, v, h => by
    simp only [KeysDistinct] at hd
    simp only [lookup, Memo.find]
    rcases List.mem_cons.mp h with h | h
    · cases h
      simp [Expr.eqb_refl]
    · rw [hd.1 k v h]
      simp only [Bool.false_eq_true, ↓reduceIte]
      exact lookup_of_mem hd.2 h

/-- a successful lookup of the whole node short-cuts `subsE` -/
theorem subsE_of_lookup {pp : Bool} {σ : Sigma} {e v : Expr} (h : lookup σ e = some v) : subsE pp σ e = v := by
  cases e <;> simp [subsE, h]

theorem subsE_of_lookup_none_leaf {pp : Bool} {σ : Sigma} {e : Expr} (h : lookup σ e = none)
    (hl : match e with | .add _ _ | .mul _ _ | .pow _ _ | .fsym _ _ | .app _ _ => False | _ => True) :
    subsE pp σ e = e := by
  cases e <;> simp_all [subsE]

/-- (1) ∧ (2) of the head comment -/
def TableOK (pp : Bool) (σ : Sigma) (m : Memo) : Prop :=
  (∀ k v, (k, v) ∈ m → v = subsE pp σ k) ∧ (∀ e, Memo.find m e = none → lookup σ e = none)

-- the second half is `id`: `lookup σ` is `Memo.find σ` and the seed table is σ itself
theorem tableOK_seed (pp : Bool) {σ : Sigma} (hd : KeysDistinct σ) : TableOK pp σ σ :=
  ⟨fun _ _ h => (subsE_of_lookup (lookup_of_mem hd h)).symm, fun _ h => h⟩

theorem tableOK_cons {pp : Bool} {σ : Sigma} {m : Memo} (k : Expr) (hm : TableOK pp σ m) :
    TableOK pp σ ((k, subsE pp σ k) :: m) := by
  refine ⟨fun k' v' h => ?_, fun e h => ?_⟩
  · rcases List.mem_cons.mp h with h | h
    · cases h; rfl
    · exact hm.1 k' v' h
  · simp only [Memo.find] at h
    split at h
    · cases h
    · exact hm.2 e h

theorem memoize_subs {pp : Bool} {σ : Sigma} {key : Expr} {m : Memo} {k : Memo → Expr × Memo}
    (hm : TableOK pp σ m) (hk : lookup σ key = none → (k m).1 = subsE pp σ key ∧ TableOK pp σ (k m).2) :
    (memoize key m k).1 = subsE pp σ key ∧ TableOK pp σ (memoize key m k).2 :=
  memoize_sound (f := subsE pp σ) (fun _ h => h.1) (fun _ => tableOK_cons _) hm
    (fun hnone => hk (hm.2 key hnone))

/-- the memoised `Pow` step, shared by `subsC` on a `Pow` node and `subsCFacs` on a factor `b**e` -/
theorem memoize_pow {pp : Bool} {σ : Sigma} {b e : Expr} {m : Memo} (hm : TableOK pp σ m)
    (hb : ∀ m, TableOK pp σ m → (subsC pp σ b m).1 = subsE pp σ b ∧ TableOK pp σ (subsC pp σ b m).2)
    (he : ∀ m, TableOK pp σ m → (subsC pp σ e m).1 = subsE pp σ e ∧ TableOK pp σ (subsC pp σ e m).2) :
    let r := memoize (.pow b e) m fun m =>
      let rb := subsC pp σ b m
      let re := subsC pp σ e rb.2
      (powNode pp σ rb.1 re.1, re.2)
    r.1 = subsE pp σ (.pow b e) ∧ TableOK pp σ r.2 :=
  memoize_subs hm fun hl => by
    obtain ⟨h1, h2⟩ := hb m hm
    obtain ⟨h3, h4⟩ := he _ h2
    exact ⟨by simp [subsE, hl, h1, h3], h4⟩

mutual
  theorem subsC_spec (pp : Bool) (σ : Sigma) : ∀ (e : Expr) (m : Memo), TableOK pp σ m →
      (subsC pp σ e m).1 = subsE pp σ e ∧ TableOK pp σ (subsC pp σ e m).2
    | .add c ts, m, hm => by
      unfold subsC
      refine memoize_subs hm (fun hl => ?_)
      obtain ⟨h1, h2⟩ := subsC_spec pp σ c m hm
      obtain ⟨h3, h4⟩ := subsCTerms_spec pp σ ts _ h2
      exact ⟨by simp [subsE, hl, h1, h3], h4⟩
    | .mul c fs, m, hm => by
      unfold subsC
      refine memoize_subs hm (fun hl => ?_)
      obtain ⟨h1, h2⟩ := subsC_spec pp σ c m hm
      obtain ⟨h3, h4⟩ := subsCFacs_spec pp σ fs _ h2
      exact ⟨by simp [subsE, hl, h1, h3], h4⟩
    | .pow b e, m, hm => by
      unfold subsC
      exact memoize_pow hm (subsC_spec pp σ b) (subsC_spec pp σ e)
    | .fsym hd args, m, hm | .app hd args, m, hm => by
      unfold subsC
      refine memoize_subs hm (fun hl => ?_)
      obtain ⟨h1, h2⟩ := subsCList_spec pp σ args m hm
      exact ⟨by simp [subsE, hl, h1], h2⟩
    | .sym _, m, hm | .int _, m, hm | .rat _ _, m, hm | .cplx _ _, m, hm | .dbl _, m, hm | .cdbl _ _, m, hm |
      .infty _, m, hm | .nan, m, hm | .dummy _ _, m, hm | .const _, m, hm | .bool _, m, hm =>
        by unfold subsC; exact memoize_subs hm fun hl => ⟨(subsE_of_lookup_none_leaf hl trivial).symm, hm⟩
  termination_by structural e => e
  theorem subsCList_spec (pp : Bool) (σ : Sigma) : ∀ (l : List Expr) (m : Memo), TableOK pp σ m →
      (subsCList pp σ l m).1 = subsList pp σ l ∧ TableOK pp σ (subsCList pp σ l m).2
    | [], m, hm => by simp [subsCList, subsList, hm]
    | a :: t, m, hm => by
      obtain ⟨h1, h2⟩ := subsC_spec pp σ a m hm
      obtain ⟨h3, h4⟩ := subsCList_spec pp σ t _ h2
      simp only [subsCList, subsList]
      exact ⟨by rw [h1, h3], h4⟩
  termination_by structural l => l
  theorem subsCTerms_spec (pp : Bool) (σ : Sigma) : ∀ (l : List (Expr × Expr)) (m : Memo), TableOK pp σ m →
      (subsCTerms pp σ l m).1 = subsTerms pp σ l ∧ TableOK pp σ (subsCTerms pp σ l m).2
    | [], m, hm => by simp [subsCTerms, subsTerms, hm]
    | (k, c) :: t, m, hm => by
      unfold subsCTerms
      simp only [subsTerms]
      cases hl : lookup σ (termKey k c) with
      | some w =>
        obtain ⟨h3, h4⟩ := subsCTerms_spec pp σ t m hm
        exact ⟨by simp [h3], h4⟩
      | none =>
        obtain ⟨h1, h2⟩ := subsC_spec pp σ k m hm
        obtain ⟨h1', h2'⟩ := subsC_spec pp σ c _ h2
        obtain ⟨h3, h4⟩ := subsCTerms_spec pp σ t _ h2'
        exact ⟨by simp [h1, h1', h3], h4⟩
  termination_by structural l => l
  theorem subsCFacs_spec (pp : Bool) (σ : Sigma) : ∀ (l : List (Expr × Expr)) (m : Memo), TableOK pp σ m →
      (subsCFacs pp σ l m).1 = subsFacs pp σ l ∧ TableOK pp σ (subsCFacs pp σ l m).2
    | [], m, hm => by simp [subsCFacs, subsFacs, hm]
    | (b, e) :: t, m, hm => by
      unfold subsCFacs
      simp only [subsFacs]
      split
      · obtain ⟨h1, h2⟩ := subsC_spec pp σ b m hm
        obtain ⟨h3, h4⟩ := subsCFacs_spec pp σ t _ h2
        exact ⟨by simp [h1, h3], h4⟩
      · obtain ⟨h1, h2⟩ := memoize_pow hm (subsC_spec pp σ b) (subsC_spec pp σ e)
        obtain ⟨h3, h4⟩ := subsCFacs_spec pp σ t _ h2
        refine ⟨?_, h4⟩
        -- the `match` in `subsFacs` is the `Pow` clause of `subsE`, written out
        simp only [h1, h3, subsE]
  termination_by structural l => l
end

end Subs

namespace C11
open SymVerif Expr Diff Subs

/-- **Cache independence**: for a map (pairwise different keys — symbols, numbers or sub-expressions) the
traversal with the `visited` table seeded with σ gives literally the same tree. -/
theorem subs_cache (pp : Bool) (σ : Sigma) (hd : KeysDistinct σ) (e : Expr) :
    subsCached pp σ e = subsE pp σ e :=
  (subsC_spec pp σ e σ (tableOK_seed pp hd)).1

end C11
end SymVerif
