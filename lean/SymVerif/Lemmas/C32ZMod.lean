import Mathlib.Data.ZMod.Basic
import SymVerif.Lemmas.C32Basic
/-! The GMP layer's residues (`powModNat`, `powmN`, `Int.tmod`) read in `ZMod N`, for the order loop, the primitive-root
search and the `n`-th root test. -/
namespace SymVerif.C32
open SymVerif.NTheory

theorem toNat_emod_cast (a : Int) {N : Nat} (hN : 0 < N) : (((a % (N : Int)).toNat : Nat) : ZMod N) = a := by
  rw [← Int.cast_natCast, Int.toNat_of_nonneg (Int.emod_nonneg _ (by omega)), ZMod.intCast_mod]

theorem powModNat_cast (a e N : Nat) : ((powModNat a e N : Nat) : ZMod N) = (a : ZMod N) ^ e := by
  rw [powModNat_eq, ZMod.natCast_mod, Nat.cast_pow]

theorem powModNat_lt (a e : Nat) {N : Nat} (hN : 0 < N) : powModNat a e N < N := by
  rw [powModNat_eq]; exact Nat.mod_lt _ hN

theorem powmN_toNat_lt (a : Int) (e : Nat) {N : Nat} (hN : 0 < N) : (powmN a e N).toNat < N := by
  rw [powmN, Int.toNat_natCast]; exact powModNat_lt _ e hN

theorem powmN_toNat_cast (a : Int) (e : Nat) {N : Nat} (hN : 0 < N) :
    (((powmN a e N).toNat : Nat) : ZMod N) = (a : ZMod N) ^ e := by
  rw [powmN, Int.toNat_natCast, powModNat_cast, toNat_emod_cast a hN]

theorem natCast_eq_one_iff {nn : Nat} (hnn : 2 ≤ nn) {t : Nat} (ht : t < nn) : ((t : ZMod nn) = 1) ↔ t = 1 := by
  rw [← Nat.cast_one (R := ZMod nn), ZMod.natCast_eq_natCast_iff', Nat.mod_eq_of_lt ht, Nat.mod_eq_of_lt hnn]

theorem powModNat_eq_one_iff {N : Nat} (hN : 2 ≤ N) (g e : Nat) :
    (powModNat g e N == 1) = true ↔ (g : ZMod N) ^ e = 1 := by
  rw [beq_iff_eq, ← natCast_eq_one_iff hN (powModNat_lt g e (by omega)), powModNat_cast]

theorem powmN_eq_one_iff {N : Nat} (hN : 2 ≤ N) (a : Int) (e : Nat) :
    (powmN a e N == 1) = true ↔ (a : ZMod N) ^ e = 1 := by
  rw [← toNat_emod_cast a (by omega : 0 < N), ← powModNat_eq_one_iff hN, powmN, beq_iff_eq, beq_iff_eq,
    Nat.cast_eq_one]

theorem tmod_cast (a : Int) (nn : Nat) : ((Int.tmod a nn : Int) : ZMod nn) = a :=
  (ZMod.intCast_eq_intCast_iff _ _ _).mpr (GmpSpec.tmod_modEq a nn)

end SymVerif.C32
