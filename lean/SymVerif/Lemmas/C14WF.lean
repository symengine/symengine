/-
C14, SSA well-formedness: every operand of every generated instruction is a constant or the
result of an earlier instruction, and every stored output is defined.  It has an induction over
`compileT` of its own: SSA form is wanted on the CSE path too, where there is no value environment.
-/
import SymVerif.Lemmas.C14Init

namespace SymVerif.LLVMD
open SymVerif.EvalG

variable {α : Type}

/-- environment only hands out defined registers -/
def EnvLt (env : String → Option (Val α)) (n : Nat) : Prop := ∀ name v, env name = some v → v.lt n

theorem EnvLt.mono {env : String → Option (Val α)} {n m : Nat} (h : EnvLt env n) (hnm : n ≤ m) : EnvLt env m :=
  fun name v hv => Val.lt_mono hnm (h name v hv)

mutual
  theorem compileT_ext (L : LOps α) (env : String → Option (Val α)) :
      ∀ (t : T α) (P : Prog α) (v : Val α) (P' : Prog α), compileT L env t P = .ok (v, P') → EnvLt env P.length →
        Ext P P' ∧ v.lt P'.length
    | .cst x, P, v, P', h, _ => by
      simp only [compileT] at h; cases h
      exact ⟨Ext.refl P, trivial⟩
    | .sym n, P, v, P', h, henv => by
      obtain ⟨hn, rfl⟩ := compileT_sym_ok h
      exact ⟨Ext.refl _, henv n v hn⟩
    | .op k args, P, v, P', h, henv => by
      obtain ⟨vs, P1, hc, h⟩ := compileT_op_ok h
      obtain ⟨x1, lt1⟩ := compileTs_ext L env args P vs P1 hc henv
      obtain ⟨x2, lt2⟩ := emitOp_wf L k vs P1 (v, P') h lt1
      exact ⟨x1.trans x2, lt2⟩
    | .pw c a b, P, v, P', h, henv => by
      obtain ⟨vc, P1, ic, P2, va, P4, vb, P5, hc, hm, ha, hb, rfl, rfl⟩ := compileT_pw_ok h
      obtain ⟨x1, lt1⟩ := compileT_ext L env c P vc P1 hc henv
      -- the test is the operator `.truth` on `[vc]`
      obtain ⟨x2, lt2⟩ := emitOp_wf L .truth [vc] P1 (ic, P2) (congrArg Except.ok hm)
        (List.forall_mem_cons.mpr ⟨lt1, nofun⟩)
      have xb : Ext P2 (P2 ++ [.condbr ic]) := Ext.emit P2 _ (List.forall_mem_cons.mpr ⟨lt2, nofun⟩)
      have x3 : Ext P (P2 ++ [.condbr ic]) := x1.trans <| x2.trans xb
      obtain ⟨x4, lt4⟩ := compileT_ext L env a _ va P4 ha (henv.mono x3.le)
      obtain ⟨x5, lt5⟩ := compileT_ext L env b P4 vb P5 hb (henv.mono (x3.trans x4).le)
      -- `ic` is defined before the `condbr`, so it survives it and both arms
      have hic : ic.lt P5.length := Val.lt_mono (xb.trans (x4.trans x5)).le lt2
      have hva : va.lt P5.length := Val.lt_mono x5.le lt4
      exact ⟨x3.trans <| x4.trans <| x5.trans <| Ext.emit _ _ (List.forall_mem_cons.mpr
        ⟨hic, List.forall_mem_cons.mpr ⟨hva, List.forall_mem_cons.mpr ⟨lt5, nofun⟩⟩⟩), by simp [Val.lt]⟩

  theorem compileTs_ext (L : LOps α) (env : String → Option (Val α)) :
      ∀ (ts : List (T α)) (P : Prog α) (vs : List (Val α)) (P' : Prog α), compileTs L env ts P = .ok (vs, P') →
        EnvLt env P.length → Ext P P' ∧ ∀ v ∈ vs, v.lt P'.length
    | [], P, vs, P', h, _ => by
      simp only [compileTs] at h; cases h
      exact ⟨Ext.refl P, nofun⟩
    | t :: ts, P, vs, P', h, henv => by
      obtain ⟨v, P1, vs2, ht, hts, rfl⟩ := compileTs_cons_ok h
      obtain ⟨x1, lt1⟩ := compileT_ext L env t P v P1 ht henv
      obtain ⟨x2, lt2⟩ := compileTs_ext L env ts P1 vs2 P' hts (henv.mono x1.le)
      exact ⟨x1.trans x2, List.forall_mem_cons.mpr ⟨Val.lt_mono x2.le lt1, lt2⟩⟩
end

theorem compileTs_wf (L : LOps α) (env : String → Option (Val α)) :
    ∀ (ts : List (T α)) (P : Prog α) (vs : List (Val α)) (P' : Prog α), compileTs L env ts P = .ok (vs, P') →
      EnvLt env P.length →
      ∃ ext, P' = P ++ ext ∧ WFfrom P.length ext ∧ ∀ v ∈ vs, v.lt P'.length := fun ts P vs P' h henv =>
  let ⟨⟨e, h1, h2⟩, h3⟩ := compileTs_ext L env ts P vs P' h henv
  ⟨e, h1, h2, h3⟩

theorem WFfrom_loads (n i k : Nat) : WFfrom n (loads (α := α) i k) := by
  induction k generalizing n i with
  | zero => trivial
  | succ k ih => exact ⟨by intro v hv; simp [Instr.operands] at hv, ih _ _⟩

/-- every value the symbol table can hand out is defined below `n` -/
def TabLt (tab : SymTab α) (n : Nat) : Prop :=
  tab.inputs.length ≤ n ∧ ∀ p ∈ tab.repl, p.2.lt n

theorem envOf_lt (cfg : Cfg α) (tab : SymTab α) (n : Nat) (h : TabLt tab n) : EnvLt (envOf cfg tab) n := by
  intro name v hv
  rcases envOf_some hv with ⟨i, hi, rfl⟩ | hl
  · have := indexOf?_lt hi
    have := h.1
    simp only [Val.lt]
    omega
  · obtain ⟨l₁, l₂, hl, _⟩ := List.lookup_eq_some_iff.mp hl
    exact h.2 (name, v) (by simp [hl])

theorem applyOuts_wf (cfg : Cfg α) (tab : SymTab α) (outs : List Expr) (P : Prog α) (vs : List (Val α))
    (P' : Prog α) (h : applyOuts cfg tab outs P = .ok (vs, P')) (ht : TabLt tab P.length) :
    Ext P P' ∧ ∀ v ∈ vs, v.lt P'.length :=
  let ⟨ts, _, hc⟩ := applyOuts_ok h
  compileTs_ext cfg.L (envOf cfg tab) ts P vs P' hc (envOf_lt cfg tab _ ht)

theorem applyRepl_wf (cfg : Cfg α) :
    ∀ (repl : List (String × Expr)) (tab : SymTab α) (P : Prog α) (tab' : SymTab α) (P' : Prog α) (tabF : SymTab α),
      applyRepl cfg tab repl P = (.ok (tab', P'), tabF) → TabLt tab P.length → Ext P P' ∧ TabLt tab' P'.length
  | [], tab, P, tab', P', tabF, h, ht => by
    simp only [applyRepl, Prod.mk.injEq, Except.ok.injEq] at h
    obtain ⟨⟨rfl, rfl⟩, _⟩ := h
    exact ⟨Ext.refl P, ht⟩
  | (name, e) :: rest, tab, P, tab', P', tabF, h, ht => by
    simp only [applyRepl] at h
    cases he : applyE cfg tab e P with
    | error err => rw [he] at h; simp at h
    | ok r =>
      obtain ⟨v, P1⟩ := r
      rw [he] at h
      simp only at h
      obtain ⟨t, _, hc⟩ := applyE_ok he
      obtain ⟨x1, lt1⟩ := compileT_ext cfg.L (envOf cfg tab) t P v P1 hc (envOf_lt cfg tab _ ht)
      have ht1 : TabLt { tab with repl := (name, v) :: tab.repl.filter (fun p => p.1 != name) } P1.length :=
        ⟨Nat.le_trans ht.1 x1.le, List.forall_mem_cons.mpr
          ⟨lt1, fun p hp => Val.lt_mono x1.le (ht.2 p (List.mem_filter.mp hp).1)⟩⟩
      obtain ⟨x2, ht2⟩ := applyRepl_wf cfg rest _ P1 tab' P' tabF h ht1
      exact ⟨x1.trans x2, ht2⟩

theorem initV_wf (cfg : Cfg α) (S S' : VState) (ins : List String) (outs : List Expr)
    (cse : Option (List (String × Expr) × List Expr)) (C : Compiled α)
    (hinit : initV cfg S ins outs cse = (S', .ok C)) :
    WF C.body ∧ ∀ v ∈ C.outs, v.lt C.body.length := by
  obtain ⟨_, tab1, P1, tabF, hr, ha⟩ := initV_ok hinit
  obtain ⟨x1, ht1⟩ := applyRepl_wf cfg _ _ _ tab1 P1 tabF hr ⟨Nat.le_of_eq (loads_length 0 _).symm, nofun⟩
  obtain ⟨x2, lt⟩ := applyOuts_wf cfg tab1 _ P1 _ _ ha ht1
  exact ⟨(x1.trans x2).wf (WFfrom_loads 0 0 _), lt⟩

end SymVerif.LLVMD

namespace SymVerif.C14
open SymVerif SymVerif.EvalG SymVerif.LLVMD

variable {α : Type}

/-- code generation for a tree is well formed whenever the environment only hands out defined registers -/
theorem compileT_wellformed (L : LOps α) (env : String → Option (Val α)) (t : T α) (P : Prog α) (v : Val α)
    (P' : Prog α) (h : compileT L env t P = .ok (v, P')) (henv : EnvLt env P.length) :
    ∃ ext, P' = P ++ ext ∧ WFfrom P.length ext ∧ v.lt P'.length :=
  let ⟨⟨e, h1, h2⟩, h3⟩ := compileT_ext L env t P v P' h henv
  ⟨e, h1, h2, h3⟩

end SymVerif.C14
