/-
C03: the Mul / Pow side (mul.cpp, pow.cpp, rational.cpp) — the contracts `Spec` of the 15 mutually
recursive functions. What the callers of `dict_add_term_new` guarantee (`Pre`) is weaker than what
the dictionary holds (`factorOK`): the lemmas here relate `preOK`, `okBase` and `factorOK` under the
branch conditions of the code.
`RadShape` and `PowerExpOK` are stated here and taken as hypotheses by the steps that need them; they are
proved afterwards (C03Shape, C03MulH), from the `…_cases` lemmas the steps use.
-/
import SymVerif.Lemmas.C03Add

namespace SymVerif.Arith

/-- what the callers of `dict_add_term_new` guarantee about the factor `t ** exp` they pass
("the dict should be of standard form before this is called"): weaker than `factorOK` — an exact Number base
other than 1 may come with any exponent (0 only with an Integer, a Rational or a non-Number: the last arm of
`datNew` inserts `0 ** exp` as it is, and `factorOK` forbids `0 ** Number`), a Pow base with an Integer exponent -/
def preOK (t exp : Expr) : Bool :=
  match t with
  | .int n => n != 1 && (n != 0 || isInteger exp || isRational exp || !exp.isNum)
  | .mul c _ =>
    isExactNum c
    && !isInteger exp
    && !(exp.isNum && !isIntLit c 1 && !isIntLit c (-1) && (numIsPositive c || numIsNegative c))
  | .dbl _ | .cdbl _ _ | .infty _ | .nan => false
  | _ => true

/-- a legal base of `pow`: not an inexact / infinite Number, a Mul only with an exact coefficient -/
def okBase (a : Expr) : Bool :=
  match a with
  | .dbl _ | .cdbl _ _ | .infty _ | .nan => false
  | .mul c _ => isExactNum c
  | _ => true

theorem okBase_of_exact {a : Expr} (h : isExactNum a = true) : okBase a = true := by
  cases a <;> simp_all [isExactNum, okBase]

theorem preOK_of_atom {b e : Expr} (h1 : b.isNum = false) (h2 : isMul b = false) :
    preOK b e = true := by
  cases b <;> first | rfl | (cases h1; done) | (cases h2; done)

structure Pre (t exp : Expr) : Prop where
  invT : inv t = true
  invE : inv exp = true
  nz : isNumZero exp = false
  ok : preOK t exp = true

/-- not-found branch, Number base, `insert(d, t, exp)`; `h3` is written as `datNew` tests it, it says
`isExactNum t` (`isExactNum_eq`) -/
theorem factorOK_of_pre_exactNum {t exp : Expr} (hz : isNumZero exp = false) (hok : preOK t exp = true)
    (h3 : (isInteger t || isRational t || isComplex t) = true)
    (h1 : isInteger exp = false) (h2 : (isRational exp && !isComplex t) = false) :
    factorOK t exp = true := by
  rw [isExactNum_eq] at h3
  rcases isExactNum_cases h3 with ⟨n, rfl⟩ | ⟨n, d, rfl⟩ | ⟨re, im, rfl⟩
  · have hr : isRational exp = false := by simpa [isComplex] using h2
    rw [factorOK_int hr, hz, h1]
    simp only [preOK, h1, hr, Bool.and_eq_true, bne_iff_ne, ne_eq, Bool.or_eq_true, Bool.or_false,
      Bool.not_eq_true'] at hok
    by_cases h0 : n = 0
    · simpa [h0] using hok
    · simp [h0, hok.1]
  · have hr : isRational exp = false := by simpa [isComplex] using h2
    simp [factorOK, hz, h1, hr]
  · simp [factorOK, hz, h1]

/-- not-found branch, other base, `insert(d, t, exp)` -/
theorem factorOK_of_pre_other {t exp : Expr} (hz : isNumZero exp = false) (hok : preOK t exp = true)
    (h3 : (isInteger t || isRational t || isComplex t) = false)
    (h1 : (isPow t && isInteger exp) = false) : factorOK t exp = true := by
  unfold preOK at hok
  unfold factorOK
  -- off the exact Numbers `preOK` and `factorOK` have the same clauses but for a Pow base, where `h1` gives the
  -- missing "exponent not an Integer"; the inexact and infinite bases have `preOK = false`
  cases t <;> simp_all [isInteger, isRational, isComplex, isPow]

theorem factorOK_base {k v : Expr} (h : factorOK k v = true) :
    okBase k = true ∧ isIntLit k 1 = false := by
  cases k <;> simp_all [factorOK, okBase, isIntLit]

/-- `r` is a new exponent for the base `k` of a factor `k ** v`: `v` itself, or the `v * n` of `power_num` -/
theorem preOK_of_factorOK {k v r : Expr} (hf : factorOK k v = true)
    (hn : v.isNum = true ∨ r.isNum = false) (hi : isMul k = true → isInteger r = false) :
    preOK k r = true := by
  have hb := factorOK_base hf
  cases k with
  | int n =>
    have h1 : n ≠ 1 := by simpa [isIntLit] using hb.2
    by_cases h0 : n = 0
    · subst h0
      have hr : r.isNum = false := hn.resolve_left (by simp [factorOK_zero hf])
      simp [preOK, hr]
    · simp [preOK, h1, h0]
  | mul c fs =>
    have hir := hi rfl
    have hex : isExactNum c = true := hb.1
    rcases hn with hv | hr
    · have hcoef : (!isIntLit c 1 && !isIntLit c (-1) && (numIsPositive c || numIsNegative c)) = false := by
        simp only [factorOK, hv, Bool.true_and, Bool.and_eq_true, Bool.not_eq_true'] at hf
        exact hf.2.2
      simp [preOK, hex, hir, Bool.and_assoc, hcoef]
    · simp [preOK, hex, hir, hr]
  | _ => first | rfl | cases hb.1

theorem pre_of_factorOK {k v : Expr} (hk : inv k = true) (hv : inv v = true)
    (hf : factorOK k v = true) : Pre k v := by
  exact ⟨hk, hv, factorOK_nz hf, preOK_of_factorOK hf (by cases v.isNum <;> simp)
    fun hm => factorOK_notInt hf (.inr (.inr hm))⟩

theorem factorOK_of_nonNum {k v : Expr} (hv : v.isNum = false) :
    factorOK k v = (okBase k && !isIntLit k 1) := by
  obtain ⟨h1, h2, -⟩ := nonNum_class hv
  obtain ⟨h3, h4⟩ : isNumZero v = false ∧ ratIn01 v = true := by
    cases v <;> first | exact ⟨rfl, rfl⟩ | cases hv
  cases k <;> simp [factorOK, okBase, isIntLit, h1, h2, h3, h4, hv]
  -- only the Integer base is left: its `radOK` match needs the constructor of `v`
  cases v <;> first | cases hv; done | simp [bne]

theorem factorOK_exact_cplx {a : Expr} {re im : Q} (hae : isExactNum a = true)
    (ha0 : isIntLit a 0 = false) (ha1 : isIntLit a 1 = false) : factorOK a (.cplx re im) = true := by
  rcases isExactNum_cases hae with ⟨k, rfl⟩ | ⟨k, d, rfl⟩ | ⟨x, y, rfl⟩
  · simp only [isIntLit, beq_eq_false_iff_ne] at ha0 ha1
    simp [factorOK, isNumZero, numIsZero, isInteger, ratIn01, ha0, ha1]
  · simp [factorOK, isNumZero, numIsZero, isInteger, isRational]
  · simp [factorOK, isNumZero, numIsZero, isInteger]

/-- the found branch of `dict_add_term_new` where the entry stays, and the last arm of `pow` -/
theorem factorOK_of_found_stay {t v : Expr} (hb : okBase t = true ∧ isIntLit t 1 = false)
    (hz : isNumZero v = false)
    -- `h1`-`h3`, the negated tests of the found branch in their order; a Rational exponent on an Integer or Rational base
    -- goes to `rpowrat`, so `ratIn01` and `radOK` are never asked here
    (h1 : isInteger v = true →
      (isInteger t || isRational t || isComplex t) = false ∧ isPow t = false ∧ isMul t = false)
    (h2 : isRational v = true → (isInteger t || isRational t) = false)
    (h3 : isIntLit t 0 = false)
    -- a Mul base went through `power_num` unless its coefficient is 1 or -1
    (h4 : ∀ mc mfs, t = .mul mc mfs → (!isIntLit mc 1 && !isIntLit mc (-1)) = false) :
    factorOK t v = true := by
  have hi : (isInteger t || isRational t || isComplex t) = true ∨ isPow t = true ∨ isMul t = true →
      isInteger v = false := fun c => Bool.eq_false_iff.mpr fun e => by
    obtain ⟨a1, a2, a3⟩ := h1 e
    rw [a1, a2, a3] at c
    rcases c with c | c | c <;> cases c
  have hr : (isInteger t || isRational t) = true → isRational v = false :=
    fun c => Bool.eq_false_iff.mpr fun e => by rw [h2 e] at c; cases c
  cases t with
  | mul mc mfs =>
    have hex : isExactNum mc = true := hb.1
    have := h4 mc mfs rfl
    simp only [Bool.and_eq_false_iff, Bool.not_eq_false'] at this
    rcases this with e | e <;> simp [factorOK, hz, hi (.inr (.inr rfl)), hex, e]
  | int n =>
    have h3 : n ≠ 0 := by simpa [isIntLit] using h3
    have h1' : n ≠ 1 := by simpa [isIntLit] using hb.2
    have hr := hr rfl
    cases v <;> first | cases hr; done | simp [factorOK, hz, hi (.inl rfl), h3, h1', ratIn01]
  | rat n d => simp [factorOK, hz, hi (.inl rfl), hr rfl]
  | cplx re im => simp [factorOK, hz, hi (.inl rfl)]
  | pow b e => simp [factorOK, hz, hi (.inr (.inl rfl))]
  | _ => first | cases hb.1; done | simp [factorOK, hz]

/-- `pow`-results of Number ** Rational are Numbers, Muls or Pows (used for the two "else" arms
of the patched N6 code, which the C++ reaches only with a Pow) -/
def RadShape : Prop :=
  ∀ fuel rv t e r, powNumRat fuel rv t e = .ok r → r.isNum = true ∨ isMul r = true ∨ isPow r = true

theorem RadShape.isPow (hs : RadShape) {f : Nat} {rv : Bool} {t e res : Expr}
    (hres : powNumRat f rv t e = .ok res) (hn : res.isNum = false) (hm : isMul res = false) :
    ∃ rb re, res = .pow rb re := by
  rcases hs f rv t e res hres with e | e | e
  · rw [hn] at e; cases e
  · rw [hm] at e; cases e
  · exact isPow_iff.mp e

/-- the new exponent `v * n` that `power_num` computes for the factor `k ** v` is not zero, and where
it is handed to `dict_add_term_new` (`k` not a Mul, or the exponent not an Integer) it is a legal
exponent for `k` -/
def PowerExpOK : Prop :=
  ∀ fuel rv k v n r, inv k = true → inv v = true → factorOK k v = true → n ≠ 0 →
    mulF fuel rv v (.int n) = .ok r →
    isNumZero r = false ∧ ((isMul k = false ∨ isInteger r = false) → preOK k r = true)

/-- state of the accumulator `(coef, d)` of a Mul under construction -/
def St (coef : Expr) (d : Dict) : Prop := NumOK coef ∧ MulDictOK d

/-- the contracts of the 15 mutually recursive functions at fuel `n` -/
structure Spec (n : Nat) : Prop where
  mulF : ∀ rv a b r, inv a = true → inv b = true → mulF n rv a b = .ok r → inv r = true
  mulOnto : ∀ rv coef d b r, St coef d → inv b = true → mulOnto n rv coef d b = .ok r → inv r = true
  mulStep : ∀ rv coef d b c' d', St coef d → inv b = true →
    mulStep n rv coef d b = .ok (c', d') → St c' d'
  datLoop : ∀ rv coef d l c' d', St coef d → (∀ p ∈ l, Pre p.1 p.2) →
    datLoop n rv coef d l = .ok (c', d') → St c' d'
  absorb : ∀ rv coef d res c' d', St coef d → inv res = true →
    absorb n rv coef d res = .ok (some (c', d')) → St c' d'
  mulInto : ∀ rv coef d r c' d', St coef d → inv r = true →
    mulInto n rv coef d r = .ok (c', d') → St c' d'
  datNew : ∀ rv coef d exp t c' d', St coef d → Pre t exp →
    datNew n rv coef d exp t = .ok (c', d') → St c' d'
  -- `datNew` calls it after `it->second = v`: the dictionary holds `(t, v)` in place of the entry `(t, old)`
  datFound : ∀ rv coef d0 t old v c' d', St coef d0 → (t, old) ∈ d0 → inv v = true →
    datFound n rv coef (dset d0 t v) t v = .ok (c', d') → St c' d'
  powNumRat : ∀ rv t e r, ExOK t → ExOK e → powNumRat n rv t e = .ok r → inv r = true
  powrat : ∀ rv p q nn d r, ratCanon p q = true → ratCanon nn d = true →
    powrat n rv p q nn d = .ok r → inv r = true
  rpowrat : ∀ rv nn d other r, ratCanon nn d = true → rpowrat n rv nn d other = .ok r → inv r = true
  -- `isExactNum sc` is `okBase (.mul sc sd)`: `inv` alone admits an Infty or NaN coefficient
  powerNum : ∀ rv sc sd coef d exp c' d', inv (.mul sc sd) = true → isExactNum sc = true →
    St coef d → NumOK exp →
    powerNum n rv sc sd coef d exp = .ok (c', d') → St c' d'
  powerNumLoop : ∀ rv l m coef d c' d', (∀ p ∈ l, inv p.1 = true ∧ inv p.2 = true ∧ factorOK p.1 p.2 = true) →
    m ≠ 0 → St coef d → powerNumLoop n rv l (.int m) coef d = .ok (c', d') → St c' d'
  powF : ∀ rv a b r, inv a = true → inv b = true → okBase a = true →
    powF n rv a b = .ok r → inv r = true
  -- after `okBase a`: the negated tests of the arms of `pow` before its tail, in their order: `b` is 0, `b` is 1,
  -- `a` is 0, `a` is 1, Number ** Integer, (Integer | Rational) ** Rational, Mul ** Number
  powGeneric : ∀ rv a b r, inv a = true → inv b = true → okBase a = true →
    isNumZero b = false → isIntLit b 1 = false → isIntLit a 0 = false → isIntLit a 1 = false →
    (a.isNum && isInteger b) = false → ((isInteger a || isRational a) && isRational b) = false →
    (isMul a && b.isNum) = false → powGeneric n rv a b = .ok r → inv r = true

end SymVerif.Arith
