import SymVerif.Lemmas.C26Add
/-!
Value of `trace`.  The lemmas about the accumulator run backwards (the FINAL accumulator has a value ⇒ the initial one
has, and they differ by the traces): one `other` atom makes the sum undefined, so only the end is known to be defined.
-/
namespace SymVerif.MatExpr
open MExpr

def trV (v : Val) : GQ := ∑ i ∈ Finset.range v.r, v.f i i

/-- the value a trace result stands for (`other` = a symbolic sum the model does not spell out) -/
def TraceRes.eval (env : Env) : TraceRes → Option GQ
  | .num q => some q
  | .dim s => some ((env.dim s : ℕ) : GQ)
  | .unev e => some (trV (valOf env e))
  | .other => none

/-- the sum of the atoms, if every one of them has a value -/
def evalAll (env : Env) : List TraceRes → Option GQ
  | [] => some 0
  | x :: xs =>
    match x.eval env, evalAll env xs with
    | some a, some b => some (a + b)
    | _, _ => none

/-- the value of an accumulator of `traceAcc`: the number plus the atoms; `none` as soon as one atom is `other` -/
def accVal (env : Env) (acc : GQ × List TraceRes) : Option GQ := (evalAll env acc.2).map (acc.1 + ·)

theorem natCast_eq (n : ℕ) : (⟨(n : ℚ), 0⟩ : GQ) = (n : GQ) := by
  induction n with
  | zero => ext <;> simp
  | succ m ih =>
    have h1 : ((m + 1 : ℕ) : GQ) = (m : GQ) + 1 := Nat.cast_succ m
    rw [h1, ← ih]
    ext <;> simp

theorem evalAll_snoc_eq (env : Env) (xs : List TraceRes) (x : TraceRes) :
    evalAll env (xs ++ [x]) =
      match evalAll env xs, x.eval env with
      | some a, some b => some (a + b)
      | _, _ => none := by
  induction xs with
  | nil =>
    simp only [List.nil_append, evalAll]
    cases x.eval env <;> simp
  | cons y ys ih =>
    simp only [List.cons_append, evalAll]
    rw [ih]
    cases y.eval env <;> cases evalAll env ys <;> cases x.eval env <;> simp [add_assoc]

theorem evalAll_snoc (env : Env) (xs : List TraceRes) (x : TraceRes) (s : GQ) :
    evalAll env (xs ++ [x]) = some s ↔
      ∃ a b, evalAll env xs = some a ∧ x.eval env = some b ∧ s = a + b := by
  rw [evalAll_snoc_eq]
  cases evalAll env xs <;> cases x.eval env <;> simp [eq_comm]

theorem accVal_step (env : Env) (acc : GQ × List TraceRes) (x : TraceRes) (a : GQ)
    (h : accVal env (traceAcc acc x) = some a) :
    ∃ a0 b, accVal env acc = some a0 ∧ x.eval env = some b ∧ a = a0 + b := by
  cases x with
  | num q =>
    simp only [traceAcc, accVal, Option.map_eq_some_iff] at h ⊢
    obtain ⟨s, hs, rfl⟩ := h
    exact ⟨acc.1 + s, q, ⟨s, hs, rfl⟩, rfl, by ring⟩
  | dim _ | unev _ | other =>
    simp only [traceAcc, accVal, Option.map_eq_some_iff] at h ⊢
    obtain ⟨s, hs, rfl⟩ := h
    obtain ⟨a0, b, h1, h2, rfl⟩ := (evalAll_snoc env _ _ _).1 hs
    exact ⟨acc.1 + a0, b, ⟨a0, h1, rfl⟩, h2, by ring⟩

theorem traceOfAcc_eval (env : Env) (acc : GQ × List TraceRes) (q : GQ)
    (h : (traceOfAcc acc).eval env = some q) : accVal env acc = some q := by
  obtain ⟨a, l⟩ := acc
  rcases l with _ | ⟨x, _ | ⟨y, t⟩⟩
  · simp [traceOfAcc, TraceRes.eval] at h
    simp [accVal, evalAll, h]
  · simp only [traceOfAcc] at h
    split at h
    · rename_i h0
      simp at h0; subst h0
      simp [accVal, evalAll, h]
    · simp [TraceRes.eval] at h
  · simp [traceOfAcc, TraceRes.eval] at h

theorem listSum_eq_range_sum (l : List GQ) : l.sum = ∑ i ∈ Finset.range l.length, l.getD i 0 := by
  induction l with
  | nil => simp
  | cons a t ih =>
    rw [List.length_cons, Finset.sum_range_succ', List.sum_cons, ih, add_comm]
    rfl

theorem map_range_sum (n : Nat) (g : Nat → GQ) :
    ((List.range n).map g).sum = ∑ i ∈ Finset.range n, g i := rfl

theorem eval_num {env : Env} {x q : GQ} {t : TraceRes} (h : (.ok (.num x) : Except Err TraceRes) = .ok t)
    (hq : t.eval env = some q) : q = x := by
  cases h; exact (Option.some.inj hq).symm

mutual
  theorem trace_value_aux (env : Env) : ∀ (e : MExpr) (t : TraceRes), traceM e = .ok t →
      okOf env e → (valOf env e).r = (valOf env e).c → ∀ q, t.eval env = some q →
      q = trV (valOf env e)
    | ident (.nat n), t, h, _, _, q, hq => by
      rw [eval_num h hq]
      have := natCast_eq n
      simp only [trV, valOf, Dim.eval, if_true, Finset.sum_const, Finset.card_range, nsmul_eq_mul,
        mul_one]
      exact this
    | ident (.sym s), t, h, _, _, q, hq => by
      simp [traceM] at h; subst h
      simp only [TraceRes.eval, Option.some.injEq] at hq; subst hq
      simp [trV, valOf, Dim.eval]
    | zero a b, t, h, _, _, q, hq => by
      simp only [traceM] at h
      split at h
      · rw [eval_num h hq]
        simp [trV, valOf]
      · simp at h
      · simp at h; subst h
        simpa [TraceRes.eval, eq_comm] using hq
    | diag d, t, h, _, _, q, hq => by
      rw [eval_num h hq]
      rw [← List.sum_eq_foldl, listSum_eq_range_sum]
      simp [trV, valOf]
    | dense r c v, t, h, _, _, q, hq => by
      simp only [traceM] at h
      split at h
      · simp at h
      · rw [eval_num h hq]
        rw [← List.sum_eq_foldl, map_range_sum]
        simp [trV, valOf]
    | add ts, t, h, hok, hsq, q, hq => by
      simp only [traceM, bind_ok] at h
      obtain ⟨l, hl, h⟩ := h
      simp [pure, Except.pure] at h; subst h
      obtain ⟨hne, hf⟩ := add_node_inv hok
      obtain ⟨hoks, hd⟩ := fits_iff.1 hf
      rw [← hsq] at hd
      have hacc : accVal env (l.foldl traceAcc (0, [])) = some q := traceOfAcc_eval env _ q hq
      obtain ⟨a0, ha0, hqa⟩ := trace_list_aux env (valOf env (add ts)).r ts l hl hoks hd (0, []) q hacc
      obtain rfl : 0 = a0 := by simpa [accVal, evalAll] using ha0
      rw [hqa]
      simp only [trV, add_f hne]; ring
    | sym _, t, h, _, _, q, hq | mul _ _, t, h, _, _, q, hq | had _, t, h, _, _, q, hq
    | transpose _, t, h, _, _, q, hq | conj _, t, h, _, _, q, hq => by
      simp [traceM] at h; subst h; simpa [TraceRes.eval, eq_comm] using hq
  theorem trace_list_aux (env : Env) (R : Nat) : ∀ (ts : List MExpr) (l : List TraceRes),
      traceList ts = .ok l → okAll env ts → AllDims R R (valsOf env ts) →
      ∀ (acc : GQ × List TraceRes) (a : GQ), accVal env (l.foldl traceAcc acc) = some a →
      ∃ a0, accVal env acc = some a0 ∧ a = a0 + ∑ i ∈ Finset.range R, S env ts i i
    | [], l, h, _, _, acc, a, ha => by
      simp [traceList] at h; subst h
      exact ⟨a, by simpa using ha, by simp [S_nil]⟩
    | t :: rest, l, h, hok, hd, acc, a, ha => by
      obtain ⟨x, l', hx, hl', rfl⟩ := consM_ok (by simpa only [traceList] using h)
      have hd' : ((valOf env t).r = R ∧ (valOf env t).c = R) ∧ AllDims R R (valsOf env rest) := by
        simpa [valsOf, allDims_cons] using hd
      simp only [List.foldl_cons] at ha
      obtain ⟨a1, h1, hrest⟩ := trace_list_aux env R rest l' hl' hok.2 hd'.2 _ a ha
      obtain ⟨a0, b, h3, h4, hstep⟩ := accVal_step env acc x a1 h1
      have hhead := trace_value_aux env t x hx hok.1 (hd'.1.1.trans hd'.1.2.symm) b h4
      refine ⟨a0, h3, ?_⟩
      -- a = a1 + Σ rest, a1 = a0 + b, b = trV t
      rw [hrest, hstep, hhead]
      simp only [S_cons, Finset.sum_add_distrib, trV, hd'.1.1]
      ring
end

end SymVerif.MatExpr

namespace SymVerif.C26
open SymVerif.MatExpr SymVerif.MatExpr.MExpr

/-- a DomainError of `trace` on a leaf means that the value is not square -/
theorem trace_domain_sound (env : Env) :
    (∀ a b, traceM (zero a b) = .error .domain → ¬ (valOf env (zero a b)).IsSquare) ∧
    (∀ r c v, traceM (dense r c v) = .error .domain → ¬ (valOf env (dense r c v)).IsSquare) := by
  constructor
  · intro a b h
    simp only [traceM] at h
    split at h
    · simp at h
    · next hf => exact dimMatch_f hf
    · simp at h
  · intro r c v h
    simp only [traceM] at h
    split at h
    · exact ‹r ≠ c›
    · simp at h

end SymVerif.C26
