/-
Facts about `Except`, `if`, association lists, `List.set`, `List.range`, sorted lists and row-major indices that
several properties use and that do not mention the model.  Core Lean only, so that every property can import this file.
`List.mem_of_lookup`, `List.sum_map_set`, `List.le_sum_map` are declared in the root namespace `List`; core has none of them.
-/
namespace SymVerif

theorem bind_ok {ε α β : Type} {x : Except ε α} {f : α → Except ε β} {b : β} :
    (x >>= f) = .ok b ↔ ∃ a, x = .ok a ∧ f a = .ok b := by
  cases x with
  | error e => exact ⟨nofun, fun ⟨_, h, _⟩ => nomatch h⟩
  | ok a => exact ⟨fun h => ⟨a, rfl, h⟩, fun ⟨_, h, h'⟩ => by cases h; exact h'⟩

theorem bind_eq_ok {ε α β : Type} {x : Except ε α} {f : α → Except ε β} {b : β} (h : (x >>= f) = .ok b) :
    ∃ a, x = .ok a ∧ f a = .ok b := bind_ok.mp h

theorem else_of_ite_eq {α : Type} {c : Prop} [Decidable c] {a b x : α} (hne : a ≠ x)
    (h : (if c then a else b) = x) : b = x := by
  by_cases hc : c
  · rw [if_pos hc] at h; exact absurd h hne
  · rwa [if_neg hc] at h

theorem _root_.List.mem_of_lookup {α β : Type} [BEq α] [LawfulBEq α] {l : List (α × β)} {k : α} {v : β}
    (h : l.lookup k = some v) : (k, v) ∈ l := by
  obtain ⟨l₁, l₂, rfl, _⟩ := List.lookup_eq_some_iff.mp h
  exact List.mem_append_right _ List.mem_cons_self

theorem _root_.List.sum_map_set {α : Type} (f : α → Nat) {l : List α} {i : Nat} {b : α} (a : α) (h : l[i]? = some b) :
    ((l.set i a).map f).sum + f b = (l.map f).sum + f a := by
  induction l generalizing i with
  | nil => simp at h
  | cons x xs ih =>
    cases i with
    | zero =>
      simp only [List.getElem?_cons_zero, Option.some.injEq] at h
      subst h
      simp only [List.set_cons_zero, List.map_cons, List.sum_cons]; omega
    | succ i =>
      simp only [List.getElem?_cons_succ] at h
      simp only [List.set_cons_succ, List.map_cons, List.sum_cons]
      have := ih h
      omega

theorem _root_.List.le_sum_map {α : Type} (f : α → Nat) {l : List α} {i : Nat} {b : α} (h : l[i]? = some b) :
    f b ≤ (l.map f).sum := by
  induction l generalizing i with
  | nil => simp at h
  | cons x xs ih =>
    simp only [List.map_cons, List.sum_cons]
    cases i with
    | zero =>
      simp only [List.getElem?_cons_zero, Option.some.injEq] at h
      exact h ▸ Nat.le_add_right _ _
    | succ i => exact Nat.le_trans (ih (by simpa using h)) (Nat.le_add_left _ _)

theorem getD_map_range {α : Type} (f : Nat → α) (n k : Nat) (d : α) :
    ((List.range n).map f).getD k d = if k < n then f k else d := by
  by_cases h : k < n <;> simp [List.getD, h]

theorem lt_of_getElem? {α : Type} {l : List α} {i : Nat} {a : α} (h : l[i]? = some a) : i < l.length :=
  (List.getElem?_eq_some_iff.mp h).1

/-- core's `List.count_set` with the old entry `y` added on the left instead of subtracted (truncated) on the right -/
theorem count_set' {α : Type} [BEq α] [LawfulBEq α] {l : List α} {i : Nat} {y : α} (x a : α) (hi : l[i]? = some y) :
    (l.set i x).count a + (if y == a then 1 else 0) = l.count a + (if x == a then 1 else 0) := by
  obtain ⟨hlt, rfl⟩ := List.getElem?_eq_some_iff.mp hi
  rw [List.count_set hlt]
  have : (if l[i] == a then 1 else 0) ≤ l.count a := by
    split
    · next e => exact List.count_pos_iff.mpr (eq_of_beq e ▸ List.getElem_mem hlt)
    · exact Nat.zero_le _
  omega

theorem forall_set {α : Type} {l : List α} {i : Nat} {a : α} {P : Nat → α → Prop}
    (h : ∀ j b, l[j]? = some b → P j b) (ha : P i a) : ∀ j b, (l.set i a)[j]? = some b → P j b := by
  intro j b hb
  rw [List.getElem?_set] at hb
  by_cases e : i = j
  · rw [if_pos e] at hb
    split at hb
    · cases hb
      exact e ▸ ha
    · cases hb
  · rw [if_neg e] at hb
    exact h j b hb

theorem exists_of_sum_map_pos {α : Type} (f : α → Nat) :
    ∀ l : List α, 0 < (l.map f).sum → ∃ (k : Nat) (a : α), l[k]? = some a ∧ 0 < f a
  | [], h => by simp at h
  | a :: l, h => by
    by_cases ha : 0 < f a
    · exact ⟨0, a, rfl, ha⟩
    · obtain ⟨k, b, hk, hb⟩ := exists_of_sum_map_pos f l (by simp at h ha; omega)
      exact ⟨k + 1, b, hk, hb⟩

/-- a list strictly sorted by an asymmetric relation (the iteration order of a `std::set` or `std::map`) is
determined by its members -/
theorem pairwise_ext {α : Type} {R : α → α → Prop} {l₁ l₂ : List α}
    (asy : ∀ a ∈ l₁, ∀ b ∈ l₂, R a b → ¬ R b a) (h1 : l₁.Pairwise R) (h2 : l₂.Pairwise R)
    (h : ∀ x, x ∈ l₁ ↔ x ∈ l₂) : l₁ = l₂ :=
  have irr : ∀ a ∈ l₁, ¬ R a a := fun a ha r => asy a ha a ((h a).1 ha) r r
  have nd : ∀ {l : List α}, (∀ a ∈ l, a ∈ l₁) → l.Pairwise R → l.Nodup := fun hm hl =>
    hl.imp_of_mem (fun {a b} _ hb (hab : R a b) (e : a = b) => irr b (hm b hb) (e ▸ hab))
  ((List.perm_ext_iff_of_nodup (nd (fun _ => id) h1) (nd (fun a => (h a).mpr) h2)).2 h).eq_of_pairwise
    (fun a b ha hb hab hba => absurd hba (asy a ha b hb hab)) h1 h2

theorem idx_lt {rows cols i j : Nat} (hi : i < rows) (hj : j < cols) : i * cols + j < rows * cols :=
  calc i * cols + j < i * cols + cols := Nat.add_lt_add_left hj _
    _ = (i + 1) * cols := (Nat.succ_mul i cols).symm
    _ ≤ rows * cols := Nat.mul_le_mul_right cols hi

theorem idx_div_mod {cols i j : Nat} (hj : j < cols) : (i * cols + j) / cols = i ∧ (i * cols + j) % cols = j := by
  have hc : 0 < cols := Nat.lt_of_le_of_lt (Nat.zero_le j) hj
  rw [Nat.mul_comm i cols]
  exact ⟨by rw [Nat.mul_add_div hc, Nat.div_eq_of_lt hj, Nat.add_zero],
    by rw [Nat.mul_add_mod, Nat.mod_eq_of_lt hj]⟩

theorem idx_inj {cols i j i' j' : Nat} (hj : j < cols) (hj' : j' < cols) (h : i * cols + j = i' * cols + j') :
    i = i' ∧ j = j' := by
  have a := idx_div_mod (i := i) hj
  have b := idx_div_mod (i := i') hj'
  rw [h] at a
  exact ⟨a.1.symm.trans b.1, a.2.symm.trans b.2⟩

end SymVerif
