import SymVerif.Lemmas.C25Coo
import SymVerif.Lemmas.C25Canon
/-!
C25 — `CSRMatrix::transpose`: counting sort by column.  The scatter is the stable distribution of
`Buckets.put`, so row `c` of the result is the list of the pairs `(r, value)` of column `c`, row
after row; that this list is a row and what it sums to is list algebra (`trRows_list`).
-/
namespace SymVerif.C25
open SymVerif.CSR Finset

/-- number of stored positions in `[i, N)` whose column index is `c` -/
def cntFrom (j : Array Nat) (N i c : Nat) : Nat := ∑ k ∈ Ico i N, if j[k]! = c then 1 else 0

theorem cntFrom_peel (j : Array Nat) (N i c : Nat) (h : i < N) :
    cntFrom j N i c = (if j[i]! = c then 1 else 0) + cntFrom j N (i + 1) c := by
  unfold cntFrom
  rw [Finset.sum_eq_sum_Ico_succ_bot h]

theorem starts_col (j : Array Nat) (N col : Nat) (h : ∀ k, k < N → j[k]! < col) :
    starts (cntFrom j N 0) col = N := by
  unfold starts cntFrom
  rw [Finset.sum_comm]
  have : ∀ k ∈ Ico 0 N, (∑ c ∈ Ico 0 col, if j[k]! = c then 1 else 0) = 1 := by
    intro k hk
    rw [Finset.mem_Ico] at hk
    rw [Finset.sum_ite_eq (Ico 0 col) j[k]! (fun _ => 1)]
    have := h k hk.2
    simp [this]
  rw [Finset.sum_congr rfl this]
  simp

theorem colCount_spec (j : Array Nat) :
    ∀ n i (p : Array Nat), i + n ≤ j.size → (∀ k, k < j.size → j[k]! + 1 < p.size) →
      ∃ p', colCount j n i p = .ok p' ∧ p'.size = p.size ∧
        ∀ r, r < p.size → p'[r]! = p[r]! + ∑ k ∈ Ico i (i + n), if j[k]! + 1 = r then 1 else 0 := by
  intro n
  induction n with
  | zero => intro i p _ _; exact ⟨p, rfl, rfl, fun r _ => by simp⟩
  | succ n ih =>
    intro i p hin hp
    have hi : i < j.size := by omega
    have hin' : i + 1 + n ≤ j.size := by omega
    have hc := hp i hi
    unfold colCount
    simp only [rd_lt hi, ok_bind, rd_lt hc, wr_lt _ hc]
    obtain ⟨p', e, s, g⟩ := ih (i + 1) (p.set (j[i]! + 1) (p[j[i]! + 1]! + 1) hc) hin'
      (fun k hk => by rw [Array.size_set]; exact hp k hk)
    rw [Array.size_set] at s g
    refine ⟨p', e, s, fun r hr => ?_⟩
    rw [g r hr, Finset.sum_eq_sum_Ico_succ_bot (Nat.lt_add_of_pos_right (Nat.succ_pos n)),
      show i + 1 + n = i + (n + 1) by rw [Nat.add_assoc, Nat.add_comm 1 n]]
    by_cases hr1 : r = j[i]! + 1
    · subst hr1
      rw [set_get!_eq, if_pos rfl, Nat.add_assoc]
    · rw [set_get!_ne _ _ _ _ hr1, if_neg (Ne.symm hr1), Nat.zero_add]

theorem psumLoop_spec :
    ∀ n i acc (p : Array Nat), i + n ≤ p.size →
      ∃ p', psumLoop n i acc p = .ok p' ∧ p'.size = p.size ∧ (∀ r, r < i → p'[r]! = p[r]!) ∧
        ∀ r, i ≤ r → r < i + n → p'[r]! = acc + ∑ r' ∈ Ico i (r + 1), p[r']! := by
  intro n i acc p hsz
  obtain ⟨p', e, s, g1, _, g2⟩ := sweepAcc_spec psumLoop (out := fun _ s v => s + v) (next := (· + ·))
    (ok := fun _ _ => True) (S := fun k => acc + ∑ r' ∈ Ico i k, p[r']!) (h0 := fun _ _ _ => rfl)
    (hs := fun n l s a h _ => by rw [psumLoop]; simp only [rd_lt h, ok_bind, wr_lt _ h])
    n i p hsz (fun k hk _ => ⟨trivial, by rw [Finset.sum_Ico_succ_top hk, Nat.add_assoc]⟩)
  rw [Finset.Ico_self, Finset.sum_empty, Nat.add_zero] at e
  exact ⟨p', e, s, g1, fun r h1 h2 => by
    rw [g2 r h1 h2, Finset.sum_Ico_succ_top h1, Nat.add_assoc]⟩

/-- what row `r` contributes to row `c` of the transpose -/
def trPiece (c r : Nat) (l : List (Nat × Q)) : List (Nat × Q) :=
  (l.filter (·.1 = c)).map (fun a => (r, a.2))

theorem trPiece_cons (c r : Nat) (a : Nat × Q) (l : List (Nat × Q)) :
    trPiece c r (a :: l) = if a.1 = c then (r, a.2) :: trPiece c r l else trPiece c r l := by
  unfold trPiece
  by_cases h : a.1 = c <;> simp [h]

theorem rowSum_trPiece (c r r' : Nat) (l : List (Nat × Q)) :
    rowSum r' (trPiece c r l) = if r = r' then rowSum c l else 0 := by
  induction l with
  | nil => simp [trPiece]
  | cons a l ih =>
    obtain ⟨a1, a2⟩ := a
    rw [trPiece_cons, rowSum_cons]
    by_cases h : a1 = c
    · subst h
      rw [if_pos rfl, rowSum_cons, ih]
      by_cases h' : r = r'
      · subst h'; simp
      · simp [h', pairVal_ne _ h']
    · rw [if_neg h, ih, pairVal_ne _ h, zero_add]

theorem trPiece_sorted {c r : Nat} {l : List (Nat × Q)} (h : l.Pairwise (fun a b => a.1 < b.1)) :
    (trPiece c r l).Pairwise (fun a b => a.1 < b.1) := by
  unfold trPiece
  rw [List.pairwise_map]
  refine (h.filter _).imp_of_mem (fun {a b} ha hb hab => ?_)
  have ha' := (List.mem_filter.mp ha).2
  have hb' := (List.mem_filter.mp hb).2
  simp only [decide_eq_true_eq] at ha' hb'
  rw [ha', hb'] at hab
  exact absurd hab (Nat.lt_irrefl c)

theorem trRows_list (rows : Nat → List (Nat × Q)) (c : Nat) :
    ∀ n ri, (∀ r, ri ≤ r → r < ri + n → (rows r).Pairwise (fun a b => a.1 < b.1)) →
      ((List.range' ri n).flatMap (fun r => trPiece c r (rows r))).Pairwise (fun a b => a.1 < b.1) ∧
      (∀ a ∈ (List.range' ri n).flatMap (fun r => trPiece c r (rows r)), ri ≤ a.1 ∧ a.1 < ri + n) ∧
      ∀ r, rowSum r ((List.range' ri n).flatMap (fun r => trPiece c r (rows r)))
        = if ri ≤ r ∧ r < ri + n then rowSum c (rows r) else 0 := by
  intro n
  induction n with
  | zero => intro ri _; simp
  | succ n ih =>
    intro ri h
    obtain ⟨hsorted, hrange, hsum⟩ := ih (ri + 1) (fun r h1 h2 => h r (by omega) (by omega))
    have hkey : ∀ a ∈ trPiece c ri (rows ri), a.1 = ri := fun a ha => by
      obtain ⟨b, _, rfl⟩ := List.mem_map.mp ha; rfl
    rw [List.range'_succ, List.flatMap_cons]
    refine ⟨List.pairwise_append.mpr ⟨trPiece_sorted (h ri (Nat.le_refl _) (by omega)), hsorted,
      fun a ha b hb => by rw [hkey a ha]; exact (hrange b hb).1⟩, fun a ha => ?_, fun r => ?_⟩
    · rcases List.mem_append.mp ha with ha | ha
      · rw [hkey a ha]; omega
      · have := hrange a ha; omega
    · rw [rowSum_append, rowSum_trPiece, hsum r]
      by_cases h1 : ri = r
      · subst h1; simp
      · have : (ri ≤ r ∧ r < ri + (n + 1)) ↔ (ri + 1 ≤ r ∧ r < ri + 1 + n) := by omega
        simp only [h1, if_false, zero_add, this]

/-- the cursor of bucket `c` is `bs c + tmp[c]`, the `p[ci] + tmp[ci]` of the library; what a bucket still
expects are its columns among the positions from `i` on (`cntFrom … i`) -/
theorem trRow_spec {m : Mat} (hm : CanonCSR m) (p : Array Nat) (ri stop : Nat) (bs : Nat → Nat)
    (hbN : bs m.col ≤ m.j.size) (hp : ∀ c, c < m.col → p[c]! = bs c) (hps : m.col ≤ p.size)
    (hstop : stop ≤ m.j.size) :
    ∀ n i (tmp j : Array Nat) (x : Array Q) (L : Nat → List (Nat × Q)), i + n = stop →
      tmp.size = m.col → j.size = m.j.size → x.size = m.j.size →
      Buckets bs m.col (fun c => bs c + tmp[c]!) j x L (cntFrom m.j m.j.size i) →
      ∃ tmp' j' x', trRow m p ri n i tmp j x = .ok (tmp', j', x') ∧ tmp'.size = m.col ∧
        j'.size = m.j.size ∧ x'.size = m.j.size ∧
        Buckets bs m.col (fun c => bs c + tmp'[c]!) j' x'
          (fun c => L c ++ trPiece c ri (seg m.j m.x i stop))
          (cntFrom m.j m.j.size stop) := by
  intro n
  induction n with
  | zero =>
    intro i tmp j x L hin ht hj hx B
    have : i = stop := by omega
    subst this
    exact ⟨tmp, j, x, rfl, ht, hj, hx, B.congr (fun c _ => by rw [seg_self]; simp [trPiece])⟩
  | succ n ih =>
    intro i tmp j x L hin ht hj hx B
    have hlt : i < stop := by omega
    have hiN : i < m.j.size := Nat.lt_of_lt_of_le hlt hstop
    have a2 : i < m.x.size := hm.xsize ▸ hiN
    have hci : m.j[i]! < m.col := hm.jlt i hiN
    have a3 : m.j[i]! < p.size := Nat.lt_of_lt_of_le hci hps
    have a4 : m.j[i]! < tmp.size := ht ▸ hci
    -- position `i` itself is still expected by its bucket, so that cursor is inside the arrays
    have hrest : 0 < cntFrom m.j m.j.size i m.j[i]! := by
      rw [cntFrom_peel m.j m.j.size i _ hiN, if_pos rfl]; omega
    have hkN : bs m.j[i]! + tmp[m.j[i]!]! < m.j.size := Nat.lt_of_lt_of_le (B.cur_lt hci hrest) hbN
    have a5 : bs m.j[i]! + tmp[m.j[i]!]! < j.size := hj ▸ hkN
    have a6 : bs m.j[i]! + tmp[m.j[i]!]! < x.size := hx ▸ hkN
    unfold trRow
    simp only [rd_lt hiN, ok_bind, rd_lt a3, rd_lt a4, hp _ hci, wr_lt _ a5, rd_lt a2, wr_lt _ a6,
      wr_lt _ a4]
    obtain ⟨tmp', j', x', e, s1, s2, s3, B'⟩ :=
      ih (i + 1) (tmp.set m.j[i]! (tmp[m.j[i]!]! + 1) a4) _ _
        (fun c => if c = m.j[i]! then L m.j[i]! ++ [(ri, m.x[i]!)] else L c) (by omega)
        (by rw [Array.size_set]; exact ht) (by rw [Array.size_set]; exact hj)
        (by rw [Array.size_set]; exact hx)
        (B.put hci (ri, m.x[i]!) a5 a6
          (hcur := fun c _ => by
            show bs c + _ = _
            rw [set_get!]
            by_cases h : c = m.j[i]!
            · rw [if_pos h, if_pos h, h]; rfl
            · rw [if_neg h, if_neg h])
          (hrest := fun c _ => cntFrom_peel m.j m.j.size i c hiN) (hL := fun c _ => rfl))
    refine ⟨tmp', j', x', e, s1, s2, s3, B'.congr (fun c _ => ?_)⟩
    rw [seg_cons hlt, trPiece_cons]
    by_cases h : c = m.j[i]!
    · subst h; simp
    · rw [if_neg h, if_neg (Ne.symm h)]

theorem trRows_spec {m : Mat} (hm : CanonCSR m) (p : Array Nat) (bs : Nat → Nat)
    (hbN : bs m.col ≤ m.j.size)
    (hp : ∀ c, c < m.col → p[c]! = bs c) (hps : m.col ≤ p.size) :
    ∀ n ri (tmp j : Array Nat) (x : Array Q) (L : Nat → List (Nat × Q)), ri + n = m.row →
      tmp.size = m.col → j.size = m.j.size → x.size = m.j.size →
      Buckets bs m.col (fun c => bs c + tmp[c]!) j x L (cntFrom m.j m.j.size m.p[ri]!) →
      ∃ tmp' j' x', trRows m p n ri tmp j x = .ok (tmp', j', x') ∧ j'.size = m.j.size ∧
        x'.size = m.j.size ∧
        ∀ c, c < m.col → seg j' x' (bs c) (bs (c + 1))
          = L c ++ (List.range' ri n).flatMap (fun r => trPiece c r (rowL m r)) := by
  intro n
  induction n with
  | zero =>
    intro ri tmp j x L hin _ hj hx B
    have : ri = m.row := by omega
    subst this
    refine ⟨tmp, j, x, rfl, hj, hx, fun c hc => ?_⟩
    have hdone : cntFrom m.j m.j.size m.p[m.row]! c = 0 := by
      rw [hm.plast, cntFrom, Finset.Ico_self, Finset.sum_empty]
    rw [B.full hc hdone, List.range'_zero, List.flatMap_nil, List.append_nil]
  | succ n ih =>
    intro ri tmp j x L hin ht hj hx B
    have hri : ri < m.row := by omega
    have hr := hm.row_le hri
    unfold trRows
    simp only [(hm.rd_row hri).1, (hm.rd_row hri).2, ok_bind]
    obtain ⟨tmp1, j1, x1, e1, s1, s2, s3, B1⟩ :=
      trRow_spec hm p ri m.p[ri + 1]! bs hbN hp hps hr.2
        (m.p[ri + 1]! - m.p[ri]!) m.p[ri]! tmp j x L (Nat.add_sub_cancel' hr.1) ht hj hx B
    simp only [e1, ok_bind]
    obtain ⟨tmp', j', x', e2, t2, t3, f⟩ := ih (ri + 1) tmp1 j1 x1 _ (by omega) s1 s2 s3 B1
    refine ⟨tmp', j', x', e2, t2, t3, fun c hc => ?_⟩
    rw [f c hc, List.range'_succ, List.flatMap_cons, List.append_assoc]
    rfl

/-- `colCount` counts column `c` at index `c + 1`, so the inclusive running sum from index 1 leaves
at `r` the start of bucket `r`.  The two calls are stated as `transpose` makes them -/
theorem colPtr_spec {m : Mat} (hm : CanonCSR m) :
    ∃ p1 p2, colCount m.j m.j.size 0 (Array.replicate (m.col + 1) 0) = .ok p1 ∧
      p1.size = m.col + 1 ∧ psumLoop (p1.size - 1) 1 p1[0]! p1 = .ok p2 ∧ p2.size = m.col + 1 ∧
      ∀ r, r ≤ m.col → p2[r]! = starts (cntFrom m.j m.j.size 0) r := by
  obtain ⟨p1, e1, s1, g1⟩ := colCount_spec m.j m.j.size 0 (Array.replicate (m.col + 1) 0)
    (Nat.le_of_eq (Nat.zero_add _))
    (fun k hk => by rw [Array.size_replicate]; exact Nat.succ_lt_succ (hm.jlt k hk))
  rw [Array.size_replicate] at s1 g1
  have g1' : ∀ r, r ≤ m.col → p1[r]! = ∑ k ∈ Ico 0 m.j.size, if m.j[k]! + 1 = r then 1 else 0 := by
    intro r hr
    rw [g1 r (Nat.lt_succ_of_le hr), replicate_get! _ _ _ (Nat.lt_succ_of_le hr), Nat.zero_add,
      Nat.zero_add]
  have hp10 : p1[0]! = 0 := by
    rw [g1' 0 (Nat.zero_le _)]
    exact Finset.sum_eq_zero (fun k _ => if_neg (Nat.succ_ne_zero _))
  have hp1c : ∀ c, c < m.col → p1[c + 1]! = cntFrom m.j m.j.size 0 c := by
    intro c hc
    rw [g1' (c + 1) hc]
    exact Finset.sum_congr rfl (fun k _ => by simp only [Nat.add_right_cancel_iff])
  obtain ⟨p2, e2, s2, g20, g2⟩ := psumLoop_spec (p1.size - 1) 1 p1[0]! p1 (by omega)
  refine ⟨p1, p2, e1, s1, e2, s2.trans s1, fun r hr => ?_⟩
  cases r with
  | zero => rw [g20 0 Nat.zero_lt_one, hp10]; rfl
  | succ r =>
    rw [g2 (r + 1) (Nat.succ_pos r) (by omega), hp10, Nat.zero_add]
    unfold starts
    rw [(Finset.sum_Ico_add' (fun r' => p1[r']!) 0 (r + 1) 1).symm]
    exact Finset.sum_congr rfl (fun c hc =>
      hp1c c (Nat.lt_of_lt_of_le (Finset.mem_Ico.mp hc).2 hr))

theorem transpose_spec {m : Mat} (hm : CanonCSR m) :
    ∃ t, transpose m = .ok t ∧ CanonCSR t ∧ t.row = m.col ∧ t.col = m.row ∧
      ∀ c r, c < m.col → r < m.row → dense t c r = dense m r c := by
  obtain ⟨p1, p2, e1, s1, e2, s2, g2'⟩ := colPtr_spec hm
  have hbcol := starts_col m.j m.j.size m.col hm.jlt
  obtain ⟨hp0, hplast, hpmono⟩ := starts_ptr g2' hbcol
  have hz : ∀ c, c < m.col → starts (cntFrom m.j m.j.size 0) c + (Array.replicate m.col 0)[c]!
      = starts (cntFrom m.j m.j.size 0) c := fun c hc => by rw [replicate_get! _ _ _ hc, Nat.add_zero]
  obtain ⟨tmp', j', x', e3, t2, t3, f⟩ :=
    trRows_spec hm p2 (starts (cntFrom m.j m.j.size 0)) (Nat.le_of_eq hbcol)
      (fun c hc => g2' c (Nat.le_of_lt hc)) (s2 ▸ Nat.le_succ _)
      m.row 0 (Array.replicate m.col 0) (Array.replicate m.j.size 0) (Array.replicate m.j.size 0)
      (fun _ => []) (Nat.zero_add _) Array.size_replicate Array.size_replicate Array.size_replicate
      (Buckets.start hz (fun _ _ => by rw [hm.p0]))
  have hrow : ∀ c, c < m.col → seg j' x' p2[c]! p2[c + 1]!
      = (List.range' 0 m.row).flatMap (fun r => trPiece c r (rowL m r)) := fun c hc => by
    rw [g2' c (Nat.le_of_lt hc), g2' (c + 1) hc, f c hc, List.nil_append]
  have hlist := fun c => trRows_list (rowL m) c m.row 0
    (fun r _ hr => (hm.rowOk (by omega)).1)
  have hcanon : CanonCSR { row := m.col, col := m.row, p := p2, j := j', x := x' } :=
    CanonCSR.of_rows s2 (t3.trans t2.symm) hp0 (hplast.trans t2.symm) hpmono
      (fun c hc => by
        show RowOk m.row (seg j' x' p2[c]! p2[c + 1]!)
        rw [hrow c hc]
        obtain ⟨hsorted, hrange, -⟩ := hlist c
        exact ⟨hsorted, fun a ha => by have := (hrange a ha).2; omega⟩)
  unfold transpose
  have hne : ¬ p1.size = 0 := s1 ▸ Nat.succ_ne_zero _
  have h0 : 0 < p1.size := s1 ▸ Nat.succ_pos _
  simp only [e1, ok_bind, hne, if_false, rd_lt h0, e2, e3, mk_of_canon hcanon]
  refine ⟨_, rfl, hcanon, rfl, rfl, fun c r hc hr => ?_⟩
  rw [dense_eq_rowSum, dense_eq_rowSum]
  show rowSum r (seg j' x' p2[c]! p2[c + 1]!) = _
  obtain ⟨-, -, hsum⟩ := hlist c
  rw [hrow c hc, hsum r, if_pos ⟨Nat.zero_le r, by omega⟩]

end SymVerif.C25
