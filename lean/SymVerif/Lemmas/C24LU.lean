import SymVerif.Lemmas.C24Row
/-! The in-place Doolittle `LU` at the level of entries: the column loop ends in `ColEq`, the split in `RowDone`. -/
namespace SymVerif.Dense

/-- `init - Σ_{k<lim} row k * colv k`, accumulated left to right as the code does -/
def redF (row colv : Nat → X) (init : X) (lim : Nat) : X :=
  accF (fun k acc => X.sub acc (X.mul (row k) (colv k))) init lim

theorem redF_congr {row row' colv colv' : Nat → X} {init init' : X} {lim : Nat}
    (h1 : ∀ k, k < lim → row k = row' k) (h2 : ∀ k, k < lim → colv k = colv' k) (h3 : init = init') :
    redF row colv init lim = redF row' colv' init' lim := by
  subst h3
  unfold redF
  apply accF_congr
  intro k hk
  funext acc
  rw [h1 k hk, h2 k hk]

/-- the reduction of one cell is a single write of the accumulated value; `hlim` keeps the two cells read,
    `(i, k)` and `(k, j)`, apart from the cell `(i, j)` being accumulated (the side condition of `forN_cell0`) -/
theorem luReduce_spec (n j i lim : Nat) (m : Array X) (hs : m.size = n * n) (hi : i < n) (hj : j < n)
    (hlim : ∀ k, k < lim → k < n ∧ k ≠ i ∧ k ≠ j) :
    luReduce n j i lim m = wr m (i * n + j)
      (redF (fun k => cell m n i k) (fun k => cell m n k j) (cell m n i j) lim) := by
  refine forN_cell0 hi hj _ _ m hs lim fun k hk m' hs' hag => ?_
  obtain ⟨hkn, hki, hkj⟩ := hlim k hk
  rw [rd_cell hs' hi hj, rd_cell hs' hi hkn, rd_cell hs' hkn hj, hag i k hkn (fun e => hkj e.2),
    hag k j hj (fun e => hki e.1)]
  rfl

/-- the two reduction loops of a column are one loop with bound `min i j` -/
theorem luColumn_eq (n j : Nat) (m : Array X) (hj : j ≤ n) :
    luColumn n j m = (do
      let m ← forN n 0 (fun i m => luReduce n j i (min i j) m) m
      let scale := X.div X.one (← rd m (j * n + j))
      forR (j + 1) n (fun i m => do wr m (i * n + j) (X.mul (← rd m (i * n + j)) scale)) m) := by
  unfold luColumn
  rw [forN_split _ hj, forN_congr (fun i m => luReduce n j i (min i j) m) (fun i m => luReduce n j i i m) j 0 m
    (by intro k _ hk; funext m; rw [Nat.min_eq_left (by omega)])]
  cases h1 : forN j 0 (fun i m => luReduce n j i i m) m with
  | error er => rfl
  | ok m1 =>
    simp only [bind_ok, Nat.zero_add, forR]
    rw [forN_congr (fun i m => luReduce n j i (min i j) m) (fun i m => luReduce n j i j m) (n - j) j m1
      (by intro k hk _; funext m; rw [Nat.min_eq_right hk])]

theorem reduceLoop_spec (n j : Nat) (m : Array X) (hs : m.size = n * n) (hj : j < n) :
    ∃ m2, forN n 0 (fun i m => luReduce n j i (min i j) m) m = .ok m2 ∧ m2.size = n * n ∧
      (∀ i, i < n → cell m2 n i j =
        redF (fun k => cell m n i k) (fun k => cell m2 n k j) (cell m n i j) (min i j)) ∧
      (∀ i c, c < n → c ≠ j → cell m2 n i c = cell m n i c) := by
  obtain ⟨m2, hok, hs2, hq, hfr⟩ := gridLoop n n (fun i a b => a = i ∧ b = j)
    (fun i m' => cell m' n i j =
      redF (fun k => cell m n i k) (fun k => cell m' n k j) (cell m n i j) (min i j))
    (fun i m => luReduce n j i (min i j) m) m n 0 hs
    (fun i _ _ m1 m1' hag h => by
      -- rows `≤ i` of column `j` are not rewritten after iteration `i`
      have low : ∀ k, k ≤ i → cell m1' n k j = cell m1 n k j := fun k hk =>
        hag k j hj (fun k' h1 _ h => by omega)
      rw [low i (Nat.le_refl i), h]
      exact redF_congr (fun _ _ => rfl) (fun k hk => (low k (by omega)).symm) rfl)
    (fun i _ hi m1 hs1 hfr => by
      obtain ⟨m', hw, hs', hv, ho⟩ := wr_own hs1 hi hj
        (redF (fun k => cell m1 n i k) (fun k => cell m1 n k j) (cell m1 n i j) (min i j))
      -- `k < min i j`: the reduction reads only cells strictly above / left of `(i, j)`
      refine ⟨m', (luReduce_spec n j i (min i j) m1 hs1 hi hj
        (fun k hk => ⟨by omega, by omega, by omega⟩)).trans hw, hs', ?_, ho⟩
      rw [hv]
      refine redF_congr (fun k hk => ?_) (fun k hk => ?_) ?_
      · -- `(i, k)`, `k < j`: a column no iteration owns
        exact hfr i k (by omega) (fun _ _ _ h => by omega)
      · -- `(k, j)`, `k < i`: not the cell just written
        exact (ho k j hj (fun h => by omega)).symm
      · -- `(i, j)` is owned by iteration `i` alone
        exact hfr i j hj (fun _ _ _ h => by omega))
  exact ⟨m2, hok, hs2, fun i hi => hq i (Nat.zero_le i) hi,
    fun i c hc hne => hfr i c hc (fun _ _ _ h => hne h.2)⟩

/-- Column `c` of the table `w` satisfies the Doolittle recurrences w.r.t. the input table `a`: an equation
    in `w` (reduction by the rows above / columns left, division by the pivot below the diagonal).
    `X.mul _ (X.div X.one (w c c))` is the code's `scale = div(one, U[j][j]); U[i][j] = mul(U[i][j], scale)`,
    which on `X` is not a division by the pivot; `min i c` stands in both branches because `luColumn_eq`
    makes the two reduction loops one. -/
def ColEq (n : Nat) (a w : Nat → Nat → X) (c : Nat) : Prop :=
  ∀ i, i < n → w i c =
    if i ≤ c then redF (w i) (fun k => w k c) (a i c) (min i c)
    else X.mul (redF (w i) (fun k => w k c) (a i c) (min i c)) (X.div X.one (w c c))

theorem ColEq.of_le {n : Nat} {a w : Nat → Nat → X} {c i : Nat} (h : ColEq n a w c) (hi : i < n)
    (hic : i ≤ c) : w i c = redF (w i) (fun k => w k c) (a i c) (min i c) :=
  (h i hi).trans (if_pos hic)

theorem ColEq.of_lt {n : Nat} {a w : Nat → Nat → X} {c i : Nat} (h : ColEq n a w c) (hi : i < n)
    (hci : c < i) :
    w i c = X.mul (redF (w i) (fun k => w k c) (a i c) (min i c)) (X.div X.one (w c c)) :=
  (h i hi).trans (if_neg (Nat.not_le.mpr hci))

/-- `ColEq … c` reads column `c` of `a` and the columns `≤ c` of `w` only -/
theorem ColEq.congr {n : Nat} {a a' w w' : Nat → Nat → X} {c : Nat} (h : ColEq n a w c)
    (ha : ∀ i, i < n → a' i c = a i c) (hw : ∀ i k, k ≤ c → w' i k = w i k) : ColEq n a' w' c := by
  intro i hi
  rw [redF_congr (lim := min i c) (fun k hk => hw i k (by omega)) (fun k _ => hw k c (Nat.le_refl c)) (ha i hi),
    hw i c (Nat.le_refl c), hw c c (Nat.le_refl c)]
  exact h i hi

theorem luColumn_spec (n j : Nat) (m : Array X) (hs : m.size = n * n) (hj : j < n) :
    ∃ m', luColumn n j m = .ok m' ∧ m'.size = n * n ∧ ColEq n (cell m n) (cell m' n) j ∧
      ∀ i c, c < n → c ≠ j → cell m' n i c = cell m n i c := by
  rw [luColumn_eq n j m (Nat.le_of_lt hj)]
  obtain ⟨m2, h2, hs2, hv2, hfr2⟩ := reduceLoop_spec n j m hs hj
  -- the scale loop: rows `j + 1 ≤ i < n` of column `j`
  obtain ⟨m3, h3, hs3, hv3, hfr3⟩ := gridLoop1 n n (fun i => i) (fun _ => j)
    (fun i => X.mul (cell m2 n i j) (X.div X.one (cell m2 n j j)))
    (fun i m => do wr m (i * n + j) (X.mul (← rd m (i * n + j)) (X.div X.one (cell m2 n j j))))
    m2 (n := n - (j + 1)) (lo := j + 1) hs2
    (fun i _ hi => ⟨by omega, hj⟩) (fun _ _ _ h _ e => Nat.ne_of_lt h e.1)
    (fun i h1 hi m1 hs1 hfr => by
      rw [rd_cell hs1 (by omega) hj, hfr i j hj (fun _ _ _ h => by omega)]; rfl)
  have keep : ∀ i c, c < n → c ≠ j → cell m3 n i c = cell m n i c := fun i c hc hne =>
    (hfr3 i c hc (fun _ _ _ h => hne h.2)).trans (hfr2 i c hc hne)
  refine ⟨m3, by simp only [h2, bind_ok, rd_cell hs2 hj hj, forR, h3], hs3, fun i hi => ?_, keep⟩
  -- rows `≤ j` of column `j` are those of `m2`
  have low : ∀ k, k ≤ j → cell m3 n k j = cell m2 n k j := fun k hk =>
    hfr3 k j hj (fun _ h1 _ h => by omega)
  -- the right side of `ColEq`: `m3` is `m` left of column `j` and `m2` on the rows `≤ j` of column `j`, so it is `hv2`'s
  rw [redF_congr (lim := min i j) (fun k hk => keep i k (by omega) (by omega)) (fun k hk => low k (by omega)) rfl,
    ← hv2 i hi, low j (Nat.le_refl j)]
  show cell m3 n i j = if i ≤ j then cell m2 n i j else X.mul (cell m2 n i j) (X.div X.one (cell m2 n j j))
  by_cases hij : i ≤ j
  · rw [if_pos hij]; exact low i hij
  · rw [if_neg hij]; exact hv3 i (by omega) (by omega)

theorem luLoop_spec (n : Nat) (A : Array X) (hs : A.size = n * n) :
    ∃ W, forN n 0 (fun j m => luColumn n j m) A = .ok W ∧ W.size = n * n ∧
      ∀ c, c < n → ColEq n (cell A n) (cell W n) c := by
  obtain ⟨W, hok, hsW, hq, _⟩ := gridLoop n n (fun c _ b => b = c)
    (fun c m => ColEq n (cell A n) (cell m n) c) (fun j m => luColumn n j m) A n 0 hs
    (fun c _ hc m m' hag h => h.congr (fun _ _ => rfl) fun a b hb =>
      hag a b (by omega) (fun k' h1 _ h => by omega))
    (fun j _ hj m hsm hfr => by
      obtain ⟨m', hm', hs', hcol, keep⟩ := luColumn_spec n j m hsm hj
      exact ⟨m', hm', hs', hcol.congr (fun a _ => (hfr a j hj (fun _ _ _ h => by omega)).symm)
        (fun _ _ _ => rfl), keep⟩)
  exact ⟨W, hok, hsW, fun c hc => hq c (Nat.zero_le c) hc⟩

/-- the entries `splitLU` leaves in row `i` of `L` and `U` -/
def RowDone (n : Nat) (um l u : Array X) (i : Nat) : Prop :=
  ∀ j, j < n →
    cell l n i j = (if j < i then cell um n i j else if j = i then X.one else X.zero) ∧
    cell u n i j = (if j < i then X.zero else cell um n i j)

/-- `a` is `a0` with the positions below `b` overwritten by `V` (`splitLU` fills a pair of arrays, in
    increasing order of position; `gridLoop` takes one array) -/
def Swept (V : Nat → X) (a0 a : Array X) (b : Nat) : Prop :=
  a.size = a0.size ∧ ∀ t, a.getD t X.unk = if t < b then V t else a0.getD t X.unk

theorem Swept.refl (V : Nat → X) (a0 : Array X) : Swept V a0 a0 0 :=
  ⟨rfl, fun t => (if_neg (Nat.not_lt_zero t)).symm⟩

theorem Swept.set {V : Nat → X} {a0 a : Array X} {b : Nat} (h : Swept V a0 a b) (hb : b < a.size)
    {v : X} (hv : v = V b) : Swept V a0 (a.set b v hb) (b + 1) := by
  refine ⟨by rw [Array.size_set]; exact h.1, fun t => ?_⟩
  rw [getD_set, h.2 t]
  by_cases e : t = b
  · rw [if_pos e, if_pos (e ▸ Nat.lt_succ_self b), e, hv]
  · rw [if_neg e]
    by_cases l : t < b
    · rw [if_pos l, if_pos (Nat.lt_succ_of_lt l)]
    · rw [if_neg l, if_neg (fun h => l (Nat.lt_of_le_of_ne (Nat.le_of_lt_succ h) e))]

theorem Swept.skip {V : Nat → X} {a0 a : Array X} {b b' : Nat} (h : Swept V a0 a b) (hbb : b ≤ b')
    (hV : ∀ t, b ≤ t → t < b' → V t = a0.getD t X.unk) : Swept V a0 a b' := by
  refine ⟨h.1, fun t => ?_⟩
  rw [h.2 t]
  by_cases l : t < b
  · rw [if_pos l, if_pos (Nat.lt_of_lt_of_le l hbb)]
  · rw [if_neg l]
    by_cases l' : t < b'
    · rw [if_pos l', hV t (Nat.le_of_not_lt l) l']
    · rw [if_neg l']

theorem splitLU_spec (n : Nat) (um lm : Array X) (hu : um.size = n * n) (hl : lm.size = n * n) :
    ∃ l u, splitLU n um lm = .ok (l, u) ∧ l.size = n * n ∧ u.size = n * n ∧
      ∀ i, i < n → RowDone n um l u i := by
  -- both arrays are swept front to back; `LV t`, `UV t` are what position `t` ends with
  let LV : Nat → X := fun t =>
    if t % n < t / n then um.getD t X.unk else if t % n = t / n then X.one else X.zero
  let UV : Nat → X := fun t => if t % n < t / n then X.zero else um.getD t X.unk
  have hLV : ∀ i j, j < n →
      LV (i * n + j) = if j < i then cell um n i j else if j = i then X.one else X.zero := by
    intro i j hj; simp only [LV, idx_div_mod hj]; rfl
  have hUV : ∀ i j, j < n → UV (i * n + j) = if j < i then X.zero else cell um n i j := by
    intro i j hj; simp only [UV, idx_div_mod hj]; rfl
  -- the invariant of all three loops
  let P : Nat → Array X × Array X → Prop := fun b s => Swept LV lm s.1 b ∧ Swept UV um s.2 b
  have h : ∃ s, splitLU n um lm = .ok s ∧ _ :=
    forN_spec _ (fun i s => P (i * n) s) n 0 (lm, um)
    ⟨(Nat.zero_mul n).symm ▸ Swept.refl LV lm, (Nat.zero_mul n).symm ▸ Swept.refl UV um⟩ ?rowStep
  case rowStep =>
    -- row `i`, its three loops in program order
    intro i s _ hi hP
    simp only [Nat.zero_add] at hi
    obtain ⟨l0, u0⟩ := s
    obtain ⟨hL, hU⟩ := hP
    have hq := forN_spec (fun j (s : Array X × Array X) => do
        let l ← wr s.1 (i * n + j) (← rd s.2 (i * n + j))
        let u ← wr s.2 (i * n + j) X.zero
        pure (l, u)) (fun j s => P (i * n + j) s) i 0 (l0, u0) ⟨hL, hU⟩ ?colStep
    case colStep =>
      -- columns `j < i`: the entry moves from `U` to `L`
      intro j s _ hj hQ
      simp only [Nat.zero_add] at hj
      obtain ⟨l, u⟩ := s
      obtain ⟨qL, qU⟩ := hQ
      have hjn : j < n := Nat.lt_trans hj hi
      have hl' : i * n + j < l.size := by rw [qL.1, hl]; exact idx_lt hi hjn
      have hu' : i * n + j < u.size := by rw [qU.1, hu]; exact idx_lt hi hjn
      refine ⟨(l.set (i * n + j) (u.getD (i * n + j) X.unk) hl', u.set (i * n + j) X.zero hu'), ?_,
        qL.set hl' ?_, qU.set hu' ?_⟩
      · rw [rd_getD hu']; simp only [bind_ok, wr_ok _ hl', wr_ok _ hu']; rfl
      · rw [qU.2, if_neg (Nat.lt_irrefl _), hLV i j hjn, if_pos hj]; rfl
      · rw [hUV i j hjn, if_pos hj]
    obtain ⟨⟨l1, u1⟩, hok1, hL1, hU1⟩ := hq
    simp only [Nat.zero_add] at hL1 hU1
    -- the diagonal of `L` is one
    have hii : i * n + i < l1.size := by rw [hL1.1, hl]; exact idx_lt hi hi
    have hL2 := hL1.set hii (v := X.one) (by rw [hLV i i hi, if_neg (Nat.lt_irrefl i), if_pos rfl])
    -- columns `j > i` of `L` are zero; those of `U` stay
    obtain ⟨l3, hok3, hL3⟩ := forN_spec (fun j l => wr l (i * n + j) X.zero)
      (fun j l => Swept LV lm l (i * n + j)) (n - (i + 1)) (i + 1) _ hL2 (fun j l hj1 hj2 qL => by
        have hjn : j < n := by omega
        have hlt : i * n + j < l.size := by rw [qL.1, hl]; exact idx_lt hi hjn
        exact ⟨_, wr_ok _ hlt, qL.set hlt (by rw [hLV i j hjn, if_neg (by omega), if_neg (by omega)])⟩)
    have e : i * n + (i + 1 + (n - (i + 1))) = (i + 1) * n := by
      rw [Nat.add_sub_cancel' hi, Nat.succ_mul]
    refine ⟨(l3, u1), ?_, e ▸ hL3, hU1.skip (by rw [Nat.succ_mul]; omega) fun t h1 h2 => ?_⟩
    · simp only [hok1, bind_ok, wr_ok _ hii, forR, hok3]; rfl
    · rw [Nat.succ_mul] at h2
      obtain ⟨j, rfl⟩ : ∃ j, t = i * n + j := ⟨t - i * n, by omega⟩
      rw [hUV i j (by omega), if_neg (by omega)]; rfl
  obtain ⟨⟨l, u⟩, hok, hL, hU⟩ := h
  simp only [Nat.zero_add] at hL hU
  refine ⟨l, u, hok, hL.1.trans hl, hU.1.trans hu, fun i hi j hj => ?_⟩
  exact ⟨(hL.2 _).trans ((if_pos (idx_lt hi hj)).trans (hLV i j hj)),
    (hU.2 _).trans ((if_pos (idx_lt hi hj)).trans (hUV i j hj))⟩

/-- `LU(A, L, U)` never leaves the storage on a well-formed square input, and its two results are
    the split of a combined storage `W` that satisfies the Doolittle recurrences column by column. -/
theorem luDecomp_spec (A : DM) (hA : A.wf) (hsq : A.row = A.col) :
    ∃ l u W, luDecomp A = .ok (⟨A.row, A.row, l⟩, ⟨A.row, A.row, u⟩) ∧
      l.size = A.row * A.row ∧ u.size = A.row * A.row ∧ W.size = A.row * A.row ∧
      (∀ c, c < A.row → ColEq A.row A.at (cell W A.row) c) ∧
      (∀ i, i < A.row → RowDone A.row W l u i) := by
  have hs : A.m.size = A.row * A.row := by rw [hA, ← hsq]
  obtain ⟨W, hW, hsW, hcol⟩ := luLoop_spec A.row A.m hs
  obtain ⟨l, u, hsp, hl, hu, hrows⟩ := splitLU_spec A.row W (DM.fresh A.row A.row).m hsW (fresh_size _ _)
  have hat : A.at = cell A.m A.row := by funext i j; rw [hsq]; rfl
  refine ⟨l, u, W, ?_, hl, hu, hsW, hat ▸ hcol, hrows⟩
  have hq : (A.row == A.col) = true := by simp [hsq]
  simp only [luDecomp, req_true hq, bind_ok, hW, hsp]
  rfl

end SymVerif.Dense
