/-
C04, max / min: grouping.  The loop over the operands is an accumulator (`mmAcc`), and re-reading a result
gives the loop state back (`mmState_build`: nested results are flattened and re-folded), hence every binary
bracketing of the operands evaluates to the n-ary function on the leaves (`evalT_acc_eq_nofuel` of Lemmas/C04Tree.lean).
-/
import SymVerif.Lemmas.C04MaxMin
import SymVerif.Lemmas.C04Tree

namespace SymVerif.AC
open SymVerif SymVerif.Arith

theorem setFold_nil_sorted {s : List Expr} (hs : SSorted s) : setFold [] s = s := by
  apply ssorted_ext (ssorted_setFold _ List.Pairwise.nil) hs
  intro x
  rw [mem_setFold]
  simp

theorem realNum_isNum {m : Expr} (h : realNumB m = true) : m.isNum = true := by
  cases m <;> first | rfl | cases h

theorem isMaxMin_num {isMax : Bool} {m : Expr} (h : m.isNum = true) : isMaxMin isMax m = none := by
  cases m <;> first | rfl | cases h

theorem itemOK_isMaxMin {isMax : Bool} {x : Expr} (h : itemOK isMax x = true) : isMaxMin isMax x = none := by
  unfold itemOK at h
  rcases Bool.or_eq_true _ _ |>.mp h with h | h
  · exact isMaxMin_num (realNum_isNum h)
  · simp only [Bool.and_eq_true, Option.isNone_iff_eq_none] at h
    exact h.2

theorem setInsert_perm : ∀ {s : List Expr} {a : Expr}, a ∉ s → (setInsert s a).Perm (a :: s)
  | [], a, _ => by simp [setInsert]
  | b :: r, a, h => by
    refine setInsert_cases (P := fun s => s.Perm (a :: b :: r)) (fun _ => List.Perm.refl _)
      (fun e => absurd (e ▸ List.mem_cons_self) h) (fun _ _ => ?_)
    exact ((setInsert_perm (fun hh => h (List.mem_cons_of_mem _ hh))).cons b).trans (List.Perm.swap a b r)

theorem numFold_single (isMax : Bool) (m : Expr) : numFold isMax none [m] = some m := rfl

theorem mmTail_operand {isMax : Bool} {S : List Expr} {r : Expr} (hall : ∀ x ∈ S, itemOK isMax x = true)
    (hb : mmTail isMax S = .ok r) : mmOperandOK isMax r = true ∧ items isMax [r] = S := by
  match S, hb, hall with
  | [], hb, _ => cases hb
  | [a], hb, hall =>
    cases hb
    have hnone := itemOK_isMaxMin (hall r List.mem_cons_self)
    exact ⟨by unfold mmOperandOK; rw [hnone]; exact hall r List.mem_cons_self, items_single_none hnone⟩
  | a :: b :: q, hb, hall =>
    cases hb
    have hname : isMaxMin isMax (.app (if isMax then "Max" else "Min") (a :: b :: q)) = some (a :: b :: q) := by
      simp [isMaxMin]
    exact ⟨by unfold mmOperandOK; rw [hname]; exact List.all_eq_true.mpr hall, items_single_some hname⟩

/-- the result of the loop is again a legal operand and re-reading it gives the same state -/
theorem mmState_build {isMax : Bool} {l : List Expr} {r : Expr} (h : ∀ a ∈ l, mmOperandOK isMax a = true)
    (hb : mmBuild isMax (mmState isMax l) = .ok r) :
    mmOperandOK isMax r = true ∧ mmState isMax [r] = mmState isMax l := by
  obtain ⟨hc, hs, hitems⟩ : MMN isMax (mmState isMax l) := (mmAcc isMax).foldl_N l (MMN_nil isMax) h
  generalize mmState isMax l = st at hb hc hs hitems
  obtain ⟨c, s⟩ := st
  simp only at hc hs hitems
  have hsn : ∀ x ∈ s, x.isNum = false := fun x hx => (hitems x hx).2
  have f1 : s.filter (·.isNum) = [] := List.filter_eq_nil_iff.mpr (fun x hx => by simp [hsn x hx])
  have f2 : s.filter (fun x => !x.isNum) = s := List.filter_eq_self.mpr (fun x hx => by simp [hsn x hx])
  cases c with
  | none =>
    obtain ⟨h1, h2⟩ := mmTail_operand (fun x hx => (hitems x hx).1) hb
    refine ⟨h1, ?_⟩
    show mmAbsorb isMax (none, []) r = _
    simp only [mmAbsorb, h2, f1, f2, setFold_nil_sorted hs]
    rfl
  | some m =>
    have hm := hc m rfl
    have hmn := realNum_isNum hm
    have hperm := setInsert_perm (s := s) (a := m) (fun hh => by have := hsn m hh; rw [hmn] at this; cases this)
    have hall : ∀ x ∈ setInsert s m, itemOK isMax x = true := by
      intro x hx
      rcases mem_setInsert.mp hx with rfl | hx
      · unfold itemOK; simp [hm]
      · exact (hitems x hx).1
    obtain ⟨h1, h2⟩ := mmTail_operand hall hb
    refine ⟨h1, ?_⟩
    have hp1 : ((setInsert s m).filter (·.isNum)).Perm [m] := by
      simpa [List.filter_cons, hmn, f1] using hperm.filter (·.isNum)
    have hp2 : ((setInsert s m).filter (fun x => !x.isNum)).Perm s := by
      simpa [List.filter_cons, hmn, f2] using hperm.filter (fun x => !x.isNum)
    show mmAbsorb isMax (none, []) r = _
    simp only [mmAbsorb, h2, setFold_perm List.Pairwise.nil hp2, setFold_nil_sorted hs,
      numFold_perm hp1 (fun a ha => by rw [List.mem_singleton.mp (hp1.mem_iff.mp ha)]; exact hm) RealOpt.none,
      numFold_single]

theorem mmTail_ok_iff {isMax : Bool} {S : List Expr} : (∃ z, mmTail isMax S = .ok z) ↔ S ≠ [] := by
  match S with
  | [] => exact ⟨fun ⟨_, h⟩ => (nomatch h), fun h => absurd rfl h⟩
  | [a] => exact ⟨fun _ h => (nomatch h), fun _ => ⟨a, rfl⟩⟩
  | a :: b :: q => exact ⟨fun _ h => (nomatch h), fun _ => ⟨_, rfl⟩⟩

theorem mmBuild_ok_iff {isMax : Bool} {st : Option Expr × List Expr} :
    (∃ z, mmBuild isMax st = .ok z) ↔ st.1 ≠ none ∨ st.2 ≠ [] := by
  obtain ⟨c, s⟩ := st
  cases c with
  | none => exact mmTail_ok_iff.trans ⟨Or.inr, fun h => h.resolve_left (fun h => h rfl)⟩
  | some m =>
    refine mmTail_ok_iff.trans ⟨fun _ => Or.inl (fun h => nomatch h), fun _ (h0 : setInsert s m = []) => ?_⟩
    exact List.ne_nil_of_mem (mem_setInsert.mpr (Or.inl rfl)) h0

theorem numFold_some_ne (isMax : Bool) : ∀ (l : List Expr) (m : Expr), numFold isMax (some m) l ≠ none
  | [], _ => fun h => nomatch h
  | p :: r, m => numFold_some_ne isMax r (better isMax m p)

theorem mmState_ne_foldl (isMax : Bool) : ∀ (l : List Expr) {st : Option Expr × List Expr},
    st.1 ≠ none ∨ st.2 ≠ [] →
    (l.foldl (mmAbsorb isMax) st).1 ≠ none ∨ (l.foldl (mmAbsorb isMax) st).2 ≠ []
  | [], _, h => h
  | a :: r, st, h => by
    refine mmState_ne_foldl isMax r ?_
    rcases h with h | h
    · left
      show numFold isMax st.1 _ ≠ none
      cases hc : st.1 with
      | none => exact absurd hc h
      | some m => exact numFold_some_ne isMax _ m
    · right
      intro (h0 : setFold st.2 _ = [])
      cases hs : st.2 with
      | nil => exact h hs
      | cons w q =>
        exact List.ne_nil_of_mem ((mem_setFold _).mpr (Or.inl (hs ▸ List.mem_cons_self))) h0

theorem maxMinE_single_eq_build {isMax : Bool} {a : Expr} (h : mmOperandOK isMax a = true) :
    maxMinE isMax [a] = mmBuild isMax (mmState isMax [a]) :=
  maxMinE_eq_build (l := [a]) (by simpa using h)

theorem mmBuild_canon {isMax : Bool} {a : Expr} (h : mmOperandOK isMax a = true ∧ maxMinE isMax [a] = .ok a) :
    mmBuild isMax (mmState isMax [a]) = .ok a :=
  (maxMinE_single_eq_build h.1).symm.trans h.2

def mm2 (isMax : Bool) (a b : Expr) : R Expr := maxMinE isMax [a, b]

theorem evalT_mm_eq (isMax : Bool) (t : BTree)
    (h : ∀ a ∈ t.leaves, mmOperandOK isMax a = true ∧ maxMinE isMax [a] = .ok a) :
    evalT (mm2 isMax) t = maxMinE isMax t.leaves := by
  have ok1 : ∀ {l : List Expr}, (∀ a ∈ l, mmOperandOK isMax a = true ∧ maxMinE isMax [a] = .ok a) →
      ∀ a ∈ l, mmOperandOK isMax a = true := fun hl a ha => (hl a ha).1
  have ok2 : ∀ {a b : Expr}, mmOperandOK isMax a = true → mmOperandOK isMax b = true →
      ∀ x ∈ [a, b], mmOperandOK isMax x = true := by
    intro a b ha hb x hx
    simp only [List.mem_cons, List.not_mem_nil, or_false] at hx
    rcases hx with rfl | rfl <;> assumption
  rw [maxMinE_eq_build (ok1 h)]
  exact evalT_acc_eq_nofuel (f := mm2 isMax) (build := mmBuild isMax)
    ((mmAcc isMax).mono (fun _ h => h.1)) (MMN_nil isMax)
    (hbuild := fun {l} hne hl => by
      obtain ⟨a, r, rfl⟩ := List.exists_cons_of_ne_nil hne
      have ha := hl a List.mem_cons_self
      -- the state of the canonical operand `a` is not empty (its own tail succeeded), so neither is that of the list
      have hane := mmBuild_ok_iff.mp ⟨a, mmBuild_canon ha⟩
      obtain ⟨x, hx⟩ := mmBuild_ok_iff.mpr (mmState_ne_foldl isMax r hane)
      obtain ⟨hxo, hxs⟩ := mmState_build (ok1 hl) hx
      refine ⟨x, hx, ⟨hxo, ?_⟩, hxs⟩
      rw [maxMinE_single_eq_build hxo, hxs]
      exact hx)
    (hsingle := fun {a} ha => mmBuild_canon ha)
    (hbin := fun {a b} ha hb => maxMinE_eq_build (ok2 ha.1 hb.1))
    t h

end SymVerif.AC
