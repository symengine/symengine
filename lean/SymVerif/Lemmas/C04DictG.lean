/-
C04: the dictionary algebra shared by Add and Mul, for an arbitrary value semantics.

A `VS α` describes which expressions are legal dictionary *values* (`ok`), their meaning `val` in a
commutative monoid `α` (injective on legal values), the pure sum `add` of two values and the zero test
`isZ` that the C++ uses to erase an entry.  A sorted dictionary with legal non-zero values is a finitely
supported function `key ↦ α` (`lkG`), determined by it (`dokG_ext`); the generic update `updG` adds
point-wise, hence merging is commutative, associative and permutation invariant.

Instances: canonical exact numbers with their value in ℚ(i) (Lemmas/C04Dict.lean: the coefficients of an
Add); summands of the safe Add fragment with
`val a = (coefficient, term ↦ coefficient)` (Lemmas/C04ExpVS.lean: the exponents of a Mul, numeric ones included).
-/
import SymVerif.Lemmas.Basic
import SymVerif.Lemmas.C04Num
import SymVerif.Lemmas.C04Fold

namespace SymVerif.AC
open SymVerif SymVerif.Arith

theorem keq_comm (a b : Expr) : (key a == key b) = (key b == key a) := BEq.comm

/-- `dfind` on a cons tests the head key `k` against `u` first, the specifications `dfind_dinsert`/`_dset`/`_derase` test
`u` against `t` first; the two tests exclude each other since `k ≠ t` -/
theorem ite_keq_swap {k t : Expr} (hkt : ¬ (key k == key t) = true) (u : Expr) {β : Type} (a b c : β) :
    (if key k == key u then a else if key u == key t then b else c) =
      if key u == key t then b else if key k == key u then a else c := by
  by_cases hku : (key k == key u) = true
  · cases key_beq_iff.mp hku
    simp [hkt]
  · simp [hku]

theorem dfind_cons (k x : Expr) (r : Dict) (u : Expr) :
    dfind ((k, x) :: r) u = if key k == key u then some x else dfind r u := rfl

theorem dfind_tail_none {k v : Expr} {r : Dict} (h : Sorted ((k, v) :: r)) : dfind r k = none := by
  cases hf : dfind r k with
  | none => rfl
  | some x =>
    have hm := dfind_some hf
    have := h.head _ hm
    unfold KLt at this
    simp [lexLt_irrefl] at this

theorem dfind_dinsert : ∀ {d : Dict} {t v : Expr} (u : Expr), dfind d t = none →
    dfind (dinsert d t v) u = if key u == key t then some v else dfind d u
  | [], t, v, u, _ => by
    rw [dinsert, dfind_cons, keq_comm t u]
  | (k, x) :: r, t, v, u, h => by
    rw [dfind_cons] at h
    split at h
    · simp at h
    · rename_i hk
      simp only [dinsert]
      -- the overwriting arm of `dinsert` (`key k == key t`) does not occur: `hk`, from `dfind d t = none`
      rw [if_neg hk]
      split
      · simp only [dfind_cons, keq_comm t u]
      · rw [dfind_cons, dfind_cons, dfind_dinsert u h]
        exact ite_keq_swap hk u _ _ _

theorem dfind_dset : ∀ (d : Dict) (t v u : Expr),
    dfind (dset d t v) u = if key u == key t then (dfind d t).map (fun _ => v) else dfind d u
  | [], t, v, u => by simp [dset, dfind]
  | (k, x) :: r, t, v, u => by
    simp only [dset]
    by_cases hkt : (key k == key t) = true
    · simp only [hkt, if_true, dfind_cons, Option.map_some]
      have e1 : key k = key t := by simpa using hkt
      by_cases hut : (key u == key t) = true
      · have e2 : key u = key t := by simpa using hut
        simp [e1, e2]
      · have : ¬ (key t == key u) = true := by rw [keq_comm]; exact hut
        simp [hut, e1, this]
    · simp only [hkt, if_false, Bool.false_eq_true, dfind_cons]
      rw [dfind_dset r t v u]
      exact ite_keq_swap hkt u _ _ _

theorem dfind_derase : ∀ {d : Dict} (t u : Expr), Sorted d →
    dfind (derase d t) u = if key u == key t then none else dfind d u
  | [], t, u, _ => by simp [derase, dfind]
  | (k, x) :: r, t, u, hs => by
    simp only [derase]
    by_cases hkt : (key k == key t) = true
    · simp only [hkt, if_true, dfind_cons]
      have e1 : k = t := key_beq_iff.mp hkt
      subst e1
      by_cases hut : (key u == key k) = true
      · have e2 : u = k := key_beq_iff.mp hut
        subst e2
        simp [dfind_tail_none hs]
      · have : ¬ (key k == key u) = true := by rw [keq_comm]; exact hut
        simp [hut, this]
    · simp only [hkt, if_false, Bool.false_eq_true, dfind_cons]
      rw [dfind_derase t u hs.tail]
      exact ite_keq_swap hkt u _ _ _

theorem dfind_of_mem : ∀ {d : Dict} {k v : Expr}, Sorted d → (k, v) ∈ d → dfind d k = some v
  | (k', v') :: r, k, v, hs, hm => by
    rw [dfind_cons]
    rcases List.mem_cons.mp hm with e | hm
    · cases e
      simp
    · have hlt : lexLt (key k') (key k) = true := hs.head _ hm
      rw [if_neg, dfind_of_mem hs.tail hm]
      intro hk
      rw [key_beq_iff.mp hk, lexLt_irrefl] at hlt
      cases hlt

theorem KLt_asymm {p q : Expr × Expr} (h : KLt p q) : ¬ KLt q p := by
  unfold KLt at *; rw [lexLt_asymm h]; simp

theorem dfind_mem_of_ext {d d' : Dict} (hs : Sorted d) (h : ∀ t, dfind d t = dfind d' t) :
    ∀ p ∈ d, p ∈ d' := fun ⟨k, _⟩ hm => dfind_some (h k ▸ dfind_of_mem hs hm)

theorem dfind_ext {d₁ d₂ : Dict} (h1 : Sorted d₁) (h2 : Sorted d₂) (h : ∀ t, dfind d₁ t = dfind d₂ t) :
    d₁ = d₂ :=
  pairwise_ext (fun _ _ _ _ => KLt_asymm) h1 h2
    (fun p => ⟨dfind_mem_of_ext h1 h p, dfind_mem_of_ext h2 (fun t => (h t).symm) p⟩)

/-- a value semantics; `add` is a pure function on expressions (that the model's `numAdd` / `add` compute it is
`numAdd_eq` / `expAdd_model`) -/
structure VS (α : Type) [AddCommMonoid α] where
  ok : Expr → Prop
  val : Expr → α
  inj : ∀ {a b : Expr}, ok a → ok b → val a = val b → a = b
  add : Expr → Expr → Expr
  add_ok : ∀ {a b : Expr}, ok a → ok b → ok (add a b)
  val_add : ∀ {a b : Expr}, ok a → ok b → val (add a b) = val a + val b
  isZ : Expr → Bool
  isZ_iff : ∀ {a : Expr}, ok a → (isZ a = true ↔ val a = 0)

variable {α : Type} [AddCommMonoid α] (V : VS α)

/-- the value at key `t` (0 when absent) -/
noncomputable def lkG (d : Dict) (t : Expr) : α :=
  match dfind d t with
  | some v => V.val v
  | none => 0

def DOKG (d : Dict) : Prop := Sorted d ∧ ∀ p ∈ d, V.ok p.2 ∧ V.val p.2 ≠ 0

theorem DOKG.nil : DOKG V [] := ⟨List.Pairwise.nil, by simp⟩

theorem DOKG.found {V : VS α} {d : Dict} {t v : Expr} (h : DOKG V d) (hf : dfind d t = some v) :
    V.ok v ∧ V.val v ≠ 0 := h.2 _ (dfind_some hf)

theorem dokG_ext {d₁ d₂ : Dict} (h1 : DOKG V d₁) (h2 : DOKG V d₂) (h : ∀ t, lkG V d₁ t = lkG V d₂ t) :
    d₁ = d₂ := by
  apply dfind_ext h1.1 h2.1
  intro t
  have := h t
  unfold lkG at this
  cases f1 : dfind d₁ t with
  | none =>
    cases f2 : dfind d₂ t with
    | none => rfl
    | some v₂ =>
      rw [f1, f2] at this
      exact absurd this.symm (h2.found f2).2
  | some v₁ =>
    cases f2 : dfind d₂ t with
    | none =>
      rw [f1, f2] at this
      exact absurd this (h1.found f1).2
    | some v₂ =>
      rw [f1, f2] at this
      have e : v₁ = v₂ := V.inj (h1.found f1).1 (h2.found f2).1 this
      rw [e]

/-- `Add::dict_add_term` and the opaque-base arm of `Mul::dict_add_term_new` as a pure function; `d c t` is the argument
order of the C++ -/
noncomputable def updG (d : Dict) (c t : Expr) : Dict :=
  match dfind d t with
  | none => if !V.isZ c then dinsert d t c else d
  | some v => if V.isZ (V.add v c) then derase d t else dset d t (V.add v c)

theorem updG_DOK {d : Dict} {c : Expr} (t : Expr) (hd : DOKG V d) (hc : V.ok c) : DOKG V (updG V d c t) := by
  unfold updG
  cases hf : dfind d t with
  | none =>
    simp only []
    split
    · rename_i hz
      refine ⟨sorted_dinsert hd.1, ?_⟩
      intro p hp
      rcases mem_dinsert hp with rfl | hp
      · refine ⟨hc, ?_⟩
        intro h0
        rw [← V.isZ_iff hc] at h0
        simp [h0] at hz
      · exact hd.2 p hp
    · exact hd
  | some v =>
    simp only []
    have hv : V.ok v := (hd.found hf).1
    split
    · exact ⟨sorted_derase hd.1, fun p hp => hd.2 p (mem_derase hp)⟩
    · rename_i hz
      refine ⟨sorted_dset hd.1, ?_⟩
      intro p hp
      rcases mem_dset hp with rfl | hp
      · refine ⟨V.add_ok hv hc, ?_⟩
        intro h0
        apply hz
        rw [V.isZ_iff (V.add_ok hv hc)]
        exact h0
      · exact hd.2 p hp

/-- `o` is `some c`, `(dfind d t).map _`, `none` for `dinsert`, `dset`, `derase` -/
theorem lkG_of_dfind {d d' : Dict} {t : Expr} (u : Expr) {o : Option Expr} {x : α}
    (h : dfind d' u = if key u == key t then o else dfind d u)
    (ho : o.elim 0 V.val = lkG V d t + x) :
    lkG V d' u = lkG V d u + (if key u == key t then x else 0) := by
  have e : ∀ o : Option Expr, (match o with | some v => V.val v | none => 0) = o.elim 0 V.val := by
    intro o; cases o <;> rfl
  by_cases hut : (key u == key t) = true
  · obtain rfl : u = t := key_beq_iff.mp hut
    rw [lkG, h, e]
    simpa using ho
  · rw [lkG, h]
    simp [hut, lkG]

theorem lkG_upd {d : Dict} {c : Expr} (t u : Expr) (hd : DOKG V d) (hc : V.ok c) :
    lkG V (updG V d c t) u = lkG V d u + (if key u == key t then V.val c else 0) := by
  unfold updG
  cases hf : dfind d t with
  | none =>
    simp only []
    split
    · exact lkG_of_dfind V u (dfind_dinsert u hf) (by simp [lkG, hf])
    · rename_i hz
      have hz' : V.isZ c = true := by simpa using hz
      rw [V.isZ_iff hc] at hz'
      simp [hz']
  | some v =>
    simp only []
    have hv : V.ok v := (hd.found hf).1
    split
    · rename_i hz
      rw [V.isZ_iff (V.add_ok hv hc), V.val_add hv hc] at hz
      exact lkG_of_dfind V u (dfind_derase t u hd.1) (by simp [lkG, hf, hz])
    · exact lkG_of_dfind V u (dfind_dset d t _ u) (by simp [lkG, hf, V.val_add hv hc])

noncomputable def mergeG (d : Dict) : Dict → Dict
  | [] => d
  | (k, v) :: r => mergeG (updG V d v k) r

/-- all that is asked of the right operand of `mergeG`: legal values; not sorted, not non-zero (`mergeG_perm` permutes it) -/
def ValsOKG (l : Dict) : Prop := ∀ p ∈ l, V.ok p.2

theorem DOKG.vals {d : Dict} (h : DOKG V d) : ValsOKG V d := fun p hp => (h.2 p hp).1

theorem mergeG_eq_foldl : ∀ (l d : Dict), mergeG V d l = l.foldl (fun d p => updG V d p.2 p.1) d
  | [], _ => rfl
  | (_, _) :: r, _ => mergeG_eq_foldl r _

/-- a dictionary under `updG` is an accumulator of (key, value) pairs: its meaning is `lkG` -/
theorem dictAcc : Acc (DOKG V) (fun p : Expr × Expr => V.ok p.2) (fun d p => updG V d p.2 p.1) :=
  Acc.of_den (M := Expr → α) (· + ·) add_comm add_assoc (lkG V)
    (fun p u => if key u == key p.1 then V.val p.2 else 0)
    (inj := fun h1 h2 h => dokG_ext V h1 h2 (congrFun h))
    (closed := fun hd hc => updG_DOK V _ hd hc)
    (den_absorb := fun hd hc => funext fun u => lkG_upd V _ u hd hc)

theorem mergeG_DOK {d l : Dict} (hd : DOKG V d) (hl : ValsOKG V l) : DOKG V (mergeG V d l) := by
  rw [mergeG_eq_foldl]
  exact (dictAcc V).foldl_N l hd hl

theorem lkG_cons {k v : Expr} {r : Dict} (hs : Sorted ((k, v) :: r)) (u : Expr) :
    lkG V ((k, v) :: r) u = (if key u == key k then V.val v else 0) + lkG V r u := by
  unfold lkG
  rw [dfind_cons, keq_comm k u]
  by_cases huk : (key u == key k) = true
  · obtain rfl : u = k := key_beq_iff.mp huk
    simp [dfind_tail_none hs]
  · simp [huk]

theorem lkG_merge : ∀ {d₂ d₁ : Dict} (u : Expr), DOKG V d₁ → DOKG V d₂ →
    lkG V (mergeG V d₁ d₂) u = lkG V d₁ u + lkG V d₂ u
  | [], _, _, _, _ => by simp [mergeG, lkG, dfind]
  | (k, v) :: r, d₁, u, h1, h2 => by
    have hv := (h2.2 (k, v) List.mem_cons_self).1
    have hr : DOKG V r := ⟨h2.1.tail, fun p hp => h2.2 p (List.mem_cons_of_mem _ hp)⟩
    rw [mergeG, lkG_merge u (updG_DOK V k h1 hv) hr, lkG_upd V k u h1 hv, add_assoc, lkG_cons V h2.1]

theorem mergeG_comm {d₁ d₂ : Dict} (h1 : DOKG V d₁) (h2 : DOKG V d₂) : mergeG V d₁ d₂ = mergeG V d₂ d₁ := by
  apply dokG_ext V (mergeG_DOK V h1 h2.vals) (mergeG_DOK V h2 h1.vals)
  intro t
  rw [lkG_merge V t h1 h2, lkG_merge V t h2 h1, add_comm]

theorem mergeG_assoc {d₁ d₂ d₃ : Dict} (h1 : DOKG V d₁) (h2 : DOKG V d₂) (h3 : DOKG V d₃) :
    mergeG V (mergeG V d₁ d₂) d₃ = mergeG V d₁ (mergeG V d₂ d₃) := by
  have h12 := mergeG_DOK V h1 h2.vals
  have h23 := mergeG_DOK V h2 h3.vals
  apply dokG_ext V (mergeG_DOK V h12 h3.vals) (mergeG_DOK V h1 h23.vals)
  intro t
  rw [lkG_merge V t h12 h3, lkG_merge V t h1 h2, lkG_merge V t h1 h23, lkG_merge V t h2 h3, add_assoc]

theorem mergeG_nil_left {d : Dict} (h : DOKG V d) : mergeG V [] d = d := by
  apply dokG_ext V (mergeG_DOK V (DOKG.nil V) h.vals) h
  intro t
  rw [lkG_merge V t (DOKG.nil V) h]
  simp [lkG, dfind]

theorem mergeG_perm {d : Dict} {l₁ l₂ : Dict} (hd : DOKG V d) (h1 : ValsOKG V l₁) (hp : l₁.Perm l₂) :
    mergeG V d l₁ = mergeG V d l₂ := by
  rw [mergeG_eq_foldl, mergeG_eq_foldl]
  exact (dictAcc V).foldl_perm hp h1 d hd

theorem updG_all (P : Expr → Expr → Prop) (hadd : ∀ k v c, P k v → P k c → P k (V.add v c))
    {d : Dict} {k v : Expr} (hd : ∀ q ∈ d, P q.1 q.2) (hkv : P k v) : ∀ q ∈ updG V d v k, P q.1 q.2 := by
  intro q hq
  unfold updG at hq
  split at hq
  · split at hq
    · rcases mem_dinsert hq with rfl | hq
      exacts [hkv, hd q hq]
    · exact hd q hq
  · rename_i old hf
    split at hq
    · exact hd q (mem_derase hq)
    · rcases mem_dset hq with rfl | hq
      exacts [hadd k old v (hd (k, old) (dfind_some hf)) hkv, hd q hq]

/-- what merging preserves entry by entry: any `P` that survives the addition of two values at the same key
(used with: a property of the keys alone; "the value is a Number") -/
theorem mergeG_all (P : Expr → Expr → Prop) (hadd : ∀ k v c, P k v → P k c → P k (V.add v c)) :
    ∀ {l d : Dict}, (∀ q ∈ d, P q.1 q.2) → (∀ q ∈ l, P q.1 q.2) → ∀ q ∈ mergeG V d l, P q.1 q.2
  | [], _, hd, _ => hd
  | (k, v) :: r, d, hd, hl =>
    mergeG_all P hadd (l := r) (d := updG V d v k) (updG_all V P hadd hd (hl (k, v) List.mem_cons_self))
      (fun q hq => hl q (List.mem_cons_of_mem _ hq))

theorem length_updG_le (d : Dict) (c t : Expr) : (updG V d c t).length ≤ d.length + 1 := by
  have hins : ∀ (d : Dict) (t v : Expr), (dinsert d t v).length ≤ d.length + 1 := by
    intro d
    induction d with
    | nil => intros; simp [dinsert]
    | cons p r ih =>
      obtain ⟨k, x⟩ := p
      intro t v
      simp only [dinsert]
      split
      · simp
      · split
        · simp
        · simp only [List.length_cons]; have := ih t v; omega
  have hset : ∀ (d : Dict) (t v : Expr), (dset d t v).length = d.length := by
    intro d t v
    have := congrArg List.length (dset_keys d t v)
    simpa using this
  unfold updG
  split
  · split
    · exact hins d t c
    · omega
  · split
    · have := (derase_sublist d t).length_le; omega
    · rw [hset]; omega

theorem length_mergeG_le : ∀ (l d : Dict), (mergeG V d l).length ≤ d.length + l.length
  | [], d => by simp [mergeG]
  | (k, v) :: r, d => by
    simp only [mergeG, List.length_cons]
    have := length_mergeG_le r (updG V d v k)
    have := length_updG_le V d v k
    omega

end SymVerif.AC
