/-
C03 helper lemmas: the sorted association lists that model `umap_basic_num` / `map_basic_basic`.
-/
import SymVerif.Lemmas.C03Key

namespace SymVerif.Arith

def KLt (p q : Expr × Expr) : Prop := lexLt (key p.1) (key q.1) = true

/-- strictly increasing keys (Prop version of `keysSorted`) -/
def Sorted (d : Dict) : Prop := d.Pairwise KLt

theorem KLt_trans {p q r : Expr × Expr} (h1 : KLt p q) (h2 : KLt q r) : KLt p r :=
  lexLt_trans h1 h2

theorem Sorted.tail {p : Expr × Expr} {d : Dict} (h : Sorted (p :: d)) : Sorted d :=
  (List.pairwise_cons.mp h).2

theorem Sorted.head {p : Expr × Expr} {d : Dict} (h : Sorted (p :: d)) : ∀ q ∈ d, KLt p q :=
  (List.pairwise_cons.mp h).1

theorem Sorted.head_ne {k x : Expr} {d : Dict} (h : Sorted ((k, x) :: d)) : ∀ p ∈ d, p.1 ≠ k :=
  fun p hp e => lexLt_ne (h.head p hp) (congrArg key e.symm)

theorem Sorted.cons_cons {p q : Expr × Expr} {d : Dict} (hpq : KLt p q) (h : Sorted (q :: d)) :
    Sorted (p :: q :: d) :=
  List.pairwise_cons.mpr ⟨fun r hr => (List.mem_cons.mp hr).elim (· ▸ hpq)
    fun hr => KLt_trans hpq (h.head r hr), h⟩

theorem keysSorted_iff : ∀ d : Dict, keysSorted d = true ↔ Sorted d
  | [] => by simp [keysSorted, Sorted]
  | [p] => by simp [keysSorted, Sorted]
  | (k₁, v₁) :: (k₂, v₂) :: r => by
    simp only [keysSorted, Bool.and_eq_true, keysSorted_iff ((k₂, v₂) :: r)]
    exact ⟨fun ⟨h1, h⟩ => Sorted.cons_cons h1 h, fun h => ⟨h.head _ List.mem_cons_self, h.tail⟩⟩

theorem dfind_some : ∀ {d : Dict} {t v : Expr}, dfind d t = some v → (t, v) ∈ d
  | [], _, _, h => by simp [dfind] at h
  | (k, x) :: r, t, v, h => by
    simp only [dfind] at h
    split at h
    · rename_i hk
      obtain rfl := key_beq_iff.mp hk
      obtain rfl := Option.some.inj h
      exact List.mem_cons_self
    · exact List.mem_cons_of_mem _ (dfind_some h)

theorem dfind_none : ∀ {d : Dict} {t : Expr}, dfind d t = none → ∀ p ∈ d, p.1 ≠ t
  | [], _, _, p, hp => by simp at hp
  | (k, x) :: r, t, h, p, hp => by
    simp only [dfind] at h
    split at h
    · simp at h
    · rename_i hk
      rcases List.mem_cons.mp hp with rfl | hp
      · exact fun e => hk (key_beq_iff.mpr e)
      · exact dfind_none h p hp

theorem mem_dinsert : ∀ {d : Dict} {t v : Expr} {p : Expr × Expr},
    p ∈ dinsert d t v → p = (t, v) ∨ p ∈ d
  | [], t, v, p, h => by simpa [dinsert] using h
  | (k, x) :: r, t, v, p, h => by
    simp only [dinsert] at h
    split at h
    · exact List.mem_cons.mp h
    · split at h
      · exact Or.inr h
      · rcases List.mem_cons.mp h with rfl | h
        · exact Or.inr List.mem_cons_self
        · exact (mem_dinsert h).imp_right (List.mem_cons_of_mem _)

theorem forall_dinsert {P : Expr × Expr → Prop} {d : Dict} {t v : Expr} (hd : ∀ p ∈ d, P p)
    (h : P (t, v)) : ∀ p ∈ dinsert d t v, P p :=
  fun p hp => (mem_dinsert hp).elim (· ▸ h) (hd p)

theorem sorted_dinsert : ∀ {d : Dict} {t v : Expr}, Sorted d → Sorted (dinsert d t v)
  | [], t, v, _ => by simp [dinsert, Sorted]
  | (k, x) :: r, t, v, h => by
    simp only [dinsert]
    split
    · rename_i hlt
      exact Sorted.cons_cons hlt h
    · split
      · exact h
      · rename_i hlt hne
        refine List.pairwise_cons.mpr ⟨?_, sorted_dinsert h.tail⟩
        intro q hq
        rcases mem_dinsert hq with rfl | hq
        · -- key k < key t by totality
          show lexLt (key k) (key t) = true
          cases hkt : lexLt (key k) (key t) with
          | true => rfl
          | false =>
            have := lexLt_total hkt (by simpa using hlt)
            exact absurd (by simp [this]) hne
        · exact h.head q hq

theorem dinsert_ne_nil (d : Dict) (t v : Expr) : dinsert d t v ≠ [] := by
  cases d with
  | nil => simp [dinsert]
  | cons p r =>
    obtain ⟨k, x⟩ := p
    simp only [dinsert]
    split
    · simp
    · split <;> simp

theorem mem_dinsert_self : ∀ {d : Dict} {t v : Expr}, dfind d t = none → (t, v) ∈ dinsert d t v
  | [], t, v, _ => by simp [dinsert]
  | (k, x) :: r, t, v, h => by
    simp only [dfind] at h
    split at h
    · simp at h
    · simp only [dinsert]
      split
      · exact List.mem_cons_self
      · exact List.mem_cons_of_mem _ (mem_dinsert_self h)

theorem mem_dinsert_of_mem : ∀ {d : Dict} {t v : Expr} {p : Expr × Expr}, p ∈ d → p ∈ dinsert d t v
  | (k, x) :: r, t, v, p, h => by
    simp only [dinsert]
    split
    · exact List.mem_cons_of_mem _ h
    · split
      · exact h
      · rcases List.mem_cons.mp h with rfl | h
        · exact List.mem_cons_self
        · exact List.mem_cons_of_mem _ (mem_dinsert_of_mem h)

theorem derase_sublist : ∀ (d : Dict) (t : Expr), (derase d t).Sublist d
  | [], _ => by simp [derase]
  | (k, x) :: r, t => by
    simp only [derase]
    split
    · exact List.sublist_cons_self _ _
    · exact (derase_sublist r t).cons_cons _

theorem mem_derase {d : Dict} {t : Expr} {p : Expr × Expr} (h : p ∈ derase d t) : p ∈ d :=
  (derase_sublist d t).subset h

theorem sorted_derase {d : Dict} {t : Expr} (h : Sorted d) : Sorted (derase d t) :=
  List.Pairwise.sublist (derase_sublist d t) h

theorem derase_dset : ∀ (d : Dict) (t v : Expr), derase (dset d t v) t = derase d t
  | [], _, _ => rfl
  | (k, x) :: r, t, v => by
    simp only [dset]
    by_cases hk : (key k == key t) = true
    · simp [hk, derase]
    · simp [hk, derase, derase_dset r t v]

theorem not_mem_derase : ∀ {d : Dict} {t : Expr}, Sorted d → ∀ p ∈ derase d t, p.1 ≠ t
  | [], _, _, p, hp => by simp [derase] at hp
  | (k, x) :: r, t, h, p, hp => by
    simp only [derase] at hp
    split at hp
    · rename_i hk
      obtain rfl := key_beq_iff.mp hk
      exact h.head_ne p hp
    · rename_i hk
      rcases List.mem_cons.mp hp with rfl | hp
      · exact fun e => hk (key_beq_iff.mpr e)
      · exact not_mem_derase h.tail p hp

theorem mem_dset : ∀ {d : Dict} {t v : Expr} {p : Expr × Expr},
    p ∈ dset d t v → p = (t, v) ∨ p ∈ d
  | [], _, _, _, h => by simp [dset] at h
  | (k, x) :: r, t, v, p, h => by
    simp only [dset] at h
    split at h
    · rename_i hk
      obtain rfl := key_beq_iff.mp hk
      exact (List.mem_cons.mp h).imp_right (List.mem_cons_of_mem _)
    · rcases List.mem_cons.mp h with rfl | h
      · exact Or.inr List.mem_cons_self
      · exact (mem_dset h).imp_right (List.mem_cons_of_mem _)

theorem forall_dset {P : Expr × Expr → Prop} {d : Dict} {t v : Expr} (hd : ∀ p ∈ d, P p)
    (h : P (t, v)) : ∀ p ∈ dset d t v, P p :=
  fun p hp => (mem_dset hp).elim (· ▸ h) (hd p)

theorem dset_keys : ∀ (d : Dict) (t v : Expr), (dset d t v).map Prod.fst = d.map Prod.fst
  | [], _, _ => by simp [dset]
  | (k, x) :: r, t, v => by
    simp only [dset]
    split
    · simp
    · simp [dset_keys r t v]

theorem sorted_of_keys_eq {d d' : Dict} (hk : d'.map Prod.fst = d.map Prod.fst) (h : Sorted d) :
    Sorted d' := by
  have h1 : (d.map Prod.fst).Pairwise (fun a b => lexLt (key a) (key b) = true) := by
    rw [List.pairwise_map]; exact h
  rw [← hk, List.pairwise_map] at h1
  exact h1

theorem sorted_dset {d : Dict} {t v : Expr} (h : Sorted d) : Sorted (dset d t v) :=
  sorted_of_keys_eq (dset_keys d t v) h

theorem dset_ne_nil : ∀ {d : Dict} {t v : Expr}, d ≠ [] → dset d t v ≠ []
  | [], _, _, h => absurd rfl h
  | (k, x) :: r, t, v, _ => by
    simp only [dset]
    split <;> simp

/-- after `it->second = v` the entry of `t` is `(t, v)` and the others are unchanged -/
theorem mem_dset_iff_of_sorted : ∀ {d : Dict} {t v : Expr} {p : Expr × Expr}, Sorted d →
    p ∈ dset d t v → (p = (t, v)) ∨ (p ∈ d ∧ p.1 ≠ t)
  | [], _, _, _, _, h => by simp [dset] at h
  | (k, x) :: r, t, v, p, hs, h => by
    simp only [dset] at h
    split at h
    · rename_i hk
      obtain rfl := key_beq_iff.mp hk
      rcases List.mem_cons.mp h with rfl | h
      · exact Or.inl rfl
      · exact Or.inr ⟨List.mem_cons_of_mem _ h, hs.head_ne p h⟩
    · rename_i hk
      rcases List.mem_cons.mp h with rfl | h
      · exact Or.inr ⟨List.mem_cons_self, fun e => hk (key_beq_iff.mpr e)⟩
      · rcases mem_dset_iff_of_sorted hs.tail h with e | ⟨h1, h2⟩
        · exact Or.inl e
        · exact Or.inr ⟨List.mem_cons_of_mem _ h1, h2⟩

end SymVerif.Arith
