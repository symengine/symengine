/-
C31: the dense coefficient lists of `Model/Series.lean` read as formal power series over ℚ (`toPS`),
congruence modulo `X^n` (`EqMod`) with its rules, and the ring operations of the model as operations on power series.

Two `coeff`s are in scope with opposite argument order: the model's `Series.coeff p k` (list, index) and Mathlib's
`coeff k f` (index, series).
-/
import Mathlib.RingTheory.PowerSeries.Basic
import Mathlib.RingTheory.PowerSeries.Derivative
import Mathlib.RingTheory.PowerSeries.Inverse
import Mathlib.Tactic.Ring
import Mathlib.Tactic.Linarith
import Mathlib.Tactic.FieldSimp
import SymVerif.Model.Series

namespace SymVerif.C31
open SymVerif.Series PowerSeries

/-- the formal power series denoted by a coefficient list -/
noncomputable def toPS (p : Poly) : ℚ⟦X⟧ := PowerSeries.mk fun k => Series.coeff p k

@[simp] theorem coeff_toPS (p : Poly) (k : ℕ) : coeff k (toPS p) = p.getD k 0 := coeff_mk k _

theorem constantCoeff_toPS (s : Poly) : constantCoeff (toPS s) = Series.coeff s 0 := by
  rw [← coeff_zero_eq_constantCoeff_apply]; exact coeff_toPS s 0

theorem constantCoeff_of_bne {s : Poly} (h : ¬ (Series.coeff s 0 != 0) = true) :
    constantCoeff (toPS s) = 0 := by
  rw [constantCoeff_toPS]; exact of_not_not fun h' => h (bne_iff_ne.mpr h')
theorem constantCoeff_of_beq {s : Poly} (h : (Series.coeff s 0 == 0) = true) :
    constantCoeff (toPS s) = 0 := by
  rw [constantCoeff_toPS]; exact beq_iff_eq.mp h

/-- the test `if s(0) ≠ 0 then error` that opens series_sin, series_cos, series_sinh, series_cosh, series_tan, series_tanh, series_lambertw -/
theorem guard_ok {s g : Poly} {e : Err} {x : Except Err Poly}
    (h : (if Series.coeff s 0 != 0 then .error e else x) = .ok g) : constantCoeff (toPS s) = 0 ∧ x = .ok g := by
  split at h
  · cases h
  · next hc => exact ⟨constantCoeff_of_bne hc, h⟩

@[simp] theorem toPS_nil : toPS [] = 0 := by
  ext k; rw [coeff_toPS, map_zero]; rfl

theorem coeff_toPS_cons_zero (a : ℚ) (p : Poly) : coeff 0 (toPS (a :: p)) = a := coeff_toPS _ 0
theorem coeff_toPS_cons_succ (a : ℚ) (p : Poly) (k : ℕ) :
    coeff (k + 1) (toPS (a :: p)) = coeff k (toPS p) := by
  rw [coeff_toPS, coeff_toPS]; rfl

theorem toPS_cons (a : ℚ) (p : Poly) : toPS (a :: p) = C a + X * toPS p := by
  ext k
  cases k with
  | zero => rw [coeff_toPS_cons_zero, map_add, coeff_zero_C, coeff_zero_X_mul, add_zero]
  | succ k => rw [coeff_toPS_cons_succ, map_add, coeff_succ_X_mul, coeff_C, if_neg k.succ_ne_zero, zero_add]

theorem toPS_singleton (a : ℚ) : toPS [a] = C a := by
  rw [toPS_cons, toPS_nil, mul_zero, add_zero]

theorem toPS_padd (a b : Poly) : toPS (padd a b) = toPS a + toPS b := by
  induction a generalizing b with
  | nil => rw [padd, toPS_nil, zero_add]
  | cons x xs ih =>
    cases b with
    | nil => rw [padd, toPS_nil, add_zero]; exact nofun
    | cons y ys =>
      rw [padd, toPS_cons, toPS_cons, toPS_cons, ih, map_add, mul_add]
      exact add_add_add_comm _ _ _ _

theorem toPS_scale (c : ℚ) (a : Poly) : toPS (scale c a) = C c * toPS a := by
  induction a with
  | nil => exact toPS_nil.trans (mul_zero _).symm
  | cons x xs ih =>
    have : scale c (x :: xs) = (c * x) :: scale c xs := rfl
    rw [this, toPS_cons, toPS_cons, ih, map_mul, mul_add, mul_left_comm]

theorem toPS_pneg (a : Poly) : toPS (pneg a) = - toPS a := by
  have h := toPS_scale (-1) a
  rw [map_neg, map_one, neg_one_mul] at h
  rw [← h]
  exact congrArg toPS (List.map_congr_left fun c _ => (neg_one_mul c).symm)

theorem toPS_psub (a b : Poly) : toPS (psub a b) = toPS a - toPS b := by
  rw [psub, toPS_padd, toPS_pneg, sub_eq_add_neg]

theorem toPS_mulFull (a b : Poly) : toPS (mulFull a b) = toPS a * toPS b := by
  induction a with
  | nil => rw [mulFull, toPS_nil, zero_mul]
  | cons x xs ih =>
    rw [mulFull, toPS_padd, toPS_scale, toPS_cons, toPS_cons, ih, map_zero, zero_add, add_mul, mul_assoc]

/-- `f ≡ g mod X^n`: the coefficients of degree `< n` agree -/
def EqMod (n : ℕ) (f g : ℚ⟦X⟧) : Prop := ∀ k, k < n → coeff k f = coeff k g

theorem eqMod_iff_dvd {n : ℕ} {f g : ℚ⟦X⟧} : EqMod n f g ↔ X ^ n ∣ f - g := by
  rw [X_pow_dvd_iff]
  exact forall₂_congr fun k _ => by rw [map_sub, sub_eq_zero]

theorem eqMod_sub_zero {n : ℕ} {f g : ℚ⟦X⟧} : EqMod n (f - g) 0 ↔ EqMod n f g := by
  rw [eqMod_iff_dvd, eqMod_iff_dvd, sub_zero]

theorem EqMod.refl (n : ℕ) (f : ℚ⟦X⟧) : EqMod n f f := fun _ _ => rfl
theorem EqMod.symm {n : ℕ} {f g : ℚ⟦X⟧} (h : EqMod n f g) : EqMod n g f := fun k hk => (h k hk).symm
theorem EqMod.trans {n : ℕ} {f g h : ℚ⟦X⟧} (h1 : EqMod n f g) (h2 : EqMod n g h) : EqMod n f h :=
  fun k hk => (h1 k hk).trans (h2 k hk)
theorem EqMod.mono {m n : ℕ} {f g : ℚ⟦X⟧} (h : EqMod n f g) (hmn : m ≤ n) : EqMod m f g :=
  fun k hk => h k (lt_of_lt_of_le hk hmn)
theorem EqMod.of_eq {n : ℕ} {f g : ℚ⟦X⟧} (h : f = g) : EqMod n f g := h ▸ EqMod.refl n f
theorem eqMod_zero (f g : ℚ⟦X⟧) : EqMod 0 f g := fun _ hk => absurd hk (Nat.not_lt_zero _)

theorem eqMod_of_pos {n : ℕ} {f g : ℚ⟦X⟧} (h : 1 ≤ n → EqMod n f g) : EqMod n f g := by
  rcases Nat.eq_zero_or_pos n with rfl | hn
  · exact eqMod_zero _ _
  · exact h hn

theorem EqMod.add {n : ℕ} {f g f' g' : ℚ⟦X⟧} (h1 : EqMod n f g) (h2 : EqMod n f' g') :
    EqMod n (f + f') (g + g') := fun k hk => by rw [map_add, map_add, h1 k hk, h2 k hk]
theorem EqMod.neg {n : ℕ} {f g : ℚ⟦X⟧} (h1 : EqMod n f g) : EqMod n (-f) (-g) :=
  fun k hk => by rw [map_neg, map_neg, h1 k hk]
theorem EqMod.sub {n : ℕ} {f g f' g' : ℚ⟦X⟧} (h1 : EqMod n f g) (h2 : EqMod n f' g') :
    EqMod n (f - f') (g - g') := fun k hk => by rw [map_sub, map_sub, h1 k hk, h2 k hk]

theorem eqMod_add_of_zero {n : ℕ} (f : ℚ⟦X⟧) {g : ℚ⟦X⟧} (h : EqMod n g 0) : EqMod n (f + g) f :=
  fun k hk => by rw [map_add, h k hk, map_zero, add_zero]
theorem eqMod_sub_of_zero {n : ℕ} (f : ℚ⟦X⟧) {g : ℚ⟦X⟧} (h : EqMod n g 0) : EqMod n (f - g) f :=
  fun k hk => by rw [map_sub, h k hk, map_zero, sub_zero]

theorem eqMod_one_iff {f g : ℚ⟦X⟧} : EqMod 1 f g ↔ constantCoeff f = constantCoeff g := by
  rw [← coeff_zero_eq_constantCoeff_apply, ← coeff_zero_eq_constantCoeff_apply]
  exact ⟨fun h => h 0 Nat.one_pos, fun h k hk => by rwa [Nat.lt_one_iff.mp hk]⟩

theorem constantCoeff_eq_of_eqMod {n : ℕ} (hn : 1 ≤ n) {A B : ℚ⟦X⟧} (h : EqMod n A B) :
    constantCoeff A = constantCoeff B := eqMod_one_iff.mp (h.mono hn)

theorem constantCoeff_one_add {d : ℚ⟦X⟧} (hd : constantCoeff d = 0) : constantCoeff (1 + d) = 1 := by
  rw [map_add, map_one, hd, add_zero]

theorem constantCoeff_ne_zero_of_eq_one {R : ℚ⟦X⟧} (h : constantCoeff R = 1) : constantCoeff R ≠ 0 :=
  ne_of_eq_of_ne h one_ne_zero

theorem constantCoeff_one_add_ne_zero {d : ℚ⟦X⟧} (hd : constantCoeff d = 0) : constantCoeff (1 + d) ≠ 0 :=
  constantCoeff_ne_zero_of_eq_one (constantCoeff_one_add hd)

theorem constantCoeff_mul_self {S : ℚ⟦X⟧} (hS : constantCoeff S = 0) : constantCoeff (S * S) = 0 := by
  rw [map_mul, hS, mul_zero]

theorem constantCoeff_of_eqMod_zero {k : ℕ} (hk : 1 ≤ k) {d : ℚ⟦X⟧} (h : EqMod k d 0) : constantCoeff d = 0 :=
  (constantCoeff_eq_of_eqMod hk h).trans (map_zero _)

theorem EqMod.mul {n : ℕ} {f g f' g' : ℚ⟦X⟧} (h1 : EqMod n f g) (h2 : EqMod n f' g') :
    EqMod n (f * f') (g * g') := by
  intro k hk
  rw [coeff_mul, coeff_mul]
  apply Finset.sum_congr rfl
  intro p hp
  have hp' := Finset.mem_antidiagonal.mp hp
  rw [h1 p.1 (by omega), h2 p.2 (by omega)]

theorem EqMod.mul_left {n : ℕ} {f g : ℚ⟦X⟧} (h : ℚ⟦X⟧) (h1 : EqMod n f g) : EqMod n (h * f) (h * g) :=
  (EqMod.refl n h).mul h1
theorem EqMod.mul_right {n : ℕ} {f g : ℚ⟦X⟧} (h : ℚ⟦X⟧) (h1 : EqMod n f g) : EqMod n (f * h) (g * h) :=
  h1.mul (EqMod.refl n h)

theorem EqMod.mul_right_zero {n : ℕ} {f : ℚ⟦X⟧} (h : EqMod n f 0) (g : ℚ⟦X⟧) : EqMod n (f * g) 0 := by
  have := h.mul_right g
  rwa [zero_mul] at this

theorem EqMod.of_mul_eq_one {n : ℕ} {f g Q : ℚ⟦X⟧} (hf : EqMod n (f * Q) 1) (hg : g * Q = 1) :
    EqMod n f g := by
  have := hf.mul_right g
  rwa [mul_assoc, mul_comm Q, hg, mul_one, one_mul] at this

theorem eqMod_inv_of_mul {n : ℕ} {P A B : ℚ⟦X⟧} (h : EqMod n (P * A) 1) (hAB : EqMod n A B)
    (hB : constantCoeff B ≠ 0) : EqMod n P B⁻¹ :=
  ((EqMod.mul_left P hAB).symm.trans h).of_mul_eq_one (PowerSeries.inv_mul_cancel B hB)

theorem EqMod.inv {n : ℕ} {A B : ℚ⟦X⟧} (h : EqMod n A B) (hA : constantCoeff A ≠ 0)
    (hB : constantCoeff B ≠ 0) : EqMod n A⁻¹ B⁻¹ :=
  eqMod_inv_of_mul (EqMod.of_eq (PowerSeries.inv_mul_cancel A hA)) h hB

theorem EqMod.pow {n : ℕ} {f g : ℚ⟦X⟧} (h : EqMod n f g) (e : ℕ) : EqMod n (f ^ e) (g ^ e) := by
  induction e with
  | zero => rw [pow_zero, pow_zero]; exact EqMod.refl _ _
  | succ e ih => rw [pow_succ, pow_succ]; exact ih.mul h

theorem eqMod_mul_zero {a b : ℕ} {f g : ℚ⟦X⟧} (hf : EqMod a f 0) (hg : EqMod b g 0) :
    EqMod (a + b) (f * g) 0 := by
  rw [eqMod_iff_dvd, sub_zero] at *
  rw [pow_add]
  exact mul_dvd_mul hf hg

theorem eqMod_sq_of_eqMod {m : ℕ} {e : ℚ⟦X⟧} (h : EqMod m e 0) : EqMod (2 * m) (e * e) 0 := by
  rw [two_mul]
  exact eqMod_mul_zero h h

theorem EqMod.X_mul {n : ℕ} {f g : ℚ⟦X⟧} (h : EqMod n f g) : EqMod (n + 1) (X * f) (X * g) := by
  intro k hk
  cases k with
  | zero => rw [coeff_zero_X_mul, coeff_zero_X_mul]
  | succ k => rw [coeff_succ_X_mul, coeff_succ_X_mul, h k (Nat.lt_of_succ_lt_succ hk)]

theorem EqMod.derivative {n : ℕ} {f g : ℚ⟦X⟧} (h : EqMod (n + 1) f g) :
    EqMod n (d⁄dX ℚ f) (d⁄dX ℚ g) := by
  intro k hk
  rw [coeff_derivative, coeff_derivative, h (k + 1) (Nat.succ_lt_succ hk)]

theorem EqMod.derivative_zero {n : ℕ} {f : ℚ⟦X⟧} (h : EqMod (n + 1) f 0) : EqMod n (d⁄dX ℚ f) 0 := by
  have := h.derivative
  rwa [map_zero] at this

/-- uniqueness of antiderivatives modulo `X^(n+1)` -/
theorem eqMod_of_derivative {n : ℕ} {f g : ℚ⟦X⟧} (h0 : constantCoeff f = constantCoeff g)
    (h : EqMod n (d⁄dX ℚ f) (d⁄dX ℚ g)) : EqMod (n + 1) f g := by
  intro k hk
  cases k with
  | zero => rwa [coeff_zero_eq_constantCoeff_apply, coeff_zero_eq_constantCoeff_apply]
  | succ k =>
    have := h k (Nat.lt_of_succ_lt_succ hk)
    rw [coeff_derivative, coeff_derivative] at this
    exact mul_right_cancel₀ k.cast_add_one_ne_zero this

theorem coeff_toPS_take (p : Poly) (n k : ℕ) :
    coeff k (toPS (p.take n)) = if k < n then coeff k (toPS p) else 0 := by
  simp only [coeff_toPS, List.getD_eq_getElem?_getD, List.getElem?_take]
  split <;> rfl

theorem eqMod_take (p : Poly) (n : ℕ) : EqMod n (toPS (p.take n)) (toPS p) := by
  intro k hk; rw [coeff_toPS_take, if_pos hk]

theorem toPS_mulTrunc (a b : Poly) (n : ℕ) : EqMod n (toPS (mulTrunc a b n)) (toPS a * toPS b) := by
  induction a generalizing n with
  | nil => rw [mulTrunc, toPS_nil, zero_mul]; exact EqMod.refl _ _
  | cons x xs ih =>
    cases n with
    | zero => exact eqMod_zero _ _
    | succ n =>
      rw [mulTrunc, toPS_padd, toPS_scale, toPS_cons, toPS_cons, map_zero, zero_add]
      have h1 : EqMod (n + 1) (C x * toPS (b.take (n + 1))) (C x * toPS b) :=
        EqMod.mul_left _ (eqMod_take b (n + 1))
      refine (h1.add (ih n).X_mul).trans (EqMod.of_eq ?_)
      rw [add_mul, mul_assoc]

theorem coeff_mulTrunc_ge (a b : Poly) (n k : ℕ) (hk : n ≤ k) : coeff k (toPS (mulTrunc a b n)) = 0 := by
  induction a generalizing n k with
  | nil => rw [mulTrunc, toPS_nil, map_zero]
  | cons x xs ih =>
    cases n with
    | zero => rw [mulTrunc, toPS_nil, map_zero]
    | succ n =>
      obtain ⟨k, rfl⟩ : ∃ k', k = k' + 1 := ⟨k - 1, by omega⟩
      rw [mulTrunc, toPS_padd, toPS_scale, map_add, coeff_C_mul, coeff_toPS_take, if_neg (by omega),
        mul_zero, zero_add, coeff_toPS_cons_succ]
      exact ih n k (Nat.le_of_succ_le_succ hk)

theorem toPS_one : toPS [1] = 1 := by rw [toPS_singleton, map_one]

/-- `fuel` is only what makes the model's loop terminate (`powPos` starts it at `e`); `e ≤ fuel + 1` says that it never runs out -/
theorem powLoop_spec (prec : ℕ) : ∀ (fuel : ℕ) (x y : Poly) (e : ℕ), e ≤ fuel + 1 → 1 ≤ e →
    EqMod prec (toPS (powLoop prec fuel x y e)) (toPS x ^ e * toPS y) := by
  have base : ∀ x y, EqMod prec (toPS (mulTrunc x y prec)) (toPS x ^ 1 * toPS y) := fun x y => by
    rw [pow_one]; exact toPS_mulTrunc x y prec
  intro fuel
  induction fuel with
  | zero =>
    intro x y e he1 he2
    obtain rfl : e = 1 := le_antisymm he1 he2
    exact base x y
  | succ fuel ih =>
    intro x y e he1 he2
    rw [powLoop]
    have hxx := toPS_mulTrunc x x prec
    split
    · split
      · next heven =>
        refine (ih _ _ _ (by omega) (by omega)).trans (((hxx.pow _).mul_right _).trans (EqMod.of_eq ?_))
        rw [← pow_two, ← pow_mul, Nat.mul_div_cancel' (Nat.dvd_of_mod_eq_zero (beq_iff_eq.mp heven))]
      · next hodd =>
        have hodd' : ¬ e % 2 = 0 := fun h => hodd (beq_iff_eq.mpr h)
        refine (ih _ _ _ (by omega) (by omega)).trans
          (((hxx.pow _).mul (toPS_mulTrunc x y prec)).trans (EqMod.of_eq ?_))
        have he : e = 2 * ((e - 1) / 2) + 1 := by omega
        rw [← pow_two, ← pow_mul, ← mul_assoc, ← pow_succ, ← he]
    · next hle =>
      obtain rfl : e = 1 := le_antisymm (Nat.le_of_not_lt hle) he2
      exact base x y

/-- `UnivariateSeries::pow(base, e, prec)` is `base^e` modulo `X^prec` (e ≥ 1) -/
theorem toPS_powPos (b : Poly) (e prec : ℕ) (he : 1 ≤ e) :
    EqMod prec (toPS (powPos b e prec)) (toPS b ^ e) := by
  have := powLoop_spec prec e b [1] e (Nat.le_succ e) he
  rwa [toPS_one, mul_one] at this

theorem powTrunc_pos_spec {p : Poly} {n prec : ℕ} (hn : 1 ≤ n) {r : Poly} (h : powTrunc p n prec = .ok r) :
    EqMod prec (toPS r) (toPS p ^ n) := by
  unfold powTrunc at h
  have : (n == 0) = false := by simpa using (by omega : n ≠ 0)
  simp only [this] at h
  cases h
  exact toPS_powPos p n prec hn

/-- an exponent `n ≥ 1` takes one of the first two branches of `powInt` / `powRat` -/
theorem powPosBranch_spec {n : ℕ} (hn : 1 ≤ n) {p r : Poly} {prec : ℕ} {rest : Except Err Poly}
    (h : (if (n : Int) == 1 then .ok p else if (n : Int) > 0 then powTrunc p (n : Int).toNat prec else rest)
      = .ok r) : EqMod prec (toPS r) (toPS p ^ n) := by
  split at h
  · next h1 =>
    obtain rfl : n = 1 := by simpa using h1
    cases h
    rw [pow_one]
    exact EqMod.refl _ _
  · rw [if_pos (by omega), Int.toNat_natCast] at h
    exact powTrunc_pos_spec hn h

/-- an exponent `-n`, `n ≥ 1`, takes one of the last two branches of `powInt` / `powRat` -/
theorem powNegBranch {α : Type} {n : ℕ} (hn : 1 ≤ n) (a b c d : α) :
    (if (-(n : Int)) == 1 then a else if (-(n : Int)) > 0 then b else if (-(n : Int)) == -1 then c else d)
      = if n = 1 then c else d := by
  rw [if_neg (by simp; omega), if_neg (by omega)]
  exact if_congr (by simp) rfl rfl

/-- formal antiderivative with zero constant term -/
noncomputable def integ (f : ℚ⟦X⟧) : ℚ⟦X⟧ :=
  PowerSeries.mk fun n => if n = 0 then 0 else coeff (n - 1) f / n

@[simp] theorem coeff_zero_integ (f : ℚ⟦X⟧) : coeff 0 (integ f) = 0 := by
  rw [integ, coeff_mk, if_pos rfl]
@[simp] theorem constantCoeff_integ (f : ℚ⟦X⟧) : constantCoeff (integ f) = 0 := by
  rw [← coeff_zero_eq_constantCoeff_apply]; exact coeff_zero_integ f
@[simp] theorem coeff_succ_integ (f : ℚ⟦X⟧) (n : ℕ) : coeff (n + 1) (integ f) = coeff n f / (n + 1) := by
  rw [integ, coeff_mk, if_neg n.succ_ne_zero, Nat.add_sub_cancel, Nat.cast_succ]

@[simp] theorem derivative_integ (f : ℚ⟦X⟧) : d⁄dX ℚ (integ f) = f := by
  ext n
  rw [coeff_derivative, coeff_succ_integ]
  exact div_mul_cancel₀ _ n.cast_add_one_ne_zero

theorem integ_derivative (f : ℚ⟦X⟧) (h0 : constantCoeff f = 0) : integ (d⁄dX ℚ f) = f := by
  ext n
  cases n with
  | zero => rw [coeff_zero_integ, coeff_zero_eq_constantCoeff_apply, h0]
  | succ n =>
    rw [coeff_succ_integ, coeff_derivative]
    exact mul_div_cancel_right₀ _ n.cast_add_one_ne_zero

theorem integ_zero : integ 0 = 0 := by
  have := integ_derivative 0 (map_zero _)
  rwa [map_zero] at this

theorem integ_add (f g : ℚ⟦X⟧) : integ (f + g) = integ f + integ g := by
  ext n
  cases n with
  | zero => rw [map_add, coeff_zero_integ, coeff_zero_integ, coeff_zero_integ, add_zero]
  | succ n => rw [map_add, coeff_succ_integ, coeff_succ_integ, coeff_succ_integ, map_add, add_div]

theorem EqMod.integ {n : ℕ} {f g : ℚ⟦X⟧} (h : EqMod n f g) : EqMod (n + 1) (integ f) (integ g) := by
  intro k hk
  cases k with
  | zero => rw [coeff_zero_integ, coeff_zero_integ]
  | succ k => rw [coeff_succ_integ, coeff_succ_integ, h k (Nat.lt_of_succ_lt_succ hk)]

theorem coeff_toPS_diffFrom (p : Poly) (j k : ℕ) :
    coeff k (toPS (diffFrom j p)) = ((j + k : ℕ) : ℚ) * coeff k (toPS p) := by
  induction p generalizing j k with
  | nil => rw [diffFrom, toPS_nil, map_zero, mul_zero]
  | cons a t ih =>
    cases k with
    | zero => rw [diffFrom, coeff_toPS_cons_zero, coeff_toPS_cons_zero, Nat.add_zero]
    | succ k =>
      rw [diffFrom, coeff_toPS_cons_succ, coeff_toPS_cons_succ, ih, Nat.add_assoc, Nat.add_comm 1 k]

theorem toPS_diff (p : Poly) : toPS (diff p) = d⁄dX ℚ (toPS p) := by
  ext k
  rw [coeff_derivative]
  cases p with
  | nil => rw [diff, toPS_nil, map_zero, map_zero, zero_mul]
  | cons a t =>
    rw [diff, coeff_toPS_diffFrom, coeff_toPS_cons_succ, Nat.add_comm, Nat.cast_succ, mul_comm]

theorem coeff_toPS_integrateFrom (p : Poly) (j k : ℕ) :
    coeff k (toPS (integrateFrom j p)) = coeff k (toPS p) / ((j + k : ℕ) : ℚ) := by
  induction p generalizing j k with
  | nil => rw [integrateFrom, toPS_nil, map_zero, zero_div]
  | cons a t ih =>
    cases k with
    | zero => rw [integrateFrom, coeff_toPS_cons_zero, coeff_toPS_cons_zero, Nat.add_zero]
    | succ k =>
      rw [integrateFrom, coeff_toPS_cons_succ, coeff_toPS_cons_succ, ih, Nat.add_assoc, Nat.add_comm 1 k]

theorem toPS_integrate (p : Poly) : toPS (integrate p) = integ (toPS p) := by
  ext k
  cases k with
  | zero => rw [coeff_zero_integ, integrate, coeff_toPS_cons_zero]
  | succ k =>
    rw [coeff_succ_integ, integrate, coeff_toPS_cons_succ, coeff_toPS_integrateFrom, Nat.add_comm,
      Nat.cast_succ]

theorem toPS_norm (p : Poly) : toPS (norm p) = toPS p := by
  induction p with
  | nil => simp [norm]
  | cons a t ih =>
    simp only [norm]
    split
    · next h =>
      have ht : toPS t = 0 := by rw [← ih, h, toPS_nil]
      rw [toPS_cons a t, ht, mul_zero, add_zero]
      split
      · next ha => rw [toPS_nil, beq_iff_eq.mp ha, map_zero]
      · exact toPS_singleton a
    · next h => rw [toPS_cons, toPS_cons, ih]

theorem toPS_of_isZero {p : Poly} (h : isZero p = true) : toPS p = 0 := by
  have : norm p = [] := by simpa [isZero] using h
  rw [← toPS_norm, this, toPS_nil]

theorem toPS_of_isOne {p : Poly} (h : isOne p = true) : toPS p = 1 := by
  have : norm p = [1] := by simpa [isOne] using h
  rw [← toPS_norm, this, toPS_one]

theorem toPS_of_isVar {p : Poly} (h : isVar p = true) : toPS p = X := by
  have : norm p = [0, 1] := by simpa [isVar] using h
  rw [← toPS_norm, this, toPS_cons, toPS_singleton]
  simp

theorem toPS_of_isVarPlusOne {p : Poly} (h : isVarPlusOne p = true) : toPS p = 1 + X := by
  have : norm p = [1, 1] := by simpa [isVarPlusOne] using h
  rw [← toPS_norm, this, toPS_cons, toPS_singleton]
  simp

theorem constantCoeff_of_ldegree {p : Poly} (h : ldegree p = some 0) : constantCoeff (toPS p) ≠ 0 := by
  rw [← coeff_zero_eq_constantCoeff_apply]
  cases p with
  | nil => simp [ldegree] at h
  | cons a t =>
    simp only [ldegree] at h
    split at h
    · next ha => simpa using ha
    · have hsucc : ∀ o : Option ℕ, o.map (· + 1) ≠ some 0 := fun o => by cases o <;> simp
      exact absurd h (hsucc _)

end SymVerif.C31
