import SymVerif.Model.Conc
import SymVerif.Lemmas.Basic
/-! `Inv s0 s`, the invariant of the interleaving semantics of the thread-safe build (`atomic = true`): the count
equation of the sequential protocol (C40) with the references held by all threads, every hash cache empty or right,
and `ThreadOk` of each thread.  Every step of every thread keeps it (`step_inv`, `run_inv`). -/
namespace SymVerif.Conc
/-- What must hold of thread `tid`, in this order: (1) its only possible fault is `notHeld` (an ill-formed
program); (2) its results so far are the sequential results of the operations it has completed;
(3) completed and remaining operations make up its program in the initial configuration `s0`;
(4) when it is about to return from a cache hit of `hash o`, the cache of `o` is filled. -/
def ThreadOk (s0 : State) (nodes : List Node) (tid : Nat) (t : Thread) : Prop :=
  (t.fault = none ∨ t.fault = some .notHeld) ∧
  t.results = seqResults s0.nodes t.past ∧
  (∃ t0, s0.threads[tid]? = some t0 ∧ t.past ++ t.prog = t0.prog) ∧
  (∀ (o : Nat) (rest : List TOp) (n : Node), t.prog = .hash o :: rest → t.phase = .hashHit →
      nodes[o]? = some n → n.hash = n.H)

/-- Invariant of the configuration `s` reached from the initial configuration `s0`; `counts`, `pos` are those of
the sequential protocol (C40), with the references held by all threads.  `Thread.past` (in `thr`) is ghost
state that no step reads, kept so that `results_seq` can be stated. -/
structure Inv (s0 s : State) : Prop where
  imm : ∀ (o : Nat) (n : Node), s.nodes[o]? = some n → ∃ n0, s0.nodes[o]? = some n0 ∧ n.val = n0.val ∧ n.H = n0.H
  hashv : ∀ (o : Nat) (n : Node), s.nodes[o]? = some n → n.hash = 0 ∨ n.hash = n.H
  counts : ∀ o, totalHeld s o = cnt s o
  pos : ∀ (o : Nat) (n : Node), s.nodes[o]? = some n → n.live = true → 0 < n.count
  nthreads : s.threads.length = s0.threads.length
  thr : ∀ (tid : Nat) (t : Thread), s.threads[tid]? = some t → ThreadOk s0 s.nodes tid t

theorem set_self {α : Type} : ∀ (l : List α) (i : Nat) (a : α), l[i]? = some a → l.set i a = l := by
  intro l i a h
  obtain ⟨hlt, rfl⟩ := List.getElem?_eq_some_iff.mp h
  exact List.set_getElem_self hlt

theorem setThread_threads (s : State) (tid : Nat) (t : Thread) : (setThread s tid t).threads = s.threads.set tid t := rfl
theorem setThread_nodes (s : State) (tid : Nat) (t : Thread) : (setThread s tid t).nodes = s.nodes := rfl

theorem totalHeld_set {s s' : State} {tid : Nat} {t t' : Thread} (ht : s.threads[tid]? = some t)
    (hs : s'.threads = s.threads.set tid t') (x : Nat) :
    totalHeld s' x + t.held.count x = totalHeld s x + t'.held.count x := by
  unfold totalHeld
  rw [hs]
  exact List.sum_map_set (fun t => t.held.count x) t' ht

theorem cnt_setNode {s : State} {o : Nat} {n : Node} (hn : s.nodes[o]? = some n) (n' : Node) (x : Nat) :
    cnt (setNode s o n') x = if x = o then (if n'.live then n'.count else 0) else cnt s x := by
  unfold cnt setNode
  rw [List.getElem?_set]
  by_cases hx : x = o
  · subst hx; rw [if_pos rfl, if_pos (lt_of_getElem? hn), if_pos rfl]
  · rw [if_neg (Ne.symm hx), if_neg hx]

theorem cnt_of_live {s : State} {o : Nat} {n : Node} (hn : s.nodes[o]? = some n) (hl : n.live = true) :
    cnt s o = n.count := by
  unfold cnt; rw [hn]; exact if_pos hl

theorem Inv.held_live {s0 s : State} (i : Inv s0 s) {tid o : Nat} {t : Thread}
    (ht : s.threads[tid]? = some t) (hh : t.held.contains o = true) :
    ∃ n, s.nodes[o]? = some n ∧ n.live = true ∧ 0 < n.count := by
  have h4 : 0 < cnt s o := i.counts o ▸ Nat.lt_of_lt_of_le
    (List.count_pos_iff.mpr (List.contains_iff_mem.mp hh)) (List.le_sum_map (fun t => t.held.count o) ht)
  unfold cnt at h4
  cases hn : s.nodes[o]? with
  | none => rw [hn] at h4; cases h4
  | some n =>
    cases hl : n.live with
    | false => simp only [hn, hl, Bool.false_eq_true, if_false, Nat.lt_irrefl] at h4
    | true => exact ⟨n, rfl, hl, i.pos o n hn hl⟩

theorem inv_thread_only {s0 s : State} (i : Inv s0 s) {tid : Nat} {t t' : Thread} (ht : s.threads[tid]? = some t)
    (hheld : t'.held = t.held) (hthr : ThreadOk s0 s.nodes tid t') : Inv s0 (setThread s tid t') where
  imm := i.imm
  hashv := i.hashv
  counts x := by
    have := totalHeld_set ht (s' := setThread s tid t') rfl x
    rw [hheld] at this
    exact (Nat.add_right_cancel this).trans (i.counts x)
  pos := i.pos
  nthreads := List.length_set.trans i.nthreads
  thr := forall_set i.thr hthr

/-- A step that rewrites node `o` (new cache `h`, count `c`, liveness `l`) and the running thread.  The cache
may only be filled with the true hash (`hhash`); the change of the count is the change in what the thread
holds of `o` (`hcount`), nothing else it holds changes (`hheld`); a live node keeps a positive count. -/
theorem inv_update {s0 s : State} (i : Inv s0 s) {tid o : Nat} {t t' : Thread} {n : Node} {h c : Nat} {l : Bool}
    (ht : s.threads[tid]? = some t) (hn : s.nodes[o]? = some n) (hl : n.live = true)
    (hhash : h = n.hash ∨ h = n.H)
    (hcount : (if l then c else 0) + t.held.count o = n.count + t'.held.count o)
    (hheld : ∀ x, x ≠ o → t'.held.count x = t.held.count x)
    (hpos : l = true → 0 < c)
    (hthr : ThreadOk s0 (s.nodes.set o { n with hash := h, count := c, live := l }) tid t') :
    Inv s0 (setThread (setNode s o { n with hash := h, count := c, live := l }) tid t') := by
  have hash' : n.hash = n.H → h = n.H := fun e => hhash.elim (·.trans e) id
  refine { imm := forall_set i.imm (i.imm o n hn)
           hashv := forall_set i.hashv (hhash.elim (fun e => (i.hashv o n hn).imp e.trans hash') .inr)
           counts := fun x => ?_
           pos := forall_set i.pos hpos
           nthreads := List.length_set.trans i.nthreads
           thr := forall_set (fun tid' u hu => ?_) hthr }
  · have h1 := totalHeld_set ht (s' := setThread (setNode s o { n with hash := h, count := c, live := l }) tid t') rfl x
    show _ = cnt (setNode s o _) x
    rw [cnt_setNode hn]
    by_cases e : x = o
    · subst e
      rw [i.counts x, cnt_of_live hn hl, ← hcount] at h1
      rw [if_pos rfl]
      exact Nat.add_right_cancel h1
    · rw [hheld x e] at h1
      rw [if_neg e]
      exact (Nat.add_right_cancel h1).trans (i.counts x)
  · -- of `ThreadOk` only clause (4) sees the nodes: a thread waiting in `hashHit` on `o` saw `n.hash = n.H`, and a
    -- right cache stays right (`hash'`); `hp` goes behind `hm` so that `forall_set` finds its motive
    obtain ⟨h1, h2, h3, h4⟩ := i.thr tid' u hu
    exact ⟨h1, h2, h3, fun y rest m hp hph hm => forall_set (fun y m hm hp => h4 y rest m hp hph hm)
      (fun hp => hash' (h4 o rest n hp hph hn)) y m hm hp⟩

theorem seqResults_append (nodes : List Node) : ∀ (a b : List TOp),
    seqResults nodes (a ++ b) = seqResults nodes a ++ seqResults nodes b := by
  intro a
  induction a with
  | nil => intro b; rfl
  | cons op ops ih =>
    intro b
    cases op <;> simp only [List.cons_append, seqResults, ih]

theorem threadOk_complete {s0 : State} {nodes nodes' : List Node} {tid : Nat} {t : Thread} {op : TOp}
    {rest : List TOp} {r : List Nat} (h : ThreadOk s0 nodes tid t) (hf : t.fault = none) (hp : t.prog = op :: rest)
    (hr : r = t.results ++ seqResults s0.nodes [op]) (held : List Nat) :
    ThreadOk s0 nodes' tid { t.complete op rest with results := r, held := held } := by
  obtain ⟨-, tres, ⟨t0, ht0, tpast⟩, -⟩ := h
  -- (4) is vacuous: `complete` leaves the phase `idle` (which is why `nodes'` may be anything)
  refine ⟨.inl hf, ?_, ⟨t0, ht0, ?_⟩, nofun⟩
  · show r = seqResults s0.nodes (t.past ++ [op])
    rw [seqResults_append, ← tres, hr]
  · show (t.past ++ [op]) ++ rest = t0.prog
    rw [← tpast, hp, List.append_assoc]; rfl

/-- A step inside `hash o` that only moves the phase: clauses (1)-(3) do not see the phase, (4) is about `o` alone. -/
theorem threadOk_phase {s0 : State} {nodes nodes' : List Node} {tid o : Nat} {t : Thread} {rest : List TOp}
    (h : ThreadOk s0 nodes tid t) (hf : t.fault = none) (hp : t.prog = .hash o :: rest) (ph : Phase)
    (h4 : ph = .hashHit → ∀ m, nodes'[o]? = some m → m.hash = m.H) :
    ThreadOk s0 nodes' tid { t with phase := ph } :=
  ⟨.inl hf, h.2.1, h.2.2.1, fun _ _ m hpy hph hm => by cases hp.symm.trans hpy; exact h4 hph m hm⟩

theorem step_inv (s0 s : State) (tid : Nat) (i : Inv s0 s) : Inv s0 (step true s tid) := by
  unfold step
  cases ht : s.threads[tid]? with
  | none => exact i
  | some t =>
    have tok := i.thr tid t ht
    obtain ⟨prog, past, phase, held, results, fault⟩ := t
    rcases fault with _ | f
    case some => exact i
    rcases prog with _ | ⟨op, rest⟩
    · exact i
    dsimp only [Option.isSome]
    rw [if_neg Bool.false_ne_true]
    generalize ho : op.target = o
    cases hh : held.contains o
    · exact inv_thread_only i ht rfl ⟨.inr rfl, tok.2⟩
    · obtain ⟨n, hn, hl, hc⟩ := i.held_live ht hh
      -- The model tests `held`, `nodes[o]?`, `live` on `op.target` before it matches on `op`: hence the target is
      -- generalised first (`obtain rfl` per case).  A held node is live with a positive count: this settles the
      -- `uaf` tests, ahead of the split the `count = 0` test of `drop`, and it turns `live := n.live` of the rebuilt
      -- node into `true`, which is why `hcount` below is `rfl`
      simp only [hn, hl, Bool.not_true, Bool.false_eq_true, if_false, if_true, if_neg (Nat.ne_of_gt hc)]
      obtain ⟨n0, hn0, hv0, hH0⟩ := i.imm o n hn
      cases op with
      | hash o' =>
        obtain rfl : o' = o := ho
        dsimp only []
        split
        · -- hashMiss
          refine inv_update i ht hn hl (.inr rfl) rfl (fun _ _ => rfl) (fun _ => hc)
            (threadOk_phase tok rfl rfl .hashHit fun _ m hm => ?_)
          rw [List.getElem?_set_self (lt_of_getElem? hn)] at hm
          cases hm
          rfl
        · -- hashHit
          refine inv_thread_only i ht rfl (threadOk_complete tok rfl rfl ?_ _)
          rw [tok.2.2.2 o' rest n rfl rfl hn, hH0]
          simp only [seqResults, hn0]
        · -- neither miss nor hit (idle): look at the cache
          refine inv_thread_only i ht rfl (threadOk_phase tok rfl rfl _ fun hph m hm => ?_)
          cases hn.symm.trans hm
          refine (i.hashv o' n hn).resolve_left fun hz => ?_
          rw [if_pos hz] at hph
          cases hph
      | read o' =>
        obtain rfl : o' = o := ho
        exact inv_thread_only i ht rfl (threadOk_complete tok rfl rfl (by simp only [seqResults, hn0, hv0]) _)
      | copy o' =>
        obtain rfl : o' = o := ho
        refine inv_update i ht hn hl (.inl rfl) ?_ (fun x hx => List.count_cons_of_ne (Ne.symm hx))
          (fun _ => Nat.succ_pos _) (threadOk_complete tok rfl rfl (List.append_nil _).symm _)
        show n.count + 1 + List.count o' held = n.count + List.count o' (o' :: held)
        rw [List.count_cons_self, Nat.add_assoc, Nat.add_comm 1]
      | drop o' =>
        obtain rfl : o' = o := ho
        refine inv_update i ht hn hl (.inl rfl) ?_ (fun x hx => List.count_erase_of_ne hx)
          (fun h => Nat.pos_of_ne_zero (bne_iff_ne.mp h)) (threadOk_complete tok rfl rfl (List.append_nil _).symm _)
        have h1 : 0 < held.count o' := List.count_pos_iff.mpr (List.contains_iff_mem.mp hh)
        have h2 : (if (n.count - 1 != 0) = true then n.count - 1 else 0) = n.count - 1 := by
          cases n.count - 1 <;> rfl
        show _ + List.count o' held = _ + List.count o' (held.erase o')
        rw [h2, List.count_erase_self, ← Nat.sub_add_comm hc, Nat.add_sub_assoc h1]

theorem run_inv (s0 : State) : ∀ (sched : List Nat) (s : State), Inv s0 s → Inv s0 (runSched true s sched) := by
  intro sched
  induction sched with
  | nil => intro s i; exact i
  | cons tid rest ih => intro s i; exact ih _ (step_inv s0 s tid i)

end SymVerif.Conc
