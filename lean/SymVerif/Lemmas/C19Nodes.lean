/-
C19: the pointer slots of an object graph as a list (`nodesT`).  What holds of every member holds throughout the
graph (`allT_of_nodes`), so that "equal addresses, equal objects" is a condition on a list (`Consistent`).
-/
import SymVerif.Lemmas.C19Round

namespace SymVerif.Codec

mutual
  /-- all nodes (pointer slots) of a graph, in stream order -/
  def nodesT : T → List T
    | .mk a tc fs => .mk a tc fs :: nodesFlds fs
  def nodesFlds : List Fld → List T
    | [] => []
    | f :: fs => nodesFld f ++ nodesFlds fs
  def nodesFld : Fld → List T
    | .ptr t => nodesT t
    | .seq _ l => nodesTs l
    | _ => []
  def nodesTs : List T → List T
    | [] => []
    | t :: ts => nodesT t ++ nodesTs ts
end

mutual
  theorem allT_of_nodes (U : T → Prop) : ∀ t : T, (∀ x ∈ nodesT t, U x) → AllT U t
    | .mk _ _ fs, h =>
      ⟨h _ List.mem_cons_self, allFlds_of_nodes U fs (fun x hx => h x (List.mem_cons_of_mem _ hx))⟩
  theorem allFlds_of_nodes (U : T → Prop) : ∀ fs : List Fld, (∀ x ∈ nodesFlds fs, U x) → AllFlds U fs
    | [], _ => trivial
    | f :: fs, h =>
      ⟨allFld_of_nodes U f (fun x hx => h x (List.mem_append_left _ hx)),
       allFlds_of_nodes U fs (fun x hx => h x (List.mem_append_right _ hx))⟩
  theorem allFld_of_nodes (U : T → Prop) : ∀ f : Fld, (∀ x ∈ nodesFld f, U x) → AllFld U f
    | .ptr t, h => allT_of_nodes U t h
    | .seq _ l, h => allTs_of_nodes U l h
    | .str _, _ => trivial
    | .u64 _, _ => trivial
    | .f64 _, _ => trivial
    | .byte _, _ => trivial
  theorem allTs_of_nodes (U : T → Prop) : ∀ l : List T, (∀ x ∈ nodesTs l, U x) → AllTs U l
    | [], _ => trivial
    | t :: ts, h =>
      ⟨allT_of_nodes U t (fun x hx => h x (List.mem_append_left _ hx)),
       allTs_of_nodes U ts (fun x hx => h x (List.mem_append_right _ hx))⟩
end

/-- `Cons` on the members of a list: what holds of the addresses of live objects in one process -/
def Consistent (l : List T) : Prop := ∀ x ∈ l, ∀ y ∈ l, x.addr = y.addr → x = y

end SymVerif.Codec
