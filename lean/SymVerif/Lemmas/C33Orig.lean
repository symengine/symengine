import SymVerif.Lemmas.C33Loops
/-! The pre-fix code (`finish = start + 2*segment + 1`): out-of-bounds access (defect D15). -/
namespace SymVerif.C33
open SymVerif.Sieve

/-- stated for a result `r` with `markSlice .. = r`, the form in which `fun_induction` hands the call over in `markLoop_cases` -/
theorem markSlice_cases {a : Array Bool} {first count stride : Nat} {r : Except Err (Array Bool)}
    (h : markSlice a first count stride = r) :
    (∃ a', r = .ok a' ∧ a'.size = a.size) ∨ r = .error .oob := by
  subst h
  by_cases h : ∀ t, t < count → first + t * stride < a.size
  · obtain ⟨a', e, hs, _⟩ := markSlice_spec a first count stride h
    exact Or.inl ⟨a', e, hs⟩
  · push Not at h
    exact Or.inr (markSlice_oob a first count stride h)

theorem markLoop_cases (s : State) (start finish fuel index : Nat) (a : Array Bool) :
    (∃ a', markLoop s start finish fuel index a = .ok a' ∧ a'.size = a.size) ∨
    markLoop s start finish fuel index a = .error .oob := by
  fun_induction markLoop s start finish fuel index a with
  | case1 | case5 => exact .inl ⟨_, rfl, rfl⟩          -- no fuel; guard false
  | case2 _ _ _ _ _ _ _ ih => exact ih                  -- no multiple up to `finish`: next prime
  -- the slice assignment failed (`he : markSlice .. = .error e`) or gave `a'`
  | case3 _ _ _ _ _ _ _ _ he => exact markSlice_cases he
  | case4 _ _ _ _ _ _ _ _ he ih =>
    obtain ⟨_, e1, hs⟩ | e1 := markSlice_cases he
    · cases e1
      rwa [hs] at ih
    · cases e1

/-- the collecting loop of the original code reaches index `segment` -/
theorem collectLoop_oob (a : Array Bool) (start finish : Nat) (hfin : start + 2 * a.size + 1 ≤ finish)
    (fuel k : Nat) (s : State) (hk : k ≤ a.size) (hfuel : a.size - k < fuel) :
    collectLoop a start finish fuel (start + 2 * k + 1) s = .error .oob := by
  induction fuel generalizing k s with
  | zero => omega
  | succ fuel ih =>
    rw [collectLoop_step fuel s (by omega)]
    by_cases hlt : k < a.size
    · rw [dif_pos hlt]
      exact ih (k + 1) _ (by omega) (by omega)
    · rw [dif_neg hlt]

theorem segLoop_orig_oob (segment limit fuel start : Nat) (s : State)
    (hlim : start + 2 * segment + 1 ≤ limit) :
    segLoop finishOrig segment limit (fuel + 1) start s = .error .oob := by
  unfold segLoop
  rw [if_pos (by omega)]
  simp only [finishOrig]
  rw [Nat.min_eq_left hlim]
  rcases markLoop_cases s start (start + 2 * segment + 1) (s.size + 1) 1
      (Array.replicate segment true) with ⟨a', e, h⟩ | e
  · rw [e]; simp only []
    have hsz : a'.size = segment := by simpa using h
    rw [collectLoop_oob a' start (start + 2 * segment + 1) (by omega)
      (start + 2 * segment + 1 + 1) 0 s (by omega) (by omega)]
  · rw [e]

theorem finishOrig_min {st bits l : Nat} (h : l < st + 2 * bits) :
    min (finishOrig st bits) l = min (finishFixed st bits) l := by
  unfold finishOrig finishFixed
  omega

end SymVerif.C33
