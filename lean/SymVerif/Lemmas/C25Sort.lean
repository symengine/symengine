import SymVerif.Lemmas.C25Coo
/-!
C25 — `CSRMatrix::from_coo`, part 2: `csr_sort_indices` replaces every row segment by its sorted
version (`List.mergeSort keyLe` of the segment).
-/
namespace SymVerif.C25
open SymVerif.CSR Finset

theorem readPairs_spec (j : Array Nat) (x : Array Q) :
    ∀ n jj, jj + n ≤ j.size → jj + n ≤ x.size → readPairs j x n jj = .ok (seg j x jj (jj + n)) := by
  intro n
  induction n with
  | zero => intro jj _ _; rw [Nat.add_zero, seg_self]; rfl
  | succ n ih =>
    intro jj hj hx
    have h1 : jj < j.size := by omega
    have h2 : jj < x.size := by omega
    unfold readPairs
    simp only [rd_lt h1, rd_lt h2, ok_bind, ih (jj + 1) (by omega) (by omega), pure_ok]
    rw [seg_cons (Nat.lt_add_of_pos_right (Nat.succ_pos n)), Nat.add_right_comm jj 1 n]
    rfl

theorem writePairs_spec :
    ∀ (l : List (Nat × Q)) jj (j : Array Nat) (x : Array Q),
      jj + l.length ≤ j.size → jj + l.length ≤ x.size →
      ∃ j' x', writePairs l jj j x = .ok (j', x') ∧ j'.size = j.size ∧ x'.size = x.size ∧
        (∀ k, k < jj ∨ jj + l.length ≤ k → j'[k]! = j[k]! ∧ x'[k]! = x[k]!) ∧
        seg j' x' jj (jj + l.length) = l := by
  intro l
  induction l with
  | nil =>
    intro jj j x _ _
    exact ⟨j, x, rfl, rfl, rfl, fun _ _ => ⟨rfl, rfl⟩, seg_self ..⟩
  | cons a l ih =>
    intro jj j x hj hx
    obtain ⟨a1, a2⟩ := a
    simp only [List.length_cons] at hj hx ⊢
    have h1 : jj < j.size := by omega
    have h2 : jj < x.size := by omega
    unfold writePairs
    simp only [wr_lt _ h1, wr_lt _ h2, ok_bind]
    obtain ⟨j', x', e, s1, s2, g1, g2⟩ := ih (jj + 1) (j.set jj a1 h1) (x.set jj a2 h2)
      (by rw [Array.size_set]; omega) (by rw [Array.size_set]; omega)
    rw [Array.size_set] at s1 s2
    refine ⟨j', x', e, s1, s2, fun k hk => ?_, ?_⟩
    · exact both_trans (g1 k (by omega)) (set_both_ne _ _ h1 h2 (by omega))
    · rw [seg_cons_written h1 h2 (by omega) (g1 jj (Or.inl (Nat.lt_succ_self jj))),
        ← Nat.add_assoc, Nat.add_right_comm, g2]

theorem keyLe_sorted (l : List (Nat × Q)) : (l.mergeSort keyLe).Pairwise (fun a b => a.1 ≤ b.1) := by
  have := List.pairwise_mergeSort (le := keyLe)
    (fun a b c h1 h2 => by simp only [keyLe, decide_eq_true_eq] at *; exact Nat.le_trans h1 h2)
    (fun a b => by simp only [keyLe, Bool.or_eq_true, decide_eq_true_eq]; exact Nat.le_total _ _) l
  exact this.imp (fun h => by simpa [keyLe] using h)

theorem sortRows_spec (p : Array Nat) (row N : Nat) (hps : p.size = row + 1)
    (hmono : MonoTo p row) (hpN : p[row]! ≤ N) :
    ∀ n i (j : Array Nat) (x : Array Q), i + n = row → j.size = N → x.size = N →
      ∃ j' x', sortRows p n i j x = .ok (j', x') ∧ j'.size = N ∧ x'.size = N ∧
        (∀ k, k < p[i]! → j'[k]! = j[k]! ∧ x'[k]! = x[k]!) ∧
        ∀ r, i ≤ r → r < row →
          seg j' x' p[r]! p[r + 1]! = (seg j x p[r]! p[r + 1]!).mergeSort keyLe := by
  intro n
  induction n with
  | zero =>
    intro i j x _ hj hx
    exact ⟨j, x, rfl, hj, hx, fun _ _ => ⟨rfl, rfl⟩, fun r h1 h2 => by omega⟩
  | succ n ih =>
    intro i j x hin hj hx
    have hi : i < row := by omega
    have hin' : i + 1 + n = row := by omega
    have hm1 := (hmono.row_le hi).1
    have hm2 := Nat.le_trans (hmono.row_le hi).2 hpN
    have hre : p[i]! + (p[i + 1]! - p[i]!) = p[i + 1]! := Nat.add_sub_cancel' hm1
    have hlen : p[i]! + ((seg j x p[i]! p[i + 1]!).mergeSort keyLe).length = p[i + 1]! := by
      rw [List.length_mergeSort, seg_length, hre]
    obtain ⟨j1, x1, e1, s1, s2, g1, g2⟩ :=
      writePairs_spec ((seg j x p[i]! p[i + 1]!).mergeSort keyLe) p[i]! j x
        (by rw [hlen, hj]; exact hm2) (by rw [hlen, hx]; exact hm2)
    rw [hlen] at g1 g2
    unfold sortRows
    simp only [(rd_row hps hi).1, (rd_row hps hi).2, ok_bind]
    rw [readPairs_spec j x (p[i + 1]! - p[i]!) p[i]! (by rw [hre, hj]; exact hm2)
      (by rw [hre, hx]; exact hm2), hre]
    simp only [ok_bind, e1]
    obtain ⟨j', x', e2, t1, t2, f1, f2⟩ := ih (i + 1) j1 x1 hin' (s1.trans hj) (s2.trans hx)
    refine ⟨j', x', e2, t1, t2, fun k hk => ?_, fun r hr1 hr2 => ?_⟩
    · exact both_trans (f1 k (Nat.lt_of_lt_of_le hk hm1)) (g1 k (Or.inl hk))
    · rcases Nat.lt_or_eq_of_le hr1 with hlt | heq
      · -- a later row: the write of row `i` ends at `p[i + 1] ≤ p[r]`
        rw [f2 r hlt hr2, seg_congr (fun k hk1 _ => g1 k (Or.inr (Nat.le_trans
          (hmono (i + 1) r hlt (Nat.le_of_lt hr2)) hk1)))]
      · -- row `i` itself: the later iterations keep everything below `p[i + 1]`
        subst heq
        rw [seg_congr (fun k _ hk2 => f1 k hk2), g2]

end SymVerif.C25
