import SymVerif.Lemmas.C26Mul
import SymVerif.Lemmas.C26Size
/-!
Value preservation of `matrix_mul`: extraction of nested products and scalars, zero absorption,
the result.
-/
namespace SymVerif.MatExpr
open MExpr

/-- the product of the scalar arguments of `matrix_mul` -/
def scalarsOf : List Factor → GQ
  | [] => 1
  | .scalar q :: rest => q * scalarsOf rest
  | .mat _ :: rest => scalarsOf rest

/-- the matrix arguments of `matrix_mul`, in order -/
def matsOf : List Factor → List MExpr
  | [] => []
  | .scalar _ :: rest => matsOf rest
  | .mat e :: rest => e :: matsOf rest

/-- nested MatrixMul factors spliced in -/
def flatL : List MExpr → List MExpr
  | [] => []
  | mul _ fs :: rest => fs ++ flatL rest
  | e :: rest => e :: flatL rest

/-- the product of the scalars of the nested MatrixMul factors -/
def flatS : List MExpr → GQ
  | [] => 1
  | mul s _ :: rest => s * flatS rest
  | _ :: rest => flatS rest

theorem flat_cons_of_not_mul {t : MExpr} (hm : ¬ ∃ s' gs, t = mul s' gs) (rest : List MExpr) :
    flatL (t :: rest) = t :: flatL rest ∧ flatS (t :: rest) = flatS rest := by
  cases t <;> first | exact ⟨rfl, rfl⟩ | exact absurd ⟨_, _, rfl⟩ hm

theorem expandMul_eq : ∀ (fs : List Factor) (s : GQ) (acc : List MExpr),
    expandMul fs s acc = (s * scalarsOf fs * flatS (matsOf fs), acc ++ flatL (matsOf fs))
  | [], s, acc => by simp [expandMul, scalarsOf, matsOf, flatS, flatL]
  | .scalar q :: rest, s, acc => by
    rw [expandMul, expandMul_eq rest]
    simp only [scalarsOf, matsOf]
    congr 1; ring
  | .mat e :: rest, s, acc => by
    by_cases hm : ∃ s' gs, e = mul s' gs
    · obtain ⟨s', gs, rfl⟩ := hm
      rw [expandMul, expandMul_eq rest]
      simp only [scalarsOf, matsOf, flatS, flatL, List.append_assoc]
      congr 1; ring
    · have h1 : expandMul (.mat e :: rest) s acc = expandMul rest s (acc ++ [e]) := by
        cases e <;> first | rfl | exact absurd ⟨_, _, rfl⟩ hm
      obtain ⟨h2, h3⟩ := flat_cons_of_not_mul hm (matsOf rest)
      rw [h1, expandMul_eq rest]
      simp only [scalarsOf, matsOf, h2, h3, List.append_assoc, List.singleton_append]

theorem flatL_spec (env : Env) : ∀ (ms : List MExpr) {a b : Nat}, okAll env ms → Chain a b (valsOf env ms) →
    okAll env (flatL ms) ∧ Chain a b (valsOf env (flatL ms)) ∧ (ms ≠ [] → flatL ms ≠ []) ∧
      smulV (flatS ms) (prodI a (valsOf env (flatL ms))) ≃ prodI a (valsOf env ms)
  | [], _, _, _, h => ⟨trivial, h, id, smulV_one _⟩
  | t :: rest, a, b, hok, hch => by
    have hch : (valOf env t).r = a ∧ Chain (valOf env t).c b (valsOf env rest) := hch
    obtain ⟨i1, i2, _, i4⟩ := flatL_spec env rest hok.2 hch.2
    by_cases hm : ∃ s' gs, t = mul s' gs
    · -- a nested product: its factors are a chain with the product of the node
      obtain ⟨s', gs, rfl⟩ := hm
      obtain ⟨hne, hokg, hcg⟩ := hok.1
      have hG := chain_of_chainOk (valsOf_ne_nil hne) hcg
      rw [show (prodV (valsOf env gs)).r = a from hch.1] at hG
      refine ⟨(okAll_append _ _ _).2 ⟨hokg, i1⟩, ?_, fun _ => by simp [flatL, hne], ?_⟩
      · show Chain a b (valsOf env (gs ++ flatL rest))
        rw [valsOf_append]; exact hG.append i2
      · show smulV (s' * flatS rest) (prodI a (valsOf env (gs ++ flatL rest))) ≃ _
        rw [valsOf_append]
        refine (smulV_congr _ (prodI_append hG i2)).trans ((smul_mul_smul _ _ _ _).trans ?_)
        exact mulV_congr (smulV_congr s' (hG.prodV_eqv (valsOf_ne_nil hne)).symm) i4
          (hG.cols.trans i2.rows.symm)
    · obtain ⟨h2, h3⟩ := flat_cons_of_not_mul hm rest
      rw [h2, h3]
      refine ⟨⟨hok.1, i1⟩, ⟨hch.1, i2⟩, fun _ => by simp, ?_⟩
      exact (mulV_smul_right _ _ _).symm.trans (mulV_congr (Val.Eqv.refl _) i4 i2.rows.symm)

theorem mulFinish_spec {env : Env} {s : GQ} {st : MulSt} {a b : Nat} {Pr : List MExpr} {r : MExpr}
    (h : mulFinish s st = .ok r) (hinv : MulInv env a b Pr st) (hp : Pr ≠ []) :
    okOf env r ∧ valOf env r ≃ smulV s (prodI a (valsOf env Pr)) := by
  simp only [mulFinish, mulKeep_eq_baseL] at h
  have hsingle : ∀ k, okOf env k → valOf env k ≃ prodI a (valsOf env Pr) →
      (if (s == 1) = true then Except.ok k else mkMul s [k]) = .ok r →
      okOf env r ∧ valOf env r ≃ smulV s (prodI a (valsOf env Pr)) := by
    intro k hok hv h
    split at h
    · rename_i hs
      simp at h hs; subst h; subst hs
      exact ⟨hok, hv.trans (smulV_one _).symm⟩
    · have := mkMul_ok h; subst this
      exact ⟨⟨by simp, ⟨hok, trivial⟩, trivial⟩, smulV_congr s hv⟩
  have hok := hinv.ok
  have hch := hinv.chain
  have hv := hinv.val
  rcases hb : baseL st with _ | ⟨k, _ | ⟨k', t⟩⟩
  · -- nothing but identities
    obtain ⟨n, hid, hn⟩ := hinv.idn hp hb
    rw [hb] at h hv
    rw [hid] at h
    exact hsingle (ident n) trivial (hn ▸ hv) (by simpa using h)
  · rw [hb] at h hok hv
    exact hsingle k hok.1 ((mulV_ident_right rfl).symm.trans hv) (by simpa using h)
  · rw [hb] at h hok hch hv
    have h' : mkMul s (k :: k' :: t) = .ok r := by simpa using h
    have := mkMul_ok h'; subst this
    exact ⟨⟨by simp, hok, hch.chainOk⟩, smulV_congr s ((hch.prodV_eqv (valsOf_ne_nil (by simp))).trans hv)⟩

theorem firstZero_mem : ∀ {l : List MExpr} {a b : Dim}, firstZero l = some (a, b) → zero a b ∈ l
  | [], _, _, h => by simp [firstZero] at h
  | t :: rest, a, b, h => by
    by_cases hz : ∃ x y, t = zero x y
    · obtain ⟨x, y, rfl⟩ := hz
      simp [firstZero] at h
      obtain ⟨rfl, rfl⟩ := h
      simp
    · have : firstZero (t :: rest) = firstZero rest := by
        cases t <;> first | rfl | exact absurd ⟨_, _, rfl⟩ hz
      rw [this] at h
      exact List.mem_cons_of_mem _ (firstZero_mem h)

end SymVerif.MatExpr

namespace SymVerif.C26
open SymVerif.MatExpr SymVerif.MatExpr.MExpr

/-- `matrix_mul` (argument vector of scalars and matrix expressions): whenever the product of the
    scalars times the chain product of the matrix operands is defined, the result is defined and has
    that value (extraction of nested products and scalars, zero absorption, dropping of identities,
    merging of adjacent diagonal / dense factors). -/
theorem matrix_mul_value (env : Env) (fs : List Factor) (r : MExpr) (h : matrixMul fs = .ok r)
    (hok : okOf env (mul (scalarsOf fs) (matsOf fs))) :
    okOf env r ∧ valOf env r ≃ valOf env (mul (scalarsOf fs) (matsOf fs)) := by
  match fs, h, hok with
  | [], h, _ => simp [matrixMul] at h
  | [.mat e], h, hok =>
    simp [matrixMul] at h; subst h
    exact ⟨hok.2.1.1, (smulV_one _).symm⟩
  | [.scalar q], h, _ => simp [matrixMul] at h
  | a :: b :: rest, h, hok =>
    simp only [matrixMul] at h
    generalize a :: b :: rest = fs at h hok ⊢
    obtain ⟨hne, hoks, hch⟩ := hok
    have hC := chain_of_chainOk (valsOf_ne_nil hne) hch
    obtain ⟨f2, f3, f1, f4⟩ := flatL_spec env (matsOf fs) hoks hC
    have f1 := f1 hne
    have hflat : smulV (scalarsOf fs * flatS (matsOf fs)) (prodI _ (valsOf env (flatL (matsOf fs))))
        ≃ valOf env (mul (scalarsOf fs) (matsOf fs)) :=
      (smulV_smulV _ _ _).symm.trans (smulV_congr _ (f4.trans (hC.prodV_eqv (valsOf_ne_nil hne)).symm))
    rw [expandMul_eq] at h
    simp only [List.nil_append, one_mul] at h
    split at h
    · simp at h
    simp only [bind_ok] at h
    -- that the size check passed is not needed: `okOf` of the reference product is a hypothesis
    obtain ⟨_, _, hrun⟩ := h
    split at hrun
    · -- zero absorption with a known size
      rename_i zz rows cols hz hsz
      simp [pure, Except.pure] at hrun
      rw [← hrun]
      obtain ⟨a, b⟩ := zz
      have hmem := firstZero_mem hz
      have hsize := mulOuterSize_sound env _ (size_sound_list env _ f2)
      have hr := hsize.1 rows (by rw [hsz])
      have hc := hsize.2 cols (by rw [hsz])
      have hP := f3.prodV_eqv (valsOf_ne_nil f1)
      refine ⟨trivial, Val.Eqv.trans ?_ ((smulV_congr _ hP).trans hflat)⟩
      refine ⟨hr, hc, fun i j _ _ => ?_⟩
      have := prodV_zero_mem (l := valsOf env (flatL (matsOf fs))) (z := valOf env (zero a b))
        (mem_valsOf hmem) (fun _ _ => rfl) i j
      simp [valOf, smulV, this]
    · simp only [bind_ok] at hrun
      obtain ⟨st, hl, hf⟩ := hrun
      have hinv := mulLoop_spec _ [] _ _ _ _ hl (.init env _) f2 f3
      obtain ⟨r1, r2⟩ := mulFinish_spec hf hinv f1
      exact ⟨r1, r2.trans hflat⟩

end SymVerif.C26
