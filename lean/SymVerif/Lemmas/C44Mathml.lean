/-
The MathML model only builds trees with valid names: `resOK` holds of `mathmlTree e` for every `e` (`mathml_ok`).  The
names come from the translated tables (`mathml_names_ok`), from `relName` / `boolName`, and from literals of the model,
each checked where it is used.
-/
import SymVerif.Lemmas.Basic
import SymVerif.Lemmas.C44Xml

namespace SymVerif.C44
open SymVerif SymVerif.Expr SymVerif.Markup

theorem mathml_names_ok :
    (Gen.AltNames.mathmlOverrides.all fun p => nameOK p.2.toList) = true ∧
    (Gen.PrintNames.printNames.all fun p => nameOK p.2.toList) = true := by decide +kernel

theorem mathmlName_ok {cls nm : String} (h : mathmlName cls = some nm) : nameOK nm.toList = true := by
  have key {l : List (String × String)} (hl : (l.all fun p => nameOK p.2.toList) = true)
      (hk : l.lookup cls = some nm) : nameOK nm.toList = true :=
    List.all_eq_true.1 hl (cls, nm) (List.mem_of_lookup hk)
  unfold mathmlName at h
  split at h
  · rename_i hn; cases h; exact key mathml_names_ok.1 hn
  · exact key mathml_names_ok.2 h

/-- one level of the `if h == "…" then some a else r` chains `relName`, `boolName` -/
theorem ite_name_ok {c : Prop} [Decidable c] {a : String} {r : Option String} (ha : nameOK a.toList = true)
    (hr : ∀ nm, r = some nm → nameOK nm.toList = true) (nm : String) (h : (if c then some a else r) = some nm) :
    nameOK nm.toList = true := by
  split at h
  · exact Option.some.inj h ▸ ha
  · exact hr nm h

theorem relName_ok {h nm : String} : relName h = some nm → nameOK nm.toList = true :=
  ite_name_ok (a := "eq") (by decide +kernel) (ite_name_ok (a := "neq") (by decide +kernel)
    (ite_name_ok (a := "leq") (by decide +kernel) (ite_name_ok (a := "lt") (r := none) (by decide +kernel) fun _ => nofun))) nm

theorem boolName_ok {h nm : String} : boolName h = some nm → nameOK nm.toList = true :=
  ite_name_ok (a := "and") (by decide +kernel) (ite_name_ok (a := "or") (by decide +kernel)
    (ite_name_ok (a := "xor") (by decide +kernel) (ite_name_ok (a := "not") (r := none) (by decide +kernel) fun _ => nofun))) nm

/-- a result is fine if it is not a tree, or a tree rooted at an element with valid names.  For an element `t`,
`resOK (.ok t)` is `treeOK t = true` by definition: a proof of that equation is accepted where `resOK` is asked -/
def resOK : MRes → Prop
  | .ok (.elem n as kids) => treeOK (.elem n as kids) = true
  | .ok (.text _) => False
  | _ => True

theorem treeOK_of_resOK : ∀ {t : XmlTree}, resOK (.ok t) → treeOK t = true
  | .elem .., h => h
  | .text _, h => h.elim

theorem collect_spec : ∀ rs : List MRes, (∀ r ∈ rs, resOK r) →
    match collect rs with
    | .ok ts => kidsOK ts = true
    | .error e => resOK e
  | [], _ => rfl
  | .ok t :: rs, hr => by
    have ih := collect_spec rs fun r h => hr r (List.mem_cons_of_mem _ h)
    have ht := treeOK_of_resOK (hr _ List.mem_cons_self)
    simp only [collect]
    cases h : collect rs with
    | error e => rw [h] at ih; exact ih
    | ok ts => rw [h] at ih; simp only [kidsOK, ht, ih, Bool.and_self]
  | .throws :: _, _ => trivial
  | .skip :: _, _ => trivial

theorem kidsOK_append : ∀ a b : List XmlTree, kidsOK (a ++ b) = (kidsOK a && kidsOK b)
  | [], b => rfl
  | k :: a, b => by simp only [List.cons_append, kidsOK, kidsOK_append a b, Bool.and_assoc]

theorem collect_ok {rs : List MRes} {ts : List XmlTree} (hr : ∀ r ∈ rs, resOK r) (h : collect rs = .ok ts) :
    kidsOK ts = true := by
  have := collect_spec rs hr; rwa [h] at this

theorem collect_error {rs : List MRes} {e : MRes} (hr : ∀ r ∈ rs, resOK r) (h : collect rs = .error e) :
    resOK e := by
  have := collect_spec rs hr; rwa [h] at this

theorem applyKids_ok {rs : List MRes} (pre : List XmlTree) (hr : ∀ r ∈ rs, resOK r) (hp : kidsOK pre = true) :
    resOK (withKids rs fun ts => .elem "apply" [] (pre ++ ts)) := by
  unfold withKids
  split
  · next ts h =>
    have hn : nameOK "apply".toList = true := by decide +kernel
    simp only [resOK, treeOK, attrsOK, List.all_nil, hn, kidsOK_append, hp, collect_ok hr h, Bool.and_self]
  · next e h => exact collect_error hr h

theorem treeOK_empty {n : String} (h : nameOK n.toList = true) : treeOK (empty n) = true := by
  simp only [empty, treeOK, attrsOK, kidsOK, List.all_nil, h, Bool.and_self]

theorem apply_ok {rs : List MRes} {op : String} (hr : ∀ r ∈ rs, resOK r) (hn : nameOK op.toList = true) :
    resOK (withKids rs (Markup.apply op)) :=
  applyKids_ok [empty op] hr (by simp only [kidsOK, treeOK_empty hn, Bool.and_self])

theorem treeOK_cn (ty : String) (kids : List XmlTree) : treeOK (cn ty kids) = kidsOK kids := by
  have h : nameOK "cn".toList = true ∧ nameOK "type".toList = true := by decide +kernel
  simp only [cn, treeOK, attrsOK, List.all_cons, List.all_nil, h.1, h.2, Bool.and_true, Bool.true_and]

theorem ratTree_ok (n : Int) (d : Nat) : resOK (.ok (ratTree n d)) := by
  unfold ratTree
  split <;> refine (treeOK_cn _ _).trans ?_
  · rfl
  · simp only [kidsOK, treeOK_empty (by decide +kernel : nameOK "sep".toList = true), treeOK, Bool.and_self]

theorem complex_ok {a b : XmlTree} (ha : treeOK a = true) (hb : treeOK b = true) :
    treeOK (.elem "apply" [] [.elem "csymbol" [("cd", "nums1")] [.text "complex_cartesian"], a, b]) = true := by
  have h : nameOK "apply".toList = true ∧ nameOK "csymbol".toList = true ∧ nameOK "cd".toList = true := by
    decide +kernel
  simp only [kidsOK, treeOK, attrsOK, List.all_cons, List.all_nil, h.1, h.2.1, h.2.2, ha, hb, Bool.and_true]

theorem opt_append_ok {p : Bool} {c : MRes} {rs : List MRes} (hc : resOK c) (hr : ∀ r ∈ rs, resOK r) :
    ∀ r ∈ (if p then [] else [c]) ++ rs, resOK r := by
  cases p
  · exact List.forall_mem_cons.2 ⟨hc, hr⟩
  · exact hr

theorem apply₂_ok {a b : MRes} {op : String} (ha : resOK a) (hb : resOK b) (hn : nameOK op.toList = true) :
    resOK (withKids [a, b] (Markup.apply op)) :=
  apply_ok (by simp [ha, hb]) hn

theorem times_name : nameOK "times".toList = true := by decide +kernel
theorem power_name : nameOK "power".toList = true := by decide +kernel

theorem ci_ok (n : String) : treeOK (.elem "ci" [] [.text n]) = true := by
  simp only [treeOK, kidsOK, attrsOK, List.all_nil, Bool.and_true]; decide +kernel

mutual
  theorem mathml_ok : (e : Expr) → resOK (mathmlTree e)
    | int n => (treeOK_cn _ _).trans rfl
    | rat n d => ratTree_ok n d
    | cplx re im => complex_ok (treeOK_of_resOK (ratTree_ok _ _)) (treeOK_of_resOK (ratTree_ok _ _))
    | dbl b => (treeOK_cn _ _).trans rfl
    | cdbl r i => complex_ok ((treeOK_cn _ _).trans rfl) ((treeOK_cn _ _).trans rfl)
    | infty d => trivial
    | nan => trivial
    | sym n => ci_ok n
    | dummy n i => trivial
    | const n => by
      simp only [mathmlTree]
      split
      · exact treeOK_empty (by decide +kernel)
      · split
        · exact treeOK_empty (by decide +kernel)
        · split
          · exact treeOK_empty (by decide +kernel)
          · trivial
    | add c ts => apply_ok (opt_append_ok (mathml_ok c) (terms_ok ts)) (by decide +kernel)
    | mul c fs => apply_ok (opt_append_ok (mathml_ok c) (facs_ok fs)) times_name
    | pow b e => apply₂_ok (mathml_ok b) (mathml_ok e) power_name
    | fsym n args =>
      applyKids_ok [.elem "ci" [] [.text n]] (args_ok args) (by simp only [kidsOK, ci_ok, Bool.and_self])
    | app h args => by
      simp only [mathmlTree]
      split
      · next r _ _ hr => exact apply_ok (args_ok args) (relName_ok hr)
      · next b _ _ hb => exact apply_ok (args_ok args) (boolName_ok hb)
      · next f _ _ hf => exact apply_ok (args_ok args) (mathmlName_ok hf)
      · trivial
    | Expr.bool b => by cases b <;> exact treeOK_empty (by decide +kernel)
  theorem args_ok : (l : List Expr) → ∀ r ∈ argTrees l, resOK r
    | [] => nofun
    | a :: t => by unfold argTrees; exact List.forall_mem_cons.2 ⟨mathml_ok a, args_ok t⟩
  theorem facs_ok : (l : List (Expr × Expr)) → ∀ r ∈ facTrees l, resOK r
    | [] => nofun
    | (b, e) :: t => by
      unfold facTrees
      exact List.forall_mem_cons.2 ⟨by
        split
        · exact mathml_ok b
        · exact apply₂_ok (mathml_ok b) (mathml_ok e) power_name, facs_ok t⟩
  theorem terms_ok : (l : List (Expr × Expr)) → ∀ r ∈ termTrees l, resOK r
    | [] => nofun
    | (k, v) :: t => by
      unfold termTrees
      exact List.forall_mem_cons.2 ⟨by
        split
        · exact mathml_ok k
        · -- `cases`, not `split`: `facs_ok kfs` has to be a call on a constructor argument of `k` for the
          -- recursion to be structural (well-founded recursion pays a termination proof per call)
          cases k with
          | mul kc kfs =>
            dsimp only
            split
            · exact apply_ok (List.forall_mem_cons.2 ⟨mathml_ok v, facs_ok kfs⟩) times_name
            · trivial
          | pow b e =>
            exact apply₂_ok (mathml_ok v) (apply₂_ok (mathml_ok b) (mathml_ok e) power_name) times_name
          | _ => exact apply₂_ok (mathml_ok v) (mathml_ok _) times_name, terms_ok t⟩
end

end SymVerif.C44
