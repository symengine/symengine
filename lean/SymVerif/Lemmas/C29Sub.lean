import SymVerif.Model.Num
import SymVerif.Lemmas.C05Q
import Mathlib.Data.EReal.Basic
/-!
C29 helper: the sign of `a.sub(b)` for real numbers of every kind is the sign of the difference of
their values in the extended reals.
-/
namespace SymVerif.C29
open SymVerif.Num SymVerif.Num.FloatOps

variable {F : Type} [FloatOps F]

/-- IEEE facts about *finite* doubles used by C29 (`fv` is the exact rational value of a finite double).
They hold for binary64: `x == y` compares values; the rounded difference `x - y` of two finite doubles is
negative / zero exactly when the exact difference is (gradual underflow: `x ≠ y → x - y ≠ 0`). -/
structure FloatSpec (F : Type) [FloatOps F] where
  fin : F → Prop
  fv : F → ℚ
  beq_iff : ∀ x y, fin x → fin y → (beq x y = true ↔ fv x = fv y)
  isNeg_sub : ∀ x y, fin x → fin y → (isNeg (fsub x y) = true ↔ fv x < fv y)
  isZero_sub : ∀ x y, fin x → fin y → (isZero (fsub x y) = true ↔ fv x = fv y)

noncomputable def qe (x : ℚ) : EReal := ((x : ℝ) : EReal)

theorem qe_lt {x y : ℚ} : qe x < qe y ↔ x < y := by
  simp only [qe, EReal.coe_lt_coe_iff]; exact_mod_cast Iff.rfl
theorem qe_eq {x y : ℚ} : qe x = qe y ↔ x = y := by
  simp only [qe, EReal.coe_eq_coe_iff]; exact_mod_cast Iff.rfl
theorem qe_lt_top (x : ℚ) : qe x < ⊤ := EReal.coe_lt_top _
theorem bot_lt_qe (x : ℚ) : ⊥ < qe x := EReal.bot_lt_coe _
theorem qe_ne_top (x : ℚ) : qe x ≠ ⊤ := EReal.coe_ne_top _
theorem qe_ne_bot (x : ℚ) : qe x ≠ ⊥ := EReal.coe_ne_bot _

/-- the real numbers of every kind: integers, rationals (`Canon`: lowest terms, which is more than the proofs use: only
the positive denominator), finite doubles, `+oo`, `-oo` -/
inductive RealNum (S : FloatSpec F) : Num F → Prop
  | int (n : Int) : RealNum S (.int n)
  | rat (q : Q) (h : q.Canon) : RealNum S (.rat q)
  | dbl (d : F) (h : S.fin d) : RealNum S (.dbl d)
  | pinf : RealNum S (.infty 1)
  | ninf : RealNum S (.infty (-1))

/-- numeric value in the extended reals; meaningful on `RealNum` only (elsewhere a junk value: `zoo` ↦ ⊥, complex and
`nan` ↦ 0) -/
noncomputable def rv (S : FloatSpec F) : Num F → EReal
  | .int n => qe n
  | .rat q => qe q.toRat
  | .dbl d => qe (S.fv d)
  | .infty d => if 0 < d then ⊤ else ⊥
  | _ => 0

/-- the conversion `mpz_get_d` / `mpq_get_d` of an exact operand is exact (the value is representable
in binary64); required of an exact operand only when the other operand is a double -/
def ConvOK (S : FloatSpec F) : Num F → Prop
  | .int n => S.fin (ofInt n) ∧ S.fv (ofInt n) = n
  | .rat q => S.fin (ofQ q) ∧ S.fv (ofQ q) = q.toRat
  | _ => True

def isDbl : Num F → Prop
  | .dbl _ => True
  | _ => False

theorem fromMpq_isNegative (q : Q) : (fromMpq (F := F) q).isNegative = decide (q.num < 0) := by
  unfold fromMpq; split <;> rfl
theorem fromMpq_isZero (q : Q) : (fromMpq (F := F) q).isZero = (q.num == 0) := by
  unfold fromMpq; split <;> rfl
omit [FloatOps F] in
theorem inftyAdd_fromMpq (d : Int) (q : Q) : inftyAdd (F := F) d (fromMpq q) = .ok (.infty d) := by
  unfold fromMpq; split <;> rfl

theorem sub_sign_q {a b : Q} (ha : 0 < a.den) (hb : 0 < b.den) :
    ((a.sub b).num < 0 ↔ a.toRat < b.toRat) ∧ ((a.sub b).num = 0 ↔ a.toRat = b.toRat) := by
  have hd := Q.sub_den_pos ha hb
  constructor
  · rw [← Q.toRat_neg_iff hd, Q.toRat_sub ha hb]; exact sub_neg
  · rw [← Q.toRat_eq_zero_iff hd, Q.toRat_sub ha hb]; exact sub_eq_zero

/-- what `Lt`/`Le` need to know about `s = a.sub(b)` -/
structure SubSign (S : FloatSpec F) (a b s : Num F) : Prop where
  neg : s.isNegative = true ↔ rv S a < rv S b
  zero : s.isZero = true ↔ rv S a = rv S b

theorem rv_pinf (S : FloatSpec F) : rv S (.infty 1) = ⊤ :=
  show (if (0 : Int) < 1 then (⊤ : EReal) else ⊥) = ⊤ from if_pos Int.one_pos
theorem rv_ninf (S : FloatSpec F) : rv S (.infty (-1)) = ⊥ :=
  show (if (0 : Int) < -1 then (⊤ : EReal) else ⊥) = ⊥ from if_neg (by decide)

theorem SubSign.of_q {S : FloatSpec F} {a b s : Num F} {x y : ℚ} (ha : rv S a = qe x) (hb : rv S b = qe y)
    (hn : s.isNegative = true ↔ x < y) (hz : s.isZero = true ↔ x = y) : SubSign S a b s :=
  ⟨by rw [ha, hb, qe_lt]; exact hn, by rw [ha, hb, qe_eq]; exact hz⟩

theorem SubSign.ninf {S : FloatSpec F} {a b : Num F} (h : rv S a < rv S b) : SubSign S a b (.infty (-1)) :=
  ⟨iff_of_true rfl h, iff_of_false Bool.false_ne_true h.ne⟩

theorem SubSign.pinf {S : FloatSpec F} {a b : Num F} (h : rv S b < rv S a) : SubSign S a b (.infty 1) :=
  ⟨iff_of_false Bool.false_ne_true h.not_gt, iff_of_false Bool.false_ne_true h.ne'⟩

theorem SubSign.exact {S : FloatSpec F} {a b : Num F} {p q : Q} (hp : 0 < p.den) (hq : 0 < q.den)
    (ha : rv S a = qe p.toRat) (hb : rv S b = qe q.toRat) : SubSign S a b (fromMpq (p.sub q)) := by
  have := sub_sign_q hp hq
  exact .of_q ha hb (by rw [fromMpq_isNegative, decide_eq_true_eq, this.1]) (by rw [fromMpq_isZero, beq_iff_eq, this.2])

theorem SubSign.dbl {S : FloatSpec F} {a b : Num F} {x y : F} (hx : S.fin x) (hy : S.fin y)
    (ha : rv S a = qe (S.fv x)) (hb : rv S b = qe (S.fv y)) : SubSign S a b (.dbl (fsub x y)) :=
  .of_q ha hb (S.isNeg_sub _ _ hx hy) (S.isZero_sub _ _ hx hy)

theorem rv_int_ofInt (S : FloatSpec F) (n : Int) : rv S (.int n) = qe (Q.ofInt n).toRat :=
  congrArg qe (Q.toRat_ofInt n).symm

/-- **the sign of `a.sub(b)`** for every ordered pair of real numbers of every kind -/
theorem sub_sign (S : FloatSpec F) (a b : Num F) (ha : RealNum S a) (hb : RealNum S b)
    (ca : isDbl b → ConvOK S a) (cb : isDbl a → ConvOK S b) (hne : eqNum a b = false) :
    ∃ s, Num.sub a b = .ok s ∧ SubSign S a b s := by
  have top_gt : ∀ x, qe x < rv S (.infty 1) := fun x => (qe_lt_top x).trans_eq (rv_pinf S).symm
  have bot_lt : ∀ x, rv S (.infty (-1)) < qe x := fun x => (rv_ninf S).trans_lt (bot_lt_qe x)
  have bot_top : rv S (.infty (-1)) < rv S (.infty 1) := (rv_ninf S).trans_lt ((bot_lt_qe 0).trans (top_gt 0))
  -- `b` first: for `b = ±oo` every kind's `sub` hands over to `defaultRsub b a`, uniform in `a`, so one arm serves int, rat and dbl
  cases hb with
  | pinf =>
    cases ha with
    -- `hne` is there for the two cells `oo - oo`, `-oo - -oo` (the difference is `nan`): equal operands are excluded
    | pinf => cases hne
    | ninf => exact ⟨.infty (-1), rfl, .ninf bot_top⟩
    | _ => exact ⟨.infty (-1), rfl, .ninf (top_gt _)⟩
  | ninf =>
    cases ha with
    | ninf => cases hne
    | pinf => exact ⟨.infty 1, rfl, .pinf bot_top⟩
    | _ => exact ⟨.infty 1, rfl, .pinf (bot_lt _)⟩
  | int m =>
    cases ha with
    | int n =>
      exact ⟨.int (n - m), rfl, .of_q rfl rfl (decide_eq_true_iff.trans (sub_neg.trans Int.cast_lt.symm))
        (beq_iff_eq.trans (sub_eq_zero.trans Int.cast_inj.symm))⟩
    | rat q hq => exact ⟨_, rfl, .exact hq.pos (Q.Canon.ofInt m).pos rfl (rv_int_ofInt S m)⟩
    | dbl d hd => exact ⟨_, rfl, .dbl hd (cb trivial).1 rfl (congrArg qe (cb trivial).2.symm)⟩
    | pinf => exact ⟨.infty 1, rfl, .pinf (top_gt _)⟩
    | ninf => exact ⟨.infty (-1), rfl, .ninf (bot_lt _)⟩
  | rat p hp =>
    cases ha with
    | int n => exact ⟨_, rfl, .exact (Q.Canon.ofInt n).pos hp.pos (rv_int_ofInt S n) rfl⟩
    | rat q hq => exact ⟨_, rfl, .exact hq.pos hp.pos rfl rfl⟩
    | dbl d hd => exact ⟨_, rfl, .dbl hd (cb trivial).1 rfl (congrArg qe (cb trivial).2.symm)⟩
    -- not `rfl` as for int and dbl: `±oo - rat` negates the rational by `ratMul p (-1)`, whose `fromMpq` tests `den == 1`
    -- on a variable; `inftyAdd_fromMpq` says the sum is `±oo` either way
    | pinf =>
      exact ⟨.infty 1, by simp [Num.sub, defaultSub, Num.mul, ratMul, Num.add, inftyAdd_fromMpq], .pinf (top_gt _)⟩
    | ninf =>
      exact ⟨.infty (-1), by simp [Num.sub, defaultSub, Num.mul, ratMul, Num.add, inftyAdd_fromMpq], .ninf (bot_lt _)⟩
  | dbl e he =>
    cases ha with
    | int n => exact ⟨_, rfl, .dbl (ca trivial).1 he (congrArg qe (ca trivial).2.symm) rfl⟩
    | rat q hq => exact ⟨_, rfl, .dbl (ca trivial).1 he (congrArg qe (ca trivial).2.symm) rfl⟩
    | dbl d hd => exact ⟨_, rfl, .dbl hd he rfl rfl⟩
    | pinf => exact ⟨.infty 1, rfl, .pinf (top_gt _)⟩
    | ninf => exact ⟨.infty (-1), rfl, .ninf (bot_lt _)⟩

end SymVerif.C29
