import SymVerif.Lemmas.C26Pred
/-!
Value preservation of the leaf constructors `diagonal_matrix` and `immutable_dense_matrix`
(conversion of zero / identity / diagonal valued containers to ZeroMatrix / IdentityMatrix /
DiagonalMatrix).
-/
namespace SymVerif.MatExpr

theorem isIdentityDense_iff {n : Nat} {v : List GQ} :
    isIdentityDense n v = true ↔ ∀ i < n, ∀ j < n, ent v n i j = if i = j then 1 else 0 := by
  simp only [isIdentityDense, List.all_eq_true, List.mem_range]
  refine forall₂_congr fun i _ => forall₂_congr fun j _ => ?_
  split <;> simp

theorem isDiagonalDense_iff {n : Nat} {v : List GQ} :
    isDiagonalDense n v = true ↔ ∀ i < n, ∀ j < n, i ≠ j → ent v n i j = 0 := by
  simp only [isDiagonalDense, List.all_eq_true, List.mem_range]
  refine forall₂_congr fun i _ => forall₂_congr fun j _ => ?_
  split <;> simp [*]

end SymVerif.MatExpr

namespace SymVerif.C26
open SymVerif.MatExpr SymVerif.MatExpr.MExpr

theorem diagonal_matrix_value (env : Env) (d : List GQ) (r : MExpr) (h : diagonalMatrix d = .ok r) :
    okOf env r ∧ valOf env r ≃ valOf env (diag d) := by
  simp only [diagonalMatrix] at h
  split at h
  · rename_i hz
    simp at h; subst h
    have hz := (all_isZero_iff d).1 hz
    exact ⟨trivial, rfl, rfl, fun i j hi hj =>
      (diag_entries_iff d (P := fun x => 0 = x) rfl).1 (fun x hx => (hz x hx).symm) i j hi hj⟩
  · split at h
    · rename_i _ hid
      simp at h; subst h
      simp only [isIdentityVec, List.all_eq_true, GQ.isOne_iff] at hid
      refine ⟨trivial, rfl, rfl, fun i j hi _ => ?_⟩
      simp only [valOf, Dim.eval] at hi ⊢
      split
      · exact (hid _ (getD_mem hi)).symm
      · rfl
    · have := mkDiag_ok h; subst this
      exact ⟨trivial, Val.Eqv.refl _⟩

theorem immutable_dense_matrix_value (env : Env) (r c : Nat) (v : List GQ) (e : MExpr)
    (h : immutableDenseMatrix r c v = .ok e) :
    okOf env e ∧ okOf env (dense r c v) ∧ valOf env e ≃ valOf env (dense r c v) := by
  simp only [immutableDenseMatrix] at h
  split at h
  · simp at h
  · rename_i hlen
    have hlen' : v.length = r * c := by simpa using hlen
    split at h
    · rename_i hz
      simp at h; subst h
      have hz := (all_isZero_iff v).1 hz
      exact ⟨trivial, hlen', rfl, rfl, fun i j hi hj =>
        (dense_entries_iff hlen' (P := fun x => 0 = x) rfl).1 (fun x hx => (hz x hx).symm) i j hi hj⟩
    · split at h
      · rename_i _ hid
        simp at h; subst h
        rw [Bool.and_eq_true, beq_iff_eq, isIdentityDense_iff] at hid
        obtain ⟨rfl, hid⟩ := hid
        exact ⟨trivial, hlen', rfl, rfl, fun i j hi hj => (hid i hi j hj).symm⟩
      · split at h
        · rename_i _ _ hdg
          have := mkDiag_ok h; subst this
          rw [Bool.and_eq_true, beq_iff_eq, isDiagonalDense_iff] at hdg
          obtain ⟨rfl, hdg⟩ := hdg
          have hl : (extractDiagonal r v).length = r := by simp [extractDiagonal]
          refine ⟨trivial, hlen', by simp [valOf, hl], by simp [valOf, hl], fun i j hi hj => ?_⟩
          simp only [valOf, hl] at hi hj ⊢
          split
          · rename_i hij
            subst hij
            exact (getD_map_range _ r i 0).trans (if_pos hi)
          · rename_i hij
            exact (hdg i hi j hj hij).symm
        · have := mkDense_ok h; subst this
          exact ⟨hlen', hlen', Val.Eqv.refl _⟩

end SymVerif.C26
