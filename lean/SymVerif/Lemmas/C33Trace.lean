import SymVerif.Lemmas.C33Ops
/-! Histories of API calls: one induction over the history (`run_spec`) yields a `GoodTrace`, and the claimed theorems
are read off it: no out-of-bounds access and no exhausted fuel (`no_ub`), every generated list is the primes up to
its limit (`gen`), an iterator returns the primes in order (`iter_log`). -/
namespace SymVerif.C33
open SymVerif.Sieve

def OpsOk (ops : List Op) : Prop := opsOk ops = true

instance (ops : List Op) : Decidable (OpsOk ops) := by unfold OpsOk; infer_instance

/-- `GoodTrace w ops outs wf`: running `ops` from world `w` prints `outs` and ends in `wf`; every
call succeeded with a correct result (`OutOk`), except that the history may stop at an
`iterNext` call with `Err.range` (an iterator asked for an extension to `≥ 2^31`). -/
def GoodTrace : World → List Op → List (Except Err (List Nat)) → World → Prop
  | w, [], outs, wf => outs = [] ∧ wf = w
  | w, op :: ops, outs, wf =>
    (∃ w' out rest, step w op = .ok (w', out) ∧ outs = .ok out :: rest ∧ OutOk w op out w' ∧
        GoodTrace w' ops rest wf) ∨
    (outs = [.error .range] ∧ wf = w ∧ ∃ slot count, op = .iterNext slot count)

def opOkStrict : Op → Bool
  | .iterNew _ limit => decide (0 < limit) && decide (limit < maxLimit)
  | op => opOk op

theorem opOk_of_strict {op : Op} (h : opOkStrict op = true) : opOk op = true := by
  cases op with
  | iterNew slot limit =>
    have : 0 < limit ∧ limit < maxLimit := by simpa [opOkStrict] using h
    have hm : maxLimit = 2 ^ 31 := rfl
    simp only [opOk, decide_eq_true_eq]
    omega
  | _ => exact h

def OpsOkStrict (ops : List Op) : Prop := ops.all opOkStrict = true

instance (ops : List Op) : Decidable (OpsOkStrict ops) := by unfold OpsOkStrict; infer_instance

theorem OpsOk_of_strict {ops : List Op} (h : OpsOkStrict ops) : OpsOk ops := by
  unfold OpsOkStrict at h; unfold OpsOk opsOk
  rw [List.all_eq_true] at h ⊢
  exact fun op hop => opOk_of_strict (h op hop)

/-- the fourth conjunct, about strict histories, is for `history_no_error` -/
theorem run_spec (w : World) (ops : List Op) (acc : List (Except Err (List Nat)))
    (hw : WInv w) (hops : OpsOk ops) :
    ∃ outs wf, run w ops acc = (wf, acc.reverse ++ outs) ∧ GoodTrace w ops outs wf ∧ WInv wf ∧
      (LimOk w → OpsOkStrict ops →
        ∃ oks : List (List Nat), outs = oks.map .ok ∧ oks.length = ops.length) := by
  induction ops generalizing w acc with
  | nil => exact ⟨[], w, by simp [run], ⟨rfl, rfl⟩, hw, fun _ _ => ⟨[], rfl, rfl⟩⟩
  | cons op ops ih =>
    obtain ⟨h1, h2⟩ : opOk op = true ∧ OpsOk ops := Bool.and_eq_true_iff.1 hops
    rcases step_spec w op hw h1 with
      ⟨w', out, e, hw', ho, hlim⟩ | ⟨e, slot, count, it, hsl, hlk, hne⟩
    · obtain ⟨outs, wf, er, gt, hwf, hs⟩ := ih w' (.ok out :: acc) hw' h2
      refine ⟨.ok out :: outs, wf, ?_, Or.inl ⟨w', out, outs, e, rfl, ho, gt⟩, hwf,
        fun hl hst => ?_⟩
      · unfold run; rw [e]; simp only []; rw [er]; simp
      · obtain ⟨s1, s2⟩ : opOkStrict op = true ∧ OpsOkStrict ops := Bool.and_eq_true_iff.1 hst
        obtain ⟨oks, eo, len⟩ := hs (hlim hl
          (fun k l h => by subst h; simpa [opOkStrict, SafeLim] using s1)) s2
        exact ⟨out :: oks, by rw [eo]; rfl, by simp [len]⟩
    · refine ⟨[.error .range], w, ?_, Or.inr ⟨rfl, rfl, slot, count, hsl⟩, hw,
        fun hl _ => absurd (hl slot it hlk) hne⟩
      unfold run; rw [e]; simp

/-- `GoodTrace` is a recursive definition; this is the induction principle of the inductive predicate it
stands for: the empty history, a successful call followed by a good trace, a stop with `Err.range`. -/
@[elab_as_elim]
theorem GoodTrace.induction {wf : World}
    {motive : ∀ w ops outs, GoodTrace w ops outs wf → Prop}
    (nil : motive wf [] [] ⟨rfl, rfl⟩)
    (ok : ∀ {w w' op ops out rest} (e : step w op = .ok (w', out)) (ho : OutOk w op out w')
      (gt : GoodTrace w' ops rest wf), motive w' ops rest gt →
      motive w (op :: ops) (.ok out :: rest) (Or.inl ⟨w', out, rest, e, rfl, ho, gt⟩))
    (stop : ∀ slot count ops,
      motive wf (.iterNext slot count :: ops) [.error .range] (Or.inr ⟨rfl, rfl, slot, count, rfl⟩))
    {w : World} {ops : List Op} {outs : List (Except Err (List Nat))}
    (h : GoodTrace w ops outs wf) : motive w ops outs h := by
  induction ops generalizing w outs with
  | nil => obtain ⟨rfl, rfl⟩ := h; exact nil
  | cons op ops ih =>
    rcases h with ⟨w', out, rest, e, rfl, ho, gt⟩ | ⟨rfl, rfl, slot, count, rfl⟩
    · exact ok e ho gt (ih gt)
    · exact stop slot count ops

theorem GoodTrace.no_ub {w wf : World} {ops : List Op} {outs : List (Except Err (List Nat))}
    (h : GoodTrace w ops outs wf) : ∀ r ∈ outs, r ≠ .error .oob ∧ r ≠ .error .fuel := by
  induction h using GoodTrace.induction with
  | nil => exact fun _ hr => nomatch hr
  | ok _ _ _ ih => exact fun r hr => (List.mem_cons.1 hr).elim (fun e => e ▸ ⟨nofun, nofun⟩) (ih r)
  | stop => exact fun r hr => List.mem_singleton.1 hr ▸ ⟨nofun, nofun⟩

theorem GoodTrace.gen {w wf : World} {ops : List Op} {outs : List (Except Err (List Nat))}
    (h : GoodTrace w ops outs wf) (k limit : Nat) (r : Except Err (List Nat))
    (hop : ops[k]? = some (.gen limit)) (hr : outs[k]? = some r) : r = .ok (primesUpTo limit) := by
  induction h using GoodTrace.induction generalizing k with
  | nil => simp at hop
  | @ok _ _ op _ out _ _ ho _ ih =>
    cases k with
    | zero =>
      obtain rfl : op = .gen limit := Option.some.inj hop
      obtain rfl : .ok out = r := Option.some.inj hr
      rw [And.left ho]
    | succ k => exact ih k hop hr
  | stop =>
    cases k with
    | zero => simp at hop
    | succ k => simp at hr

/-- Ghost log: everything the iterator currently living in `slot` has returned since it was
created, computed from the history and its printed outputs alone. -/
def iterLog (slot : Nat) : List Op → List (Except Err (List Nat)) → List Nat → List Nat
  | op :: ops, .ok out :: outs, acc =>
    iterLog slot ops outs (match op with
      | .iterNew k _ => if k = slot then [] else acc
      | .iterDel k => if k = slot then [] else acc
      | .iterNext k _ => if k = slot then acc ++ out else acc
      | _ => acc)
  | _, _, acc => acc

theorem GoodTrace.iter_log {w wf : World} {ops : List Op} {outs : List (Except Err (List Nat))}
    (h : GoodTrace w ops outs wf) (slot : Nat) (acc : List Nat)
    (hacc : ∀ it, lookupIter w.iters slot = some it → IterRun it.limit 0 acc it.index) :
    ∀ it, lookupIter wf.iters slot = some it →
      IterRun it.limit 0 (iterLog slot ops outs acc) it.index := by
  induction h using GoodTrace.induction generalizing acc with
  | nil => simpa [iterLog] using hacc
  | @ok w _ op _ out _ _ ho _ ih =>
    simp only [iterLog]
    apply ih
    cases op with
    | iterNew k lim =>
      obtain ⟨_, hself, hother⟩ : _ ∧ _ ∧ _ := ho
      by_cases hk : k = slot
      · subst hk
        intro it hit
        rw [hself] at hit
        obtain rfl := Option.some.inj hit
        simpa using IterRun.nil 0
      · simp only [hk, if_false]
        rw [hother slot (fun h => hk h.symm)]; exact hacc
    | iterDel k =>
      obtain ⟨_, hself, hother⟩ : _ ∧ _ ∧ _ := ho
      by_cases hk : k = slot
      · subst hk
        intro it hit
        rw [hself] at hit; simp at hit
      · simp only [hk, if_false]
        rw [hother slot (fun h => hk h.symm)]; exact hacc
    | iterNext k c =>
      obtain ⟨hother, hself⟩ : _ ∧ _ := ho
      by_cases hk : k = slot
      · subst hk
        simp only [if_true]
        cases hlk : lookupIter w.iters k with
        | none =>
          rw [hlk] at hself
          intro it hit
          rw [hself.2] at hit; simp at hit
        | some it0 =>
          rw [hlk] at hself
          obtain ⟨_, it', e', lim, run⟩ := hself
          intro it hit
          rw [e'] at hit
          obtain rfl := Option.some.inj hit
          rw [lim]
          exact IterRun.append (hacc it0 hlk) run
      · simp only [hk, if_false]
        rw [hother slot (fun h => hk h.symm)]; exact hacc
    | _ =>
      -- the other calls leave the iterator table alone
      rw [And.right ho]; exact hacc
  | stop => simpa [iterLog] using hacc

end SymVerif.C33
