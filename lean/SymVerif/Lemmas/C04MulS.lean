/-
C04, Mul side: factors `k ** e` with an opaque base `k` (not a Number, not a Mul, not a Pow) and an
exponent `e` that is any exact summand of the safe Add fragment (numbers, symbols, sums, products, …;
`expOK`), coefficients in ℚ(i) \ {0}.  On this fragment `Mul::dict_add_term_new` is point-wise addition
of exponents (`datNewS_atom`), so

    mulF a b = Mul::from_dict (reprM a ⊗ reprM b)              (`mulFS_eq`)
    reprM (Mul::from_dict s) = s                               (`reprMS_fromDict`)

with `⊗` (`rmulS`): product of the coefficients in ℚ(i), point-wise sum of the exponents with `add` —
the dictionary algebra of Lemmas/C04DictG.lean at `expVS`.  Results do not depend on the recursion fuel
(beyond a linear bound) nor on the dictionary iteration order `rv`.  Products whose exponents are Numbers
(`mulOperandOK`) are the part of this fragment cut out by `isNum` on the exponents (Lemmas/C04Operand.lean).
The `S` in `NRS`, `MOKS`, `rmulS`, `mulFS_eq`, … stands for "symbolic exponents" (`_sym` in Props/C04.lean).
-/
import SymVerif.Lemmas.C04ExpVS

namespace SymVerif.AC
open SymVerif SymVerif.Arith

def NRS (s : Expr × Dict) : Prop :=
  ExOK s.1 ∧ gq s.1 ≠ 0 ∧ DOKG expVS s.2 ∧ ∀ p ∈ s.2, atomBase p.1 = true ∧ exact p.1 = true

theorem NRS.coef_ne {s : Expr × Dict} (h : NRS s) : gq s.1 ≠ 0 := h.2.1
theorem NRS.dok {s : Expr × Dict} (h : NRS s) : DOKG expVS s.2 := h.2.2.1
theorem NRS.keys {s : Expr × Dict} (h : NRS s) : ∀ p ∈ s.2, atomBase p.1 = true ∧ exact p.1 = true := h.2.2.2

/-- a factor: its representation is normal and `Mul::from_dict` rebuilds it -/
def MOKS (a : Expr) : Prop := NRS (reprM a) ∧ mulFromDict (reprM a).1 (reprM a).2 = a

/-- `⊗` on representations -/
noncomputable def rmulS (r s : Expr × Dict) : Expr × Dict :=
  (ofG (cmul (gq r.1) (gq s.1)), mergeG expVS r.2 s.2)

theorem NRS.rmulS {r s : Expr × Dict} (hr : NRS r) (hs : NRS s) : NRS (rmulS r s) := by
  refine ⟨exOK_ofG _, ?_, mergeG_DOK expVS hr.dok hs.dok.vals, ?_⟩
  · show gq (ofG _) ≠ 0
    rw [gq_ofG]
    exact cmul_ne_zero hr.coef_ne hs.coef_ne
  · exact mergeG_all expVS (fun k _ => atomBase k = true ∧ exact k = true) (fun _ _ _ h _ => h) hr.keys hs.keys

theorem rmulS_comm {r s : Expr × Dict} (hr : NRS r) (hs : NRS s) : rmulS r s = rmulS s r := by
  unfold rmulS
  rw [cmul_comm, mergeG_comm expVS hr.dok hs.dok]

theorem rmulS_assoc {r s t : Expr × Dict} (hr : NRS r) (hs : NRS s) (ht : NRS t) :
    rmulS (rmulS r s) t = rmulS r (rmulS s t) := by
  unfold rmulS
  simp only [gq_ofG]
  rw [cmul_assoc, mergeG_assoc expVS hr.dok hs.dok ht.dok]

theorem NRS_unit : NRS (one, []) :=
  ⟨exOK_int 1, by rw [gq_one]; simp, (DOKG.nil expVS), by simp⟩

theorem rmulS_unit {s : Expr × Dict} (hs : NRS s) : rmulS (one, []) s = s := by
  obtain ⟨c, d⟩ := s
  unfold rmulS
  simp only [gq_one, one_cmul, ofG_gq hs.1, mergeG_nil_left expVS hs.dok]

theorem atomBase_facts {t : Expr} (h : atomBase t = true) :
    t.isNum = false ∧ isMul t = false ∧ isPow t = false := by
  unfold atomBase at h
  simp only [Bool.and_eq_true, Bool.not_eq_true'] at h
  exact ⟨h.1.1, h.1.2, h.2⟩

theorem reprM_atom {t : Expr} (h : atomBase t = true) : reprM t = (one, [(t, one)]) := by
  cases t <;> first | rfl | cases h

theorem reprM_num {a : Expr} (h : a.isNum = true) : reprM a = (a, []) := by
  cases a <;> first | rfl | cases h

theorem asBaseExp_atom {t : Expr} (h : atomBase t = true) : asBaseExp t = .ok (one, t) := by
  cases t <;> first | rfl | cases h

theorem reprMS_fromDict {s : Expr × Dict} (h : NRS s) :
    reprM (mulFromDict s.1 s.2) = s ∧ exact (mulFromDict s.1 s.2) = true := by
  obtain ⟨c, d⟩ := s
  obtain ⟨hc, hc0, hd, hk⟩ := h
  simp only at hc hc0 hd hk
  have hz := (numIsZero_false_iff hc).mpr hc0
  have hcx := exact_of_exOK hc
  have hdx : exactPairs d = true :=
    (exactPairs_iff d).mpr (fun p hp => ⟨(hk p hp).2, (hd.2 p hp).1.2⟩)
  have hmul : reprM (.mul c d) = (c, d) ∧ exact (.mul c d) = true :=
    ⟨rfl, by simp only [exact, hcx, hdx, Bool.and_self]⟩
  unfold mulFromDict
  simp only [hz, Bool.false_eq_true, if_false]
  split
  · -- `d = []`: the coefficient
    exact ⟨reprM_num (exOK_isNum hc), hcx⟩
  · rename_i b e
    have hb := hk (b, e) List.mem_cons_self
    split
    · rename_i h1
      obtain rfl : c = one := numIsOne_canon hc.2 h1
      split
      · -- one entry, coefficient 1, exponent 1: the base
        rename_i he1
        cases isIntLit_iff.mp he1
        exact ⟨reprM_atom hb.1, hb.2⟩
      · -- one entry, coefficient 1: `b ** e`
        exact ⟨rfl, by simp only [exact, hb.2, (hd.2 (b, e) List.mem_cons_self).1.2, Bool.and_self]⟩
    · exact hmul
  · exact hmul

/-- a factor is exact: it is what `Mul::from_dict` builds from a normal representation -/
theorem MOKS.exact {a : Expr} (h : MOKS a) : exact a = true := h.2 ▸ (reprMS_fromDict h.1).2

theorem MOKS_fromDict {s : Expr × Dict} (h : NRS s) :
    MOKS (mulFromDict s.1 s.2) ∧ reprM (mulFromDict s.1 s.2) = s := by
  have h1 := (reprMS_fromDict h).1
  refine ⟨⟨?_, ?_⟩, h1⟩
  · rw [h1]; exact h
  · rw [h1]

/-- unfolding `datNew` copies the continuation into both branches of the `if` of `expAdd_model`, so that equation
finds nothing to rewrite; this pushes its result through both copies -/
theorem ite_bind_ok {α β : Type} {c : Prop} [Decidable c] {x y : R α} {v : α} {k : α → R β}
    (h : (if c then x else y) = .ok v) : (if c then x >>= k else y >>= k) = k v := by
  split at h <;> simp only [if_true, if_false, ok_bind, *]

/-- Fuel: every function of the `mul` family takes one unit per call.  `datNew` calls `datFound`, hence `2 ≤ fuel`
here; `datLoop` takes one per entry, so `length + 2` would do where `datLoopS_atoms` asks `length + 3`, and `dlen b + 5`
where `mulFS_eq` asks `dlen a + dlen b + 6`: a round bound, symmetric in the two factors. -/
theorem datNewS_atom {fuel : Nat} {rv : Bool} {coef : Expr} {d : Dict} {e t : Expr} (hfu : 2 ≤ fuel)
    (hd : DOKG expVS d) (ht : atomBase t = true) (he : expOK e) (he0 : expVal e ≠ 0) :
    datNew fuel rv coef d e t = .ok (coef, updG expVS d e t) := by
  obtain ⟨fuel, rfl⟩ := Nat.exists_eq_add_of_le' hfu
  obtain ⟨t1, t2, t3⟩ := atomBase_facts ht
  obtain ⟨ti, tr, tc⟩ := nonNum_class t1
  have t0 := isIntLit_of_not_num t1 0
  have hez : expIsZ e = false := (expIsZ_false_iff he).mpr he0
  unfold updG
  cases hf : dfind d t with
  | none =>
    have : expVS.isZ e = false := hez
    -- an opaque `t` fails the Number and the Pow test of `datNew` and reaches the last `else`: `dinsert`
    simp [datNew, hf, ti, tr, tc, t3, this]
  | some old =>
    have hold : expOK old := (hd.found hf).1
    have hv : expOK (expAdd old e) := (expAdd_spec hold he).2.1
    have hadd : expVS.add old e = expAdd old e := rfl
    have hisz : expVS.isZ (expAdd old e) = expIsZ (expAdd old e) := rfl
    have hmodel := expAdd_model hold he
    simp only [hadd, hisz]
    have htail : datFound (fuel + 1) rv coef (dset d t (expAdd old e)) t (expAdd old e)
        = .ok (coef, if expIsZ (expAdd old e) = true then derase d t else dset d t (expAdd old e)) := by
      by_cases hz : expIsZ (expAdd old e) = true
      · -- branch 2 of `datFound` ("sum = 0": erase)
        have hv0 := eq_zero_of_expIsZ hz
        rw [hv0] at hz ⊢
        have h1 : isInteger zero = true := rfl
        have h2 : numIsZero zero = true := rfl
        simp [datFound, ti, tr, tc, h1, h2, hz, derase_dset]
        rfl
      · have hz' : expIsZ (expAdd old e) = false := by simpa using hz
        simp only [hz', Bool.false_eq_true, if_false]
        generalize expAdd old e = v at hv hz'
        have hiz : (isInteger v && numIsZero v) = false := hz'
        have hnz : v.isNum = true → numIsZero v = false := by
          intro hn
          have hex := expOK_isNum hv hn
          cases h : numIsZero v with
          | false => rfl
          | true =>
            have := numIsZero_eq_zero hex h
            subst this
            simp [zero, isInteger, numIsZero] at hiz
        -- the branches of `datFound` in the order of the model: 1 and 3 test `t` Number, `t` Pow (`ti tr tc t3`);
        -- 2 is "sum = 0" (`hiz`); `early` is `none` since `t` is no Integer or Rational; in the tail for a Number `v`:
        -- `v` is not zero (`hnz`), `t` is not the literal 0 (`t0`) and not a Mul (`t2`).  What is left is `(coef, d)`
        simp only [datFound, ti, tr, tc, t3, t0, hiz, Bool.or_self, Bool.and_false, Bool.false_eq_true,
          if_false]
        simp only [pure, Except.pure, bind, Except.bind]
        by_cases hn : v.isNum = true
        · simp only [hn, if_true, hnz hn, Bool.false_eq_true, if_false]
          split
          · rename_i mc mfs
            simp [isMul] at t2
          · rfl
        · simp only [hn, Bool.false_eq_true, if_false]
    simp only [datNew, hf]
    rw [ite_bind_ok hmodel, htail]

theorem datLoopS_atoms {rv : Bool} {coef : Expr} : ∀ (l : Dict) {fuel : Nat} {d : Dict},
    l.length + 3 ≤ fuel → DOKG expVS d →
    (∀ p ∈ l, atomBase p.1 = true ∧ expOK p.2 ∧ expVal p.2 ≠ 0) →
    datLoop fuel rv coef d l = .ok (coef, mergeG expVS d l)
  | [], fuel, d, hfu, _, _ => by
    obtain ⟨k, rfl⟩ := Nat.exists_eq_add_of_le' (show 1 ≤ fuel by omega)
    simp [datLoop, mergeG]
  | (k, v) :: r, fuel, d, hfu, hd, hl => by
    obtain ⟨f, rfl⟩ := Nat.exists_eq_add_of_le' (show 1 ≤ fuel by omega)
    have hkv := hl (k, v) List.mem_cons_self
    simp only [List.length_cons] at hfu
    have h2 : 2 ≤ f := by omega
    have h3 : r.length + 3 ≤ f := by omega
    simp only [datLoop, datNewS_atom h2 hd hkv.1 hkv.2.1 hkv.2.2, ok_bind, mergeG]
    exact datLoopS_atoms r h3 (updG_DOK expVS k hd hkv.2.1) (fun p hp => hl p (List.mem_cons_of_mem _ hp))

theorem iterOrder_perm (rv : Bool) (l : Dict) : (iterOrder rv l).Perm l := by
  unfold iterOrder
  split
  · exact List.reverse_perm l
  · exact List.Perm.refl l

/-- the loop of `mul(Mul, Mul)` / `mul(vec)` over the factors of a normal product, in either order -/
theorem datLoopS_iterOrder {fuel : Nat} {rv : Bool} (coef : Expr) {s t : Expr × Dict} (hs : NRS s) (ht : NRS t)
    (hfu : t.2.length + 3 ≤ fuel) :
    datLoop fuel rv coef s.2 (iterOrder rv t.2) = .ok (coef, mergeG expVS s.2 t.2) := by
  have hp := iterOrder_perm rv t.2
  rw [datLoopS_atoms _ (by rw [hp.length_eq]; exact hfu) hs.dok
      (fun p hp' => ⟨(ht.keys p (hp.mem_iff.mp hp')).1, ht.dok.2 p (hp.mem_iff.mp hp')⟩),
    mergeG_perm expVS hs.dok (fun p hp' => (ht.dok.2 p (hp.mem_iff.mp hp')).1) hp]

theorem mergeS_single (d : Dict) (t c : Expr) : mergeG expVS d [(t, c)] = updG expVS d c t := rfl

theorem cmul_gq_one {c : Expr} (hc : ExOK c) : ofG (cmul (gq c) (gq one)) = c := by
  rw [gq_one, cmul_one, ofG_gq hc]

/-- `mulStep`: multiply the state by a factor that is not a Mul -/
theorem mulStepS_eq {fuel : Nat} {rv : Bool} {coef : Expr} {d : Dict} {b : Expr} (hfu : 3 ≤ fuel)
    (hs : NRS (coef, d)) (hb : MOKS b) (hnm : isMul b = false) :
    mulStep fuel rv coef d b = .ok (rmulS (coef, d) (reprM b)) := by
  obtain ⟨f, rfl⟩ := Nat.exists_eq_add_of_le' (show 1 ≤ fuel by omega)
  have h2 : 2 ≤ f := by omega
  by_cases hn : b.isNum = true
  · have hr := reprM_num hn
    have hbx : ExOK b := by have := hb.1.1; rwa [hr] at this
    simp only [mulStep, hn, if_true, numMul_eq hs.1 hbx, ok_bind, hr, rmulS, mergeG]
    rfl
  · have hn' : b.isNum = false := by simpa using hn
    obtain ⟨t, e, hab, hr⟩ : ∃ t e, asBaseExp b = .ok (e, t) ∧ reprM b = (one, [(t, e)]) := by
      by_cases hp : isPow b = true
      · obtain ⟨bb, e, rfl⟩ := isPow_iff.mp hp
        exact ⟨bb, e, rfl, rfl⟩
      · have hat : atomBase b = true := by simp [atomBase, hn', hnm, hp]
        exact ⟨b, one, asBaseExp_atom hat, reprM_atom hat⟩
    have hnr := hb.1
    rw [hr] at hnr
    have hk := hnr.keys (t, e) List.mem_cons_self
    have hv := hnr.dok.2 (t, e) List.mem_cons_self
    simp only [mulStep, hn', Bool.false_eq_true, if_false, hab, ok_bind,
      datNewS_atom h2 hs.dok hk.1 hv.1 hv.2, hr, rmulS, mergeS_single, cmul_gq_one hs.1]

/-- `mul(a, b)` is `Mul::from_dict` of the product of the representations, for either iteration
order and every sufficient fuel -/
theorem mulFS_eq {fuel : Nat} {rv : Bool} {a b : Expr} (ha : MOKS a) (hb : MOKS b)
    (hfu : dlen a + dlen b + 6 ≤ fuel) :
    mulF fuel rv a b = .ok (mulFromDict (rmulS (reprM a) (reprM b)).1 (rmulS (reprM a) (reprM b)).2) := by
  obtain ⟨g, rfl⟩ := Nat.exists_eq_add_of_le' (show 2 ≤ fuel by omega)
  by_cases hma : isMul a = true
  · obtain ⟨ac, ad, rfl⟩ := isMul_iff.mp hma
    have hna : NRS (ac, ad) := ha.1
    by_cases hmb : isMul b = true
    · obtain ⟨bc, bd, rfl⟩ := isMul_iff.mp hmb
      have hnb : NRS (bc, bd) := hb.1
      simp only [dlen, reprM] at hfu
      have hrest := fun coef => datLoopS_iterOrder (rv := rv) coef hna hnb (by show bd.length + 3 ≤ g + 1; omega)
      simp only [mulF, reprM, rmulS]
      -- arm (Mul, Mul): the C++ skips the product of the coefficients when both are 1 (`!numIsOne ac || !numIsOne bc`)
      split
      · simp only [numMul_eq hna.1 hnb.1, ok_bind, hrest]
        rfl
      · rename_i h
        simp only [Bool.or_eq_true, Bool.not_eq_true', not_or, Bool.not_eq_false] at h
        obtain rfl : ac = one := numIsOne_canon hna.1.2 h.1
        obtain rfl : bc = one := numIsOne_canon hnb.1.2 h.2
        simp only [pure, Except.pure, ok_bind, hrest, cmul_gq_one (c := one) (exOK_int 1)]
    · have hmb' : isMul b = false := by simpa using hmb
      -- arm (Mul, other): `b` is multiplied onto the dictionary of `a`
      rw [mulF.eq_3 _ _ _ _ _ (ne_mul_of_isMul hmb')]
      simp only [mulOnto, mulStepS_eq (by omega : 3 ≤ g) hna hb hmb', ok_bind, reprM]
      rfl
  · have hma' : isMul a = false := by simpa using hma
    by_cases hmb : isMul b = true
    · obtain ⟨bc, bd, rfl⟩ := isMul_iff.mp hmb
      have hnb : NRS (bc, bd) := hb.1
      -- arm (other, Mul): the C++ computes `b * a` here, `a` onto the dictionary of `b`; hence `rmulS_comm`
      rw [mulF.eq_4 _ _ _ _ _ (ne_mul_of_isMul hma')]
      simp only [mulOnto, mulStepS_eq (by omega : 3 ≤ g) hnb ha hma', ok_bind]
      have e : reprM (.mul bc bd) = (bc, bd) := rfl
      rw [e, rmulS_comm ha.1 hnb]
      rfl
    · have hmb' : isMul b = false := by simpa using hmb
      -- arm (other, other): both onto the empty dictionary; the third argument says that `a` is no Mul, once more
      rw [mulF.eq_5 _ _ _ _ (ne_mul_of_isMul hma') (ne_mul_of_isMul hmb')
          (fun _ _ _ _ h _ => ne_mul_of_isMul hma' _ _ h),
        mulStepS_eq (by omega : 3 ≤ g + 1) NRS_unit ha hma', rmulS_unit ha.1]
      simp only [ok_bind]
      have hra : NRS ((reprM a).1, (reprM a).2) := ha.1
      rw [mulStepS_eq (by omega : 3 ≤ g + 1) hra hb hmb']
      rfl

end SymVerif.AC
