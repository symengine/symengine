/-
`semT (toT e) = e` and `toT e` is well formed, for serialisable expressions (C19):
what load_basic builds from what save_basic wrote is the original object.  `node_ok` is the statement for one object;
the mutual induction `sem_toT` applies it class by class.
-/
import SymVerif.Lemmas.Basic
import SymVerif.Lemmas.C19Build
import SymVerif.Lemmas.C19Round

namespace SymVerif.Codec
open SymVerif.Gen.SerialCodes

/-- the size bound of `Ser` (in `intOK`, `strOK` and the container lengths): fewer than 65536 digits, characters or container entries, so that a container of
    elements of at most 8 bytes stays within 65536 · 8 = 2^19 bytes, below the allocation cap `2^20 ≤ cap` -/
def intOK (n : Int) : Prop := (intBytes n).length < 65536

def qOK (q : Q) : Prop := intOK q.num ∧ intOK q.den ∧ (q.den = 1 ∨ (2 ≤ q.den ∧ Nat.gcd q.num.natAbs q.den = 1))

def strOK (s : String) : Prop := nameOK s = true ∧ s.toList.length < 65536

mutual
  /-- expressions in the fragment of the round-trip theorem, at a load site of static type `c` -/
  def Ser : Cls → Expr → Prop
    | c, .int n => isA c "Integer" = true ∧ intOK n
    | c, .rat n d => isA c "Rational" = true ∧ qOK ⟨n, d⟩ ∧ 2 ≤ d
    | c, .cplx re im => isA c "Complex" = true ∧ qOK re ∧ qOK im ∧ im.num ≠ 0
    | c, .dbl _ => isA c "RealDouble" = true
    | c, .cdbl _ _ => isA c "ComplexDouble" = true
    | c, .infty d => isA c "Infty" = true ∧ intOK d
    | c, .nan => isA c "NaN" = true
    | c, .sym s => isA c "Symbol" = true ∧ strOK s
    | c, .dummy s i => isA c "Dummy" = true ∧ strOK s ∧ i < 2 ^ 64
    | c, .const s => isA c "Constant" = true ∧ strOK s
    | c, .add co ts => isA c "Add" = true ∧ Ser .number co ∧ SerPairs .basic .number ts
        ∧ (ts.map fun p => Expr.dumpCanon p.1).Nodup ∧ ts.length < 65536
    | c, .mul co ts => isA c "Mul" = true ∧ Ser .number co ∧ SerPairs .basic .basic ts
        ∧ (ts.map fun p => Expr.dumpCanon p.1).Nodup ∧ ts.length < 65536
    | c, .pow b e => isA c "Pow" = true ∧ Ser .basic b ∧ Ser .basic e
    | c, .fsym n args => isA c "FunctionSymbol" = true ∧ strOK n ∧ SerAll .basic args ∧ args.length < 65536
    | c, .bool _ => isA c "BooleanAtom" = true
    | c, .app h args => h ∈ names ∧ isA c h = true ∧ args.length < 65536 ∧
        ((∃ cs, kindOfName h = .args cs ∧ SerArgs cs args) ∨
         (∃ el c' dd, kindOfName h = .vec el c' dd ∧ SerAll c' args ∧ (dd = true → (args.map Expr.dumpCanon).Nodup)))
  def SerArgs : List Cls → List Expr → Prop
    | [], [] => True
    | c :: cs, a :: as => Ser c a ∧ SerArgs cs as
    | [], _ :: _ => False
    | _ :: _, [] => False
  def SerAll : Cls → List Expr → Prop
    | _, [] => True
    | c, a :: as => Ser c a ∧ SerAll c as
  def SerPairs : Cls → Cls → List (Expr × Expr) → Prop
    | _, _, [] => True
    | ck, cv, (k, v) :: t => Ser ck k ∧ Ser cv v ∧ SerPairs ck cv t
end

/-- `i` is the type code of class `n` (its position in the generated `names`; `rfl` checks it at each use):
    0 Integer, 1 Rational, 2 Complex, 3 ComplexDouble, 6 RealDouble, 7 Infty, 8 NaN, 13 Symbol, 14 Dummy, 15 Mul,
    16 Add, 17 Pow, 31 Constant, 35 Sin, 73 FunctionSymbol, 97 BooleanAtom -/
theorem mem_names {n : String} (i : Nat) (h : names[i]? = some n) : n ∈ names := List.mem_of_getElem? h

/-- `i` is the position among the first fifteen entries of `kindByName` (not the type code): 0 Integer, 1 Rational,
    2 Complex, 3 ComplexDouble, 4 RealDouble, 5 Infty, 6 NaN, 7 Symbol, 8 Dummy, 9 Constant, 10 Mul, 11 Add, 12 Pow,
    13 FunctionSymbol, 14 BooleanAtom -/
theorem kind_at {n : String} {k : NK} (i : Nat) (h : (kindByName.take 15)[i]? = some (n, k)) : kindOfName n = k := by
  have hall : (kindByName.take 15).all (fun p => kindOfName p.1 == p.2) = true := by decide +kernel
  exact eq_of_beq (List.all_eq_true.1 hall (n, k) (List.mem_of_getElem? h))

theorem semFld_ptr {t : T} {e : Expr} (h : semT t = .ok e) : semFld (.ptr t) = .ok (.ptr e) := by
  simp only [semFld, h]

theorem semFld_seq {n : Nat} {l : List T} {es : List Expr} (h : semTs l = .ok es) :
    semFld (.seq n l) = .ok (.seq es) := by
  simp only [semFld, h]

theorem semFlds_nil : semFlds [] = .ok [] := rfl

theorem semFlds_cons {f : Fld} {v : FV} {fs : List Fld} {vs : List FV} (h1 : semFld f = .ok v)
    (h2 : semFlds fs = .ok vs) : semFlds (f :: fs) = .ok (v :: vs) := by
  simp only [semFlds, h1, h2]

theorem semTs_cons {t : T} {e : Expr} {ts : List T} {es : List Expr} (h1 : semT t = .ok e)
    (h2 : semTs ts = .ok es) : semTs (t :: ts) = .ok (e :: es) := by
  simp only [semTs, h1, h2]

theorem semTs_cons_ok {t : T} {ts : List T} {es : List Expr} (h : semTs (t :: ts) = .ok es) :
    ∃ e es', semT t = .ok e ∧ semTs ts = .ok es' ∧ es = e :: es' := by
  simp only [semTs] at h
  split at h
  · cases h
  · rename_i e he
    split at h
    · cases h
    · rename_i es' hes
      cases h
      exact ⟨e, es', he, hes, rfl⟩

theorem semFlds_ptrs : ∀ (l : List T) (es : List Expr), semTs l = .ok es →
    semFlds (l.map .ptr) = .ok (es.map .ptr)
  | [], es, h => by simp [semTs] at h; subst h; rfl
  | t :: ts, es, h => by
    obtain ⟨e, es', he, hes, rfl⟩ := semTs_cons_ok h
    exact semFlds_cons (semFld_ptr he) (semFlds_ptrs ts es' hes)

theorem ptrs_map : ∀ es : List Expr, ptrs (es.map .ptr) = some es
  | [] => rfl
  | e :: es => by simp [ptrs, ptrs_map es]

theorem semTs_length : ∀ (l : List T) (es : List Expr), semTs l = .ok es → l.length = es.length
  | [], es, h => by simp [semTs] at h; subst h; rfl
  | t :: ts, es, h => by
    obtain ⟨e, es', _, hes, rfl⟩ := semTs_cons_ok h
    exact congrArg (· + 1) (semTs_length ts es' hes)

theorem kindOfName_vec_elem {h : String} {el : Nat} {c : Cls} {d : Bool} (hk : kindOfName h = .vec el c d) : el ≤ 8 := by
  have hall : kindByName.all (fun p => match p.2 with | .vec e _ _ => decide (e ≤ 8) | _ => true) = true := by decide
  unfold kindOfName at hk
  split at hk
  · cases hk
  · split at hk
    · rename_i k hlook
      have := List.all_eq_true.1 hall (h, k) (List.mem_of_lookup hlook)
      subst hk
      simpa using this
    · cases hk

theorem boolByte_ne (b : Bool) : (boolByte b != 0) = b := by cases b <;> decide

theorem node_ok (cap : Nat) {name : String} {nk : NK} {ks : List Kind} (hmem : name ∈ names)
    (hk : kindOfName name = nk) (hl : layoutOf nk = some ks) {a : UInt64} {fs : List Fld} {fvs : List FV}
    {e : Expr} {c : Cls} (hf : semFlds fs = .ok fvs) (hb : build nk name fvs = .ok e)
    (hcn : Expr.className e = name) (hw : WfFlds cap ks fs) (hc : isA c name = true) :
    semT (.mk a (codeOf name) fs) = .ok e ∧ WfT cap c (.mk a (codeOf name) fs) := by
  have hn := className_codeOf hmem
  have hs : semT (.mk a (codeOf name) fs) = .ok e := by simp only [semT, hf, hn, hk, hb]
  exact ⟨hs, codeOf_lt hmem, ⟨ks, by rw [hn, hk, hl], hw⟩, ⟨e, hs, by rw [hcn]; exact hc⟩, by rw [hn]; exact hc⟩

section
variable (cap : Nat) (hcap : 2 ^ 20 ≤ cap) (lab : List Nat → UInt64)
include hcap

theorem wf_str {s : Bytes} (h : s.length < 65536) : WfFld cap .str (.str s) := by
  simp only [WfFld]; omega

theorem strOK_wf {s : String} (h : strOK s) : WfFld cap .str (.str (bytesOfName s)) :=
  wf_str cap hcap (by simpa only [bytesOfName, List.length_map] using h.2)

theorem wf_seq {elem : Nat} {cs : List Cls} {l : List T} (n : Nat)
    (hel : elem ≤ 8) (hpos : 0 < cs.length) (hl : l.length = n * cs.length) (hn : n < 65536)
    (hw : WfSeq cap cs 0 l) : WfFld cap (.seq elem cs) (.seq cs.length l) :=
  have : n * elem ≤ 65536 * 8 := Nat.mul_le_mul (Nat.le_of_lt hn) hel
  ⟨rfl, hpos, ⟨n, hl, by omega, fun _ => by omega⟩, hw⟩

theorem intNode_ok (p : List Nat) (n : Int) (c : Cls) (hc : isA c "Integer" = true) (hn : intOK n) :
    semT (intNode lab p n) = .ok (.int n) ∧ WfT cap c (intNode lab p n) :=
  node_ok cap (mem_names 0 rfl) (kind_at 0 rfl) (hl := rfl)
    (fvs := [.str (intBytes n)]) (hf := rfl)
    (by show (if validInt (intBytes n) then _ else _) = _; rw [if_pos (validInt_intBytes n), parseInt_intBytes]) (hcn := rfl)
    ⟨wf_str cap hcap hn, trivial⟩ hc

omit hcap in
theorem dblNode_ok (p : List Nat) (b : UInt64) (c : Cls) (hc : isA c "RealDouble" = true) :
    semT (dblNode lab p b) = .ok (.dbl b) ∧ WfT cap c (dblNode lab p b) :=
  node_ok cap (mem_names 6 rfl) (kind_at 4 rfl) (hl := rfl)
    (fvs := [.f64 b]) (hf := rfl) (hb := rfl) (hcn := rfl) ⟨trivial, trivial⟩ hc

theorem ratNode_ok (p : List Nat) (n : Int) (d : Nat) (c : Cls) (hc : isA c "Rational" = true)
    (hn : intOK n) (hd : intOK d) (h2 : 2 ≤ d) (hg : Nat.gcd n.natAbs d = 1) :
    let t := T.mk (lab p) (codeOf "Rational") [.ptr (intNode lab (p ++ [0]) n), .ptr (intNode lab (p ++ [1]) d)]
    semT t = .ok (.rat n d) ∧ WfT cap c t := by
  obtain ⟨s1, w1⟩ := intNode_ok cap hcap lab (p ++ [0]) n .integer rfl hn
  obtain ⟨s2, w2⟩ := intNode_ok cap hcap lab (p ++ [1]) d .integer rfl hd
  exact node_ok cap (mem_names 1 rfl) (kind_at 1 rfl) (hl := rfl)
    (semFlds_cons (semFld_ptr s1) (semFlds_cons (semFld_ptr s2) semFlds_nil))
    (congrArg Except.ok (fromTwoInts_reduced n d h2 hg)) (hcn := rfl) ⟨w1, w2, trivial⟩ hc

theorem qNode_ok (p : List Nat) (q : Q) (hq : qOK q) :
    ∃ e, semT (qNode lab p q) = .ok e ∧ qOf e = some q ∧ WfT cap .number (qNode lab p q) := by
  obtain ⟨n, d⟩ := q
  obtain ⟨hn, hd, h1 | ⟨h2, hg⟩⟩ := hq
  · have h1 : d = 1 := h1
    subst h1
    obtain ⟨s, w⟩ := intNode_ok cap hcap lab p n .number (by decide +kernel) hn
    exact ⟨.int n, s, rfl, w⟩
  · have h2 : 2 ≤ d := h2
    have hq : qNode lab p ⟨n, d⟩ = .mk (lab p) (codeOf "Rational")
        [.ptr (intNode lab (p ++ [0]) n), .ptr (intNode lab (p ++ [1]) d)] :=
      if_neg (show ¬ (d == 1) = true by simp only [beq_iff_eq]; omega)
    obtain ⟨s, w⟩ := ratNode_ok cap hcap lab p n d .number (by decide +kernel) hn hd h2 hg
    rw [hq]
    exact ⟨.rat n d, s, rfl, w⟩

set_option linter.unusedSectionVars false

-- in the list versions `i` is the slot number appended to the path (from 1 for Add / Mul: slot 0 is the coefficient, as in
-- `toT`), `j` the running index of `WfSeq` / `decSeq` (`j % 2 = 0`: a key comes next)
mutual
  theorem sem_toT : ∀ (e : Expr) (c : Cls) (p : List Nat), Ser c e →
      ∃ t, toT lab p e = some t ∧ semT t = .ok e ∧ WfT cap c t
    | .int n, c, p, h => ⟨_, rfl, intNode_ok cap hcap lab p n c h.1 h.2⟩
    | .rat n d, c, p, h => by
      obtain ⟨hc, ⟨hn, hd, hcase⟩, h2⟩ := h
      have hg : Nat.gcd n.natAbs d = 1 := by
        rcases hcase with h1 | ⟨_, hg⟩
        · have h1 : d = 1 := h1
          omega
        · exact hg
      refine ⟨_, ?_, ratNode_ok cap hcap lab p n d c hc hn hd h2 hg⟩
      exact congrArg some (if_neg (show ¬ (d == 1) = true by simp only [beq_iff_eq]; omega))
    | .cplx re im, c, p, h => by
      obtain ⟨hc, hre, him, hnz⟩ := h
      obtain ⟨e1, s1, q1, w1⟩ := qNode_ok cap hcap lab (p ++ [0]) re hre
      obtain ⟨e2, s2, q2, w2⟩ := qNode_ok cap hcap lab (p ++ [1]) im him
      have hb : build .complex "Complex" [.ptr e1, .ptr e2] = .ok (.cplx re im) := by
        show fromTwoNums e1 e2 = _
        simp [fromTwoNums, q1, q2, hnz]
      exact ⟨_, rfl, node_ok cap (mem_names 2 rfl) (kind_at 2 rfl) (hl := rfl)
        (semFlds_cons (semFld_ptr s1) (semFlds_cons (semFld_ptr s2) semFlds_nil)) hb (hcn := rfl) ⟨w1, w2, trivial⟩ hc⟩
    | .dbl b, c, p, h => ⟨_, rfl, dblNode_ok cap lab p b c h⟩
    | .cdbl re im, c, p, h => by
      obtain ⟨s1, w1⟩ := dblNode_ok cap lab (p ++ [0]) re .number (by decide +kernel)
      obtain ⟨s2, w2⟩ := dblNode_ok cap lab (p ++ [1]) im .number (by decide +kernel)
      exact ⟨_, rfl, node_ok cap (mem_names 3 rfl) (kind_at 3 rfl) (hl := rfl)
        (semFlds_cons (semFld_ptr s1) (semFlds_cons (semFld_ptr s2) semFlds_nil)) (hb := rfl) (hcn := rfl) ⟨w1, w2, trivial⟩ h⟩
    | .infty d, c, p, h => by
      obtain ⟨s1, w1⟩ := intNode_ok cap hcap lab (p ++ [0]) d .number (by decide +kernel) h.2
      exact ⟨_, rfl, node_ok cap (mem_names 7 rfl) (kind_at 5 rfl) (hl := rfl)
        (semFlds_cons (semFld_ptr s1) semFlds_nil) (hb := rfl) (hcn := rfl) ⟨w1, trivial⟩ h.1⟩
    | .nan, c, p, h =>
      ⟨_, rfl, node_ok cap (mem_names 8 rfl) (kind_at 6 rfl) (hl := rfl)
        (fvs := []) (hf := rfl) (hb := rfl) (hcn := rfl) trivial h⟩
    | .sym s, c, p, h => by
      obtain ⟨hc, hs⟩ := h
      exact ⟨_, rfl, node_ok cap (mem_names 13 rfl) (kind_at 7 rfl) (hl := rfl)
        (fvs := [.str (bytesOfName s)]) (hf := rfl) (by unfold build; simp only [nameOfBytes_bytesOfName hs.1]) (hcn := rfl)
        ⟨strOK_wf cap hcap hs, trivial⟩ hc⟩
    | .dummy s i, c, p, h => by
      obtain ⟨hc, hs, hi⟩ := h
      have hi' : (UInt64.ofNat i).toNat = i := by
        simp only [UInt64.toNat_ofNat']; exact Nat.mod_eq_of_lt hi
      exact ⟨_, rfl, node_ok cap (mem_names 14 rfl) (kind_at 8 rfl) (hl := rfl)
        (fvs := [.str (bytesOfName s), .u64 (UInt64.ofNat i)]) (hf := rfl)
        (by unfold build; simp only [nameOfBytes_bytesOfName hs.1, hi']) (hcn := rfl)
        ⟨strOK_wf cap hcap hs, trivial, trivial⟩ hc⟩
    | .const s, c, p, h => by
      obtain ⟨hc, hs⟩ := h
      exact ⟨_, rfl, node_ok cap (mem_names 31 rfl) (kind_at 9 rfl) (hl := rfl)
        (fvs := [.str (bytesOfName s)]) (hf := rfl) (by unfold build; simp only [nameOfBytes_bytesOfName hs.1]) (hcn := rfl)
        ⟨strOK_wf cap hcap hs, trivial⟩ hc⟩
    | .add co ts, c, p, h => by
      obtain ⟨hc, hco, hps, hnd, hlen⟩ := h
      obtain ⟨tc, e1, s1, w1⟩ := sem_toT co .number (p ++ [0]) hco
      obtain ⟨l, e2, s2, w2, hl⟩ := sem_toTPairs ts .basic .number p 1 0 rfl hps
      exact ⟨_, by simp only [toT, e1, e2]; rfl,
        node_ok cap (mem_names 16 rfl) (kind_at 11 rfl) (hl := rfl)
          (semFlds_cons (semFld_ptr s1) (semFlds_cons (semFld_seq s2) semFlds_nil))
          (by unfold build; simp only [pairUp_flatPairs, dedupPairs_eq_self ts [] (fun _ _ => List.not_mem_nil) hnd]) (hcn := rfl)
          ⟨w1, wf_seq cap hcap ts.length (by decide) (by decide) hl hlen w2, trivial⟩ hc⟩
    | .mul co ts, c, p, h => by
      obtain ⟨hc, hco, hps, hnd, hlen⟩ := h
      obtain ⟨tc, e1, s1, w1⟩ := sem_toT co .number (p ++ [0]) hco
      obtain ⟨l, e2, s2, w2, hl⟩ := sem_toTPairs ts .basic .basic p 1 0 rfl hps
      exact ⟨_, by simp only [toT, e1, e2]; rfl,
        node_ok cap (mem_names 15 rfl) (kind_at 10 rfl) (hl := rfl)
          (semFlds_cons (semFld_ptr s1) (semFlds_cons (semFld_seq s2) semFlds_nil))
          (by unfold build; simp only [pairUp_flatPairs, dedupPairs_eq_self ts [] (fun _ _ => List.not_mem_nil) hnd]) (hcn := rfl)
          ⟨w1, wf_seq cap hcap ts.length (by decide) (by decide) hl hlen w2, trivial⟩ hc⟩
    | .pow b ex, c, p, h => by
      obtain ⟨hc, hb, he⟩ := h
      obtain ⟨t1, e1, s1, w1⟩ := sem_toT b .basic (p ++ [0]) hb
      obtain ⟨t2, e2, s2, w2⟩ := sem_toT ex .basic (p ++ [1]) he
      exact ⟨_, by simp only [toT, e1, e2]; rfl,
        node_ok cap (mem_names 17 rfl) (kind_at 12 rfl) (hl := rfl)
          (semFlds_cons (semFld_ptr s1) (semFlds_cons (semFld_ptr s2) semFlds_nil)) (hb := rfl) (hcn := rfl) ⟨w1, w2, trivial⟩ hc⟩
    | .fsym n args, c, p, h => by
      obtain ⟨hc, hs, hargs, hlen⟩ := h
      obtain ⟨l, e1, s1, w1, hl⟩ := sem_toTs_all args .basic p 0 0 hargs
      exact ⟨_, by simp only [toT, e1]; rfl,
        node_ok cap (mem_names 73 rfl) (kind_at 13 rfl) (hl := rfl)
          (semFlds_cons (v := .str (bytesOfName n)) rfl (semFlds_cons (semFld_seq s1) semFlds_nil))
          (by unfold build; simp only [nameOfBytes_bytesOfName hs.1]) (hcn := rfl)
          ⟨strOK_wf cap hcap hs,
           wf_seq cap hcap args.length (by decide) (by decide) (hl.trans (Nat.mul_one _).symm) hlen w1, trivial⟩ hc⟩
    | .bool b, c, p, h =>
      ⟨_, rfl, node_ok cap (mem_names 97 rfl) (kind_at 14 rfl) (hl := rfl)
        (fvs := [.byte (boolByte b)]) (hf := rfl) (congrArg (fun x => Except.ok (Expr.bool x)) (boolByte_ne b)) (hcn := rfl)
        ⟨trivial, trivial⟩ h⟩
    | .app hd args, c, p, h => by
      obtain ⟨hmem, hc, hlen, hk⟩ := h
      rcases hk with ⟨cs, hkind, hargs⟩ | ⟨el, c', dd, hkind, hargs, hnd⟩
      · obtain ⟨l, e1, s1, w1⟩ := sem_toTs_args args cs p 0 hargs
        exact ⟨_, by simp only [toT, e1, hkind]; rfl,
          node_ok cap hmem hkind (hl := rfl) (semFlds_ptrs l args s1) (by unfold build; simp only [ptrs_map]) (hcn := rfl) w1 hc⟩
      · obtain ⟨l, e1, s1, w1, hl⟩ := sem_toTs_all args c' p 0 0 hargs
        have hb : build (.vec el c' dd) hd [.seq args] = .ok (.app hd args) := by
          cases dd with
          | false => rfl
          | true => exact congrArg (fun x => Except.ok (Expr.app hd x)) (dedupArgs_eq_self args [] (fun _ _ => List.not_mem_nil) (hnd rfl))
        exact ⟨_, by simp only [toT, e1, hkind]; rfl,
          node_ok cap hmem hkind (hl := rfl) (semFlds_cons (semFld_seq s1) semFlds_nil) hb (hcn := rfl)
            ⟨wf_seq cap hcap args.length (kindOfName_vec_elem hkind) Nat.one_pos (hl.trans (Nat.mul_one _).symm) hlen w1, trivial⟩ hc⟩
  theorem sem_toTs_args : ∀ (args : List Expr) (cs : List Cls) (p : List Nat) (i : Nat), SerArgs cs args →
      ∃ l, toTs lab p i args = some l ∧ semTs l = .ok args ∧ WfFlds cap (cs.map .ptr) (l.map .ptr)
    | [], cs, p, i, h => by
      cases cs with
      | nil => exact ⟨[], rfl, rfl, trivial⟩
      | cons c cs => simp [SerArgs] at h
    | a :: as, cs, p, i, h => by
      cases cs with
      | nil => simp [SerArgs] at h
      | cons c cs =>
        obtain ⟨h1, h2⟩ := h
        obtain ⟨t, e1, s1, w1⟩ := sem_toT a c (p ++ [i]) h1
        obtain ⟨l, e2, s2, w2⟩ := sem_toTs_args as cs p (i + 1) h2
        exact ⟨t :: l, by simp only [toTs, e1, e2], semTs_cons s1 s2, ⟨w1, w2⟩⟩
  theorem sem_toTs_all : ∀ (args : List Expr) (c' : Cls) (p : List Nat) (i j : Nat), SerAll c' args →
      ∃ l, toTs lab p i args = some l ∧ semTs l = .ok args ∧ WfSeq cap [c'] j l ∧ l.length = args.length
    | [], c', p, i, j, _ => ⟨[], rfl, rfl, trivial, rfl⟩
    | a :: as, c', p, i, j, h => by
      obtain ⟨h1, h2⟩ := h
      obtain ⟨t, e1, s1, w1⟩ := sem_toT a c' (p ++ [i]) h1
      obtain ⟨l, e2, s2, w2, hl⟩ := sem_toTs_all as c' p (i + 1) (j + 1) h2
      refine ⟨t :: l, by simp only [toTs, e1, e2], semTs_cons s1 s2, ⟨?_, w2⟩, congrArg (· + 1) hl⟩
      rw [show j % [c'].length = 0 from Nat.mod_one j]; exact w1
  theorem sem_toTPairs : ∀ (ts : List (Expr × Expr)) (ck cv : Cls) (p : List Nat) (i j : Nat), j % 2 = 0 →
      SerPairs ck cv ts →
      ∃ l, toTPairs lab p i ts = some l ∧ semTs l = .ok (flatPairs ts) ∧ WfSeq cap [ck, cv] j l ∧ l.length = ts.length * 2
    | [], ck, cv, p, i, j, _, _ => ⟨[], rfl, rfl, trivial, rfl⟩
    | (k, v) :: t, ck, cv, p, i, j, hj, h => by
      obtain ⟨h1, h2, h3⟩ := h
      obtain ⟨tk, e1, s1, w1⟩ := sem_toT k ck (p ++ [i]) h1
      obtain ⟨tv, e2, s2, w2⟩ := sem_toT v cv (p ++ [i + 1]) h2
      obtain ⟨l, e3, s3, w3, hl⟩ := sem_toTPairs t ck cv p (i + 2) (j + 2) ((Nat.add_mod_right j 2).trans hj) h3
      refine ⟨tk :: tv :: l, by simp only [toTPairs, e1, e2, e3], semTs_cons s1 (semTs_cons s2 s3), ⟨?_, ?_, w3⟩,
        by rw [List.length_cons, List.length_cons, List.length_cons, hl, Nat.add_mul]⟩
      · rw [show j % [ck, cv].length = 0 from hj]; exact w1
      · rw [show (j + 1) % [ck, cv].length = 1 from (by rw [Nat.add_mod, hj] : (j + 1) % 2 = 1)]; exact w2
end

end

end SymVerif.Codec
