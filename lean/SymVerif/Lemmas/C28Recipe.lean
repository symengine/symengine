import SymVerif.Lemmas.C28CanonOps
/-!
Recipes (any nesting of the seven API calls): the object `build` returns has the textbook value of the recipe and is
well-formed.
-/
namespace SymVerif.C28
open SymVerif.Logic SymVerif.Logic.B

/-- the connective of an API call on truth values; `not` on other than one argument is given an arbitrary value
    (`apply .not` answers `none` there, so `recipe_sound` never meets it) -/
def opSem : Op → List Bool → Bool
  | .and, l => l.all id
  | .or, l => l.any id
  | .xor, l => l.foldl (· ^^ ·) false
  | .nand, l => !l.all id
  | .nor, l => !l.any id
  | .xnor, l => !l.foldl (· ^^ ·) false
  | .not, l => match l with
    | [b] => !b
    | _ => false

mutual
/-- textbook semantics of a recipe -/
def rTruth (v : Val) : R → Bool
  | .leaf b => truth v b
  | .node op ch => opSem op (rTruthL v ch)
def rTruthL (v : Val) : List R → List Bool
  | [] => []
  | r :: rs => rTruth v r :: rTruthL v rs
end

mutual
/-- the leaves are well-formed; the op lines have only constants and atoms in either polarity as leaves
    (`R.leaf` in Model/Logic.lean), for which `wf` holds by evaluation -/
def leavesWf : R → Bool
  | .leaf b => wf b
  | .node _ ch => leavesWfL ch
def leavesWfL : List R → Bool
  | [] => true
  | r :: rs => leavesWf r && leavesWfL rs
end

theorem apply_sound (x : Int) (v : Val) (hv : v.ok) {op : Op} {args : List B} {b : B}
    (h : apply op args = some b) :
    truth (nv x v) b = opSem op (args.map (truth (nv x v))) := by
  have hV := nv_ok x v hv
  cases op with
  | and => simp [andD_sound x v hv _ _ _ h, opSem, allT_eq_all, List.all_map]
  | or => cases h; simp [orE, or_val _ hV, opSem, anyT_eq_any, List.any_map]
  | nand =>
    obtain ⟨b', hb', rfl⟩ := Option.map_eq_some_iff.1 h
    simp [not_sound _ hV, andD_sound x v hv _ _ _ hb', opSem, allT_eq_all, List.all_map]
  | nor => cases h; simp [nor_val _ hV, opSem, anyT_eq_any, List.any_map]
  | xor => cases h; simp [xor_val _ hV, opSem, parT_eq_foldl, List.foldl_map]
  | xnor => cases h; simp [xnor_val _ hV, opSem, parT_eq_foldl, List.foldl_map]
  | not =>
    match args, h with
    | [a], h => cases h; simp [not_sound _ hV, opSem]

theorem apply_wf {op : Op} {args : List B} {b : B} (hargs : ∀ a ∈ args, wf a = true)
    (h : apply op args = some b) : wf b = true := by
  cases op with
  | and => exact wf_andD _ args b hargs h
  | or => cases h; exact wf_andOr true args hargs
  | nand =>
    obtain ⟨b', hb', rfl⟩ := Option.map_eq_some_iff.1 h
    exact wf_notB _ (wf_andD _ args b' hargs hb')
  | nor => cases h; exact wf_notB _ (wf_andOr true args hargs)
  | xor => cases h; exact wf_xorE args hargs
  | xnor => cases h; exact wf_notB _ (wf_xorE args hargs)
  | not =>
    match args, h, hargs with
    | [a], h, hargs => cases h; exact wf_notB a (hargs a List.mem_cons_self)

theorem build_node {op : Op} {ch : List R} {b : B} (h : build (.node op ch) = some b) :
    ∃ args, buildL ch = some args ∧ apply op args = some b := by
  simp only [build] at h
  split at h
  · cases h
  · exact ⟨_, ‹_›, h⟩

theorem buildL_cons {r : R} {rs : List R} {bs : List B} (h : buildL (r :: rs) = some bs) :
    ∃ b bs', build r = some b ∧ buildL rs = some bs' ∧ bs = b :: bs' := by
  simp only [buildL] at h
  split at h
  · exact ⟨_, _, ‹_›, ‹_›, (Option.some.inj h).symm⟩
  · cases h

mutual
theorem build_sound (x : Int) (v : Val) (hv : v.ok) :
    ∀ (r : R) (b : B), build r = some b → truth (nv x v) b = rTruth (nv x v) r
  | .leaf y, b, h => by cases h; rfl
  | .node op ch, b, h => by
    obtain ⟨args, hargs, h⟩ := build_node h
    rw [rTruth, apply_sound x v hv h, buildL_sound x v hv ch args hargs]
theorem buildL_sound (x : Int) (v : Val) (hv : v.ok) : ∀ (rs : List R) (bs : List B), buildL rs = some bs →
    bs.map (truth (nv x v)) = rTruthL (nv x v) rs
  | [], bs, h => by cases h; rfl
  | r :: rs, bs, h => by
    obtain ⟨b, bs', hb, hbs, rfl⟩ := buildL_cons h
    rw [List.map_cons, rTruthL, build_sound x v hv r b hb, buildL_sound x v hv rs bs' hbs]
end

mutual
theorem build_wf : ∀ (r : R) (b : B), leavesWf r = true → build r = some b → wf b = true
  | .leaf y, b, hl, h => by cases h; exact hl
  | .node op ch, b, hl, h => by
    obtain ⟨args, hargs, h⟩ := build_node h
    exact apply_wf (buildL_wf ch args hl hargs) h
theorem buildL_wf : ∀ (rs : List R) (bs : List B), leavesWfL rs = true → buildL rs = some bs →
    ∀ b ∈ bs, wf b = true
  | [], bs, _, h => by cases h; exact fun _ h => nomatch h
  | r :: rs, bs, hl, h => by
    obtain ⟨b, bs', hb, hbs, rfl⟩ := buildL_cons h
    have hl := Bool.and_eq_true_iff.1 hl
    exact List.forall_mem_cons.2 ⟨build_wf r b hl.1 hb, buildL_wf rs bs' hl.2 hbs⟩
end

end SymVerif.C28
