/-
A printed form never *needs* whitespace: between any two adjacent tokens of `Doc.toks` (and before END_OF_FILE)
the first byte of the second token cannot extend the first (`sepOK_tight`).  This is lexical: of `OK bp d` only
`args ≠ []` at a call is used, the binding powers play no part.  Core Lean only.
-/
import SymVerif.Lemmas.C17Pratt
import SymVerif.Lemmas.C17Lex

namespace SymVerif
namespace Parser

/-- adjacent tokens do not run into each other when written without whitespace -/
def Adj : List Tok → Prop
  | t1 :: t2 :: r => Follow t1 (firstByte t2) ∧ Adj (t2 :: r)
  | _ => True

theorem sepOK_of_adj : ∀ (L : List Tok) (i : Nat), Adj L → SepOK (fun _ => []) i L
  | [], _, _ => trivial
  | [_], _, _ => trivial
  | _ :: t2 :: r, i, h => ⟨fun _ => h.1, sepOK_of_adj (t2 :: r) (i + 1) h.2⟩

def lastTok : List Tok → Option Tok
  | [] => none
  | [a] => some a
  | _ :: b :: r => lastTok (b :: r)

theorem lastTok_eq : ∀ L : List Tok, lastTok L = L.getLast?
  | [] => rfl
  | [_] => rfl
  | _ :: b :: r => by rw [lastTok, List.getLast?_cons_cons]; exact lastTok_eq (b :: r)

theorem lastTok_append_cons (A : List Tok) (b : Tok) (B : List Tok) : lastTok (A ++ b :: B) = lastTok (b :: B) := by
  rw [lastTok_eq, lastTok_eq, List.getLast?_append, List.getLast?_cons]; rfl

theorem adj_append : ∀ (A : List Tok) (b : Tok) (B : List Tok), Adj A → Adj (b :: B) →
    (∀ a, lastTok A = some a → Follow a (firstByte b)) → Adj (A ++ b :: B)
  | [], _, _, _, hB, _ => hB
  | [a], b, B, _, hB, h => ⟨h a rfl, hB⟩
  | a1 :: a2 :: A, b, B, hA, hB, h => by
    refine ⟨hA.1, ?_⟩
    exact adj_append (a2 :: A) b B hA.2 hB (fun a ha => h a (by simpa [lastTok] using ha))

/-- tokens an operand can start with / end with -/
def IsStart : Tok → Prop
  | .num _ => True
  | .ident _ => True
  | .imul _ => True
  | .op c => c = 40 ∨ c = 45 ∨ c = 43 ∨ c = 126
  | _ => False

inductive IsEnd : Tok → Prop
  | num (s : Bytes) : IsEnd (.num s)
  | ident (s : Bytes) : IsEnd (.ident s)
  | imul (s : Bytes) : IsEnd (.imul s)
  | rp : IsEnd (.op 41)

/-- first bytes of the tokens that can follow an operand (binary operators, `)`, `,`, END_OF_FILE) or, for `(`, a function
name; the four tests are the clauses of `Follow` for the tokens an operand ends with (`follow_end`) -/
def AfterByte (h : UInt8) : Prop := isIdCont h = false ∧ isDig h = false ∧ h ≠ 46 ∧ isAlpha h = false

theorem afterByte_bin (o : BinOp) : AfterByte (firstByte (tokOfBin o)) := by
  cases o <;> (unfold AfterByte; decide)

theorem afterByte_rp : AfterByte (firstByte (.op 41)) := by unfold AfterByte; decide
theorem afterByte_comma : AfterByte (firstByte (.op 44)) := by unfold AfterByte; decide
theorem afterByte_lp : AfterByte (firstByte (.op 40)) := by unfold AfterByte; decide
theorem afterByte_eof : AfterByte (firstByte .eof) := by unfold AfterByte; decide

theorem follow_end {t : Tok} (he : IsEnd t) {h : UInt8} (ha : AfterByte h) : Follow t h := by
  obtain ⟨h1, h2, h3, h4⟩ := ha
  cases he with
  | num s => exact ⟨h2, h3, h4⟩
  | ident s => exact h1
  | imul s => exact h1
  | rp => exact ⟨fun h0 => absurd h0 (by decide), fun h0 => absurd h0 (by decide)⟩

/-- `*` (42) and `=` (61) are the two bytes the `.op c` clause of `Follow` asks about -/
theorem start_byte {t : Tok} (hs : IsStart t) (hv : ValidTok t) : firstByte t ≠ 42 ∧ firstByte t ≠ 61 := by
  have numhead : ∀ {x : Bytes} (tl : Bytes), IsNumeral x → (x ++ tl).headD 0 ≠ 42 ∧ (x ++ tl).headD 0 ≠ 61 := by
    intro x tl hx
    obtain ⟨c, r, rfl, hc⟩ := numeral_head hx
    simp only [List.cons_append, List.headD_cons]
    constructor <;> (intro h; subst h; revert hc; decide)
  cases t with
  | num s =>
    have := numhead [] hv
    simpa [firstByte, tokText] using this
  | ident s =>
    obtain ⟨⟨c, tl, rfl, hc, _⟩, _⟩ := hv
    simp only [firstByte, tokText, List.headD_cons]
    constructor <;> (intro h; subst h; revert hc; decide)
  | imul s =>
    obtain ⟨n, id, hn, _, _, rfl⟩ := hv
    exact numhead id hn
  | op c =>
    simp only [IsStart] at hs
    simp only [firstByte, tokText, List.headD_cons]
    rcases hs with rfl | rfl | rfl | rfl <;> decide
  | eof => exact absurd hs id
  | pow => exact absurd hs id
  | le => exact absurd hs id
  | ge => exact absurd hs id
  | ne => exact absurd hs id
  | eq => exact absurd hs id
  | pwise => exact absurd hs id

/-- tokens whose text a following letter or digit would extend -/
def IsLeaf : Tok → Prop
  | .ident _ | .imul _ | .num _ => True
  | _ => False

theorem follow_start {t1 : Tok} (hnot : ¬ IsLeaf t1) {t2 : Tok} (hs : IsStart t2) (hv : ValidTok t2) :
    Follow t1 (firstByte t2) := by
  obtain ⟨h42, h61⟩ := start_byte hs hv
  cases t1 with
  | num s | ident s | imul s => exact absurd trivial hnot
  | op c => exact ⟨fun _ => h42, fun _ => h61⟩
  | _ => trivial

theorem tokOfBin_not_leaf (o : BinOp) : ¬ IsLeaf (tokOfBin o) := by cases o <;> exact id

theorem tokOfUn_not_leaf (u : UnOp) : ¬ IsLeaf (tokOfUn u) := by cases u <;> exact id

theorem adj_after {A B : List Tok} {b tl : Tok} (hA : Adj A) (hl : lastTok A = some tl) (he : IsEnd tl)
    (hb : AfterByte (firstByte b)) (hB : Adj (b :: B)) : Adj (A ++ b :: B) :=
  adj_append A b B hA hB fun a ha => by rw [hl] at ha; cases ha; exact follow_end he hb

section Shape
variable (bp : BP)

/-- the first token starts an operand, the last ends one, neighbours do not run together -/
def Shape (L : List Tok) : Prop :=
  (∃ t r, L = t :: r ∧ IsStart t) ∧ (∃ t, lastTok L = some t ∧ IsEnd t) ∧ Adj L

theorem shape_cons {t1 : Tok} (hnot : ¬ IsLeaf t1) {L : List Tok} (hL : Shape L) (hv : ∀ t ∈ L, ValidTok t) :
    (∃ t, lastTok (t1 :: L) = some t ∧ IsEnd t) ∧ Adj (t1 :: L) := by
  obtain ⟨⟨t, r, rfl, hs⟩, hend, ha⟩ := hL
  exact ⟨hend, follow_start hnot hs (hv t (by simp)), ha⟩

mutual
  theorem doc_shape : ∀ d : Doc, OK bp d → (∀ t ∈ d.toks, ValidTok t) → Shape d.toks
    | .num s, _, _ => ⟨⟨_, _, rfl, trivial⟩, ⟨_, rfl, .num s⟩, trivial⟩
    | .ident s, _, _ => ⟨⟨_, _, rfl, trivial⟩, ⟨_, rfl, .ident s⟩, trivial⟩
    | .imul s, _, _ => ⟨⟨_, _, rfl, trivial⟩, ⟨_, rfl, .imul s⟩, trivial⟩
    | .imulPow s e, hok, hv => by
      have hve : ∀ t ∈ e.toks, ValidTok t := fun t ht => hv t (by simp [Doc.toks, ht])
      obtain ⟨hend, hA⟩ := shape_cons (t1 := .pow) id (doc_shape e hok.1 hve) hve
      rw [Doc.toks]
      exact ⟨⟨_, _, rfl, trivial⟩, hend, follow_end (.imul s) (afterByte_bin .pow), hA⟩
    | .paren d, hok, hv => by
      have hvd : ∀ t ∈ d.toks, ValidTok t := fun t ht => hv t (by simp [Doc.toks, ht])
      obtain ⟨⟨tl, hl, hle⟩, hA⟩ := shape_cons (t1 := .op 40) id (doc_shape d hok.1 hvd) hvd
      rw [Doc.toks]
      exact ⟨⟨_, _, rfl, Or.inl rfl⟩, ⟨.op 41, lastTok_append_cons (.op 40 :: d.toks) (.op 41) [], .rp⟩,
        adj_after hA hl hle afterByte_rp trivial⟩
    | .un u x, hok, hv => by
      have hvx : ∀ t ∈ x.toks, ValidTok t := fun t ht => hv t (by simp [Doc.toks, ht])
      rw [Doc.toks]
      exact ⟨⟨_, _, rfl, by cases u <;> simp [tokOfUn, IsStart]⟩,
        shape_cons (tokOfUn_not_leaf u) (doc_shape x hok.1 hvx) hvx⟩
    | .bin o l r, hok, hv => by
      have hvl : ∀ t ∈ l.toks, ValidTok t := fun t ht => hv t (by simp [Doc.toks, ht])
      have hvr : ∀ t ∈ r.toks, ValidTok t := fun t ht => hv t (by simp [Doc.toks, ht])
      obtain ⟨⟨tl', rl', hl, hsl⟩, ⟨ll, hll, hlle⟩, hal⟩ := doc_shape l hok.1 hvl
      obtain ⟨⟨lr, hlr, hlre⟩, hB⟩ := shape_cons (tokOfBin_not_leaf o) (doc_shape r hok.2.1 hvr) hvr
      rw [Doc.toks]
      exact ⟨⟨tl', rl' ++ tokOfBin o :: r.toks, by simp [hl], hsl⟩,
        ⟨lr, (lastTok_append_cons _ _ _).trans hlr, hlre⟩,
        adj_after hal hll hlle (afterByte_bin o) hB⟩
    | .call f args, hok, hv => by
      have hva : ∀ t ∈ Doc.argToks args, ValidTok t := fun t ht => hv t (by simp [Doc.toks, ht])
      obtain ⟨hs, hlast, hadj⟩ := args_shape args hok.1 hok.2 hva
      obtain ⟨hend, hA⟩ := shape_cons (t1 := .op 40) id ⟨hs, ⟨_, hlast, .rp⟩, hadj⟩ hva
      rw [Doc.toks]
      exact ⟨⟨_, _, rfl, trivial⟩, hend, follow_end (.ident f) afterByte_lp, hA⟩
  theorem args_shape : ∀ args : List Doc, args ≠ [] → OKs bp args → (∀ t ∈ Doc.argToks args, ValidTok t) →
      (∃ t r, Doc.argToks args = t :: r ∧ IsStart t) ∧ lastTok (Doc.argToks args) = some (.op 41)
        ∧ Adj (Doc.argToks args)
    | [], h, _, _ => absurd rfl h
    | a :: t, _, hok, hv => by
      have hva : ∀ x ∈ a.toks, ValidTok x := fun x hx => hv x (by simp [Doc.argToks, hx])
      obtain ⟨⟨ta, ra, ha, hsa⟩, ⟨la, hla, hlae⟩, haa⟩ := doc_shape a hok.1 hva
      cases t with
      | nil =>
        have e : Doc.argToks [a] = a.toks ++ [.op 41] := by simp [Doc.argToks, sepTok]
        rw [e]
        exact ⟨⟨ta, ra ++ [.op 41], by simp [ha], hsa⟩, lastTok_append_cons a.toks (.op 41) [],
          adj_after haa hla hlae afterByte_rp trivial⟩
      | cons b t' =>
        have hvt : ∀ x ∈ Doc.argToks (b :: t'), ValidTok x := fun x hx => hv x (by
          simp only [Doc.argToks, List.mem_append, List.mem_cons] at hx ⊢
          exact Or.inr (Or.inr hx))
        obtain ⟨hsb, hlb, hab⟩ := args_shape (b :: t') (by simp) hok.2.2 hvt
        obtain ⟨-, hB⟩ := shape_cons (t1 := .op 44) id ⟨hsb, ⟨_, hlb, .rp⟩, hab⟩ hvt
        have hl : lastTok (.op 44 :: Doc.argToks (b :: t')) = lastTok (Doc.argToks (b :: t')) := by
          obtain ⟨tb, rb, eb, -⟩ := hsb
          rw [eb]; rfl
        have e : Doc.argToks (a :: b :: t') = a.toks ++ .op 44 :: Doc.argToks (b :: t') := by
          rw [Doc.argToks]; rfl
        rw [e]
        exact ⟨⟨ta, ra ++ .op 44 :: Doc.argToks (b :: t'), by simp [ha], hsa⟩,
          (lastTok_append_cons _ _ _).trans (hl.trans hlb),
          adj_after haa hla hlae afterByte_comma hB⟩
end

/-- **No whitespace is ever required**: the tokens of a printed form, written tightly and followed by the
terminator, satisfy the separation condition of `lexAll_render`. -/
theorem sepOK_tight (d : Doc) (hok : OK bp d) (hv : ∀ t ∈ d.toks, ValidTok t) :
    SepOK (fun _ => []) 0 (d.toks ++ [.eof]) := by
  obtain ⟨_, ⟨tl, hl, hle⟩, ha⟩ := doc_shape bp d hok hv
  exact sepOK_of_adj _ _ (adj_after ha hl hle afterByte_eof trivial)

end Shape

end Parser
end SymVerif
