/-
C31: series_tan and series_tanh, Newton iterations `y ← y + (s - atan y)(1 + y²)` for `atan y = s` / `atanh y = s`
(through `(fat_expands ±1).newton`); series_asin / series_asinh (integrals over series_nthroot).
-/
import SymVerif.Lemmas.C31Atan
import SymVerif.Lemmas.C31Root

namespace SymVerif.C31
open SymVerif.Series PowerSeries

/-- **series_tan**: `atan(g) ≡ s` modulo `X^prec`, `g(0) = 0` -/
theorem series_tan_spec (s g : Poly) (prec : ℕ) (hp : 1 ≤ prec) (h : seriesTan s prec = .ok g) :
    constantCoeff (toPS g) = 0 ∧ EqMod prec (fatan (toPS g)) (toPS s) := by
  obtain ⟨hS, h⟩ := guard_ok h
  rw [fatan_eq_fat]
  refine (fat_expands 1).newton (fun st a b _ _ hb => ?_) hp (hr := by rw [toPS_nil, map_zero])
    (h1 := eqMod_one_iff.mpr (by rw [constantCoeff_fat, hS])) h
  obtain ⟨at_, hat, hb⟩ := bind_ok.mp hb
  obtain rfl := Except.ok.inj hb
  have hA := (series_atan_spec a at_ st hat).2
  rw [fatan_eq_fat] at hA
  -- `map_one, one_mul` remove the `C 1 *` of `V R = 1 + C 1 * (R * R)` in `fat_expands 1`
  rw [toPS_padd, map_one, one_mul, add_comm 1, ← pow_two]
  refine (EqMod.refl _ _).add ((toPS_mulTrunc _ _ _).trans ?_)
  rw [toPS_psub, toPS_padd, toPS_one]
  exact ((EqMod.refl _ _).sub hA).mul ((toPS_powPos a 2 st (by omega)).add (EqMod.refl _ _))

/-- **series_tanh**: `atanh(g) ≡ s` modulo `X^prec`, `g(0) = 0` -/
theorem series_tanh_spec (s g : Poly) (prec : ℕ) (hp : 1 ≤ prec) (h : seriesTanh s prec = .ok g) :
    constantCoeff (toPS g) = 0 ∧ EqMod prec (fatanh (toPS g)) (toPS s) := by
  obtain ⟨hS, h⟩ := guard_ok h
  rw [fatanh_eq_fat]
  refine (fat_expands (-1)).newton (fun st a b _ _ hb => ?_) hp (hr := hS)
    (h1 := eqMod_one_iff.mpr (by rw [constantCoeff_fat, hS])) h
  obtain ⟨at_, hat, hb⟩ := bind_ok.mp hb
  obtain rfl := Except.ok.inj hb
  have hA := (series_atanh_spec a at_ st hat).2
  rw [fatanh_eq_fat] at hA
  rw [toPS_padd]
  refine (EqMod.refl _ _).add ((toPS_mulTrunc _ _ _).trans ?_)
  rw [toPS_pneg, toPS_psub, toPS_psub, toPS_one]
  -- the model multiplies `-(s - atanh a)` by `a² - 1`
  refine (((EqMod.refl _ _).sub hA).neg.mul ((toPS_powPos a 2 st (by omega)).sub (EqMod.refl _ _))).trans
    (EqMod.of_eq ?_)
  rw [map_neg, map_one]
  ring

/-- the common part of series_asin and series_asinh: `g = ∫ s'·r` with `r²·t ≡ 1` -/
theorem integ_root_spec (s r : Poly) (n : ℕ) (T : ℚ⟦X⟧) (hr : EqMod n (toPS r ^ 2 * T) 1) :
    constantCoeff (toPS (integrate (mulFull (diff s) r))) = 0 ∧
    EqMod n (d⁄dX ℚ (toPS (integrate (mulFull (diff s) r))) ^ 2 * T) (d⁄dX ℚ (toPS s) ^ 2) := by
  rw [toPS_integrate, toPS_mulFull, toPS_diff]
  refine ⟨constantCoeff_integ _, ?_⟩
  rw [derivative_integ]
  have e : (d⁄dX ℚ (toPS s) * toPS r) ^ 2 * T = d⁄dX ℚ (toPS s) ^ 2 * (toPS r ^ 2 * T) := by ring
  rw [e]
  exact (hr.mul_left _).trans (EqMod.of_eq (mul_one _))

theorem pos_of_mul_eq_one {a b : ℚ} (h : a * b = 1) (hb : 0 < b) : 0 < a := by
  rw [eq_one_div_of_mul_eq_one_left h]; exact one_div_pos.mpr hb

/-- what series_asin computes when it answers: `∫ s'·r`, `r` the positive root of `r²(1 - s²) ≡ 1`; stated for every
`A ≡ toPS s`, so that `asin_sound` can put the denotation for `A` (the spec takes `A := toPS s`) -/
theorem seriesAsin_ok {s g : Poly} {prec : ℕ} (h : seriesAsin s prec = .ok g) :
    ∃ r, g = integrate (mulFull (diff s) r) ∧ constantCoeff (toPS s) = 0 ∧
      (1 ≤ prec - 1 → 0 < constantCoeff (toPS r)) ∧
      ∀ A, EqMod (prec - 1) (toPS s) A → EqMod (prec - 1) (toPS r ^ 2 * (1 - A * A)) 1 := by
  unfold seriesAsin at h
  split at h
  · cases h
  · obtain ⟨r, hr, h⟩ := bind_ok.mp h
    split at h
    · next hc =>
      obtain ⟨_, hneg, _, hpos⟩ := nthroot_spec _ r (-2) (prec - 1) (by decide) hr
      refine ⟨r, (Except.ok.inj h).symm, constantCoeff_of_beq hc, hpos, fun A hA => ?_⟩
      refine (EqMod.mul_left _ ?_).symm.trans (hneg (by decide))
      rw [toPS_psub, toPS_one, ← pow_two]
      exact (EqMod.refl _ _).sub ((toPS_powPos s 2 (prec - 1) (by omega)).trans (hA.pow 2))
    · cases h

/-- series_asinh likewise, the root obtained as the inverse of a square root of `1 + s²` -/
theorem seriesAsinh_ok {s g : Poly} {prec : ℕ} (h : seriesAsinh s prec = .ok g) :
    ∃ r, g = integrate (mulFull (diff s) r) ∧ constantCoeff (toPS s) = 0 ∧
      (1 ≤ prec - 1 → 0 < constantCoeff (toPS r)) ∧
      ∀ A, EqMod (prec - 1) (toPS s) A → EqMod (prec - 1) (toPS r ^ 2 * (1 + A * A)) 1 := by
  unfold seriesAsinh at h
  split at h
  · cases h
  · obtain ⟨p, hp, h⟩ := bind_ok.mp h
    obtain ⟨ip, hip, h⟩ := bind_ok.mp h
    split at h
    · next hc =>
      obtain ⟨hpos2, _, _, hppos⟩ := nthroot_spec _ p 2 (prec - 1) (by decide) hp
      have hi := invert_spec p ip (prec - 1) hip
      refine ⟨ip, (Except.ok.inj h).symm, constantCoeff_of_beq hc, fun h1 => ?_, fun A hA => ?_⟩
      · have hc := constantCoeff_eq_of_eqMod h1 hi
        rw [map_mul, map_one] at hc
        exact pos_of_mul_eq_one hc (hppos h1)
      · have a1 := hi.pow 2
        rw [mul_pow, one_pow] at a1
        refine (EqMod.mul_left _ ((hpos2 (by decide)).trans ?_)).symm.trans a1
        rw [toPS_padd, toPS_one, add_comm, ← pow_two]
        exact (EqMod.refl _ _).add ((toPS_powPos s 2 (prec - 1) (by omega)).trans (hA.pow 2))
    · cases h

/-- **series_asin**: `g'²·(1 - s²) ≡ s'²` modulo `X^(prec-1)`, `g(0) = 0` -/
theorem series_asin_spec (s g : Poly) (prec : ℕ) (h : seriesAsin s prec = .ok g) :
    constantCoeff (toPS g) = 0 ∧
    EqMod (prec - 1) (d⁄dX ℚ (toPS g) ^ 2 * (1 - toPS s ^ 2)) (d⁄dX ℚ (toPS s) ^ 2) := by
  obtain ⟨r, rfl, _, _, hr⟩ := seriesAsin_ok h
  have := hr _ (EqMod.refl _ _)
  rw [← pow_two] at this
  exact integ_root_spec s r (prec - 1) _ this

/-- **series_asinh**: `g'²·(1 + s²) ≡ s'²` modulo `X^(prec-1)`, `g(0) = 0` -/
theorem series_asinh_spec (s g : Poly) (prec : ℕ) (h : seriesAsinh s prec = .ok g) :
    constantCoeff (toPS g) = 0 ∧
    EqMod (prec - 1) (d⁄dX ℚ (toPS g) ^ 2 * (1 + toPS s ^ 2)) (d⁄dX ℚ (toPS s) ^ 2) := by
  obtain ⟨r, rfl, _, _, hr⟩ := seriesAsinh_ok h
  have := hr _ (EqMod.refl _ _)
  rw [← pow_two] at this
  exact integ_root_spec s r (prec - 1) _ this

end SymVerif.C31
