import Mathlib.Tactic.Ring
import Mathlib.Tactic.Linarith
import Mathlib.Tactic.LinearCombination
import SymVerif.Lemmas.C43Div
/-! C43, extended gcd and modular inverse of mp_boost.cpp: the Euclidean loop keeps both remainders integer
combinations of the arguments; `mp_invert` reads the inverse off the cofactor.
Claimed theorems of the property: `gcdext_bezout`, `invert_meaning`, `invert_fails_iff`, `invert`
(the cofactors themselves: `Lemmas/C43GcdNorm.lean`). -/
namespace SymVerif.C43
open SymVerif

theorem gcdextLoop_spec (a b : Int) (thisS thisT nextS nextT thisR nextR : Int)
    (h1 : thisR = a * thisS + b * thisT) (h2 : nextR = a * nextS + b * nextT) :
    (MpBoost.gcdextLoop thisS thisT nextS nextT thisR nextR).1
      = a * (MpBoost.gcdextLoop thisS thisT nextS nextT thisR nextR).2.1
        + b * (MpBoost.gcdextLoop thisS thisT nextS nextT thisR nextR).2.2 := by
  fun_induction MpBoost.gcdextLoop thisS thisT nextS nextT thisR nextR with
  | case1 thisS thisT nextS nextT thisR => exact h1
  | case2 thisS thisT nextS nextT thisR nextR h qr ih =>
    refine ih h2 ?_
    rw [show qr = (thisR.tdiv nextR, thisR.tmod nextR) from rfl]; simp only; rw [Int.tmod_def, h1, h2]; ring

theorem gcdextLoop_gcd (s0 t0 s1 t1 r0 r1 : Int) :
    (MpBoost.gcdextLoop s0 t0 s1 t1 r0 r1).1.natAbs = Int.gcd r0 r1 := by
  fun_induction MpBoost.gcdextLoop s0 t0 s1 t1 r0 r1 with
  | case1 => simp
  | case2 s0 t0 s1 t1 r0 r1 h qr ih =>
    rw [ih, show qr = (r0.tdiv r1, r0.tmod r1) from rfl]
    simp only [Int.gcd, Int.natAbs_tmod]
    rw [Nat.gcd_comm r0.natAbs, Nat.gcd_rec r1.natAbs r0.natAbs, Nat.gcd_comm]

theorem gcdext_bezout (a b : Int) :
    (MpBoost.gcdext a b).1 = (Int.gcd a b : Int) ∧
    a * (MpBoost.gcdext a b).2.1 + b * (MpBoost.gcdext a b).2.2 = (MpBoost.gcdext a b).1 := by
  have h1 := gcdextLoop_spec a b 1 0 0 1 a b (by ring) (by ring)
  have h2 := gcdextLoop_gcd 1 0 0 1 a b
  unfold MpBoost.gcdext
  generalize MpBoost.gcdextLoop 1 0 0 1 a b = r at h1 h2
  obtain ⟨g, s, t⟩ := r
  simp only at h1 h2
  by_cases hneg : g < 0
  · -- the test `r.1 = 0` of the D5 repair, after the sign flip `r.1 * -1`
    have hg0 : ¬ (g * -1 = 0) := by omega
    simp only [hneg, if_true, hg0, if_false]
    refine ⟨by omega, ?_⟩
    rw [h1]; ring
  · simp only [hneg, if_false]
    by_cases hz : g = 0
    · simp only [hz, if_true]
      have : Int.gcd a b = 0 := by rw [← h2, hz]; rfl
      have ha : a = 0 := (Int.gcd_eq_zero_iff.mp this).1
      have hb : b = 0 := (Int.gcd_eq_zero_iff.mp this).2
      simp [ha, hb]
    · simp only [hz, if_false]
      exact ⟨by omega, h1.symm⟩

theorem natXgcd_spec (a b : Nat) :
    (MpSpec.natXgcd a b).1 = Nat.gcd a b ∧
    (a : Int) * (MpSpec.natXgcd a b).2.1 + (b : Int) * (MpSpec.natXgcd a b).2.2 = (MpSpec.natXgcd a b).1 := by
  have h := GmpSpec.xgcd_spec (f := MpSpec.natXgcd) (fun a b => by rw [MpSpec.natXgcd]; rfl) a b
  exact ⟨h.1, h.2.trans (congrArg _ h.1.symm)⟩

theorem natXgcd_int_bezout (a m : Int) :
    ∃ t : Int, a * (a.sign * (MpSpec.natXgcd a.natAbs m.natAbs).2.1) + m * t = (Int.gcd a m : Int) := by
  obtain ⟨x1, x2⟩ := natXgcd_spec a.natAbs m.natAbs
  exact ⟨_, GmpSpec.bezout_of_natAbs (x2.trans (congrArg Nat.cast x1))⟩

/-- the specification's `invert`: the result lies in `[0,|m|)` and is an inverse of `a` modulo `m` -/
theorem invert_meaning (a m r : Int) (hm : m ≠ 0) (h : MpSpec.invert a m = some r) :
    0 ≤ r ∧ r < (m.natAbs : Int) ∧ m ∣ (a * r - 1) := by
  unfold MpSpec.invert at h
  split at h
  · rename_i hg
    injection h with h
    obtain ⟨t, ht⟩ := natXgcd_int_bezout a m
    rw [hg] at ht
    rw [← h]
    -- `r = x % m = x - m (x / m)` with `a x + m t = 1`, so `a r - 1 = m (-t - a (x / m))`
    refine ⟨Int.emod_nonneg _ hm, Int.emod_lt _ hm, -t - a * (a.sign * (MpSpec.natXgcd a.natAbs m.natAbs).2.1 / m), ?_⟩
    rw [Int.emod_def]
    linear_combination ht
  · exact absurd h (by simp)

theorem invert_fails_iff (a m : Int) : MpSpec.invert a m = none ↔ Int.gcd a m ≠ 1 := by
  unfold MpSpec.invert
  split <;> simp_all

theorem bezout_emod_unique {a m s1 t1 s2 t2 : Int} (h1 : a * s1 + m * t1 = 1) (h2 : a * s2 + m * t2 = 1) :
    s1 % m = s2 % m := by
  rw [Int.emod_eq_emod_iff_emod_sub_eq_zero]
  have : s1 - s2 = m * (t2 * s1 - t1 * s2) := by linear_combination s2 * h1 - s1 * h2
  rw [this]
  exact Int.mul_emod_right m _

/-- the sign fix-up in `mp_invert` after `mp_fdiv_r` yields the representative in `[0,|m|)` -/
theorem invert_normalise (s m : Int) (hm : m ≠ 0) :
    (if MpBoost.fdivR s m < 0 then MpBoost.fdivR s m + (m.natAbs : Int) else MpBoost.fdivR s m) = s % m := by
  rw [fdiv_r s m hm, MpSpec.fdivR]
  refine GmpSpec.fixup_eq_emod ?_ (by rw [Int.ModEq, Int.fmod_def, Int.sub_mul_emod_self_left])
  rw [Int.fmod_eq_emod]
  have h0 := Int.emod_nonneg s hm
  have h1 := Int.emod_lt s hm
  split <;> omega

/-- `mp_invert` (mp_boost.cpp) agrees with the specification (what that is: `invert_fails_iff`, `invert_meaning`) -/
theorem invert (a m : Int) (hm : m ≠ 0) : MpBoost.invert a m = MpSpec.invert a m := by
  obtain ⟨g1, g2⟩ := gcdext_bezout a m
  unfold MpBoost.invert MpSpec.invert
  simp only [g1]
  by_cases hg : Int.gcd a m = 1
  · simp only [hg, Nat.cast_one, bne_self_eq_false, Bool.false_eq_true, if_false, if_true]
    rw [invert_normalise _ m hm]
    congr 1
    obtain ⟨t, hs⟩ := natXgcd_int_bezout a m
    rw [hg] at hs
    have hb : a * (MpBoost.gcdext a m).2.1 + m * (MpBoost.gcdext a m).2.2 = 1 := by
      rw [g2, g1, hg]; rfl
    exact bezout_emod_unique hb hs
  · have : ((Int.gcd a m : Int) != 1) = true := by
      simp only [bne_iff_ne, ne_eq]
      exact_mod_cast hg
    simp [this, hg]

end SymVerif.C43
