import Mathlib.NumberTheory.PrimeCounting
import SymVerif.Model.Sieve
/-! Number theory for C33 (prime sieve): the prime counting function `cnt`, the prime enumeration `np`,
the arithmetic of "first odd multiple above `start`", and the sieve criterion `sieve_unmarked_iff_prime`. -/
namespace SymVerif.C33
open SymVerif.Sieve

/-- number of primes `< n` -/
noncomputable abbrev cnt (n : Nat) : Nat := Nat.count Nat.Prime n
/-- the `i`-th prime (`np 0 = 2`) -/
noncomputable abbrev np (i : Nat) : Nat := Nat.nth Nat.Prime i

theorem np_cnt {p : Nat} (hp : p.Prime) : np (cnt p) = p := Nat.nth_count hp
theorem cnt_np (i : Nat) : cnt (np i) = i := Nat.primeCounting'_nth_eq i
theorem prime_np (i : Nat) : (np i).Prime := Nat.prime_nth_prime i
theorem np_lt_np {i j : Nat} (h : i < j) : np i < np j :=
  Nat.nth_strictMono Nat.infinite_setOfPred_prime h
theorem np_le_np {i j : Nat} (h : i ≤ j) : np i ≤ np j :=
  (Nat.nth_strictMono Nat.infinite_setOfPred_prime).monotone h
theorem cnt_mono {a b : Nat} (h : a ≤ b) : cnt a ≤ cnt b := Nat.count_monotone _ h
theorem cnt_succ_prime {n : Nat} (h : n.Prime) : cnt (n + 1) = cnt n + 1 := by
  simp [cnt, Nat.count_succ, h]
theorem cnt_succ_not_prime {n : Nat} (h : ¬ n.Prime) : cnt (n + 1) = cnt n := by
  simp [cnt, Nat.count_succ, h]
theorem cnt_np_succ (i : Nat) : cnt (np i + 1) = i + 1 := by
  rw [cnt_succ_prime (prime_np i), cnt_np]

theorem not_prime_even {n : Nat} (h2 : n % 2 = 0) (h : 2 < n) : ¬ n.Prime := by
  intro hp
  have := (Nat.Prime.eq_one_or_self_of_dvd hp 2 (Nat.dvd_of_mod_eq_zero h2))
  omega

theorem cnt_lt_of_prime_lt {q m : Nat} (hq : q.Prime) (h : q < m) : cnt q < cnt m :=
  Nat.count_strict_mono hq h

theorem idx_lt_cnt {i m : Nat} : i < cnt m ↔ np i < m :=
  lt_iff_lt_of_le_iff_le (Nat.count_le_iff_le_nth Nat.infinite_setOfPred_prime)

theorem np_zero : np 0 = 2 := Nat.nth_prime_zero_eq_two
theorem np_odd {i : Nat} (h : 1 ≤ i) : np i % 2 = 1 := by
  have h2 : np 0 < np i := np_lt_np (by omega)
  rw [np_zero] at h2
  rcases Nat.Prime.eq_two_or_odd (prime_np i) with h' | h'
  · omega
  · exact h'

theorem firstOddMultiple_spec (start : Nat) {n : Nat} (hn : n % 2 = 1) :
    ∃ k, firstOddMultiple start n = k * n ∧ k % 2 = 1 ∧ start / n < k ∧ k ≤ start / n + 2 := by
  have hpar : (start / n + 1) * n % 2 = (start / n + 1) % 2 := by
    rw [Nat.mul_mod, hn, Nat.mul_one, Nat.mod_mod]
  unfold firstOddMultiple
  simp only [hpar, beq_iff_eq]
  split
  · rename_i h
    exact ⟨start / n + 2, (Nat.succ_mul _ n).symm, Nat.succ_mod_two_eq_one_iff.2 h,
      Nat.lt_add_of_pos_right (by decide), le_refl _⟩
  · rename_i h
    exact ⟨start / n + 1, rfl, Nat.mod_two_ne_zero.1 h, Nat.lt_succ_self _, Nat.le_succ _⟩

theorem odd_multiple_iff {start n m : Nat} (hn : n % 2 = 1) (hm : m % 2 = 1) :
    n ∣ m ∧ start < m ↔ ∃ t, m = firstOddMultiple start n + 2 * (t * n) := by
  obtain ⟨k, hF, hk, hlt, hle⟩ := firstOddMultiple_spec start hn
  have hn0 : 0 < n := by omega
  rw [hF]
  constructor
  · rintro ⟨⟨c, rfl⟩, hs⟩
    have hc : c % 2 = 1 := by rwa [Nat.mul_mod, hn, Nat.one_mul, Nat.mod_mod] at hm
    have hqc : start / n < c := (Nat.div_lt_iff_lt_mul hn0).2 (by rwa [Nat.mul_comm] at hs)
    -- `c` is odd and above `start / n`, `k` is the least such number
    refine ⟨(c - k) / 2, ?_⟩
    rw [← Nat.mul_assoc, ← Nat.add_mul, Nat.mul_comm n c]
    congr 1
    omega
  · rintro ⟨t, rfl⟩
    have hs : start < k * n := (Nat.div_lt_iff_lt_mul hn0).1 hlt
    refine ⟨⟨k + 2 * t, ?_⟩, Nat.lt_add_right _ hs⟩
    rw [Nat.mul_comm n, Nat.add_mul, Nat.mul_assoc]

theorem firstOddMultiple_odd (start : Nat) {n : Nat} (hn : n % 2 = 1) :
    firstOddMultiple start n % 2 = 1 := by
  obtain ⟨k, hF, hk, _⟩ := firstOddMultiple_spec start hn
  rw [hF, Nat.mul_mod, hn, hk]

theorem lt_firstOddMultiple (start : Nat) {n : Nat} (hn : n % 2 = 1) :
    start < firstOddMultiple start n :=
  ((odd_multiple_iff hn (firstOddMultiple_odd start hn)).2 ⟨0, by rw [Nat.zero_mul, Nat.mul_zero, Nat.add_zero]⟩).2

theorem dvd_bit_iff {start n : Nat} (hs : start % 2 = 0) (hn : n % 2 = 1) (j : Nat) :
    n ∣ start + 2 * j + 1 ↔ ∃ t, start + 2 * j + 1 = firstOddMultiple start n + 2 * (t * n) :=
  (and_iff_left (Nat.lt_succ_of_le (Nat.le_add_right _ _))).symm.trans
    (odd_multiple_iff hn (by omega))

theorem odd_eq_even_add_succ {a b : Nat} (ha : a % 2 = 0) (hb : b % 2 = 1) (h : a < b) :
    ∃ d, b = a + 2 * d + 1 ∧ (b - a) / 2 = d :=
  ⟨(b - a) / 2, by omega, rfl⟩

/-- Bit `j` of a segment stands for the odd number `start + 2j + 1`; read so, the slice that the marking loop clears
for `n` is the set of multiples of `n` up to `finish`. -/
theorem slice_index_iff {start finish n : Nat} (hs : start % 2 = 0) (hn : n % 2 = 1)
    (hF : firstOddMultiple start n ≤ finish) (j : Nat) :
    (∃ t, t < 1 + (finish - firstOddMultiple start n) / (2 * n) ∧
        j = (firstOddMultiple start n - start) / 2 + t * n) ↔
      n ∣ start + 2 * j + 1 ∧ start + 2 * j + 1 ≤ finish := by
  have hodd : ∀ j, (start + 2 * j + 1) % 2 = 1 := fun j => by
    rw [Nat.succ_mod_two_eq_one_iff, Nat.add_mul_mod_self_left]
    exact hs
  have hcount : ∀ t, t < 1 + (finish - firstOddMultiple start n) / (2 * n) ↔
      firstOddMultiple start n + 2 * (t * n) ≤ finish := fun t => by
    rw [Nat.lt_one_add_iff, Nat.le_div_iff_mul_le (by omega), Nat.mul_left_comm]
    exact Nat.le_sub_iff_add_le' hF
  obtain ⟨first, hfirst, hdiv⟩ :=
    odd_eq_even_add_succ hs (firstOddMultiple_odd start hn) (lt_firstOddMultiple start hn)
  rw [hdiv]
  rw [hfirst] at hcount ⊢
  have hA : ∀ j, n ∣ start + 2 * j + 1 ↔ ∃ t, j = first + t * n := fun j =>
    (dvd_bit_iff hs hn j).trans (exists_congr fun t => by rw [hfirst]; omega)
  have hB : ∀ t, t < 1 + (finish - (start + 2 * first + 1)) / (2 * n) ↔
      start + 2 * (first + t * n) + 1 ≤ finish := fun t => (hcount t).trans (by omega)
  constructor
  · rintro ⟨t, ht, rfl⟩
    exact ⟨(hA _).2 ⟨t, rfl⟩, (hB t).1 ht⟩
  · rintro ⟨hd, hle⟩
    obtain ⟨t, rfl⟩ := (hA j).1 hd
    exact ⟨t, (hB t).2 hle, rfl⟩

theorem filter_range_prime (n : Nat) :
    (List.range n).filter (fun k => decide k.Prime) = (List.range (cnt n)).map np := by
  induction n with
  | zero => simp [cnt]
  | succ n ih =>
    rw [List.range_succ, List.filter_append, ih]
    by_cases hp : n.Prime
    · rw [cnt_succ_prime hp, List.range_succ, List.map_append]
      simp [hp, np_cnt hp]
    · rw [cnt_succ_not_prime hp]
      simp [hp]

/-- The arithmetic heart: an odd `n ∈ (start, finish]` is prime iff no odd prime below `start`
with square `≤ finish` divides it — given that all primes `q` with `q² ≤ finish` are below `start`
(what the `sqrt` recursion of `_extend` establishes). -/
theorem sieve_unmarked_iff_prime {start finish n : Nat} (hs : 2 ≤ start)
    (hq : ∀ q, q.Prime → q * q ≤ finish → q < start)
    (hodd : n % 2 = 1) (h1 : start < n) (h2 : n ≤ finish) :
    (∀ i, 1 ≤ i → i < cnt start → np i * np i ≤ finish → ¬ np i ∣ n) ↔ n.Prime := by
  constructor
  · intro h
    by_contra hnp
    have hn1 : n ≠ 1 := by omega
    have hqp := Nat.minFac_prime hn1
    have hqd := Nat.minFac_dvd n
    have hsq : n.minFac * n.minFac ≤ n := by
      have := Nat.minFac_sq_le_self (by omega : 0 < n) hnp
      simpa [pow_two] using this
    have hlt := hq _ hqp (le_trans hsq h2)
    have hne2 : n.minFac ≠ 2 := by
      intro h2'
      rw [h2'] at hqd
      omega
    have hgt : 2 < n.minFac := lt_of_le_of_ne hqp.two_le (Ne.symm hne2)
    have hi1 : 1 ≤ cnt n.minFac := by
      have := cnt_lt_of_prime_lt Nat.prime_two hgt
      omega
    have hi2 := cnt_lt_of_prime_lt hqp hlt
    have := h _ hi1 hi2
    rw [np_cnt hqp] at this
    exact this (le_trans hsq h2) hqd
  · intro hp i _ hi _ hd
    rcases Nat.Prime.eq_one_or_self_of_dvd hp _ hd with h | h
    · exact (prime_np i).one_lt.ne' h
    · have : cnt n = i := by rw [← h, cnt_np]
      have := cnt_mono (le_of_lt h1)
      omega

theorem primes_below_30 :
    (List.range 30).filter (fun k => decide k.Prime) = [2, 3, 5, 7, 11, 13, 17, 19, 23, 29] := by
  decide

theorem cnt_30 : cnt 30 = 10 := by
  simpa [primes_below_30] using (congrArg List.length (filter_range_prime 30)).symm

theorem np_firstTen : (List.range 10).map np = firstTen.toList := by
  rw [← cnt_30, ← filter_range_prime, primes_below_30]
  rfl

end SymVerif.C33
