import SymVerif.Model.Sets
import Mathlib.Order.WithBot
import Mathlib.Algebra.Order.Ring.Rat
import Mathlib.Order.Basic

/-! The linear order on the extended rationals `ENum`, lifted from `WithBot (WithTop ℚ)` along `toW`; the model's
`lt`, `max2`, `min2` are its `<`, `max`, `min`.  Membership of a point in an interval (`memIv`) and how it changes
when an end is opened or closed or the interval is split at a point. -/
namespace SymVerif.Sets
namespace ENum

def toW : ENum → WithBot (WithTop ℚ)
  | ninf => ⊥
  | fin q => ((q : WithTop ℚ) : WithBot (WithTop ℚ))
  | pinf => ((⊤ : WithTop ℚ) : WithBot (WithTop ℚ))

theorem toW_injective : Function.Injective toW := by
  intro a b h
  cases a <;> cases b <;> simp_all [toW]

instance : LinearOrder ENum := LinearOrder.lift' toW toW_injective

theorem lt_def (a b : ENum) : a < b ↔ toW a < toW b := Iff.rfl
theorem le_def (a b : ENum) : a ≤ b ↔ toW a ≤ toW b := Iff.rfl

@[simp] theorem fin_lt_fin (a b : ℚ) : (fin a : ENum) < fin b ↔ a < b := by
  simp [lt_def, toW]
@[simp] theorem fin_le_fin (a b : ℚ) : (fin a : ENum) ≤ fin b ↔ a ≤ b := by
  simp [le_def, toW]
@[simp] theorem ninf_lt_fin (b : ℚ) : (ninf : ENum) < fin b := by
  simp [lt_def, toW]
@[simp] theorem fin_lt_pinf (b : ℚ) : (fin b : ENum) < pinf := by
  rw [lt_def]; exact WithBot.coe_lt_coe.2 (WithTop.coe_lt_top b)
@[simp] theorem ninf_lt_pinf : (ninf : ENum) < pinf := by
  simp [lt_def, toW]
@[simp] theorem ninf_le (b : ENum) : (ninf : ENum) ≤ b := by
  simp [le_def, toW]
@[simp] theorem le_pinf (b : ENum) : b ≤ (pinf : ENum) := by
  cases b <;> simp [le_def, toW]

theorem lt_iff (a b : ENum) : lt a b = true ↔ a < b := by
  cases a <;> cases b <;> simp [lt, not_lt]

theorem max2_eq (a b : ENum) : max2 a b = max a b := by
  simp only [max2, lt_iff]; exact (max_def_lt a b).symm

theorem min2_eq (a b : ENum) : min2 a b = min a b := by
  simp only [min2, lt_iff]; rw [min_comm]; exact (min_def_lt b a).symm

end ENum

/-- membership of a rational point in an interval with extended end points -/
def memIv (s e : ENum) (lo ro : Bool) (q : ℚ) : Prop :=
  (s < .fin q ∨ (s = .fin q ∧ lo = false)) ∧ (.fin q < e ∨ (e = .fin q ∧ ro = false))

section
variable {s e a : ENum} {lo ro : Bool} {q : ℚ}

theorem memIv.lb (h : memIv s e lo ro q) : s ≤ .fin q := h.1.elim le_of_lt fun h => h.1.le
theorem memIv.ub (h : memIv s e lo ro q) : .fin q ≤ e := h.2.elim le_of_lt fun h => h.1.ge
theorem memIv.lb_lt (h : memIv s e true ro q) : s < .fin q := h.1.elim id fun h => Bool.noConfusion h.2
theorem memIv.ub_lt (h : memIv s e lo true q) : .fin q < e := h.2.elim id fun h => Bool.noConfusion h.2

theorem memIv_split (h1 : s ≤ a) (h2 : a < e) :
    (memIv s e lo ro q ∧ ¬ ENum.fin q = a) ↔ (memIv s a lo true q ∨ memIv a e true ro q) := by
  constructor
  · rintro ⟨hm, hq⟩
    rcases lt_or_gt_of_ne hq with h | h
    · exact Or.inl ⟨hm.1, Or.inl h⟩
    · exact Or.inr ⟨Or.inl h, hm.2⟩
  · rintro (hm | hm)
    · exact ⟨⟨hm.1, Or.inl (hm.ub_lt.trans h2)⟩, hm.ub_lt.ne⟩
    · exact ⟨⟨Or.inl (h1.trans_lt hm.lb_lt), hm.2⟩, hm.lb_lt.ne'⟩

theorem memIv_open_right : memIv s e lo true q ↔ (memIv s e lo ro q ∧ ¬ ENum.fin q = e) :=
  ⟨fun hm => ⟨⟨hm.1, Or.inl hm.ub_lt⟩, hm.ub_lt.ne⟩, fun ⟨hm, hq⟩ => ⟨hm.1, Or.inl (lt_of_le_of_ne hm.ub hq)⟩⟩

/-- what the cutting loop of `FiniteSet::set_complement` does with an element `a` that is not above the pending start -/
theorem memIv_open_left (h1 : a ≤ s) (h2 : s = a ∨ lo = true) :
    memIv s e true ro q ↔ (memIv s e lo ro q ∧ ¬ ENum.fin q = a) := by
  constructor
  · intro hm
    exact ⟨⟨Or.inl hm.lb_lt, hm.2⟩, fun hq => absurd (hq ▸ hm.lb_lt) (not_lt.2 h1)⟩
  · rintro ⟨hm, hq⟩
    refine ⟨Or.inl ?_, hm.2⟩
    rcases hm.1 with h | h
    · exact h
    · rcases h2 with rfl | rfl
      · exact absurd h.1.symm hq
      · exact Bool.noConfusion h.2

theorem memIv_weaken {left right : Bool} (hl : left = true → lo = true) (hr : right = true → ro = true)
    (h : memIv s e lo ro q) : memIv s e left right q := by
  unfold memIv at *
  grind

theorem memIv_close_left (hse : s < e) : memIv s e false ro q ↔ (ENum.fin q = s ∨ memIv s e true ro q) := by
  constructor
  · intro h
    exact h.1.elim (fun hl => Or.inr ⟨Or.inl hl, h.2⟩) fun hl => Or.inl hl.1.symm
  · rintro (rfl | h)
    · exact ⟨Or.inr ⟨rfl, rfl⟩, Or.inl hse⟩
    · exact ⟨Or.inl h.lb_lt, h.2⟩

theorem memIv_close_right (hse : s < e) : memIv s e lo false q ↔ (ENum.fin q = e ∨ memIv s e lo true q) := by
  constructor
  · intro h
    exact h.2.elim (fun hr => Or.inr ⟨h.1, Or.inl hr⟩) fun hr => Or.inl hr.1.symm
  · rintro (rfl | h)
    · exact ⟨Or.inl hse, Or.inr ⟨rfl, rfl⟩⟩
    · exact ⟨h.1, Or.inl h.ub_lt⟩
end

theorem ivContains_iff (s e : ENum) (lo ro : Bool) (q : ℚ) (h : s < e) :
    ivContains s e lo ro (.fin q) = true ↔ memIv s e lo ro q := by
  unfold ivContains memIv
  simp only [ENum.max2_eq, ENum.min2_eq, beq_iff_eq]
  -- `h` is needed when the point is an end: for `s = e = q` the C++ answers `!lo` alone
  grind

end SymVerif.Sets
