/-
Range of `cmp` (under `WF` alone); on the fragment `cmp` is the three-way comparison of a key
in a linear order (`cmp_eq_cmpLin_key`), hence transitive.
-/
import SymVerif.Lemmas.C02Node

namespace SymVerif
namespace Expr
open TC (Kind)

theorem cmpArgs_rng {as bs : List Expr} (hr : ∀ x ∈ as, ∀ y ∈ bs, Rng (cmp x y))
    (hl : as.length = bs.length) : Rng (cmpArgs as bs) := by
  have h := forall₂_of_mem hl hr
  clear hl hr
  induction h with
  | nil => exact Or.inr (Or.inl rfl)
  | cons h _ ih => rw [cmpArgs_cons]; exact lex_rng h (fun _ => ih)

theorem cmp_rng : ∀ a b, WF a = true → WF b = true → Rng (cmp a b) := by
  intro a
  refine induct_children (fun a => ∀ b, WF a = true → WF b = true → Rng (cmp a b)) ?_ a
  clear a
  intro a ih b wa wb
  by_cases hc : typeCode a = typeCode b
  swap
  · rw [cmp_tc_ne hc, cmpNat_eq]; exact cmpLin_rng _ _
  have hr : ∀ x ∈ children a, ∀ y ∈ children b, Rng (cmp x y) := fun x hx y hy =>
    ih x hx y (WF_children wa x hx) (WF_children wb y hy)
  cases sameClass wa wb hc with
  | int x y => rw [cmp_int, cmpInt_eq]; exact cmpLin_rng _ _
  | rat n d n' d' => rw [cmp_rat]; exact cmpQ_rng _ _ _ _
  | cplx r i r' i' => rw [cmp_cplx]; exact lex_rng (cmpQ_rng _ _ _ _) (fun _ => cmpQ_rng _ _ _ _)
  | dbl x y => rw [cmp_dbl]; exact cmpDbl_rng x y
  | cdbl r i r' i' => rw [cmp_cdbl]; exact lex_rng (cmpDbl_rng _ _) (fun _ => cmpDbl_rng _ _)
  | infty x y => rw [cmp_infty, cmpInt_eq]; exact cmpLin_rng _ _
  | nan => rw [cmp_nan]; exact Or.inr (Or.inl rfl)
  | sym x y => rw [cmp_sym, cmpStr_eq]; exact cmpLin_rng _ _
  | dummy n i m j =>
    rw [cmp_dummy, cmpStr_eq, cmpNat_eq]; exact cmpLin_lex_rng (fun _ => cmpLin_rng _ _)
  | const x y => rw [cmp_const, cmpStr_eq]; exact cmpLin_rng _ _
  | bool x y => rw [cmp_bool_eq]; exact cmpLin_rng _ _
  | pow b e b' e' => rw [cmp_pow]; exact cmpArgs_rng hr rfl
  | mul c fs c' fs' =>
    rw [cmp_mul, cmpNat_eq]
    exact cmpLin_lex_rng (fun hl => cmpArgs_rng hr (by simp [flat_length, hl]))
  | add c ts c' ts' =>
    rw [cmp_add, cmpNat_eq]
    exact cmpLin_lex_rng (fun hl => cmpArgs_rng hr (by simp [flat_length, hl]))
  | fsym n as m bs =>
    rw [cmp_fsym, cmpStr_eq, cmpNat_eq]
    exact cmpLin_lex_rng fun _ => cmpLin_lex_rng fun hl => cmpArgs_rng hr hl
  | app h as bs =>
    obtain ⟨k, _, _, ha, hb, e⟩ := cmp_app_wf wa wb
    rw [e]
    refine cmpLin_lex_rng fun hl => ?_
    split
    · subst k
      obtain ⟨x1, x2, rfl⟩ := arityOK_two ha
      obtain ⟨y1, y2, rfl⟩ := arityOK_two hb
      rw [cmpTwo]
      split
      · exact hr x1 (by simp [children]) y1 (by simp [children])
      · exact cmpArgs_rng (fun x hx y hy => hr x (List.mem_cons_of_mem _ hx) y (List.mem_cons_of_mem _ hy)) rfl
    · exact cmpArgs_rng hr (appKey_length ha hb hl)

mutual
  /-- The local keys in pre-order.  `hd` fixes the number of stored sub-expressions (`node_ext`), so no key is a
  proper prefix of another, and the lexicographic order of the lists is "local key first, then the children
  from left to right", which is what `cmp` does (`cmp_node'`). -/
  def key : Expr → List Hd
    | add c ts => hd (add c ts) :: (key c ++ keyPairs ts)
    | mul c fs => hd (mul c fs) :: (key c ++ keyPairs fs)
    | pow b e => hd (pow b e) :: (key b ++ key e)
    | fsym n as => hd (fsym n as) :: keyArgs as
    | app h as => hd (app h as) :: keyArgs as
    | e => [hd e]
  def keyArgs : List Expr → List Hd
    | [] => []
    | a :: t => key a ++ keyArgs t
  def keyPairs : List (Expr × Expr) → List Hd
    | [] => []
    | (k, v) :: t => key k ++ (key v ++ keyPairs t)
end

theorem keyPairs_flat : ∀ l, keyPairs l = keyArgs (flat l)
  | [] => by simp [keyPairs, keyArgs, flat]
  | (k, v) :: t => by simp [keyPairs, keyArgs, flat, keyPairs_flat t]

theorem key_node (a : Expr) : key a = hd a :: keyArgs (children a) := by
  cases a <;> simp [key, keyArgs, children, keyPairs_flat]

/-- the loop over equally many stored sub-expressions; `r`, `r'` stand for what follows them in the keys of
the enclosing nodes -/
theorem cmpLin_keyArgs {as bs : List Expr} (r r' : List Hd) (hl : as.length = bs.length)
    (h : ∀ x ∈ as, ∀ y ∈ bs, ∀ r r', cmpLin (key x ++ r) (key y ++ r') = lex (cmp x y) (cmpLin r r')) :
    cmpLin (keyArgs as ++ r) (keyArgs bs ++ r') = lex (cmpArgs as bs) (cmpLin r r') := by
  have h' := forall₂_of_mem hl h
  clear hl h
  induction h' with
  | nil => simp [keyArgs, cmpArgs, lex_zero_left]
  | cons h _ ih =>
    rw [keyArgs, keyArgs, List.append_assoc, List.append_assoc, h, cmpArgs_cons, lex_assoc, ih]

theorem cmp_key_append : ∀ a b, OK a → OK b → ∀ r r',
    cmpLin (key a ++ r) (key b ++ r') = lex (cmp a b) (cmpLin r r') := by
  intro a
  refine induct_children (fun a => ∀ b, OK a → OK b → ∀ r r',
    cmpLin (key a ++ r) (key b ++ r') = lex (cmp a b) (cmpLin r r')) ?_ a
  clear a
  intro a ih b oa ob r r'
  rw [key_node a, key_node b, List.cons_append, List.cons_append, cmpLin_cons, cmp_node' oa ob, lex_assoc]
  by_cases hh : cmpLin (hd a) (hd b) = 0
  · rw [lex_of_eq_zero hh, lex_of_eq_zero hh]
    exact cmpLin_keyArgs r r' (node_ext oa ob ((cmpLin_eq_zero _ _).mp hh)).1
      (fun x hx y hy => ih x hx y (oa.children x hx) (ob.children y hy))
  · rw [lex_of_ne_zero hh, lex_of_ne_zero hh]

theorem cmp_eq_cmpLin_key {a b : Expr} (oa : OK a) (ob : OK b) : cmp a b = cmpLin (key a) (key b) := by
  have := cmp_key_append a b oa ob [] []
  rw [List.append_nil, List.append_nil, cmpLin_self, lex_zero_right] at this
  exact this.symm

theorem key_inj {a b : Expr} (oa : OK a) (ob : OK b) (h : key a = key b) : a = b :=
  (J_all a b oa ob).zero.mp (by rw [cmp_eq_cmpLin_key oa ob, h, cmpLin_self])

theorem cmp_trans (a b c : Expr) (oa : OK a) (ob : OK b) (oc : OK c) (h1 : cmp a b = -1) (h2 : cmp b c = -1) :
    cmp a c = -1 := by
  rw [cmp_eq_cmpLin_key oa ob] at h1
  rw [cmp_eq_cmpLin_key ob oc] at h2
  rw [cmp_eq_cmpLin_key oa oc]
  exact cmpLin_trans _ _ _ h1 h2

theorem cmp_trans_le {a b c : Expr} (oa : OK a) (ob : OK b) (oc : OK c) (h1 : cmp a b ≤ 0) (h2 : cmp b c ≤ 0) :
    cmp a c ≤ 0 := by
  rw [cmp_eq_cmpLin_key oa ob, cmpLin_nonpos] at h1
  rw [cmp_eq_cmpLin_key ob oc, cmpLin_nonpos] at h2
  rw [cmp_eq_cmpLin_key oa oc, cmpLin_nonpos]
  exact le_trans h1 h2

end Expr
end SymVerif
