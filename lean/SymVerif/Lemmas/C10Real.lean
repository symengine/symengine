/-
C10, real semantics of the differentiable fragment and the analytic lemmas behind `diffE_correct` (`Props/C10.lean`).

  evalR ρ e        value of `e` in ℝ (Mathlib's total functions; `ρ` assigns the symbols)
  Ok ρ e           `e` is in the fragment (numeric coefficients, integer / real powers, the listed
                   functions) and regular at `ρ`: no zero base under a negative power, positive base
                   under a non-integer power, arguments inside the domains of tan, log, asin, …
  powRule_correct  d(b^e)   for integer literals, rational literals, base E, general f^g
-/
import Mathlib.Analysis.SpecialFunctions.Trigonometric.Deriv
import Mathlib.Analysis.SpecialFunctions.Trigonometric.DerivHyp
import Mathlib.Analysis.SpecialFunctions.Trigonometric.ArctanDeriv
import Mathlib.Analysis.SpecialFunctions.Trigonometric.InverseDeriv
import Mathlib.Analysis.SpecialFunctions.Arsinh
import Mathlib.Analysis.SpecialFunctions.Arcosh
import Mathlib.Analysis.SpecialFunctions.Pow.Deriv
import Mathlib.Analysis.SpecialFunctions.Log.Deriv
import Mathlib.Analysis.SpecialFunctions.ExpDeriv
import Mathlib.Analysis.Calculus.Deriv.ZPow
import Mathlib.Analysis.Calculus.Deriv.Inv
import Mathlib.Tactic.Ring
import Mathlib.Tactic.FieldSimp
import Mathlib.Tactic.LinearCombination
import SymVerif.Model.Diff

namespace SymVerif
namespace C10
open SymVerif Expr Diff

noncomputable def constR : String → ℝ
  | "pi" => Real.pi
  | "E" => Real.exp 1
  | _ => 0

/-- `Cot`, `Tanh`, `Coth` are quotients like `Sec`, `Csc`, …: of these Mathlib has a derivative lemma only for `Real.tan` -/
noncomputable def fnR (h : String) (v : ℝ) : ℝ :=
  match h with
  | "Sin" => Real.sin v
  | "Cos" => Real.cos v
  | "Tan" => Real.tan v
  | "Cot" => Real.cos v / Real.sin v
  | "Sec" => (Real.cos v)⁻¹
  | "Csc" => (Real.sin v)⁻¹
  | "ASin" => Real.arcsin v
  | "ACos" => Real.arccos v
  | "ATan" => Real.arctan v
  | "Sinh" => Real.sinh v
  | "Cosh" => Real.cosh v
  | "Tanh" => Real.sinh v / Real.cosh v
  | "Coth" => Real.cosh v / Real.sinh v
  | "Sech" => (Real.cosh v)⁻¹
  | "Csch" => (Real.sinh v)⁻¹
  | "ASinh" => Real.arsinh v
  | "ACosh" => Real.arcosh v
  | "Log" => Real.log v
  | _ => 0

/-- `b ^ e`: an integer literal exponent is an integer power, everything else is `Real.rpow` -/
noncomputable def powV (bv : ℝ) (e : Expr) (ev : ℝ) : ℝ :=
  match e with
  | .int n => bv ^ n
  | _ => bv ^ ev

mutual
  noncomputable def evalR (ρ : String → ℝ) : Expr → ℝ
    | .int n => (n : ℝ)
    | .rat n d => (n : ℝ) / (d : ℝ)
    | .sym s => ρ s
    | .const c => constR c
    | .add c ts => evalR ρ c + evalTermsR ρ ts
    | .mul c fs => evalR ρ c * evalFacsR ρ fs
    | .pow b e => powV (evalR ρ b) e (evalR ρ e)
    | .app h [a] => fnR h (evalR ρ a)
    | _ => 0
  noncomputable def evalTermsR (ρ : String → ℝ) : List (Expr × Expr) → ℝ
    | [] => 0
    | (k, c) :: t => evalR ρ k * evalR ρ c + evalTermsR ρ t
  noncomputable def evalFacsR (ρ : String → ℝ) : List (Expr × Expr) → ℝ
    | [] => 1
    | (b, e) :: t => powV (evalR ρ b) e (evalR ρ e) * evalFacsR ρ t
end

/-- narrower than `Diff.isNumLit`, the test that picks the rule, which holds of every number leaf -/
def isRealNum : Expr → Bool
  | .int _ => true
  | .rat _ d => d != 0
  | _ => false

/-- side condition of a power: integer literal → no `0 ^ negative`; otherwise a positive base -/
def PowOk (bv : ℝ) : Expr → Prop
  | .int n => bv ≠ 0 ∨ 0 ≤ n
  | _ => 0 < bv

/-- side condition of a function application at the value `v` of its argument (`Log`: `v ≠ 0` suffices, `Real.log v` is
`log |v|`) -/
def FnOk (h : String) (v : ℝ) : Prop :=
  match h with
  | "Sin" => True
  | "Cos" => True
  | "Tan" => Real.cos v ≠ 0
  | "Cot" => Real.sin v ≠ 0
  | "Sec" => Real.cos v ≠ 0
  | "Csc" => Real.sin v ≠ 0
  | "ASin" => -1 < v ∧ v < 1
  | "ACos" => -1 < v ∧ v < 1
  | "ATan" => True
  | "Sinh" => True
  | "Cosh" => True
  | "Tanh" => True
  | "Coth" => Real.sinh v ≠ 0
  | "Sech" => True
  | "Csch" => Real.sinh v ≠ 0
  | "ASinh" => True
  | "ACosh" => 1 < v
  | "Log" => v ≠ 0
  | _ => False

mutual
  /-- `e` is in the differentiable fragment and regular at `ρ` -/
  def Ok (ρ : String → ℝ) : Expr → Prop
    | .int _ => True
    | .rat _ d => d ≠ 0
    | .sym _ => True
    | .const _ => True
    | .add c ts => isRealNum c = true ∧ OkTerms ρ ts
    | .mul c fs => isRealNum c = true ∧ OkFacs ρ fs
    | .pow b e => Ok ρ b ∧ Ok ρ e ∧ PowOk (evalR ρ b) e
    | .app h [a] => Ok ρ a ∧ FnOk h (evalR ρ a)
    | _ => False
  def OkTerms (ρ : String → ℝ) : List (Expr × Expr) → Prop
    | [] => True
    | (k, c) :: t => Ok ρ k ∧ isRealNum c = true ∧ OkTerms ρ t
  def OkFacs (ρ : String → ℝ) : List (Expr × Expr) → Prop
    | [] => True
    | (b, e) :: t => Ok ρ b ∧ Ok ρ e ∧ PowOk (evalR ρ b) e ∧ OkFacs ρ t
end

/-- `Function.update ρ x t` by `rfl`: the claimed theorems in `Props/C10.lean` are stated with `Function.update` -/
def upd (ρ : String → ℝ) (x : String) (t : ℝ) : String → ℝ := Function.update ρ x t

theorem upd_self (ρ : String → ℝ) (x : String) : upd ρ x (ρ x) = ρ := Function.update_eq_self x ρ

theorem evalR_realNum {ρ ρ' : String → ℝ} {c : Expr} (h : isRealNum c = true) : evalR ρ c = evalR ρ' c := by
  cases c <;> try cases h
  all_goals simp only [evalR]

@[simp] theorem powV_int (bv : ℝ) (n : Int) (ev : ℝ) : powV bv (.int n) ev = bv ^ n := rfl

@[simp] theorem powV_rat (bv : ℝ) (n : Int) (d : Nat) (ev : ℝ) : powV bv (.rat n d) ev = bv ^ ev := rfl

theorem rpow_neg_half {y : ℝ} (hy : 0 < y) : y ^ ((-1 : ℝ) / 2) = (Real.sqrt y)⁻¹ := by
  rw [Real.sqrt_eq_rpow, show ((-1 : ℝ) / 2) = -(1 / 2) by ring, Real.rpow_neg hy.le]

theorem evalFacsR_append (ρ : String → ℝ) : ∀ (l m : List (Expr × Expr)),
    evalFacsR ρ (l ++ m) = evalFacsR ρ l * evalFacsR ρ m
  | [], m => by simp [evalFacsR]
  | (b, e) :: t, m => by simp [evalFacsR, evalFacsR_append ρ t m, mul_assoc]

section Eval
variable (ρ : String → ℝ)

theorem evalR_fn1 (h : String) (a : Expr) : evalR ρ (fn1 h a) = fnR h (evalR ρ a) := by
  simp only [fn1, evalR]

theorem evalR_sq (a : Expr) : evalR ρ (Diff.sq a) = evalR ρ a ^ 2 := by
  simp only [Diff.sq, evalR, powV_int]; exact zpow_ofNat _ 2

theorem evalR_onePlus (t : Expr) : evalR ρ (onePlus t) = 1 + evalR ρ t := by
  simp only [onePlus, evalR, evalTermsR, Int.cast_one, mul_one, add_zero]

theorem evalR_oneMinus (t : Expr) : evalR ρ (oneMinus t) = 1 - evalR ρ t := by
  simp only [oneMinus, evalR, evalTermsR, Int.cast_one, Int.cast_neg, mul_neg, mul_one, add_zero, sub_eq_add_neg]

theorem evalR_minusOnePlus (t : Expr) : evalR ρ (minusOnePlus t) = evalR ρ t - 1 := by
  simp only [minusOnePlus, evalR, evalTermsR, Int.cast_one, Int.cast_neg, mul_one, add_zero, sub_eq_add_neg]
  exact add_comm _ _

theorem evalR_pow_halfNeg (b : Expr) : evalR ρ (.pow b halfNeg) = evalR ρ b ^ ((-1 : ℝ) / 2) := by
  simp only [evalR, halfNeg, powV_rat, Int.cast_neg, Int.cast_one, Nat.cast_ofNat]

theorem evalR_prod2 (f g : Expr) : evalR ρ (prod [f, g]) = evalR ρ f * evalR ρ g := by
  simp only [prod, List.map, evalR, evalFacsR, powV_int, zpow_one, Int.cast_one, mul_one, one_mul]

theorem evalR_mul1 (c : Int) (b : Expr) : evalR ρ (.mul (.int c) [(b, .int 1)]) = c * evalR ρ b := by
  simp only [evalR, evalFacsR, powV_int, zpow_one, mul_one]

theorem evalR_mul2 (c : Int) (b d : Expr) :
    evalR ρ (.mul (.int c) [(b, .int 1), (d, .int 1)]) = c * (evalR ρ b * evalR ρ d) := by
  simp only [evalR, evalFacsR, powV_int, zpow_one, mul_one]

end Eval

section Pow
variable (x : String) (ρ : String → ℝ)

/-- `d(b^e)`, the four branches of `DiffVisitor::bvisit(const Pow &)` -/
theorem powRule_correct (b e : Expr)
    (hb : HasDerivAt (fun t => evalR (upd ρ x t) b) (evalR ρ (diffE x b)) (ρ x))
    (he : HasDerivAt (fun t => evalR (upd ρ x t) e) (evalR ρ (diffE x e)) (ρ x))
    (hOe : Ok ρ e) (hok : PowOk (evalR ρ b) e) :
    HasDerivAt (fun t => powV (evalR (upd ρ x t) b) e (evalR (upd ρ x t) e))
      (evalR ρ (powRule b e (diffE x b) (diffE x e))) (ρ x) := by
  have hb0 : evalR (upd ρ x (ρ x)) b = evalR ρ b := by rw [upd_self]
  have he0 : evalR (upd ρ x (ρ x)) e = evalR ρ e := by rw [upd_self]
  by_cases hn : isNumLit e = true
  · -- integer or rational literal
    cases e with
    | int n =>
      simp only [PowOk] at hok
      have hf : (fun t => powV (evalR (upd ρ x t) b) (.int n) (evalR (upd ρ x t) (.int n)))
          = fun t => (evalR (upd ρ x t) b) ^ n := by funext t; simp [powV]
      rw [hf]
      by_cases h1 : n = 1
      · subst h1
        simpa [powRule] using hb
      · have hr : powRule b (.int n) (diffE x b) (diffE x (.int n))
            = .mul (.int n) [(b, .int (n - 1)), (diffE x b, .int 1)] := by
          unfold powRule
          split
          · rename_i heq; cases heq; exact absurd rfl h1
          · simp [isNumLit, decExp]
        rw [hr]
        have hz0 := (hasDerivAt_zpow n (evalR (upd ρ x (ρ x)) b) (by rw [hb0]; exact hok)).comp (ρ x) hb
        have hz : HasDerivAt (fun t => (evalR (upd ρ x t) b) ^ n)
            ((n : ℝ) * evalR (upd ρ x (ρ x)) b ^ (n - 1) * evalR ρ (diffE x b)) (ρ x) := hz0
        rw [hb0] at hz
        refine hz.congr_deriv ?_
        simp only [evalR, evalFacsR, powV, zpow_one, mul_one]
        ring
    | rat n d =>
      simp only [Ok] at hOe
      simp only [PowOk] at hok
      have hf : (fun t => powV (evalR (upd ρ x t) b) (.rat n d) (evalR (upd ρ x t) (.rat n d)))
          = fun t => (evalR (upd ρ x t) b) ^ ((n : ℝ) / (d : ℝ)) := by funext t; simp [powV, evalR]
      rw [hf]
      have hr : powRule b (.rat n d) (diffE x b) (diffE x (.rat n d))
          = .mul (.rat n d) [(b, .rat (n - d) d), (diffE x b, .int 1)] := by
        unfold powRule
        simp [isNumLit, decExp]
      rw [hr]
      have hd : (d : ℝ) ≠ 0 := by exact_mod_cast hOe
      have hz := hb.rpow_const (p := (n : ℝ) / (d : ℝ)) (Or.inl (by rw [hb0]; exact hok.ne'))
      rw [hb0] at hz
      refine hz.congr_deriv ?_
      have : (((n - (d : ℤ) : ℤ) : ℝ)) / (d : ℝ) = (n : ℝ) / (d : ℝ) - 1 := by
        push_cast
        field_simp
      simp only [evalR, evalFacsR, powV, zpow_one, mul_one, this]
      ring
    | cplx _ _ => simp [Ok] at hOe
    | dbl _ => simp [Ok] at hOe
    | cdbl _ _ => simp [Ok] at hOe
    | infty _ => simp [Ok] at hOe
    | nan => simp [Ok] at hOe
    | _ => simp [isNumLit] at hn
  · -- symbolic exponent: real power of a positive base
    have hint : ∀ n, e ≠ .int n := fun n h => hn (h ▸ rfl)
    have hpv : ∀ bv ev : ℝ, powV bv e ev = bv ^ ev := fun bv ev => by
      cases e <;> first | rfl | exact absurd rfl (hint _)
    have hpos : 0 < evalR ρ b := by
      cases e <;> first | exact hok | exact absurd rfl (hint _)
    have hz := hb.rpow he (by rw [hb0]; exact hpos)
    rw [hb0, he0] at hz
    simp only [hpv]
    have hne : evalR ρ b ≠ 0 := hpos.ne'
    refine hz.congr_deriv ?_
    unfold powRule
    split
    · simp [isNumLit] at hn
    · rw [if_neg hn]
      split
      · -- base E: `diffE x (.const "E") = 0` kills the `db` summand of `HasDerivAt.rpow`, and `log (exp 1) = 1`
        simp [diffE, evalR, evalFacsR, hpv, constR, Real.log_exp, Real.exp_one_rpow]
        ring
      · simp only [evalR, evalFacsR, evalTermsR, powV_int, hpv, prod, fn1, fnR, List.map, zpow_one, mul_one, one_mul,
          Int.cast_one, Int.cast_zero, zero_add, add_zero, zpow_neg_one]
        show evalR ρ (diffE x b) * evalR ρ e * evalR ρ b ^ (evalR ρ e - 1) +
            evalR ρ (diffE x e) * evalR ρ b ^ evalR ρ e * Real.log (evalR ρ b) =
          evalR ρ b ^ evalR ρ e *
            (evalR ρ (diffE x e) * Real.log (evalR ρ b) + evalR ρ e * ((evalR ρ b)⁻¹ * evalR ρ (diffE x b)))
        rw [Real.rpow_sub_one hne]
        field_simp
        ring

end Pow

end C10
end SymVerif
