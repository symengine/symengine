import SymVerif.Model.UPoly
import Mathlib.Algebra.Polynomial.Basic
import Mathlib.Algebra.Polynomial.Eval.Defs
import Mathlib.Algebra.Polynomial.Derivative
import Mathlib.Algebra.Polynomial.Degree.Lemmas
import Mathlib.Tactic.Ring

/-! The dictionary model of C21 and its meaning: denotation `toPoly`, the canonical-form invariant,
extensionality of canonical dictionaries; `+=`, `-=`, unary minus, multiplication of every coefficient by
a constant, `from_dict`, `m[k] = c`, degree / leading coefficient. -/
-- lemmas on plain lists inherit `[DecidableEq R]` (some `[CommRing R]`) of the section unused
set_option linter.unusedSectionVars false
open Polynomial
namespace SymVerif.C21
open SymVerif.UPoly

variable {R : Type} [CommRing R] [DecidableEq R]

noncomputable def toPoly (d : Dict R) : R[X] := (d.map fun p => monomial p.1 p.2).sum

/-- `std::map` order: strictly increasing keys -/
def Sorted (d : Dict R) : Prop := d.Pairwise (fun p q => p.1 < q.1)
/-- the polynomial classes' `is_canonical`: no stored zero coefficient -/
def NoZero (d : Dict R) : Prop := ∀ p ∈ d, p.2 ≠ 0
def Canon (d : Dict R) : Prop := Sorted d ∧ NoZero d

@[simp] theorem toPoly_nil : toPoly ([] : Dict R) = 0 := rfl
@[simp] theorem toPoly_cons (p : Nat × R) (t : Dict R) :
    toPoly (p :: t) = monomial p.1 p.2 + toPoly t := by
  rw [toPoly, List.map_cons, List.sum_cons, toPoly]
theorem toPoly_singleton (k : Nat) (c : R) : toPoly [(k, c)] = monomial k c := by
  rw [toPoly_cons, toPoly_nil, add_zero]
theorem toPoly_append (a b : Dict R) : toPoly (a ++ b) = toPoly a + toPoly b := by
  rw [toPoly, List.map_append, List.sum_append, toPoly, toPoly]

theorem sorted_nil : Sorted ([] : Dict R) := List.Pairwise.nil
theorem canon_nil : Canon ([] : Dict R) := ⟨sorted_nil, fun _ hp => nomatch hp⟩

theorem sorted_cons {p : Nat × R} {t : Dict R} :
    Sorted (p :: t) ↔ (∀ q ∈ t, p.1 < q.1) ∧ Sorted t := List.pairwise_cons

theorem noZero_cons {p : Nat × R} {t : Dict R} :
    NoZero (p :: t) ↔ p.2 ≠ 0 ∧ NoZero t := List.forall_mem_cons

theorem Sorted.tail {p : Nat × R} {t : Dict R} (h : Sorted (p :: t)) : Sorted t :=
  (sorted_cons.1 h).2

/-- in the shape the two failed tests of a walk leave -/
theorem Sorted.cons_of_not_lt {p : Nat × R} {t : Dict R} (h : Sorted (p :: t)) {k : Nat}
    (h1 : ¬ p.1 < k) (h2 : ¬ p.1 = k) (c : R) : Sorted ((k, c) :: p :: t) :=
  have hk : k < p.1 := by omega
  sorted_cons.2 ⟨List.forall_mem_cons.2 ⟨hk, fun q hq => Nat.lt_trans hk ((sorted_cons.1 h).1 q hq)⟩, h⟩

theorem canon_singleton {k : Nat} {c : R} (hc : c ≠ 0) : Canon [(k, c)] :=
  ⟨List.pairwise_singleton _ _, List.forall_mem_singleton.2 hc⟩

theorem coeff_eq_zero_of_ne {d : Dict R} {k : Nat} (h : ∀ q ∈ d, q.1 ≠ k) :
    (toPoly d).coeff k = 0 := by
  induction d with
  | nil => rw [toPoly_nil, coeff_zero]
  | cons p t ih =>
    obtain ⟨h1, h2⟩ := List.forall_mem_cons.1 h
    rw [toPoly_cons, coeff_add, coeff_monomial, if_neg h1, ih h2, add_zero]

theorem coeff_eq_zero_of_lt {d : Dict R} {k : Nat} (h : ∀ q ∈ d, k < q.1) :
    (toPoly d).coeff k = 0 :=
  coeff_eq_zero_of_ne fun q hq => Nat.ne_of_gt (h q hq)

theorem coeff_head {p : Nat × R} {t : Dict R} (hs : Sorted (p :: t)) :
    (toPoly (p :: t)).coeff p.1 = p.2 := by
  rw [toPoly_cons, coeff_add, coeff_monomial, if_pos rfl, coeff_eq_zero_of_lt (sorted_cons.1 hs).1,
    add_zero]

theorem coeff_lt_head {p : Nat × R} {t : Dict R} (hs : Sorted (p :: t)) {k : Nat} (hk : k < p.1) :
    (toPoly (p :: t)).coeff k = 0 :=
  coeff_eq_zero_of_lt (List.forall_mem_cons.2
    ⟨hk, fun q hq => Nat.lt_trans hk ((sorted_cons.1 hs).1 q hq)⟩)

theorem getCoeff_spec {d : Dict R} (hs : Sorted d) (k : Nat) :
    getCoeff d k = (toPoly d).coeff k := by
  induction d with
  | nil => rfl
  | cons p t ih =>
    obtain ⟨k', c'⟩ := p
    rw [getCoeff]
    split
    · rename_i hk
      rw [← hk, coeff_head hs]
    · rename_i hk
      rw [ih hs.tail, toPoly_cons, coeff_add, coeff_monomial, if_neg hk, zero_add]

theorem getCoeff_eq_coeff {d : Dict R} (hs : Sorted d) : getCoeff d = (toPoly d).coeff := funext (getCoeff_spec hs)

theorem toPoly_ne_zero {d : Dict R} (hd : Canon d) (hne : d ≠ []) : toPoly d ≠ 0 := by
  cases d with
  | nil => exact absurd rfl hne
  | cons p t => exact fun h0 => (noZero_cons.1 hd.2).1 (by rw [← coeff_head hd.1, h0, coeff_zero])

theorem canon_ext {a b : Dict R} (ha : Canon a) (hb : Canon b) (h : toPoly a = toPoly b) : a = b := by
  induction a generalizing b with
  | nil =>
    cases b with
    | nil => rfl
    | cons q u => exact absurd h.symm (toPoly_ne_zero hb (List.cons_ne_nil q u))
  | cons p t ih =>
    cases b with
    | nil => exact absurd h (toPoly_ne_zero ha (List.cons_ne_nil p t))
    | cons q u =>
      -- the lowest terms agree: a smaller first key on one side is a non-zero coefficient
      -- that the other side does not have
      have hkey : p.1 = q.1 := by
        rcases Nat.lt_trichotomy p.1 q.1 with hlt | heq | hgt
        · exact absurd (by rw [← coeff_head ha.1, h, coeff_lt_head hb.1 hlt]) (noZero_cons.1 ha.2).1
        · exact heq
        · exact absurd (by rw [← coeff_head hb.1, ← h, coeff_lt_head ha.1 hgt]) (noZero_cons.1 hb.2).1
      have hpq : p = q := Prod.ext hkey (by rw [← coeff_head ha.1, h, hkey, coeff_head hb.1])
      subst hpq
      rw [toPoly_cons, toPoly_cons, add_right_inj] at h
      rw [ih ⟨ha.1.tail, (noZero_cons.1 ha.2).2⟩ ⟨hb.1.tail, (noZero_cons.1 hb.2).2⟩ h]

theorem toPoly_addTerm (d : Dict R) (k : Nat) (c : R) :
    toPoly (addTerm d k c) = toPoly d + monomial k c := by
  induction d with
  | nil => rw [addTerm, toPoly_cons, toPoly_nil, zero_add, add_zero]
  | cons p t ih =>
    obtain ⟨k', c'⟩ := p
    rw [addTerm]
    split
    · rw [toPoly_cons, ih, toPoly_cons, add_assoc]
    · split
      · rename_i h2
        subst h2
        rw [toPoly_cons, add_right_comm, ← map_add]
        split
        · rename_i h3
          rw [h3, monomial_zero_right, zero_add]
        · rw [toPoly_cons]
      · rw [toPoly_cons, toPoly_cons, add_comm]

theorem addTerm_lb {d : Dict R} {k lb : Nat} (c : R) (hd : ∀ q ∈ d, lb < q.1) (hk : lb < k) :
    ∀ q ∈ addTerm d k c, lb < q.1 := by
  induction d with
  | nil => exact List.forall_mem_singleton.2 hk
  | cons p t ih =>
    obtain ⟨k', c'⟩ := p
    obtain ⟨hp, ht⟩ := List.forall_mem_cons.1 hd
    rw [addTerm]
    split
    · exact List.forall_mem_cons.2 ⟨hp, ih ht⟩
    · split
      · split
        · exact ht
        · exact List.forall_mem_cons.2 ⟨hp, ht⟩
      · exact List.forall_mem_cons.2 ⟨hk, hd⟩

theorem canon_addTerm {d : Dict R} {k : Nat} {c : R} (hd : Canon d) (hc : c ≠ 0) :
    Canon (addTerm d k c) := by
  induction d with
  | nil => exact canon_singleton hc
  | cons p t ih =>
    obtain ⟨k', c'⟩ := p
    have ⟨h1, h2⟩ := sorted_cons.1 hd.1
    have ⟨hp, hpt⟩ := noZero_cons.1 hd.2
    rw [addTerm]
    split
    · rename_i hlt
      have iht := ih ⟨h2, hpt⟩
      exact ⟨sorted_cons.2 ⟨addTerm_lb c h1 hlt, iht.1⟩, noZero_cons.2 ⟨hp, iht.2⟩⟩
    · split
      · split
        · exact ⟨h2, hpt⟩
        · rename_i hne
          exact ⟨sorted_cons.2 ⟨h1, h2⟩, noZero_cons.2 ⟨hne, hpt⟩⟩
      · rename_i hnlt hne
        exact ⟨hd.1.cons_of_not_lt hnlt hne c,
          noZero_cons.2 ⟨hc, hd.2⟩⟩

theorem toPoly_add (a b : Dict R) : toPoly (add a b) = toPoly a + toPoly b := by
  unfold add
  induction b generalizing a with
  | nil => rw [List.foldl_nil, toPoly_nil, add_zero]
  | cons p t ih => rw [List.foldl_cons, ih, toPoly_addTerm, toPoly_cons, add_assoc]

/-- the loop of `+=` and `-=`; `b` is only iterated, so `NoZero b` is all it must satisfy -/
theorem canon_foldl_term (f : Dict R → Nat → R → Dict R)
    (hf : ∀ {d : Dict R} {k : Nat} {c : R}, Canon d → c ≠ 0 → Canon (f d k c))
    {a b : Dict R} (ha : Canon a) (hb : NoZero b) : Canon (b.foldl (fun acc p => f acc p.1 p.2) a) := by
  induction b generalizing a with
  | nil => exact ha
  | cons p t ih => exact ih (hf ha (noZero_cons.1 hb).1) (noZero_cons.1 hb).2

theorem canon_add {a b : Dict R} (ha : Canon a) (hb : NoZero b) : Canon (add a b) :=
  canon_foldl_term addTerm canon_addTerm ha hb

theorem subTerm_eq_addTerm (d : Dict R) (k : Nat) (c : R) : subTerm d k c = addTerm d k (-c) := by
  induction d with
  | nil => rfl
  | cons p t ih =>
    obtain ⟨k', c'⟩ := p
    rw [subTerm, addTerm, ih, sub_eq_add_neg]

theorem toPoly_subTerm (d : Dict R) (k : Nat) (c : R) :
    toPoly (subTerm d k c) = toPoly d - monomial k c := by
  rw [subTerm_eq_addTerm, toPoly_addTerm, monomial_neg, sub_eq_add_neg]

theorem canon_subTerm {d : Dict R} {k : Nat} {c : R} (hd : Canon d) (hc : c ≠ 0) :
    Canon (subTerm d k c) := by
  rw [subTerm_eq_addTerm]
  exact canon_addTerm hd (neg_ne_zero.2 hc)

theorem toPoly_sub (a b : Dict R) : toPoly (sub a b) = toPoly a - toPoly b := by
  unfold sub
  induction b generalizing a with
  | nil => rw [List.foldl_nil, toPoly_nil, sub_zero]
  | cons p t ih => rw [List.foldl_cons, ih, toPoly_subTerm, toPoly_cons, sub_sub]

theorem canon_sub {a b : Dict R} (ha : Canon a) (hb : NoZero b) : Canon (sub a b) :=
  canon_foldl_term subTerm canon_subTerm ha hb

/-- the map of the constant shortcut of `operator*=` (`mulAssign`); `neg` unfolds to it with `c = -1` -/
theorem toPoly_map_mul (a : Dict R) (c : R) :
    toPoly (a.map (fun p => (p.1, p.2 * c))) = toPoly a * C c := by
  induction a with
  | nil => rw [List.map_nil, toPoly_nil, zero_mul]
  | cons p t ih =>
    rw [List.map_cons, toPoly_cons, ih, toPoly_cons, add_mul, ← monomial_zero_left,
      monomial_mul_monomial, add_zero]

theorem canon_map_mul {a : Dict R} (ha : Canon a) {c : R} (hc : ∀ x : R, x ≠ 0 → x * c ≠ 0) :
    Canon (a.map (fun p => (p.1, p.2 * c))) :=
  ⟨List.pairwise_map.2 ha.1, fun p hp => by
    obtain ⟨q, hq, rfl⟩ := List.mem_map.1 hp
    exact hc _ (ha.2 q hq)⟩

theorem toPoly_neg (a : Dict R) : toPoly (neg a) = - toPoly a := by
  rw [neg, toPoly_map_mul, map_neg, map_one, mul_neg, mul_one]

theorem canon_neg {a : Dict R} (ha : Canon a) : Canon (neg a) :=
  canon_map_mul ha (fun x hx => by rwa [mul_neg, mul_one, neg_ne_zero])

theorem toPoly_fromMap (d : Dict R) : toPoly (fromMap d) = toPoly d := by
  unfold fromMap
  induction d with
  | nil => rfl
  | cons p t ih =>
    rw [List.filter_cons]
    by_cases h : p.2 = 0
    · rw [if_neg (by simp [h]), ih, toPoly_cons, h, monomial_zero_right, zero_add]
    · rw [if_pos (by simp [h]), toPoly_cons, ih, toPoly_cons]

theorem canon_fromMap {d : Dict R} (hd : Sorted d) : Canon (fromMap d) :=
  ⟨List.Pairwise.sublist List.filter_sublist hd, fun _ hp => of_decide_eq_true (List.mem_filter.1 hp).2⟩

theorem fromMap_of_noZero {d : Dict R} (h : NoZero d) : fromMap d = d := by
  unfold fromMap
  apply List.filter_eq_self.2
  intro p hp
  simpa using h p hp

theorem setKey_lb {d : Dict R} {k lb : Nat} (c : R) (hd : ∀ q ∈ d, lb < q.1) (hk : lb < k) :
    ∀ q ∈ setKey d k c, lb < q.1 := by
  induction d with
  | nil => exact List.forall_mem_singleton.2 hk
  | cons p t ih =>
    obtain ⟨k', c'⟩ := p
    obtain ⟨hp, ht⟩ := List.forall_mem_cons.1 hd
    rw [setKey]
    split
    · exact List.forall_mem_cons.2 ⟨hp, ih ht⟩
    · split
      · exact List.forall_mem_cons.2 ⟨hk, ht⟩
      · exact List.forall_mem_cons.2 ⟨hk, hd⟩

theorem sorted_setKey {d : Dict R} {k : Nat} {c : R} (hd : Sorted d) : Sorted (setKey d k c) := by
  induction d with
  | nil => exact List.pairwise_singleton _ _
  | cons p t ih =>
    obtain ⟨k', c'⟩ := p
    have ⟨h1, h2⟩ := sorted_cons.1 hd
    rw [setKey]
    split
    · rename_i hlt
      exact sorted_cons.2 ⟨setKey_lb c h1 hlt, ih h2⟩
    · split
      · rename_i heq
        exact sorted_cons.2 ⟨heq ▸ h1, h2⟩
      · rename_i hnlt hne
        exact hd.cons_of_not_lt hnlt hne _

theorem setKey_append {d : Dict R} {k : Nat} {c : R} (h : ∀ q ∈ d, q.1 < k) :
    setKey d k c = d ++ [(k, c)] := by
  induction d with
  | nil => simp [setKey]
  | cons p t ih =>
    obtain ⟨k', c'⟩ := p
    have h1 : k' < k := h (k', c') List.mem_cons_self
    simp [setKey, h1, ih (fun q hq => h q (List.mem_cons_of_mem _ hq))]

theorem sorted_append_single {d : Dict R} {k : Nat} {c : R} (hd : Sorted d) (h : ∀ q ∈ d, q.1 < k) :
    Sorted (d ++ [(k, c)]) := by
  unfold Sorted
  rw [List.pairwise_append]
  refine ⟨hd, by simp, ?_⟩
  intro a ha b hb
  simp at hb
  rw [hb]; exact h a ha

theorem setKey_front {d : Dict R} {k : Nat} {c : R} (h : ∀ q ∈ d, k < q.1) :
    setKey d k c = (k, c) :: d := by
  cases d with
  | nil => simp [setKey]
  | cons p t =>
    obtain ⟨k', c'⟩ := p
    have h1 : k < k' := h (k', c') List.mem_cons_self
    have h2 : ¬ k' < k := by omega
    have h3 : ¬ k' = k := by omega
    simp [setKey, h2, h3]

theorem coeff_toPoly_cases {d : Dict R} (hs : Sorted d) (k : Nat) :
    (toPoly d).coeff k = 0 ∨ (k, (toPoly d).coeff k) ∈ d := by
  rw [← getCoeff_spec hs]
  clear hs  -- after the rewrite the claim is about the `find` walk alone: the induction needs no sortedness
  induction d with
  | nil => left; rfl
  | cons p t ih =>
    obtain ⟨k', c'⟩ := p
    rw [getCoeff]
    by_cases h : k' = k
    · right; rw [if_pos h, h]; exact List.mem_cons_self
    · rw [if_neg h]
      exact ih.imp_right (List.mem_cons_of_mem _)

theorem degree_cons_cons (p q : Nat × R) (t : Dict R) :
    UPoly.degree (p :: q :: t) = UPoly.degree (q :: t) := rfl

theorem getLc_cons_cons (p q : Nat × R) (t : Dict R) : getLc (p :: q :: t) = getLc (q :: t) := rfl

theorem degree_getLc_mem {d : Dict R} (hs : Sorted d) (hne : d ≠ []) :
    (UPoly.degree d, getLc d) ∈ d ∧ ∀ q ∈ d, q.1 ≤ UPoly.degree d := by
  induction d with
  | nil => exact absurd rfl hne
  | cons p t ih =>
    cases t with
    | nil =>
      obtain ⟨k, c⟩ := p
      simp [UPoly.degree, getLc]
    | cons q u =>
      have ⟨h1, h2⟩ := sorted_cons.1 hs
      have ⟨ihm, ihle⟩ := ih h2 (by simp)
      rw [degree_cons_cons, getLc_cons_cons]
      refine ⟨List.mem_cons_of_mem _ ihm, ?_⟩
      intro r hr
      rcases List.mem_cons.1 hr with h | h
      · rw [h]; exact Nat.le_of_lt (Nat.lt_of_lt_of_le (h1 q List.mem_cons_self) (ihle q List.mem_cons_self))
      · exact ihle r h

theorem getCoeff_of_mem {d : Dict R} (hs : Sorted d) {k : Nat} {c : R} (hm : (k, c) ∈ d) :
    getCoeff d k = c := by
  induction d with
  | nil => cases hm
  | cons p t ih =>
    obtain ⟨k', c'⟩ := p
    have ⟨h1, h2⟩ := sorted_cons.1 hs
    simp only [getCoeff]
    rcases List.mem_cons.1 hm with h | h
    · rw [if_pos ((Prod.ext_iff.1 h).1.symm)]; exact ((Prod.ext_iff.1 h).2).symm
    · have hlt := h1 _ h
      simp only at hlt
      rw [if_neg (Nat.ne_of_lt hlt)]
      exact ih h2 h

theorem coeff_degree {d : Dict R} (hs : Sorted d) : (toPoly d).coeff (UPoly.degree d) = getLc d := by
  by_cases hne : d = []
  · subst hne; simp [UPoly.degree, getLc]
  · rw [← getCoeff_spec hs]
    exact getCoeff_of_mem hs (degree_getLc_mem hs hne).1

theorem coeff_gt_degree {d : Dict R} (hs : Sorted d) {k : Nat} (hk : UPoly.degree d < k) :
    (toPoly d).coeff k = 0 := by
  by_cases hne : d = []
  · subst hne; simp
  · have ⟨_, hle⟩ := degree_getLc_mem hs hne
    exact coeff_eq_zero_of_ne (fun q hq => Nat.ne_of_lt (Nat.lt_of_le_of_lt (hle q hq) hk))

theorem getLc_ne_zero {d : Dict R} (hd : Canon d) (hne : d ≠ []) : getLc d ≠ 0 :=
  hd.2 _ (degree_getLc_mem hd.1 hne).1

theorem natDegree_toPoly {d : Dict R} (hd : Canon d) (hne : d ≠ []) :
    (toPoly d).natDegree = UPoly.degree d := by
  apply le_antisymm
  · rw [natDegree_le_iff_coeff_eq_zero]
    intro k hk
    exact coeff_gt_degree hd.1 hk
  · apply le_natDegree_of_ne_zero
    rw [coeff_degree hd.1]
    exact getLc_ne_zero hd hne

theorem leadingCoeff_toPoly {d : Dict R} (hd : Canon d) (hne : d ≠ []) :
    (toPoly d).leadingCoeff = getLc d := by
  rw [leadingCoeff, natDegree_toPoly hd hne, coeff_degree hd.1]

end SymVerif.C21
