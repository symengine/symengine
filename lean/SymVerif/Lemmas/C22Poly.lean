import SymVerif.Lemmas.C22Recon
import Mathlib.Data.List.Perm.Subperm
/-! C22: `sortVars` (what `from_dict` needs); `eval` of a dictionary is evaluation of the `MvPolynomial` it denotes
(`evalDict_spec`) and the coefficients of that polynomial are the stored ones (`coeff_dictMv`); hence over one variable set
`unordered_map::operator==` decides equality of the polynomials (`dictEq_sound`, `dictEq_complete`), and `__eq__` is it
(`polyEq_same_vars`). -/

open SymVerif.MPoly MvPolynomial

namespace SymVerif.C22
-- `rpow_eq`, `valFn_of_lookup`, `polyEq_same_vars` inherit an instance of the section unused
set_option linter.unusedSectionVars false

variable {R : Type} [CommRing R] [DecidableEq R]

theorem sortVars_eq_merge (v : List Var) : sortVars v = merge [] v.reverse :=
  (List.foldl_reverse ..).symm

theorem mem_sortVars (v : List Var) (y : Var) : y ∈ sortVars v ↔ y ∈ v := by
  rw [sortVars_eq_merge, mem_union_vars, List.mem_reverse]
  exact or_iff_right List.not_mem_nil

theorem sorted_sortVars (v : List Var) : (sortVars v).Pairwise (· < ·) :=
  sortVars_eq_merge v ▸ sorted_merge [] _ List.Pairwise.nil

theorem length_sortVars (v : List Var) (h : v.Nodup) : (sortVars v).length = v.length :=
  ((List.perm_ext_iff_of_nodup (sorted_sortVars v).nodup h).mpr (mem_sortVars v)).length_eq

theorem rpow_eq (x : R) (n : Nat) : rpow x n = x ^ n := by
  induction n with
  | zero => simp [rpow]
  | succ n ih => simp [rpow, ih, pow_succ]

/-- the assignment as a total function (missing variables read 0; `eval` never gets there) -/
def valFn (vals : List (Var × R)) (v : Var) : R := (lookupVal vals v).getD 0

theorem valFn_of_lookup {vals : List (Var × R)} {v : Var} {x : R} (h : lookupVal vals v = some x) :
    valFn vals v = x := by
  rw [valFn, h, Option.getD_some]

/-- the right-hand side is in the shape of `eval_monomial` -/
theorem evalTerm_spec (vals : List (Var × R)) (vars : List Var) (k : Mono) (acc : R)
    (hv : ∀ v ∈ vars, (lookupVal vals v).isSome) (hk : k.length = vars.length) :
    evalTerm vals vars k acc = .ok (acc * (monoOf vars k).prod fun v e => valFn vals v ^ e) := by
  induction vars generalizing k acc with
  | nil => rw [evalTerm, monoOf_nil_left, Finsupp.prod_zero_index, mul_one]
  | cons v vs ih =>
    cases k with
    | nil => exact absurd hk.symm (Nat.succ_ne_zero _)
    | cons e es =>
      obtain ⟨hv1, hvs⟩ := List.forall_mem_cons.mp hv
      obtain ⟨x, hx⟩ := Option.isSome_iff_exists.mp hv1
      rw [evalTerm, hx]
      dsimp only
      rw [ih es (acc * rpow x e) hvs (Nat.succ.inj hk), monoOf_cons,
        Finsupp.prod_add_index' (fun _ => pow_zero _) (fun _ _ _ => pow_add _ _ _),
        Finsupp.prod_single_index (h := fun v e => valFn vals v ^ e) (pow_zero _), rpow_eq,
        valFn_of_lookup hx, mul_assoc]

theorem evalDict_spec (vals : List (Var × R)) (vars : List Var) (d : Dict R) (ans : R)
    (hv : ∀ v ∈ vars, (lookupVal vals v).isSome) (hd : LenOk vars.length d) :
    evalDict vals vars d ans = .ok (ans + eval (valFn vals) (dictMv vars d)) := by
  induction d generalizing ans with
  | nil => rw [evalDict, dictMv_nil, RingHom.map_zero, add_zero]
  | cons kc t ih =>
    obtain ⟨k, c⟩ := kc
    obtain ⟨hk, ht⟩ := List.forall_mem_cons.mp hd
    rw [evalDict, evalTerm_spec vals vars k c hv hk]
    dsimp only
    rw [ih _ ht, dictMv_cons, RingHom.map_add, eval_monomial, add_assoc]

theorem dictMv_perm (vars : List Var) {d1 d2 : Dict R} (h : d1.Perm d2) : dictMv vars d1 = dictMv vars d2 := by
  induction h with
  | nil => rfl
  | cons x _ ih => rw [dictMv_cons, dictMv_cons, ih]
  | swap x y l => exact add_left_comm _ _ _
  | trans _ _ ih1 ih2 => exact ih1.trans ih2

theorem coeff_dictMv (vars : List Var) (d : Dict R) (k : Mono) (hv : vars.Nodup)
    (hd : KeysOk vars.length d) (hk : k.length = vars.length) :
    coeff (monoOf vars k) (dictMv vars d) = (find? d k).getD 0 := by
  classical
  induction d with
  | nil => simp [find?]
  | cons kc t ih =>
    obtain ⟨k', c⟩ := kc
    have ht : KeysOk vars.length t := ⟨fun x hx => hd.1 x (List.mem_cons_of_mem _ hx),
      (List.nodup_cons.mp hd.2).2⟩
    have hk' : k'.length = vars.length := hd.1 (k', c) (List.mem_cons_self ..)
    simp only [dictMv_cons, coeff_add, coeff_monomial, find?, ih ht]
    by_cases h : k' = k
    · subst h
      have : find? t k' = none := (find?_eq_none_iff t k').mpr (List.nodup_cons.mp hd.2).1
      simp [this]
    · have hne : monoOf vars k' ≠ monoOf vars k := fun e => h (monoOf_injective vars k' k hv hk' hk e)
      simp [h, hne]

/-- `unordered_map::operator==` decides equality up to the order of the entries -/
theorem dictEq_iff_perm {d1 d2 : Dict R} (h1 : (keys d1).Nodup) (h2 : (keys d2).Nodup) :
    dictEq d1 d2 = true ↔ d1.Perm d2 := by
  simp only [dictEq, Bool.and_eq_true, beq_iff_eq, List.all_eq_true, find?_eq_some_iff h2]
  show (d1.length = d2.length ∧ d1 ⊆ d2) ↔ d1.Perm d2
  exact ⟨fun ⟨hl, hsub⟩ => (List.subperm_of_subset (h1.of_map _) hsub).perm_of_length_le hl.ge,
    fun h => ⟨h.length_eq, fun _ hk => h.subset hk⟩⟩

theorem dictEq_sound (vars : List Var) (d1 d2 : Dict R) (h1 : (keys d1).Nodup) (h2 : (keys d2).Nodup)
    (h : dictEq d1 d2 = true) : dictMv vars d1 = dictMv vars d2 :=
  dictMv_perm vars ((dictEq_iff_perm h1 h2).mp h)

theorem mem_of_dictMv_eq (vars : List Var) (d1 d2 : Dict R) (hv : vars.Nodup)
    (h1 : Canon vars.length d1) (h2 : Canon vars.length d2) (h : dictMv vars d1 = dictMv vars d2) :
    ∀ kc ∈ d1, kc ∈ d2 := by
  intro kc hkc
  have hlen := h1.len kc hkc
  have hc : (find? d2 kc.1).getD 0 = kc.2 := by
    rw [← coeff_dictMv vars d2 kc.1 hv h2.keysOk hlen, ← h,
      coeff_dictMv vars d1 kc.1 hv h1.keysOk hlen, (find?_eq_some_iff h1.nodup).mpr hkc, Option.getD_some]
  exact (find?_eq_some_iff h2.nodup).mp
    ((Option.getD_eq_iff.mp hc).resolve_right fun h => h1.nz kc hkc h.2.symm)

theorem perm_of_dictMv_eq (vars : List Var) {d1 d2 : Dict R} (hv : vars.Nodup)
    (h1 : Canon vars.length d1) (h2 : Canon vars.length d2) (h : dictMv vars d1 = dictMv vars d2) :
    d1.Perm d2 :=
  (List.perm_ext_iff_of_nodup (h1.nodup.of_map _) (h2.nodup.of_map _)).mpr fun kc =>
    ⟨mem_of_dictMv_eq vars d1 d2 hv h1 h2 h kc, mem_of_dictMv_eq vars d2 d1 hv h2 h1 h.symm kc⟩

theorem dictEq_complete (vars : List Var) (d1 d2 : Dict R) (hv : vars.Nodup)
    (h1 : Canon vars.length d1) (h2 : Canon vars.length d2) (h : dictMv vars d1 = dictMv vars d2) :
    dictEq d1 d2 = true :=
  (dictEq_iff_perm h1.nodup h2.nodup).mpr (perm_of_dictMv_eq vars hv h1 h2 h)

/-- over one variable set `__eq__` (as repaired) is `unordered_map::operator==` -/
theorem polyEq_same_vars (v : List Var) (d1 d2 : Dict R) : polyEq ⟨v, d1⟩ ⟨v, d2⟩ = dictEq d1 d2 := by
  simp only [polyEq, polyEqWith]
  split
  · rename_i k1 c1 k2 c2
    by_cases hc : c1 = c2
    · by_cases hk : k1 = k2
      · simp [dictEq, find?, hc, hk]
      · -- the constant shortcut cannot fire: two zero vectors of one length are equal keys
        have : ¬ (isZeroVec k1 v.length && isZeroVec k2 v.length) = true := by
          simp only [isZeroVec, Bool.and_eq_true, beq_iff_eq]
          exact fun h => hk (h.1.trans h.2.symm)
        simp [dictEq, find?, hc, hk, Ne.symm hk, this]
    · simp [dictEq, find?, hc, Ne.symm hc]
  · rfl
  · simp

end SymVerif.C22
