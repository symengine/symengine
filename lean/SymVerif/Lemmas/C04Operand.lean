/-
C04: the decidable operand predicates of Model/AC.lean (`nrB`, `addOperandOK`, `nrSB`, `mulOperandOKS`,
`mulOperandOK`, `mmCanonOperand`), which the claimed theorems are stated on, say what the Prop notions of the lemma
modules say (`NR`, `AOK`, `NRS`, `MOKS`; numeric exponents: `MOKS` with Numbers as exponents).
-/
import SymVerif.Lemmas.C04MulS

namespace SymVerif.AC
open SymVerif SymVerif.Arith

theorem exNum_iff {e : Expr} : exNum e = true ↔ ExOK e := by
  simp [exNum, ExOK]

theorem exOK_nz_iff {e : Expr} : (ExOK e ∧ numIsZero e = false) ↔ ExOK e ∧ gq e ≠ 0 :=
  and_congr_right numIsZero_false_iff

theorem nrB_iff {s : Expr × Dict} : nrB s = true ↔ NR s := by
  unfold nrB NR DOK
  simp only [Bool.and_eq_true, List.all_eq_true, Bool.not_eq_true', exNum_iff, exOK_nz_iff, keysSorted_iff]
  exact ⟨fun ⟨⟨h1, h2⟩, h3⟩ => ⟨h1, ⟨h2, fun p hp => (h3 p hp).1⟩, fun p hp => (h3 p hp).2⟩,
    fun ⟨h1, ⟨h2, h4⟩, h5⟩ => ⟨⟨h1, h2⟩, fun p hp => ⟨h4 p hp, h5 p hp⟩⟩⟩

/-- "the result is `a`", as the Bool operand predicates of Model/AC.lean say it -/
theorem resEq_iff {x : R Expr} {a : Expr} :
    (match x with | .ok r => eqE r a | .error _ => false) = true ↔ x = .ok a := by
  cases x with
  | error e => exact ⟨fun h => (nomatch h), fun h => (nomatch h)⟩
  | ok r => exact key_beq_iff.trans ⟨fun h => h ▸ rfl, fun h => Except.ok.inj h⟩

end SymVerif.AC

namespace SymVerif.C04
open SymVerif SymVerif.Arith SymVerif.AC

theorem addOperandOK_iff {a : Expr} : addOperandOK a = true ↔ AOK a := by
  refine ⟨fun h => ?_, fun h => ?_⟩ <;> unfold addOperandOK at * <;> simp only [Bool.and_eq_true, nrB_iff] at *
  · exact ⟨h.1.2, resEq_iff.mp h.2⟩
  · exact ⟨⟨AOK.exact h, h.1⟩, resEq_iff.mpr h.2⟩

theorem mfacOKS_iff (p : Expr × Expr) :
    mfacOKS p = true ↔ (atomBase p.1 = true ∧ exact p.1 = true) ∧ expOK p.2 ∧ expVal p.2 ≠ 0 := by
  unfold mfacOKS
  simp only [Bool.and_eq_true, Bool.not_eq_true', addOperandOK_iff, ← expOK_iff]
  constructor
  · rintro ⟨⟨h1, h2⟩, h3⟩
    exact ⟨h1, h2, (expIsZ_false_iff h2).mp h3⟩
  · rintro ⟨h1, h2, h3⟩
    exact ⟨⟨h1, h2⟩, (expIsZ_false_iff h2).mpr h3⟩

theorem nrSB_iff {s : Expr × Dict} : nrSB s = true ↔ NRS s := by
  unfold nrSB NRS DOKG
  simp only [Bool.and_eq_true, List.all_eq_true, Bool.not_eq_true', exNum_iff, exOK_nz_iff, keysSorted_iff, mfacOKS_iff]
  exact ⟨fun ⟨⟨⟨h1, h2⟩, h3⟩, h4⟩ => ⟨h1, h2, ⟨h3, fun p hp => (h4 p hp).2⟩, fun p hp => (h4 p hp).1⟩,
    fun ⟨h1, h2, ⟨h3, h4⟩, h5⟩ => ⟨⟨⟨h1, h2⟩, h3⟩, fun p hp => ⟨h5 p hp, h4 p hp⟩⟩⟩

theorem mulOperandOKS_iff {a : Expr} : mulOperandOKS a = true ↔ MOKS a := by
  refine ⟨fun h => ?_, fun h => ?_⟩ <;> unfold mulOperandOKS at * <;>
    simp only [Bool.and_eq_true, nrSB_iff, eqE_iff] at *
  · exact ⟨h.1.2, h.2⟩
  · exact ⟨⟨MOKS.exact h, h.1⟩, h.2⟩

theorem aok_all {l : List Expr} (h : ∀ a ∈ l, addOperandOK a = true) :
    ∀ a ∈ l, AOK a := fun a ha => addOperandOK_iff.mp (h a ha)

theorem moks_all {l : List Expr} (h : ∀ a ∈ l, mulOperandOKS a = true) :
    ∀ a ∈ l, MOKS a := fun a ha => mulOperandOKS_iff.mp (h a ha)

theorem mfacOK_iff_sym (p : Expr × Expr) : mfacOK p = true ↔ mfacOKS p = true ∧ p.2.isNum = true := by
  unfold mfacOK mfacOKS
  simp only [Bool.and_eq_true, Bool.not_eq_true', exNum_iff, addOperandOK_iff, ← expOK_iff]
  constructor
  · rintro ⟨⟨h1, h2⟩, h3⟩
    exact ⟨⟨⟨h1, expOK_num h2⟩, by rw [← expIsZ, expIsZ_num h2, h3]⟩, exOK_isNum h2⟩
  · rintro ⟨⟨⟨h1, h2⟩, h3⟩, h4⟩
    have hx := expOK_isNum h2 h4
    exact ⟨⟨h1, hx⟩, by rw [← expIsZ_num hx]; exact h3⟩

theorem mulOperandOK_iff_sym {a : Expr} :
    mulOperandOK a = true ↔ mulOperandOKS a = true ∧ ∀ p ∈ (reprM a).2, p.2.isNum = true := by
  unfold mulOperandOK mulOperandOKS nrMB nrSB
  simp only [Bool.and_eq_true, List.all_eq_true, mfacOK_iff_sym]
  exact ⟨fun ⟨⟨h1, ⟨h2, h3⟩⟩, h4⟩ => ⟨⟨⟨h1, h2, fun p hp => (h3 p hp).1⟩, h4⟩, fun p hp => (h3 p hp).2⟩,
    fun ⟨⟨⟨h1, h2, h3⟩, h4⟩, h5⟩ => ⟨⟨h1, h2, fun p hp => ⟨h3 p hp, h5 p hp⟩⟩, h4⟩⟩

theorem mulOperandOKS_of_mulOperandOK {a : Expr} (h : mulOperandOK a = true) : mulOperandOKS a = true :=
  (mulOperandOK_iff_sym.mp h).1

theorem moksb_all {l : List Expr} (h : ∀ a ∈ l, mulOperandOK a = true) :
    ∀ a ∈ l, mulOperandOKS a = true := fun a ha => mulOperandOKS_of_mulOperandOK (h a ha)

theorem mmCanonOperand_iff {isMax : Bool} {a : Expr} :
    mmCanonOperand isMax a = true ↔ (mmOperandOK isMax a = true ∧ maxMinE isMax [a] = .ok a) := by
  unfold mmCanonOperand
  simp only [Bool.and_eq_true]
  exact and_congr_right' resEq_iff

end SymVerif.C04
