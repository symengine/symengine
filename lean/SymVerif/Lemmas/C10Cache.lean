/-
C10, cache independence of the model: `Diff.diffCached x e = Diff.diffE x e`.  `memoize_sound` is one memoised step
for any function `f` and any table invariant under which every entry is a pair `(k, f k)`; the substitution model
(`Lemmas/C11Cache.lean`) shares it.
-/
import SymVerif.Model.Diff
import SymVerif.Lemmas.ExprEqb

namespace SymVerif
namespace Diff
open Expr

def MemoOK (x : String) (m : Memo) : Prop := ∀ k v, (k, v) ∈ m → v = diffE x k

theorem memoOK_nil (x : String) : MemoOK x [] := by
  intro k v h; cases h

theorem Memo.find_mem : ∀ {m : Memo} {e d : Expr}, Memo.find m e = some d → (e, d) ∈ m
  | [], e, d, h => by simp [Memo.find] at h
  | (k, v) :: t, e, d, h => by
    simp only [Memo.find] at h
    split at h
    · rename_i hk
      cases h
      cases Expr.eqb_eq k e hk
      exact List.mem_cons_self
    · exact List.mem_cons_of_mem _ (Memo.find_mem h)

/-- `f` is the function the traversal computes, `P` an invariant of the table under which every entry is a
pair `(k, f k)` and which admits one more such pair -/
theorem memoize_sound {f : Expr → Expr} {P : Memo → Prop} {key : Expr} {m : Memo} {k : Memo → Expr × Memo}
    (hP : ∀ m, P m → ∀ k v, (k, v) ∈ m → v = f k) (hcons : ∀ m, P m → P ((key, f key) :: m))
    (hm : P m) (hk : Memo.find m key = none → (k m).1 = f key ∧ P (k m).2) :
    (memoize key m k).1 = f key ∧ P (memoize key m k).2 := by
  unfold memoize
  split
  · rename_i d hd
    exact ⟨hP m hm _ _ (Memo.find_mem hd), hm⟩
  · rename_i hnone
    obtain ⟨h1, h2⟩ := hk hnone
    exact ⟨h1, by show P ((key, (k m).1) :: (k m).2); rw [h1]; exact hcons _ h2⟩

theorem memoOK_cons {x : String} {key : Expr} {m : Memo} (h : MemoOK x m) : MemoOK x ((key, diffE x key) :: m) := by
  intro k v hkv
  rcases List.mem_cons.mp hkv with e | hkv
  · cases e; rfl
  · exact h k v hkv

theorem memoize_spec {x : String} {key : Expr} {m : Memo} {k : Memo → Expr × Memo} (hm : MemoOK x m)
    (hk : (k m).1 = diffE x key ∧ MemoOK x (k m).2) :
    (memoize key m k).1 = diffE x key ∧ MemoOK x (memoize key m k).2 :=
  memoize_sound (fun _ h => h) (fun _ => memoOK_cons) hm (fun _ => hk)

theorem powStep_spec {x : String} {b e : Expr} {m : Memo} (hm : MemoOK x m)
    (hb : ∀ m, MemoOK x m → (diffC x b m).1 = diffE x b ∧ MemoOK x (diffC x b m).2)
    (he : ∀ m, MemoOK x m → (diffC x e m).1 = diffE x e ∧ MemoOK x (diffC x e m).2) :
    powRule b e (diffC x b m).1 (diffC x e (diffC x b m).2).1 = powRule b e (diffE x b) (diffE x e) ∧
      MemoOK x (diffC x e (diffC x b m).2).2 := by
  obtain ⟨h1, h2⟩ := hb m hm
  obtain ⟨h3, h4⟩ := he _ h2
  exact ⟨by rw [h1, h3], h4⟩

mutual
  theorem diffC_spec (x : String) : ∀ (e : Expr) (m : Memo), MemoOK x m →
      (diffC x e m).1 = diffE x e ∧ MemoOK x (diffC x e m).2
    | .sym n, m, hm => by
      unfold diffC
      exact memoize_spec hm ⟨by simp [diffE], hm⟩
    | .add c ts, m, hm => by
      unfold diffC
      refine memoize_spec hm ?_
      obtain ⟨h1, h2⟩ := diffCTerms_spec x ts m hm
      exact ⟨by simp [diffE, h1], h2⟩
    | .mul c fs, m, hm => by
      unfold diffC
      refine memoize_spec hm ?_
      obtain ⟨h1, h2⟩ := diffCFacs_spec x c [] fs m hm
      exact ⟨by simp [diffE, h1], h2⟩
    | .pow b e, m, hm => by
      unfold diffC
      refine memoize_spec hm ?_
      simpa only [diffE] using powStep_spec hm (diffC_spec x b) (diffC_spec x e)
    | .fsym h args, m, hm | .app h args, m, hm => by
      unfold diffC
      refine memoize_spec hm ?_
      obtain ⟨h1, h2⟩ := diffCList_spec x args m hm
      exact ⟨by simp [diffE, h1], h2⟩
    | .int _, m, hm | .rat _ _, m, hm | .cplx _ _, m, hm | .dbl _, m, hm | .cdbl _ _, m, hm | .infty _, m, hm |
      .nan, m, hm | .dummy _ _, m, hm | .const _, m, hm | .bool _, m, hm => by
      unfold diffC
      exact memoize_spec hm ⟨by simp [diffE], hm⟩
  termination_by structural e => e
  theorem diffCList_spec (x : String) : ∀ (l : List Expr) (m : Memo), MemoOK x m →
      (diffCList x l m).1 = diffList x l ∧ MemoOK x (diffCList x l m).2
    | [], m, hm => by simp [diffCList, diffList, hm]
    | a :: t, m, hm => by
      obtain ⟨h1, h2⟩ := diffC_spec x a m hm
      obtain ⟨h3, h4⟩ := diffCList_spec x t _ h2
      simp only [diffCList, diffList]
      exact ⟨by rw [h1, h3], h4⟩
  termination_by structural l => l
  theorem diffCTerms_spec (x : String) : ∀ (l : List (Expr × Expr)) (m : Memo), MemoOK x m →
      (diffCTerms x l m).1 = diffTerms x l ∧ MemoOK x (diffCTerms x l m).2
    | [], m, hm => by simp [diffCTerms, diffTerms, hm]
    | (k, c) :: t, m, hm => by
      obtain ⟨h1, h2⟩ := diffC_spec x k m hm
      obtain ⟨h3, h4⟩ := diffCTerms_spec x t _ h2
      simp only [diffCTerms, diffTerms]
      exact ⟨by rw [h1, h3], h4⟩
  termination_by structural l => l
  theorem diffCFacs_spec (x : String) (c : Expr) : ∀ (pre l : List (Expr × Expr)) (m : Memo), MemoOK x m →
      (diffCFacs x c pre l m).1 = diffFacs x c pre l ∧ MemoOK x (diffCFacs x c pre l m).2
    | pre, [], m, hm => by simp [diffCFacs, diffFacs, hm]
    | pre, (b, e) :: t, m, hm => by
      -- the factor is looked up / recorded under the key `pow(b, e)` (`b` when `e = 1`)
      have hk : diffE x (facKey b e) = powRule b e (diffE x b) (diffE x e) := by
        unfold facKey
        split
        · simp [powRule]
        · simp [diffE]
      have hrule : ∀ m, MemoOK x m →
          (powRule b e (diffC x b m).1 (diffC x e (diffC x b m).2).1 = diffE x (facKey b e)) ∧
            MemoOK x (diffC x e (diffC x b m).2).2 := fun m hm => by
        rw [hk]; exact powStep_spec hm (diffC_spec x b) (diffC_spec x e)
      unfold diffCFacs
      simp only [diffFacs]
      -- naming the memoised result avoids copying the model's continuation
      generalize hrf : memoize (facKey b e) m _ = rf
      obtain ⟨h1, h2⟩ : rf.1 = diffE x (facKey b e) ∧ MemoOK x rf.2 := by
        rw [← hrf]; exact memoize_spec hm (hrule m hm)
      obtain ⟨h3, h4⟩ := diffCFacs_spec x c (pre ++ [(b, e)]) t _ h2
      exact ⟨by rw [h1, hk, h3], h4⟩
  termination_by structural _ l => l
end

/-- **Cache independence (model)**: differentiating with the memo table gives literally the same tree. -/
theorem diff_cache (x : String) (e : Expr) : diffCached x e = diffE x e :=
  (diffC_spec x e [] (memoOK_nil x)).1

end Diff
end SymVerif
