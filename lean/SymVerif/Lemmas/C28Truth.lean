import SymVerif.Lemmas.C28Collect
/-!
Truth-value semantics of the formula model, and the value of what `notB`, `andOr`, `norE`, `xorE`, `xnorE` and
the pruning of `piecewise` return.  The n-ary connectives are read through their absorbing value (`foldOp_eq_iff`),
which is how the set-level description of `and_or` (C28Collect) turns into its value.  `and_or_val`, `nor_val`,
`xor_val`, `xnor_val` give the value through the model-side connectives `foldOp`, `anyT`, `parT`; Props/C28 restates them
over `List.all`, `List.any`, `List.foldl`.
-/
namespace SymVerif.C28
open SymVerif.Logic SymVerif.Logic.B

/-- A valuation of the opaque atoms: `rel i neg` is the value of relational atom `i` in polarity `neg`. -/
structure Val where
  rel : Nat → Bool → Bool
  mem : Nat → Bool
  fs : List Int → Bool

/-- consistency with the code's notion of complementary literal: a relational and its complementary relational
    (`rel i n`, `rel i (!n)`: what `Relational::logical_not` maps onto each other) take opposite values -/
def Val.ok (v : Val) : Prop := ∀ i n, v.rel i (!n) = !(v.rel i n)

mutual
def truth (v : Val) : B → Bool
  | .tt => true
  | .ff => false
  | .rel i n => v.rel i n
  | .mem i => v.mem i
  | .fs l => v.fs l
  | .and l => allT v l
  | .or l => anyT v l
  | .xor l => parT v l
  | .not b => !truth v b
def allT (v : Val) : List B → Bool
  | [] => true
  | a :: l => truth v a && allT v l
def anyT (v : Val) : List B → Bool
  | [] => false
  | a :: l => truth v a || anyT v l
def parT (v : Val) : List B → Bool
  | [] => false
  | a :: l => truth v a ^^ parT v l
end

theorem allT_eq_all (v : Val) : ∀ l, allT v l = l.all (truth v)
  | [] => by simp [allT]
  | a :: l => by simp [allT, allT_eq_all v l]

theorem anyT_eq_any (v : Val) : ∀ l, anyT v l = l.any (truth v)
  | [] => by simp [anyT]
  | a :: l => by simp [anyT, anyT_eq_any v l]

theorem parT_eq_foldr (v : Val) : ∀ l, parT v l = l.foldr (fun b acc => truth v b ^^ acc) false
  | [] => by simp [parT]
  | a :: l => by simp [parT, parT_eq_foldr v l]

theorem foldl_xor_aux (v : Val) : ∀ (l : List B) (acc : Bool),
    l.foldl (fun acc b => acc ^^ truth v b) acc = (acc ^^ parT v l)
  | [], acc => by simp [parT]
  | a :: l, acc => by
    simp only [List.foldl_cons, parT, foldl_xor_aux v l]
    exact Bool.xor_assoc _ _ _

theorem parT_eq_foldl (v : Val) (l : List B) :
    parT v l = l.foldl (fun acc b => acc ^^ truth v b) false := by
  rw [foldl_xor_aux]; simp

theorem parT_perm (v : Val) {l r : List B} (h : l.Perm r) : parT v l = parT v r := by
  rw [parT_eq_foldr, parT_eq_foldr]
  exact h.foldr_eq' (fun a _ b _ c => Bool.xor_left_comm (truth v b) (truth v a) c) false

theorem parT_insSorted (v : Val) (a : B) (l : List B) : parT v (insSorted a l) = (truth v a ^^ parT v l) :=
  (parT_perm v (insSorted_perm a l)).trans (by rw [parT])

theorem parT_erase (v : Val) (a : B) (l : List B) (h : a ∈ l) : parT v (l.erase a) = (parT v l ^^ truth v a) := by
  rw [parT_perm v (List.perm_cons_erase h), parT, Bool.xor_comm (truth v a), Bool.xor_assoc, Bool.xor_self,
    Bool.xor_false]

/-- the n-ary connective `o` (`true`: Or, the model's `isOr`) over a list; `o` is also its absorbing value -/
def foldOp (v : Val) (o : Bool) (l : List B) : Bool := if o then anyT v l else allT v l

theorem truth_const (v : Val) (b : Bool) : truth v (const b) = b := by
  cases b <;> rfl

theorem foldOp_nil (v : Val) (o : Bool) : foldOp v o [] = !o := by
  cases o <;> rfl

theorem foldOp_eq_iff (v : Val) (o : Bool) : ∀ l, foldOp v o l = o ↔ ∃ x ∈ l, truth v x = o
  | [] => by cases o <;> simp [foldOp, allT, anyT]
  | a :: l => by
    have step : foldOp v o (a :: l) = o ↔ truth v a = o ∨ foldOp v o l = o := by
      cases o <;> cases h : truth v a <;> simp [foldOp, allT, anyT, h]
    simp only [step, foldOp_eq_iff v o l, List.mem_cons, or_and_right, exists_or, exists_eq_left]

theorem Bool.eq_of_eq_iff {a b o : Bool} (h : a = o ↔ b = o) : a = b := by
  revert h
  cases a <;> cases b <;> cases o <;> simp

theorem foldOp_congr (v : Val) (o : Bool) {l r : List B} (h : ∀ x, x ∈ l ↔ x ∈ r) : foldOp v o l = foldOp v o r :=
  Bool.eq_of_eq_iff (o := o) (by simp only [foldOp_eq_iff, h])

mutual
theorem not_sound (v : Val) (hv : v.ok) : ∀ b, truth v (notB b) = !truth v b
  | .tt => by simp [notB, truth]
  | .ff => by simp [notB, truth]
  | .rel i n => by simp [notB, truth, hv i n]
  | .mem i => by simp [notB, truth]
  | .fs l => by simp [notB, truth]
  | .and l => by
    simp only [notB, truth]
    -- `foldOp v true` is `anyT v`, `foldOp v false` is `allT v`, by reduction
    exact (foldOp_congr v true fun _ => mem_insAll_nil).trans (notL_any v hv l)
  | .or l => by
    simp only [notB, truth]
    exact (foldOp_congr v false fun _ => mem_insAll_nil).trans (notL_all v hv l)
  | .xor l => by simp [notB, truth]
  | .not b => by simp [notB, truth]
theorem notL_any (v : Val) (hv : v.ok) : ∀ l, anyT v (notL l) = !allT v l
  | [] => by simp [notL, anyT, allT]
  | a :: l => by
    simp only [notL, anyT, allT, not_sound v hv a, notL_any v hv l]
    cases truth v a <;> cases allT v l <;> rfl
theorem notL_all (v : Val) (hv : v.ok) : ∀ l, allT v (notL l) = !anyT v l
  | [] => by simp [notL, anyT, allT]
  | a :: l => by
    simp only [notL, anyT, allT, not_sound v hv a, notL_all v hv l]
    cases truth v a <;> cases anyT v l <;> rfl
end

theorem contrib_truth (v : Val) (o : Bool) {a : B} (ha : a ≠ const o) :
    (∃ x, contrib o a x ∧ truth v x = o) ↔ truth v a = o := by
  have self : (∃ x, x = a ∧ truth v x = o) ↔ truth v a = o := exists_eq_left
  have memb : ∀ l, (∃ x, x ∈ l ∧ truth v x = o) ↔ foldOp v o l = o := fun l => (foldOp_eq_iff v o l).symm
  cases a with
  | tt => cases o; exacts [iff_of_false (fun h => h.elim fun _ h => h.1) Bool.noConfusion, absurd rfl ha]
  | ff => cases o; exacts [absurd rfl ha, iff_of_false (fun h => h.elim fun _ h => h.1) Bool.noConfusion]
  | and l => cases o; exacts [memb l, self]
  | or l => cases o; exacts [self, memb l]
  | _ => exact self

theorem collect_val_none (v : Val) {o : Bool} {s : List B} (h : collect o s [] = none) : foldOp v o s = o :=
  (foldOp_eq_iff v o s).2 ⟨_, (collect_spec o s []).1 h, truth_const v o⟩

theorem collect_val_some (v : Val) {o : Bool} {s r : List B} (h : collect o s [] = some r) :
    foldOp v o r = foldOp v o s := by
  obtain ⟨hnot, -, hmem⟩ := (collect_spec o s []).2 r h
  refine Bool.eq_of_eq_iff (o := o) ?_
  simp only [foldOp_eq_iff, hmem, List.not_mem_nil, false_or]
  constructor
  · rintro ⟨x, ⟨a, ha, hx⟩, hv⟩
    exact ⟨a, ha, (contrib_truth v o fun e => hnot (e ▸ ha)).1 ⟨x, hx, hv⟩⟩
  · rintro ⟨a, ha, hv⟩
    obtain ⟨x, hx, hv⟩ := (contrib_truth v o fun e => hnot (e ▸ ha)).2 hv
    exact ⟨x, ⟨a, ha, hx⟩, hv⟩

theorem hasCompl_fold (v : Val) (hv : v.ok) (o : Bool) (args : List B) (h : hasCompl args = true) :
    foldOp v o args = o := by
  simp only [hasCompl, List.any_eq_true, decide_eq_true_eq] at h
  obtain ⟨a, ha, hna⟩ := h
  rw [foldOp_eq_iff]
  by_cases h1 : truth v a = o
  · exact ⟨a, ha, h1⟩
  · refine ⟨_, hna, ?_⟩
    rw [not_sound v hv]
    revert h1
    cases truth v a <;> cases o <;> simp

theorem finishAO_sound (v : Val) (o : Bool) (args : List B) : truth v (finishAO o args) = foldOp v o args := by
  match args with
  | [] => rw [finishAO, truth_const, foldOp_nil]
  | [a] => cases o <;> simp [finishAO, foldOp, allT, anyT]
  | _ :: _ :: _ => cases o <;> rfl

theorem and_or_val (v : Val) (hv : v.ok) (o : Bool) (s : List B) :
    truth v (andOr o s) = foldOp v o s := by
  rw [andOr_eq]
  split <;> rename_i hcol
  · rw [truth_const, collect_val_none v hcol]
  · rw [← collect_val_some v hcol]
    split
    · rename_i hh
      rw [truth_const, hasCompl_fold v hv o _ hh]
    · exact finishAO_sound v o _

theorem and_val (v : Val) (hv : v.ok) (s : List B) : truth v (andOr false s) = allT v s := and_or_val v hv false s

theorem or_val (v : Val) (hv : v.ok) (s : List B) : truth v (andOr true s) = anyT v s := and_or_val v hv true s

theorem nor_val (v : Val) (hv : v.ok) (s : List B) : truth v (norE s) = !anyT v s := by
  rw [norE, not_sound v hv, orE, or_val v hv]

/-- the value denoted by the loop state `(args, nots % 2)` -/
def stVal (v : Val) (st : List B × Bool) : Bool := parT v st.1 ^^ st.2

theorem xorStep_val (v : Val) (hv : v.ok) (st : List B × Bool) (a : B) :
    stVal v (xorStep st a) = (stVal v st ^^ truth v a) := by
  unfold xorStep stVal
  split
  · rename_i h
    simp only [parT_erase v a _ h]
    exact Bool.xor_right_comm _ _ _
  · split
    · rename_i h
      simp only [parT_erase v _ _ h, not_sound v hv]
      rw [Bool.xor_assoc, Bool.not_xor_not, Bool.xor_comm (truth v a), ← Bool.xor_assoc]
    · simp only [parT_insSorted]
      rw [Bool.xor_comm (truth v a), Bool.xor_right_comm]

theorem xorSteps_val (v : Val) (hv : v.ok) : ∀ (l : List B) (st : List B × Bool),
    stVal v (xorSteps l st) = (stVal v st ^^ parT v l)
  | [], st => by simp [xorSteps, parT]
  | a :: l, st => by
    simp only [xorSteps, xorSteps_val v hv l, xorStep_val v hv, parT]
    exact Bool.xor_assoc _ _ _

theorem xorLoop_val (v : Val) (hv : v.ok) : ∀ (s : List B) (st : List B × Bool),
    stVal v (xorLoop s st) = (stVal v st ^^ parT v s)
  | [], st => (Bool.xor_false _).symm
  | a :: s, st => by
    have ih := xorLoop_val v hv s
    cases a with
    | tt =>
      rw [xorLoop, ih, parT]
      simp only [stVal, truth, Bool.true_xor, Bool.xor_not, Bool.not_xor]
    | ff => simp only [xorLoop, ih, parT, truth, Bool.false_xor]
    | xor l => simp only [xorLoop, ih, parT, truth, xorSteps_val v hv, Bool.xor_assoc]
    -- the catch-all arm of `xorLoop` reduces only on a known constructor
    | rel _ _ | mem _ | fs _ | and _ | or _ | not _ =>
      simp only [xorLoop, ih, parT, xorStep_val v hv, Bool.xor_assoc]

theorem xorFinish_val (v : Val) (hv : v.ok) (st : List B × Bool) :
    truth v (xorFinish st) = stVal v st := by
  obtain ⟨args, nots⟩ := st
  cases nots
  · simp only [xorFinish, stVal, Bool.false_eq_true, if_false, Bool.xor_false]
    split
    · simp [truth, parT]
    · simp [parT]
    · simp [truth]
  · simp only [xorFinish, stVal, if_true, Bool.xor_true]
    split
    · simp [truth, parT]
    · simp [parT, not_sound v hv]
    · simp [truth]

theorem xor_val (v : Val) (hv : v.ok) (s : List B) : truth v (xorE s) = parT v s := by
  rw [xorE, xorFinish_val v hv, xorLoop_val v hv]
  simp [stVal, parT]

theorem xnor_val (v : Val) (hv : v.ok) (s : List B) : truth v (xnorE s) = !parT v s := by
  rw [xnorE, not_sound v hv, xor_val v hv]

/-- the expression selected by a branch list: the first branch whose condition holds -/
def firstTrue (v : Val) : List (Nat × B) → Option Nat
  | [] => none
  | (e, c) :: t => if truth v c then some e else firstTrue v t

theorem pwPrune_sound (v : Val) (vec : List (Nat × B)) (seen : List B)
    (hs : ∀ c ∈ seen, truth v c = false) : firstTrue v (pwPrune vec seen) = firstTrue v vec := by
  fun_induction pwPrune vec seen with
  | case1 => rfl
  | case2 seen e t ih => simpa [firstTrue, truth] using ih hs  -- condition `false`
  | case3 => simp [firstTrue, truth]  -- condition `true`
  | case4 e c t seen _ _ h ih => simpa [firstTrue, hs c h] using ih hs  -- condition seen before, hence false here
  | case5 e c t seen _ _ _ ih =>  -- a new condition
    cases hc : truth v c
    · simpa [firstTrue, hc] using ih (List.forall_mem_cons.2 ⟨hc, hs⟩)
    · simp [firstTrue, hc]

def pwVal (v : Val) : PW → Option Nat
  | .expr e => some e
  | .pw l => firstTrue v l

end SymVerif.C28
