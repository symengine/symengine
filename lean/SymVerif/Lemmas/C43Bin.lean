import Mathlib.Data.Nat.Factorial.BigOperators
import Mathlib.Tactic.Ring
import Mathlib.Tactic.LinearCombination
import SymVerif.Lemmas.C43Seq
/-! C43, `mp_bin_ui` of mp_boost.cpp: the multiply-then-divide loop is exact at every step.
Claimed theorem of the property: `bin`. -/
namespace SymVerif.C43
open SymVerif

/-- `(x+1)(x+2)⋯(x+j)` -/
def prodUp (x : Int) : Nat → Int
  | 0 => 1
  | j + 1 => prodUp x j * (x + ((j + 1 : Nat) : Int))

theorem prodUp_eq_finset (x : Int) (j : Nat) : prodUp x j = ∏ i ∈ Finset.range j, ((x + 1) + (i : Int)) := by
  induction j with
  | zero => simp [prodUp]
  | succ j ih => rw [Finset.prod_range_succ, ← ih, prodUp]; push_cast; ring

theorem fac_eq_factorial (n : Nat) : MpSpec.fac n = n.factorial := by
  induction n with
  | zero => rfl
  | succ n ih => simp [MpSpec.fac, ih, Nat.factorial]

theorem fac_cast_ne_zero (j : Nat) : ((MpSpec.fac j : Nat) : Int) ≠ 0 := by
  rw [fac_eq_factorial]
  exact_mod_cast Nat.factorial_ne_zero j

theorem fac_dvd_prodUp (x : Int) (j : Nat) : ((MpSpec.fac j : Nat) : Int) ∣ prodUp x j := by
  rw [prodUp_eq_finset, fac_eq_factorial]
  exact Nat.factorial_coe_dvd_prod j (x + 1)

theorem prodUp_shift (y : Int) (k : Nat) : prodUp (y - 1) (k + 1) = y * prodUp y k := by
  induction k with
  | zero => simp [prodUp]
  | succ k ih =>
    rw [prodUp, ih, prodUp]
    push_cast; ring

theorem fallingProd_eq (n : Int) (k : Nat) : MpSpec.fallingProd n k = prodUp (n - (k : Int)) k := by
  induction k with
  | zero => simp [MpSpec.fallingProd, prodUp]
  | succ k ih =>
    rw [MpSpec.fallingProd, ih]
    have : n - ((k + 1 : Nat) : Int) = (n - (k : Int)) - 1 := by push_cast; ring
    rw [this, prodUp_shift]
    ring

/-- one round of `mp_bin_ui` keeps `res · (i-1)! = (x+1)⋯(x+i-1)`: the division by `i` is exact -/
theorem bin_step (x res : Int) (j : Nat) (hinv : res * ((MpSpec.fac j : Nat) : Int) = prodUp x j) :
    Int.tdiv (res * (x + ((j + 1 : Nat) : Int))) ((j + 1 : Nat) : Int) * ((MpSpec.fac (j + 1) : Nat) : Int)
      = prodUp x (j + 1) := by
  obtain ⟨c, hc⟩ := fac_dvd_prodUp x (j + 1)
  have h2 : ((MpSpec.fac (j + 1) : Nat) : Int) = ((j + 1 : Nat) : Int) * ((MpSpec.fac j : Nat) : Int) := by
    simp [MpSpec.fac]
  have hstep : res * (x + ((j + 1 : Nat) : Int)) = c * ((j + 1 : Nat) : Int) := by
    rw [prodUp, ← hinv, h2] at hc
    exact mul_left_cancel₀ (fac_cast_ne_zero j) (by linear_combination hc)
  rw [hstep, Int.mul_tdiv_cancel _ (by exact_mod_cast (show (j + 1) ≠ 0 by omega)), hc, h2]
  ring

/-- **`mp_bin_ui` = specification** `n(n-1)⋯(n-k+1)/k!` for every integer `n` (negative too) -/
theorem bin (n : Int) (k : Nat) : MpBoost.bin n k = MpSpec.bin n k := by
  unfold MpBoost.bin MpSpec.bin
  have h := forLoop_inv (loop := MpBoost.binLoop (n - (k : Int)) k) (fun _ _ => rfl) (fun _ _ _ => rfl)
    (fun j res => res * ((MpSpec.fac j : Nat) : Int) = prodUp (n - (k : Int)) j)
    (fun j res _ hinv => bin_step _ res j hinv)
    (fuel := k) (j := 0) (a := 1) (by omega) (by omega) (by simp [MpSpec.fac, prodUp])
  rw [fallingProd_eq, ← h, Int.mul_tdiv_cancel _ (fac_cast_ne_zero k)]

end SymVerif.C43
