import SymVerif.Lemmas.C22Dict
import Mathlib.Data.List.Sort
/-! C22: how two polynomials over different variable sets are brought to one: `merge` is the sorted union,
`reconcile` gives every old variable its position in it (`reconcile_eq`), and `translate` moves the exponent vectors
there without changing the polynomial denoted (`translate_spec`). -/

open SymVerif.MPoly MvPolynomial

namespace SymVerif.C22

variable {R : Type} [CommRing R] [DecidableEq R]

theorem mem_insertSorted (x y : Var) (l : List Var) : y ∈ insertSorted x l ↔ y = x ∨ y ∈ l := by
  induction l with
  | nil => exact List.mem_singleton.trans (or_iff_left List.not_mem_nil).symm
  | cons a t ih =>
    rw [insertSorted]
    by_cases h1 : x < a
    · rw [if_pos h1]
      exact List.mem_cons
    · rw [if_neg h1]
      by_cases h2 : x = a
      · rw [if_pos h2, h2]
        exact ⟨Or.inr, fun h => h.elim (fun e => e ▸ List.mem_cons_self) id⟩
      · rw [if_neg h2, List.mem_cons, ih, List.mem_cons]
        exact or_left_comm

theorem sorted_insertSorted (x : Var) (l : List Var) (h : l.Pairwise (· < ·)) :
    (insertSorted x l).Pairwise (· < ·) := by
  induction l with
  | nil => exact List.pairwise_singleton _ x
  | cons a t ih =>
    rw [insertSorted]
    by_cases h1 : x < a
    · rw [if_pos h1, List.pairwise_cons]
      exact ⟨List.forall_mem_cons.mpr ⟨h1, fun y hy => Nat.lt_trans h1 ((List.pairwise_cons.mp h).1 y hy)⟩, h⟩
    · rw [if_neg h1]
      by_cases h2 : x = a
      · rw [if_pos h2]
        exact h
      · rw [if_neg h2, List.pairwise_cons]
        obtain ⟨ha, ht⟩ := List.pairwise_cons.mp h
        refine ⟨fun y hy => ?_, ih ht⟩
        rcases (mem_insertSorted x y t).mp hy with hy | hy
        · exact hy ▸ Nat.lt_of_le_of_ne (Nat.le_of_not_lt h1) (Ne.symm h2)
        · exact ha y hy

theorem mem_union_vars (s1 s2 : List Var) (x : Var) : x ∈ merge s1 s2 ↔ x ∈ s1 ∨ x ∈ s2 := by
  unfold merge
  induction s2 generalizing s1 with
  | nil => exact (or_iff_left List.not_mem_nil).symm
  | cons b bs ih => rw [List.foldl_cons, ih, mem_insertSorted, List.mem_cons, or_comm (a := x = b), or_assoc]

theorem sorted_merge (s1 s2 : List Var) (h1 : s1.Pairwise (· < ·)) :
    (merge s1 s2).Pairwise (· < ·) := by
  unfold merge
  induction s2 generalizing s1 with
  | nil => exact h1
  | cons b bs ih => exact ih _ (sorted_insertSorted b s1 h1)

theorem sublist_of_sorted_subset {l1 l2 : List Var} (h1 : l1.Pairwise (· < ·)) (h2 : l2.Pairwise (· < ·))
    (hsub : ∀ x ∈ l1, x ∈ l2) : l1.Sublist l2 :=
  List.sublist_of_subperm_of_pairwise (List.subperm_of_subset h1.nodup hsub) h1 h2

theorem subset_merge_left (s1 s2 : List Var) : ∀ x ∈ s1, x ∈ merge s1 s2 :=
  fun x hx => (mem_union_vars s1 s2 x).mpr (Or.inl hx)

theorem subset_merge_right (s1 s2 : List Var) : ∀ x ∈ s2, x ∈ merge s1 s2 :=
  fun x hx => (mem_union_vars s1 s2 x).mpr (Or.inr hx)

/-- `recLoop` computes the two position vectors independently; this is either of them -/
def recLoop1 : List Var → List Var → Nat → List Nat
  | [], _, _ => []
  | it :: s, l, pos =>
    let hit := match l with
      | a :: _ => decide (it = a)
      | [] => false
    let r := recLoop1 s (if hit then l.tail else l) (pos + 1)
    if hit then pos :: r else r

theorem recLoop_eq (s l1 l2 : List Var) (pos : Nat) :
    recLoop s l1 l2 pos = (recLoop1 s l1 pos, recLoop1 s l2 pos) := by
  induction s generalizing l1 l2 pos with
  | nil => rfl
  | cons it s ih =>
    show (_, _) = _
    rw [ih]
    rfl

theorem recLoop1_eq (s l : List Var) (pos : Nat) (hs : s.Nodup) (hl : l.Sublist s) :
    recLoop1 s l pos = l.map (fun x => pos + s.idxOf x) := by
  induction s generalizing l pos with
  | nil =>
    rw [List.sublist_nil.mp hl]
    rfl
  | cons it s ih =>
    obtain ⟨hit_notin, hs'⟩ := List.nodup_cons.mp hs
    have hshift : ∀ l' : List Var, l'.Sublist s →
        l'.map (fun x => pos + 1 + s.idxOf x) = l'.map (fun x => pos + (it :: s).idxOf x) := by
      intro l' hl'
      apply List.map_congr_left
      intro x hx
      rw [List.idxOf_cons_ne _ (fun e : it = x => hit_notin (e ▸ hl'.subset hx)), Nat.add_assoc, Nat.add_comm 1]
    cases l with
    | nil => exact ih [] (pos + 1) hs' (List.nil_sublist _)
    | cons a t =>
      by_cases ha : it = a
      · subst ha
        have ht : t.Sublist s := List.cons_sublist_cons.mp hl
        simp only [recLoop1, decide_true, if_true, List.tail_cons, List.map_cons, List.idxOf_cons_self,
          Nat.add_zero, ih t (pos + 1) hs' ht, hshift t ht]
      · have hl' : (a :: t).Sublist s := hl.of_cons_of_ne (Ne.symm ha)
        simp only [recLoop1, ha, decide_false, Bool.false_eq_true, if_false, ih (a :: t) (pos + 1) hs' hl',
          hshift _ hl']

theorem reconcile_eq (s1 s2 : List Var) (h1 : s1.Pairwise (· < ·)) (h2 : s2.Pairwise (· < ·)) :
    reconcile s1 s2 =
      (s1.map (fun x => (merge s1 s2).idxOf x), s2.map (fun x => (merge s1 s2).idxOf x), merge s1 s2) := by
  have hm := sorted_merge s1 s2 h1
  simp only [reconcile, recLoop_eq, Nat.zero_add,
    recLoop1_eq _ _ 0 hm.nodup (sublist_of_sorted_subset h1 hm (subset_merge_left s1 s2)),
    recLoop1_eq _ _ 0 hm.nodup (sublist_of_sorted_subset h2 hm (subset_merge_right s1 s2))]

/-- in the shape of `reconcile_spec` (Props), which speaks of `v1[k]` without knowing `k < v1.length` -/
theorem getD_map_idxOf {s l : List Var} (hsub : ∀ x ∈ l, x ∈ s) (k : Nat) (hk : k < l.length) :
    ∃ h : (l.map (fun x => s.idxOf x)).getD k 0 < s.length, s[(l.map (fun x => s.idxOf x)).getD k 0] = l[k] := by
  have hget : (l.map (fun x => s.idxOf x)).getD k 0 = s.idxOf l[k] := by
    rw [List.getD_eq_getElem?_getD, List.getElem?_map, List.getElem?_eq_getElem hk, Option.map_some,
      Option.getD_some]
  rw [hget]
  have hlt : s.idxOf l[k] < s.length := List.idxOf_lt_length_iff.mpr (hsub _ (List.getElem_mem hk))
  exact ⟨hlt, List.getElem_idxOf hlt⟩

theorem pairwise_map_idxOf {s l : List Var} (hs : s.Pairwise (· < ·)) (hl : l.Pairwise (· < ·))
    (hsub : ∀ x ∈ l, x ∈ s) : (l.map (fun x => s.idxOf x)).Pairwise (· < ·) := by
  rw [List.pairwise_map]
  refine hl.imp_of_mem fun {a b} ha hb hab => ?_
  have ha' := List.idxOf_lt_length_iff.mpr (hsub a ha)
  have hb' := List.idxOf_lt_length_iff.mpr (hsub b hb)
  rwa [← hs.sortedLT.getElem_lt_getElem_iff (hi := ha') (hj := hb'), List.getElem_idxOf, List.getElem_idxOf]

/-- `h0`: the slots the translator writes to still hold 0, so `set` ADDS the exponent to the monomial (`monoOf_set`) -/
theorem setAll_spec (s l : List Var) (e acc : Mono) (hl : l.Nodup) (hsub : ∀ x ∈ l, x ∈ s)
    (he : e.length = l.length) (hacc : acc.length = s.length)
    (h0 : ∀ x ∈ l, acc[s.idxOf x]? = some 0) :
    ∃ r, setAll (l.map (fun x => s.idxOf x)) e acc = .ok r ∧ r.length = s.length ∧
      monoOf s r = monoOf s acc + monoOf l e := by
  induction l generalizing e acc with
  | nil => exact ⟨acc, rfl, hacc, (add_zero _).symm⟩
  | cons a l' ih =>
    cases e with
    | nil => simp at he
    | cons x xs =>
      obtain ⟨hnot, hl'⟩ := List.nodup_cons.mp hl
      obtain ⟨ha, hsub'⟩ := List.forall_mem_cons.mp hsub
      obtain ⟨h0a, h0'⟩ := List.forall_mem_cons.mp h0
      have hlt : s.idxOf a < s.length := List.idxOf_lt_length_iff.mpr ha
      -- a later variable has another slot, so the write for `a` leaves it at 0
      have h0set : ∀ y ∈ l', (acc.set (s.idxOf a) x)[s.idxOf y]? = some 0 := fun y hy => by
        have hslot : s.idxOf a ≠ s.idxOf y := fun e => hnot ((List.idxOf_inj ha).mp e ▸ hy)
        rw [List.getElem?_set_ne hslot]
        exact h0' y hy
      obtain ⟨r, hr, hrl, hm⟩ := ih xs (acc.set (s.idxOf a) x) hl' hsub' (Nat.succ.inj he)
        ((List.length_set ..).trans hacc) h0set
      refine ⟨r, ?_, hrl, ?_⟩
      · rw [List.map_cons, setAll, if_pos (hacc ▸ hlt)]
        exact hr
      · rw [hm, monoOf_set s acc _ x hlt h0a, List.getElem_idxOf hlt, monoOf_cons, add_assoc]

theorem translateVec_spec (s l : List Var) (e : Mono) (hl : l.Nodup)
    (hsub : ∀ x ∈ l, x ∈ s) (he : e.length = l.length) :
    ∃ r, translateVec (l.map (fun x => s.idxOf x)) s.length e = .ok r ∧ r.length = s.length ∧
      monoOf s r = monoOf l e := by
  obtain ⟨r, hr, hrl, hm⟩ := setAll_spec s l e (List.replicate s.length 0) hl hsub he List.length_replicate
    (fun x hx => by rw [List.getElem?_replicate, if_pos (List.idxOf_lt_length_iff.mpr (hsub x hx))])
  exact ⟨r, hr, hrl, by rw [hm, monoOf_replicate_zero, zero_add]⟩

theorem insertNew_of_not_mem (d : Dict R) (k : Mono) (c : R) (h : k ∉ keys d) : insertNew d k c = (k, c) :: d := by
  unfold insertNew
  rw [(find?_eq_none_iff d k).mpr h]

/-- fourth part: every key of the result comes from a key of `d` with the same monomial; it is what keeps a new key fresh -/
theorem translateRaw_spec (s l : List Var) (d : Dict R) (hl : l.Nodup)
    (hsub : ∀ x ∈ l, x ∈ s) (hd : KeysOk l.length d) :
    ∃ d', translateRaw (l.map (fun x => s.idxOf x)) s.length d = .ok d' ∧ KeysOk s.length d' ∧
      dictMv s d' = dictMv l d ∧ ∀ k' ∈ keys d', ∃ k ∈ keys d, monoOf s k' = monoOf l k := by
  induction d with
  | nil => exact ⟨[], rfl, keysOk_nil _, rfl, List.forall_mem_nil _⟩
  | cons kc t ih =>
    obtain ⟨e, c⟩ := kc
    obtain ⟨he, hlt⟩ := List.forall_mem_cons.mp hd.1
    obtain ⟨hnot, hnt⟩ := List.nodup_cons.mp hd.2
    obtain ⟨t', ht', hk', hs', hsrc⟩ := ih ⟨hlt, hnt⟩
    obtain ⟨e', he', hel', hm'⟩ := translateVec_spec s l e hl hsub he
    -- a key of `t'` equal to `e'` would come from a key of `t` with the monomial of `e`
    have hfresh : e' ∉ keys t' := by
      intro hmem
      obtain ⟨k, hk, hmk⟩ := hsrc e' hmem
      exact hnot (monoOf_injective l e k hl he (lenOk_iff_keys.mp hlt k hk) (hm'.symm.trans hmk) ▸ hk)
    refine ⟨(e', c) :: t', ?_, ⟨List.forall_mem_cons.mpr ⟨hel', hk'.1⟩, List.nodup_cons.mpr ⟨hfresh, hk'.2⟩⟩, ?_,
      List.forall_mem_cons.mpr ⟨⟨e, List.mem_cons_self, hm'⟩, fun k' h => ?_⟩⟩
    · simp only [translateRaw, he', ht', insertNew_of_not_mem t' e' c hfresh]
    · rw [dictMv_cons, dictMv_cons, hm', hs']
    · obtain ⟨k, hk, h1⟩ := hsrc k' h
      exact ⟨k, List.mem_cons_of_mem _ hk, h1⟩

theorem translate_spec (s l : List Var) (d : Dict R) (hl : l.Nodup)
    (hsub : ∀ x ∈ l, x ∈ s) (hd : KeysOk l.length d) :
    ∃ d', translate (l.map (fun x => s.idxOf x)) s.length d = .ok d' ∧ Canon s.length d' ∧
      dictMv s d' = dictMv l d := by
  obtain ⟨d', h, hk, hsem, _⟩ := translateRaw_spec s l d hl hsub hd
  refine ⟨stripZeros d', ?_, canon_stripZeros hk, ?_⟩
  · simp only [translate, h]
  · rw [dictMv_stripZeros, hsem]

end SymVerif.C22
