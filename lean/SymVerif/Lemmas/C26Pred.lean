import SymVerif.Lemmas.C26Sem
/-!
Soundness of the predicate visitors (`evalPred`) with respect to the value of the expression:
leaf classes (IdentityMatrix, ZeroMatrix, DiagonalMatrix, ImmutableDenseMatrix).
-/
namespace SymVerif.MatExpr
open MExpr

theorem Tri.ofBool_t (b : Bool) : Tri.ofBool b = .t ↔ b = true := by cases b <;> simp [Tri.ofBool]
theorem Tri.ofBool_f (b : Bool) : Tri.ofBool b = .f ↔ b = false := by cases b <;> simp [Tri.ofBool]
theorem Tri.ofBool_ne_u (b : Bool) : Tri.ofBool b ≠ .u := by cases b <;> simp [Tri.ofBool]

def Sound (env : Env) (p : Pred) (e : MExpr) : Prop :=
  (evalPred p e = .t → (valOf env e).Holds p) ∧ (evalPred p e = .f → ¬ (valOf env e).Holds p)

theorem Sound.of_iff {env : Env} {p : Pred} {e : MExpr} {b : Bool} (he : evalPred p e = Tri.ofBool b)
    (h : b = true ↔ (valOf env e).Holds p) : Sound env p e := by
  rw [Sound, he, Tri.ofBool_t, Tri.ofBool_f, ← h]
  exact ⟨id, fun hf ht => Bool.false_ne_true (hf ▸ ht)⟩

theorem evalPredList_eq_map (p : Pred) (l : List MExpr) :
    evalPredList p l = l.map (evalPred p) := by
  induction l with
  | nil => simp [evalPredList]
  | cons e t ih => simp [evalPredList, ih]

theorem GQ.one_ne_zero' : (1 : GQ) ≠ 0 := fun h => absurd (congrArg GQ.re h) (by simp)

theorem all_isZero_iff (l : List GQ) : l.all GQ.isZero = true ↔ ∀ x ∈ l, x = 0 := by
  simp only [List.all_eq_true, GQ.isZero_iff]

theorem all_isReal_iff (l : List GQ) : l.all GQ.isReal = true ↔ ∀ x ∈ l, x.im = 0 := by
  simp only [List.all_eq_true, GQ.isReal, beq_iff_eq]

theorem holds_diagShape (n : Nat) (g : Nat → GQ) :
    ∀ p, p ≠ .zero → p ≠ .real → p ≠ .toeplitz → (Val.mk n n fun i j => if i = j then g i else 0).Holds p
  | .diagonal, _, _, _ => And.intro rfl fun _ _ _ _ hij => if_neg hij
  | .symmetric, _, _, _ => And.intro rfl fun i j _ _ => by
    by_cases hij : i = j
    · rw [hij]
    · exact (if_neg hij).trans (if_neg (Ne.symm hij)).symm
  | .lower, _, _, _ => And.intro rfl fun _ _ _ _ hij => if_neg (Nat.ne_of_lt hij)
  | .upper, _, _, _ => And.intro rfl fun _ _ _ _ hij => if_neg (Nat.ne_of_gt hij)
  | .square, _, _, _ => rfl
  | .zero, h, _, _ | .real, _, h, _ | .toeplitz, _, _, h => absurd rfl h

/-- `hpos` serves the case `zero` only: the code answers `is_zero(I_n) = false` for `n = 0` too; the source of `IdentPos` -/
theorem sound_ident (env : Env) (p : Pred) (n : Dim) (hpos : 0 < n.eval env) :
    Sound env p (ident n) := by
  cases p
  case zero => exact ⟨nofun, fun _ hz => GQ.one_ne_zero' (hz 0 0 hpos hpos)⟩
  case real =>
    refine ⟨fun _ i j _ _ => ?_, nofun⟩
    show (if i = j then (1 : GQ) else 0).im = 0
    split <;> rfl
  case toeplitz => exact ⟨fun _ i j _ _ => if_congr (by omega) rfl rfl, nofun⟩
  case diagonal | symmetric | lower | upper | square => exact ⟨fun _ => holds_diagShape _ _ _ nofun nofun nofun, nofun⟩

theorem sound_zero (env : Env) (p : Pred) (r c : Dim) : Sound env p (zero r c) := by
  cases p
  case zero | real | toeplitz => exact ⟨fun _ _ _ _ _ => rfl, nofun⟩
  case diagonal | lower | upper =>
    exact ⟨fun h => And.intro (dimMatch_t h) fun _ _ _ _ _ => rfl, fun h hh => dimMatch_f h hh.1⟩
  case symmetric => exact ⟨fun h => And.intro (dimMatch_t h) fun _ _ _ _ => rfl, fun h hh => dimMatch_f h hh.1⟩
  case square => exact ⟨dimMatch_t, dimMatch_f⟩

theorem getD_of_lt {l : List GQ} {i : Nat} (h : i < l.length) : l.getD i 0 = l[i] := by
  rw [List.getD_eq_getElem?_getD, List.getElem?_eq_getElem h]; rfl

theorem getD_mem {l : List GQ} {i : Nat} (h : i < l.length) : l.getD i 0 ∈ l :=
  getD_of_lt h ▸ List.getElem_mem h

theorem getD_mem_or_default (l : List GQ) (i : Nat) : l.getD i 0 ∈ l ∨ l.getD i 0 = 0 := by
  by_cases h : i < l.length
  · exact .inl (getD_mem h)
  · right; rw [List.getD_eq_getElem?_getD, List.getElem?_eq_none (by omega)]; rfl

theorem exists_idx_of_mem {l : List GQ} {x : GQ} (h : x ∈ l) : ∃ k, k < l.length ∧ l.getD k 0 = x := by
  obtain ⟨k, hk, rfl⟩ := List.getElem_of_mem h
  exact ⟨k, hk, getD_of_lt hk⟩

theorem toeplitz_diag {v : Val} (h : v.IsToeplitz) (i j k : Nat) (hi : i + k < v.r) (hj : j + k < v.c) :
    v.f i j = v.f (i + k) (j + k) := by
  induction k with
  | zero => rfl
  | succ n ih =>
    rw [ih (by omega) (by omega)]
    have := h (i + n) (j + n) (by omega) (by omega)
    rw [this]; rfl

theorem diag_entries_iff (d : List GQ) {P : GQ → Prop} (h0 : P 0) :
    (∀ x ∈ d, P x) ↔ ∀ i j, i < d.length → j < d.length → P (if i = j then d.getD i 0 else 0) := by
  constructor
  · intro h i j _ _
    split
    · exact (getD_mem_or_default d i).elim (h _) fun hm => by rw [hm]; exact h0
    · exact h0
  · intro h x hx
    obtain ⟨k, hk, rfl⟩ := exists_idx_of_mem hx
    have := h k k hk hk
    rwa [if_pos rfl] at this

theorem sound_diag (env : Env) (p : Pred) (d : List GQ) : Sound env p (diag d) := by
  cases p
  case zero => exact Sound.of_iff rfl ((all_isZero_iff d).trans (diag_entries_iff d rfl))
  case real => exact Sound.of_iff rfl ((all_isReal_iff d).trans (diag_entries_iff d rfl))
  case toeplitz =>
    cases d with
    | nil => exact ⟨nofun, nofun⟩
    | cons a rest =>
      refine Sound.of_iff rfl ?_
      rw [List.all_eq_true]
      simp only [GQ.isZero_iff, sub_eq_zero]
      constructor
      · intro h i j hi hj
        have hall : ∀ k, k < (a :: rest).length → (a :: rest).getD k 0 = a
          | 0, _ => rfl
          | m + 1, hk => by
            have hk : m < rest.length := Nat.lt_of_succ_lt_succ hk
            rw [List.getD_cons_succ, getD_of_lt hk]
            exact (h _ (List.getElem_mem hk)).symm
        have hi : i + 1 < (a :: rest).length := hi
        show (if i = j then _ else 0) = if i + 1 = j + 1 then _ else 0
        by_cases hij : i = j
        · subst hij
          rw [if_pos rfl, if_pos rfl, hall i (by omega), hall (i + 1) (by omega)]
        · rw [if_neg hij, if_neg (by omega)]
      · intro ht x hx
        obtain ⟨k, hk, hkx⟩ := List.getElem_of_mem hx
        -- down the main diagonal from (0, 0) to (k + 1, k + 1)
        have : a = rest[k] := by
          simpa [valOf, List.getD_eq_getElem?_getD, hk] using toeplitz_diag (v := valOf env (diag (a :: rest))) ht 0 0 (k + 1)
            (by show 0 + (k + 1) < rest.length + 1; omega) (by show 0 + (k + 1) < rest.length + 1; omega)
        exact this.trans hkx
  case diagonal | symmetric | lower | upper | square => exact ⟨fun _ => holds_diagShape _ _ _ nofun nofun nofun, nofun⟩

theorem exists_ij_of_mem {r c : Nat} {v : List GQ} (hlen : v.length = r * c) {x : GQ} (hx : x ∈ v) :
    ∃ i j, i < r ∧ j < c ∧ ent v c i j = x := by
  obtain ⟨k, hk, hkx⟩ := exists_idx_of_mem hx
  have hc : 0 < c := by
    rcases Nat.eq_zero_or_pos c with h | h
    · subst h; rw [Nat.mul_zero] at hlen; omega
    · exact h
  refine ⟨k / c, k % c, ?_, Nat.mod_lt _ hc, ?_⟩
  · rw [hlen] at hk
    exact Nat.div_lt_of_lt_mul (by rw [Nat.mul_comm]; exact hk)
  · unfold ent
    rw [Nat.div_add_mod' k c]; exact hkx

theorem dense_entries_iff {r c : Nat} {v : List GQ} (hlen : v.length = r * c) {P : GQ → Prop} (h0 : P 0) :
    (∀ x ∈ v, P x) ↔ ∀ i j, i < r → j < c → P (ent v c i j) := by
  constructor
  · intro h i j _ _
    exact (getD_mem_or_default v (i * c + j)).elim (h _) fun hm => by rw [ent, hm]; exact h0
  · intro h x hx
    obtain ⟨i, j, hi, hj, rfl⟩ := exists_ij_of_mem hlen hx
    exact h i j hi hj

theorem diagOk_true {r c : Nat} {v : List GQ} {i0 j0 : Nat} (h : toeplitzDiagOk r c v i0 j0 = true) :
    ∀ a, i0 + a < r → j0 + a < c → ent v c (i0 + a) (j0 + a) = ent v c i0 j0
  | 0, _, _ => rfl
  | k + 1, hi, hj => by
    simp only [toeplitzDiagOk, List.all_eq_true, List.mem_range, GQ.isZero_iff, sub_eq_zero] at h
    rw [h k (by omega), Nat.add_right_comm i0, Nat.add_right_comm j0]
    rfl

theorem diagOk_of_toeplitz {r c : Nat} {v : List GQ} (ht : (Val.mk r c (fun i j => ent v c i j)).IsToeplitz)
    (i0 j0 : Nat) : toeplitzDiagOk r c v i0 j0 = true := by
  simp only [toeplitzDiagOk, List.all_eq_true, List.mem_range, GQ.isZero_iff, sub_eq_zero]
  intro k hk
  rw [Nat.add_right_comm i0, Nat.add_right_comm j0]
  exact toeplitz_diag ht i0 j0 (k + 1) (by show _ < r; omega) (by show _ < c; omega)

theorem diagOk_step {r c : Nat} {v : List GQ} {i0 j0 : Nat} (h : toeplitzDiagOk r c v i0 j0 = true) (a : Nat)
    (hi : i0 + a + 1 < r) (hj : j0 + a + 1 < c) :
    ent v c (i0 + a) (j0 + a) = ent v c (i0 + a + 1) (j0 + a + 1) :=
  (diagOk_true h a (by omega) (by omega)).trans (diagOk_true h (a + 1) hi hj).symm

theorem toeplitzDense_iff {r c : Nat} {v : List GQ} :
    toeplitzDense r c v = true ↔ (Val.mk r c (fun i j => ent v c i j)).IsToeplitz := by
  simp only [toeplitzDense, List.all_eq_true, List.mem_range, Bool.and_eq_true]
  constructor
  · intro h i j hi hj
    have hi : i + 1 < r := hi
    have hj : j + 1 < c := hj
    show ent v c i j = ent v c (i + 1) (j + 1)
    rcases Nat.lt_or_ge j i with hij | hij
    · -- the diagonal that starts in the first column, at row i - j
      obtain ⟨k, rfl⟩ := Nat.exists_eq_add_of_lt hij
      have hk : k + 1 < max r c - 1 := by omega  -- the loop bound of `toeplitzDense`
      have hw := (h (k + 1) hk).2
      rw [if_pos ⟨by omega, Nat.succ_ne_zero k⟩] at hw
      have := diagOk_step hw j (by omega) (by omega)
      rwa [Nat.zero_add, show k + 1 + j = j + k + 1 by omega] at this
    · -- the diagonal that starts in the first row, at column j - i
      obtain ⟨w, rfl⟩ := Nat.exists_eq_add_of_le' hij
      have hk : w < max r c - 1 := by omega
      have hw := (h w hk).1
      rw [if_pos (by omega)] at hw
      have := diagOk_step hw i (by omega) (by omega)
      rwa [Nat.zero_add] at this
  · intro ht w _
    constructor <;> split <;> first | exact diagOk_of_toeplitz ht _ _ | rfl

theorem sound_dense (env : Env) (p : Pred) (r c : Nat) (v : List GQ) (hlen : v.length = r * c) :
    Sound env p (dense r c v) := by
  cases p <;> refine Sound.of_iff rfl ?_
  case zero => exact (all_isZero_iff v).trans (dense_entries_iff hlen rfl)
  case real => exact (all_isReal_iff v).trans (dense_entries_iff hlen rfl)
  case square => exact beq_iff_eq
  case toeplitz => exact toeplitzDense_iff
  case diagonal =>
    simp only [Bool.and_eq_true, beq_iff_eq, List.all_eq_true, List.mem_range]
    refine and_congr_right fun hrc => ⟨fun h i j hi hj hij => ?_, fun h i hi j hj => ?_⟩
    · have hi : i < r := hi
      simpa [valOf, if_neg (Ne.symm hij)] using h i (by omega) j hj
    · split
      · rfl
      · exact (GQ.isZero_iff _).2 (h i j (by show i < r; omega) hj (by omega))
  case symmetric =>
    simp only [Bool.and_eq_true, beq_iff_eq, List.all_eq_true, List.mem_range, GQ.isZero_iff, sub_eq_zero]
    refine and_congr_right fun hrc => ⟨fun h i j hi hj => ?_, fun h i hi j hj => ?_⟩
    · have hi : i < r := hi
      have hj : j < c := hj
      rcases Nat.lt_trichotomy i j with hij | rfl | hij
      · exact (h j hj i hij).symm
      · rfl
      · exact h i (by omega) j hij
    · exact h i j (by show i < r; omega) (by show j < c; omega)
  case lower =>
    simp only [Bool.and_eq_true, beq_iff_eq, List.all_eq_true, List.mem_range]
    refine and_congr_right fun hrc => ⟨fun h i j hi hj hij => ?_, fun h i hi j hj => ?_⟩
    · have hj : j < c := hj
      simpa [valOf, if_pos hij] using h i hi j (by omega)
    · split
      · exact (GQ.isZero_iff _).2 (h i j hi (by show j < c; omega) (by assumption))
      · rfl
  case upper =>
    simp only [Bool.and_eq_true, beq_iff_eq, List.all_eq_true, List.mem_range, GQ.isZero_iff]
    exact and_congr_right fun hrc =>
      ⟨fun h i j hi _ hij => h i hi j hij, fun h i hi j hij => h i j hi (by show j < c; omega) hij⟩

end SymVerif.MatExpr
