import SymVerif.Model.FiniteDiff
import SymVerif.Lemmas.Basic
import SymVerif.Lemmas.C38Math
import Mathlib.Tactic.Ring
import Mathlib.Tactic.Linarith
/-!
Loop invariants for the model of `generate_fdiff_weights_vector` (C38).

One pass over the nest gives bounds and values together, for every grid: a column update needs its own divisor to be non-zero, and
that is what a successful `qdiv` says (the new column also needs the `c2` of the stage before, which the
loops hand on).  So the invariant holds up to the first division by zero, where the run stops; no index
leaves the vectors on the way.
-/
namespace SymVerif.C38
open SymVerif.FiniteDiff

/-- read with default `0`; `hx : ∀ m, x m = rd grid m` below makes the grid a function on all of `ℕ`
through it -/
def rd (w : Array ℚ) (p : ℕ) : ℚ := w.getD p 0

theorem cellIdx_lt {len M j k : ℕ} (hj : j < len) (hk : k ≤ M) : j + k * len < len * (M + 1) := by
  rw [Nat.add_comm, Nat.mul_comm len]
  exact SymVerif.idx_lt (Nat.lt_succ_of_le hk) hj

theorem getW_ok {w : Array ℚ} {p : ℕ} (h : p < w.size) : getW w p = .ok (rd w p) := by
  simp [getW, rd, h]

theorem getG_ok {g : Array ℚ} {p : ℕ} (h : p < g.size) : getG g p = .ok (rd g p) := by
  simp [getG, rd, h]

theorem getG_x {grid : Array ℚ} {x : ℕ → ℚ} {len m : ℕ} (hlen : grid.size = len)
    (hx : ∀ m, x m = rd grid m) (h : m < len) : getG grid m = .ok (x m) := by
  rw [getG_ok (hlen ▸ h), hx]

theorem setW_ok {w : Array ℚ} {p : ℕ} (v : ℚ) (h : p < w.size) : setW w p v = .ok (w.set p v h) := by
  simp [setW, h]

theorem rd_set {w : Array ℚ} {p : ℕ} (v : ℚ) (h : p < w.size) (p' : ℕ) :
    rd (w.set p v h) p' = if p = p' then v else rd w p' := by
  simp only [rd, Array.getD_eq_getD_getElem?, Array.getElem?_set]
  split <;> simp [*]

/-- the flat vector `w` has `len*(M+1)` entries and entry `j + k*len` is `f j k` -/
def Mat (w : Array ℚ) (len M : ℕ) (f : ℕ → ℕ → ℚ) : Prop :=
  w.size = len * (M + 1) ∧ ∀ j < len, ∀ k ≤ M, rd w (j + k * len) = f j k

theorem Mat.congr {w : Array ℚ} {len M : ℕ} {f g : ℕ → ℕ → ℚ} (h : Mat w len M f)
    (hfg : ∀ j < len, ∀ k ≤ M, f j k = g j k) : Mat w len M g :=
  ⟨h.1, fun j hj k hk => (h.2 j hj k hk).trans (hfg j hj k hk)⟩

theorem Mat.get {w : Array ℚ} {len M : ℕ} {f : ℕ → ℕ → ℚ} (h : Mat w len M f) {j k : ℕ}
    (hj : j < len) (hk : k ≤ M) : getW w (j + k * len) = .ok (f j k) := by
  rw [getW_ok (by rw [h.1]; exact cellIdx_lt hj hk), h.2 j hj k hk]

theorem Mat.set {w : Array ℚ} {len M : ℕ} {f : ℕ → ℕ → ℚ} (h : Mat w len M f) {j k : ℕ}
    (hj : j < len) (hk : k ≤ M) (v : ℚ) :
    ∃ w', setW w (j + k * len) v = .ok w' ∧
      Mat w' len M (fun j' k' => if j' = j ∧ k' = k then v else f j' k') := by
  have hlt : j + k * len < w.size := by rw [h.1]; exact cellIdx_lt hj hk
  refine ⟨_, setW_ok v hlt, ?_, ?_⟩
  · simpa using h.1
  · intro j' hj' k' hk'
    rw [rd_set]
    by_cases hc : j' = j ∧ k' = k
    · obtain ⟨rfl, rfl⟩ := hc; simp
    · have : ¬ (j + k * len = j' + k' * len) := by
        intro he
        rw [Nat.add_comm j, Nat.add_comm j'] at he
        obtain ⟨h2, h1⟩ := SymVerif.idx_inj hj hj' he
        exact hc ⟨h1.symm, h2.symm⟩
      simp only [this, if_false, hc]
      exact h.2 j' hj' k' hk'

theorem Mat.set0 {w : Array ℚ} {len M : ℕ} {f : ℕ → ℕ → ℚ} (h : Mat w len M f) {j : ℕ}
    (hj : j < len) (v : ℚ) :
    ∃ w', setW w j v = .ok w' ∧
      Mat w' len M (fun j' k' => if j' = j ∧ k' = 0 then v else f j' k') := by
  simpa using h.set hj (Nat.zero_le M) v

theorem qdiv_ok (a : ℚ) {b : ℚ} (h : b ≠ 0) : qdiv a b = .ok (a / b) := by
  simp [qdiv, h]

/-- `r` is a value with `P`, or a division by zero, which needs `D`; never an index out of range -/
def Run {α : Type} (D : Prop) (P : α → Prop) : Except Err α → Prop
  | .ok a => P a
  | .error .divzero => D
  | .error .oob => False

section
variable {α β : Type} {D : Prop} {P : α → Prop} {Q : β → Prop}

theorem Run.bind {x : Except Err α} {f : α → Except Err β}
    (hx : Run D P x) (hf : ∀ a, P a → Run D Q (f a)) : Run D Q (x >>= f) := by
  match x, hx with
  | .ok a, h => exact hf a h
  | .error .divzero, h => exact h

theorem Run.mono {P' : α → Prop} {r : Except Err α} (h : Run D P r) (hP : ∀ a, P a → P' a) :
    Run D P' r := by
  match r, h with
  | .ok a, h => exact hP a h
  | .error .divzero, h => exact h

theorem Run.ne_oob {r : Except Err α} (h : Run D P r) : r ≠ .error .oob := by
  rintro rfl; exact h

theorem Run.ok {r : Except Err α} (h : Run D P r) (hD : ¬ D) : ∃ a, r = .ok a ∧ P a := by
  match r, h with
  | .ok a, h => exact ⟨a, rfl, h⟩
  | .error .divzero, h => exact absurd h hD
end

theorem qdiv_run {D : Prop} (a : ℚ) {b : ℚ} (h : b = 0 → D) :
    Run D (fun v => b ≠ 0 ∧ v = a / b) (qdiv a b) := by
  unfold qdiv
  split
  · exact h ‹_›
  · exact ⟨‹_›, rfl⟩

/-- One column update of the loop nest, with divisor `d`.  The downward loop `L` writes
`num k (f s k) (f s (k-1)) / d` to rows `K … 1` of column `j`, reading column `s`: either `j` itself,
whose rows `≤ k` are still untouched when row `k` is written, or a column the loop does not write.
Then row `0` is written, where the `f s (k-1)` term has dropped out; `g` is what is applied to that
quotient: `newBlock` stores `-1 * (… / c2)` with the sign outside the division (`hv0` ties it to
`num 0`), `oldCol` has `g = id`. -/
theorem col_spec {D : Prop} {len M s j K : ℕ} {L : ℕ → Array ℚ → Except Err (Array ℚ)}
    {num : ℕ → ℚ → ℚ → ℚ} {num0 g : ℚ → ℚ} {d : ℚ}
    (hs : s < len) (hj : j < len) (hK : K ≤ M) (hd : d = 0 → D)
    (hv0 : ∀ a b, num 0 a b / d = g (num0 a / d))
    (hL0 : ∀ w, L 0 w = .ok w)
    -- `a` is row `n + 1` and `b` row `n` of the source column (`newLoop` of the model names them the other way)
    (hL : ∀ n w a b, getW w (s + (n + 1) * len) = .ok a → getW w (s + n * len) = .ok b →
      L (n + 1) w = qdiv (num (n + 1) a b) d >>= fun v => setW w (j + (n + 1) * len) v >>= L n)
    {w : Array ℚ} {f : ℕ → ℕ → ℚ} (hm : Mat w len M f) :
    Run D (fun w' => d ≠ 0 ∧ Mat w' len M fun j' k =>
      if j' = j ∧ k ≤ K then num k (f s k) (f s (k - 1)) / d else f j' k)
      (L K w >>= fun w1 => getW w1 s >>= fun a => qdiv (num0 a) d >>= fun v => setW w1 j (g v)) := by
  have loop : ∀ n w f, n ≤ M → Mat w len M f → Run D (fun w' => Mat w' len M fun j' k =>
      if j' = j ∧ 1 ≤ k ∧ k ≤ n then num k (f s k) (f s (k - 1)) / d else f j' k) (L n w) := by
    intro n
    induction n with
    | zero =>
      intro w f _ h
      rw [hL0]
      exact h.congr fun j' _ k _ => (if_neg (by omega)).symm
    | succ n ih =>
      intro w f hn h
      rw [hL n w _ _ (h.get hs hn) (h.get hs (by omega))]
      refine (qdiv_run _ hd).bind fun v hv => ?_
      obtain ⟨w1, hw1, hm1⟩ := h.set hj hn v
      rw [hw1]
      refine (ih w1 _ (by omega) hm1).mono fun w' hm' => hm'.congr ?_
      intro j' _ k _
      have e : ∀ (v : ℚ) k, k ≤ n → (if s = j ∧ k = n + 1 then v else f s k) = f s k :=
        fun v k hk => if_neg (by omega)
      by_cases h1 : j' = j ∧ 1 ≤ k ∧ k ≤ n
      · rw [if_pos h1, e _ k h1.2.2, e _ (k - 1) (by omega), if_pos (by omega)]
      · rw [if_neg h1]
        by_cases h2 : j' = j ∧ k = n + 1
        · obtain ⟨rfl, rfl⟩ := h2
          rw [if_pos ⟨rfl, rfl⟩, if_pos (by omega), hv.2]
          rfl
        · rw [if_neg h2, if_neg (by omega)]
  refine (loop K w f hK hm).bind fun w1 hm1 => ?_
  have hg : getW w1 s = .ok (f s 0) := by
    simpa only [Nat.zero_mul, Nat.add_zero, if_neg (show ¬ (s = j ∧ 1 ≤ 0 ∧ 0 ≤ K) by omega)]
      using hm1.get hs (Nat.zero_le M)
  rw [hg]
  refine (qdiv_run _ hd).bind fun v hv => ?_
  obtain ⟨w2, hw2, hm2⟩ := hm1.set0 hj (g v)
  rw [hw2]
  refine ⟨hv.1, hm2.congr ?_⟩
  intro j' _ k _
  by_cases h0 : j' = j ∧ k = 0
  · obtain ⟨rfl, rfl⟩ := h0
    rw [if_pos ⟨rfl, rfl⟩, if_pos ⟨rfl, Nat.zero_le K⟩, hv0, hv.2]
  · rw [if_neg h0]
    by_cases h1 : j' = j ∧ 1 ≤ k ∧ k ≤ K
    · rw [if_pos h1, if_pos ⟨h1.1, h1.2.2⟩]
    · rw [if_neg h1, if_neg (by omega)]

section stage
variable (x : ℕ → ℚ) (z : ℚ)

/-- `S x z i j' k`: entry `(j', k)` after stage `i` (nodes `0 … i`) -/
noncomputable def S (i j' k : ℕ) : ℚ := if j' ≤ i then dv x z i j' k else 0

variable (len M i : ℕ) {D : Prop}

/-- `St x z i j b j' k`: entry `(j', k)` while stage `i+1` runs.  `j`: the old columns `< j` are updated;
`b`: the new column `i+1` has been written (the `if (j == i-1)` block has run) -/
noncomputable def St (j : ℕ) (b : Bool) (j' k : ℕ) : ℚ :=
  if j' < j ∨ j' = i + 1 ∧ b then dv x z (i + 1) j' k else S x z i j' k

theorem St_zero : St x z i 0 false = S x z i := by
  funext j' k
  simp [St]

variable {i} in
theorem St_old {j j' : ℕ} (b : Bool) (k : ℕ) (h1 : j ≤ j') (h2 : j' ≤ i) :
    St x z i j b j' k = dv x z i j' k := by
  rw [St, if_neg (by omega), S, if_pos h2]

variable {i} in
theorem St_done {j j' : ℕ} (b : Bool) (k : ℕ) (h : j' < j) : St x z i j b j' k = dv x z (i + 1) j' k := by
  rw [St, if_pos (.inl h)]

theorem St_new (j k : ℕ) : St x z i j true (i + 1) k = dv x z (i + 1) (i + 1) k := by
  rw [St, if_pos (.inr ⟨rfl, rfl⟩)]

theorem St_last : St x z i (i + 1) true = S x z (i + 1) := by
  funext j' k
  simp only [St, S, and_true]
  by_cases h : j' ≤ i + 1
  · rw [if_pos (by omega), if_pos h]
  · rw [if_neg (by omega), if_neg (by omega), if_neg h]

/-- `mn` of the C++.  The model writes this `if` inline in `iLoop`, so after `rw [iLoop]` the term meets
`mnOf (i + 1) M` only up to unfolding. -/
def mnOf (i M : ℕ) : ℕ := if i < M then i else M

theorem mnOf_le (i M : ℕ) : mnOf i M ≤ M := by unfold mnOf; split <;> omega
theorem mnOf_le' (i M : ℕ) : mnOf i M ≤ i := by unfold mnOf; split <;> omega
theorem lt_of_mnOf_lt {i M k : ℕ} (hk : k ≤ M) (h : ¬ k ≤ mnOf i M) : i < k := by
  unfold mnOf at h; split at h <;> omega

variable {x z len M i}
-- `D`: two grid points coincide; it stays a variable until `weights_run` puts `¬ grid.toList.Nodup`
variable (hD : ∀ a b, a < b → b < len → x b = x a → D)
include hD

theorem of_cprod_eq_zero {i n : ℕ} (hn : n ≤ i) (hi : i < len) (h : cprod x i n = 0) : D := by
  unfold cprod at h
  obtain ⟨m, hm, h0⟩ := Finset.prod_eq_zero_iff.mp h
  exact hD m i (by have := Finset.mem_range.mp hm; omega) hi (sub_eq_zero.mp h0)

variable (hi : i + 1 < len)
include hi

theorem newBlock_spec (w : Array ℚ) (hm : Mat w len M (St x z i i false)) (hc1 : cprod x i i ≠ 0) :
    Run D (fun w' => cprod x (i + 1) (i + 1) ≠ 0 ∧ Mat w' len M (St x z i i true))
      (newBlock len (i + 1) (mnOf (i + 1) M) (cprod x i i) (cprod x (i + 1) (i + 1)) (x i - z) w) := by
  refine (col_spec (s := i) (j := i + 1) (K := mnOf (i + 1) M) (d := cprod x (i + 1) (i + 1))
    (L := newLoop len (i + 1) (cprod x i i) (cprod x (i + 1) (i + 1)) (x i - z))
    (num := fun k a b => cprod x i i * ((k : ℚ) * b - (x i - z) * a))
    (num0 := fun a => cprod x i i * ((x i - z) * a)) (g := fun v => -1 * v)
    (hs := by omega) (hj := hi) (hK := mnOf_le _ _) (hd := of_cprod_eq_zero hD le_rfl hi)
    (hv0 := fun a b => by simp only [Nat.cast_zero]; ring) (hL0 := fun _ => rfl)
    (hL := fun n w a b ha hb => by
      simp only [newLoop, Nat.add_sub_cancel, ha, hb, bind, Except.bind]) hm).mono ?_
  rintro w' ⟨hc2, hm'⟩
  refine ⟨hc2, hm'.congr ?_⟩
  intro j' _ k hk
  have hS : ∀ k, St x z i i false i k = dv x z i i k := fun k => St_old x z false k le_rfl le_rfl
  by_cases hjj : j' = i + 1
  · subst hjj
    rw [St_new]
    by_cases hkm : k ≤ mnOf (i + 1) M
    · rw [if_pos ⟨rfl, hkm⟩, hS, hS, dv_new x z i k hc1]
    · -- above row `mn` nothing was written: column `i+1` still holds `0` (it is no node of stage `i`), and the
      -- target `dv (i+1) (i+1) k` is `0` by degree
      rw [if_neg (by omega), St, if_neg (by simp), S, if_neg (by omega),
        dv_eq_zero_of_lt x z le_rfl (lt_of_mnOf_lt hk hkm)]
  · rw [if_neg (by omega)]
    simp only [St, hjj, false_and]

theorem oldCol_spec (j : ℕ) (hj : j ≤ i) (b : Bool) (w : Array ℚ)
    (hm : Mat w len M (St x z i j b)) :
    Run D (fun w' => Mat w' len M (St x z i (j + 1) b))
      (oldCol len j (mnOf (i + 1) M) (x (i + 1) - x j) (x (i + 1) - z) w) := by
  refine (col_spec (s := j) (j := j) (K := mnOf (i + 1) M) (d := x (i + 1) - x j)
    (L := oldLoop len j (x (i + 1) - x j) (x (i + 1) - z))
    (num := fun k a b => (x (i + 1) - z) * a - (k : ℚ) * b)
    (num0 := fun a => (x (i + 1) - z) * a) (g := id)
    (hs := by omega) (hj := by omega) (hK := mnOf_le _ _)
    (hd := fun h => hD j (i + 1) (by omega) hi (sub_eq_zero.mp h))
    (hv0 := fun a b => by simp) (hL0 := fun _ => rfl)
    (hL := fun n w a b ha hb => by simp only [oldLoop, ha, hb, bind, Except.bind]) hm).mono ?_
  rintro w' ⟨hc3, hm'⟩
  have hne : x (i + 1) ≠ x j := sub_ne_zero.mp hc3
  refine hm'.congr ?_
  intro j' _ k hk
  have hS : ∀ k, St x z i j b j k = dv x z i j k := fun k => St_old x z b k le_rfl hj
  by_cases hjj : j' = j
  · subst hjj
    rw [St_done x z b k (Nat.lt_succ_self j')]
    by_cases hkm : k ≤ mnOf (i + 1) M
    · rw [if_pos ⟨rfl, hkm⟩, hS, hS, dv_old x z k hj hne]
    · have hlt := lt_of_mnOf_lt hk hkm
      rw [if_neg (by omega), hS, dv_eq_zero_of_lt x z hj (by omega),
        dv_eq_zero_of_lt x z (by omega) hlt]
  · rw [if_neg (by omega)]
    simp only [St, show j' < j + 1 ↔ j' < j by omega]

theorem jLoop_spec (grid : Array ℚ) (hlen : grid.size = len) (hx : ∀ m, x m = rd grid m)
    (hc1 : cprod x i i ≠ 0) :
    ∀ (rem j : ℕ) (w : Array ℚ), j + rem = i + 1 → Mat w len M (St x z i j (decide (i < j))) →
    (i < j → cprod x (i + 1) (i + 1) ≠ 0) →
    Run D (fun cw => cw.1 = cprod x (i + 1) (i + 1) ∧ cw.1 ≠ 0 ∧ Mat cw.2 len M (S x z (i + 1)))
      (jLoop grid len (i + 1) (mnOf (i + 1) M) (cprod x i i) (x (i + 1) - z) (x i - z) rem j
        (cprod x (i + 1) j) w) := by
  intro rem
  induction rem with
  | zero =>
    intro j w hj hm hc
    obtain rfl : j = i + 1 := by omega
    rw [decide_eq_true (Nat.lt_succ_self i), St_last] at hm
    exact ⟨rfl, hc (Nat.lt_succ_self i), hm⟩
  | succ rem ih =>
    intro j w hj hm _
    have hji : j ≤ i := by omega
    rw [decide_eq_false (by omega)] at hm
    -- the new block runs inside iteration `j = i`, before that column's own update: the flag is `i ≤ j`
    -- after the block, i.e. `i < j + 1`, the flag at the head of the next iteration
    have hblock : Run D (fun w1 => (i ≤ j → cprod x (i + 1) (i + 1) ≠ 0) ∧
          Mat w1 len M (St x z i j (decide (i ≤ j))))
        (if j + 1 = i + 1 then
          newBlock len (i + 1) (mnOf (i + 1) M) (cprod x i i) (cprod x (i + 1) (j + 1)) (x i - z) w
          else pure w) := by
      by_cases hc : j = i
      · subst hc
        rw [if_pos rfl, decide_eq_true le_rfl]
        exact (newBlock_spec hD hi w hm hc1).mono fun w1 h => ⟨fun _ => h.1, h.2⟩
      · rw [if_neg (by omega), decide_eq_false (by omega)]
        exact ⟨fun h => absurd h (by omega), hm⟩
    -- in the goal `c2 * c3` sits under a `>>=` that only goes at the `refine`: so `cprod_succ` is rewritten here
    -- and in `this`, not once in the goal
    rw [cprod_succ x (i + 1) j] at hblock
    rw [jLoop, getG_x hlen hx hi, getG_x hlen hx (show j < len by omega)]
    refine hblock.bind fun w1 h1 => (oldCol_spec hD hi j hji _ w1 h1.2).bind fun w2 h2 => ?_
    rw [← decide_eq_decide.mpr Nat.lt_succ_iff] at h2
    have := ih (j + 1) w2 (by omega) h2 fun h => h1.1 (by omega)
    rwa [cprod_succ x (i + 1) j] at this

end stage

section
variable {x : ℕ → ℚ} {z : ℚ} {len M : ℕ} {D : Prop}
variable (hD : ∀ a b, a < b → b < len → x b = x a → D)
include hD

theorem iLoop_spec (grid : Array ℚ) (hlen : grid.size = len) (hx : ∀ m, x m = rd grid m) :
    ∀ (rem i : ℕ) (w : Array ℚ), i + 1 + rem = len → Mat w len M (S x z i) → cprod x i i ≠ 0 →
    Run D (fun w' => Mat w' len M (S x z (len - 1)))
      (iLoop grid z len M rem (i + 1) (cprod x i i) (x i - z) w) := by
  intro rem
  induction rem with
  | zero =>
    intro i w hi hm _
    obtain rfl : len = i + 1 := by omega
    exact hm
  | succ rem ih =>
    intro i w hi hm hc1
    -- the initial `c2` is the only `1 : ℚ` of the goal
    rw [iLoop, getG_x hlen hx (show i + 1 < len by omega), ← cprod_zero x (i + 1)]
    refine (jLoop_spec hD (by omega) grid hlen hx hc1 (i + 1) 0 w (by omega)
      (by rw [decide_eq_false (by omega), St_zero]; exact hm) (fun h => absurd h (by omega))).bind ?_
    rintro ⟨c2, w1⟩ ⟨rfl, hc2, hm1⟩
    exact ih (i + 1) w1 (by omega) hm1 hc2

end

end SymVerif.C38
