/-
`get_args()` versus the semantics: the value of an Add is the sum of the values of its arguments, the value
of a Mul their product, and `wf` is inherited by the arguments and by the stored fields.  Add needs `wf` (it drops every
coefficient that `is_zero`, and `termOf` overwrites the coefficient of a Mul key), Mul needs nothing (it drops the
coefficient only if it is the Integer 1).  The number predicates against the value; what `powSem` is on an integer literal (`powSem_int`) and on a
positive base (`powSem_of_pos`); inversion lemmas for the node forms.
-/
import SymVerif.Lemmas.C34Sem

namespace SymVerif.C34
open SymVerif SymVerif.Queries

variable {ρ : String → ℝ}

theorem numIsZero_iff {e : Expr} {v : ℝ} (hn : e.isNum = true) (h : evalR ρ e = some v) :
    numIsZero e = true ↔ v = 0 := by
  rcases evalR_isNum_cases hn h with ⟨n, rfl, rfl⟩ | ⟨n, d, rfl, hd, rfl⟩
  · simp [numIsZero]
  · simp only [numIsZero, beq_iff_eq]; exact rat_eq_zero hd

theorem numIsPos_iff {e : Expr} {v : ℝ} (hn : e.isNum = true) (h : evalR ρ e = some v) :
    numIsPos e = true ↔ 0 < v := by
  rcases evalR_isNum_cases hn h with ⟨n, rfl, rfl⟩ | ⟨n, d, rfl, hd, rfl⟩
  · simp [numIsPos]
  · simp only [numIsPos, decide_eq_true_eq]; exact rat_pos hd

theorem numIsNeg_iff {e : Expr} {v : ℝ} (hn : e.isNum = true) (h : evalR ρ e = some v) :
    numIsNeg e = true ↔ v < 0 := by
  rcases evalR_isNum_cases hn h with ⟨n, rfl, rfl⟩ | ⟨n, d, rfl, hd, rfl⟩
  · simp [numIsNeg]
  · simp only [numIsNeg, decide_eq_true_eq]; exact rat_neg hd

/-- the sound direction needs no `isNum`: the other number classes have no real value -/
theorem numIsPos_sound {e : Expr} {v : ℝ} (hp : numIsPos e = true) (h : evalR ρ e = some v) : 0 < v := by
  cases e with
  | int _ | rat _ _ => exact (numIsPos_iff rfl h).mp hp
  | _ => simp [numIsPos, evalR] at hp h

theorem numIsNeg_sound {e : Expr} {v : ℝ} (hp : numIsNeg e = true) (h : evalR ρ e = some v) : v < 0 := by
  cases e with
  | int _ | rat _ _ => exact (numIsNeg_iff rfl h).mp hp
  | _ => simp [numIsNeg, evalR] at hp h

theorem not_numIsPos_iff {e : Expr} {v : ℝ} (hn : e.isNum = true) (h : evalR ρ e = some v) :
    (!numIsPos e) = true ↔ v ≤ 0 := by
  rw [Bool.not_eq_true', ← Bool.not_eq_true, numIsPos_iff hn h, not_lt]

theorem not_numIsNeg_iff {e : Expr} {v : ℝ} (hn : e.isNum = true) (h : evalR ρ e = some v) :
    (!numIsNeg e) = true ↔ 0 ≤ v := by
  rw [Bool.not_eq_true', ← Bool.not_eq_true, numIsNeg_iff hn h, not_lt]

theorem numIsComplexCls_false {ρ : String → ℝ} {e : Expr} {v : ℝ} (h : evalR ρ e = some v) :
    numIsComplexCls e = false := by
  cases e with
  | cplx _ _ | cdbl _ _ => simp [evalR] at h
  | _ => rfl

theorem isOne_eq {e : Expr} (h : isOne e = true) : e = .int 1 := by
  cases e <;> simp [isOne] at h
  subst h; rfl

theorem isOne_cases (e : Expr) : e = .int 1 ∨ isOne e = false := by
  cases h : isOne e
  exacts [.inr rfl, .inl (isOne_eq h)]

theorem evalArgs_cons_some {a : Expr} {t : List Expr} {vs : List ℝ} :
    evalArgs ρ (a :: t) = some vs ↔ ∃ va vt, evalR ρ a = some va ∧ evalArgs ρ t = some vt ∧ vs = va :: vt := by
  simp only [evalArgs]
  cases evalR ρ a <;> cases evalArgs ρ t <;> simp [eq_comm]

theorem evalR_sym {x : String} {v : ℝ} (h : evalR ρ (.sym x) = some v) : v = ρ x := by
  simp only [evalR, Option.some.injEq] at h; exact h.symm

theorem evalR_add_some {c : Expr} {ts : List (Expr × Expr)} {v : ℝ} :
    evalR ρ (.add c ts) = some v ↔ ∃ vc vs, evalR ρ c = some vc ∧ evalTerms ρ ts = some vs ∧ v = vc + vs := by
  simp only [evalR]
  cases evalR ρ c <;> cases evalTerms ρ ts <;> simp [eq_comm]

theorem evalR_mul_some {c : Expr} {fs : List (Expr × Expr)} {v : ℝ} :
    evalR ρ (.mul c fs) = some v ↔ ∃ vc vs, evalR ρ c = some vc ∧ evalFacs ρ fs = some vs ∧ v = vc * vs := by
  simp only [evalR]
  cases evalR ρ c <;> cases evalFacs ρ fs <;> simp [eq_comm]

theorem evalTerms_cons_some {k w : Expr} {t : List (Expr × Expr)} {v : ℝ} :
    evalTerms ρ ((k, w) :: t) = some v ↔ ∃ vk vw vt, evalR ρ k = some vk ∧ evalR ρ w = some vw ∧
      evalTerms ρ t = some vt ∧ v = vk * vw + vt := by
  simp only [evalTerms]
  cases evalR ρ k <;> cases evalR ρ w <;> cases evalTerms ρ t <;> simp [eq_comm]

theorem evalArgs_eq_some {l : List Expr} {vs : List ℝ} :
    evalArgs ρ l = some vs ↔ l.map (evalR ρ) = vs.map some := by
  induction l generalizing vs with
  | nil => cases vs <;> simp [evalArgs]
  | cons a t ih =>
    rw [evalArgs_cons_some]
    constructor
    · rintro ⟨va, vt, ha, ht, rfl⟩
      simp [ha, ih.mp ht]
    · intro h
      cases vs with
      | nil => simp at h
      | cons v vt =>
        simp only [List.map_cons, List.cons.injEq] at h
        exact ⟨v, vt, h.1, ih.mpr h.2, rfl⟩

theorem evalArgs_mem_some {l : List Expr} {vs : List ℝ} (h : evalArgs ρ l = some vs) {a : Expr} (ha : a ∈ l) :
    ∃ v ∈ vs, evalR ρ a = some v := by
  have := List.mem_map_of_mem (f := evalR ρ) ha
  rw [evalArgs_eq_some.mp h, List.mem_map] at this
  exact this.imp fun v hv => ⟨hv.1, hv.2.symm⟩

theorem evalArgs_val_mem {l : List Expr} {vs : List ℝ} (h : evalArgs ρ l = some vs) {a : Expr} (ha : a ∈ l) {v : ℝ}
    (hv : evalR ρ a = some v) : v ∈ vs := by
  obtain ⟨v', hv', hav'⟩ := evalArgs_mem_some h ha
  exact Option.some.inj (hv.symm.trans hav') ▸ hv'

theorem evalArgs_some_mem {l : List Expr} {vs : List ℝ} (h : evalArgs ρ l = some vs) {v : ℝ} (hv : v ∈ vs) :
    ∃ a ∈ l, evalR ρ a = some v := by
  have := List.mem_map_of_mem (f := some) hv
  rwa [← evalArgs_eq_some.mp h, List.mem_map] at this

theorem evalArgs_defined {l : List Expr} (h : ∀ a ∈ l, ∃ v, evalR ρ a = some v) : ∃ ks, evalArgs ρ l = some ks :=
  ⟨l.map fun a => (evalR ρ a).getD 0, evalArgs_eq_some.mpr (by
    rw [List.map_map]
    exact List.map_congr_left fun a ha => by obtain ⟨v, hv⟩ := h a ha; simp [hv])⟩

theorem evalArgs_mem_none {l : List Expr} {a : Expr} (ha : a ∈ l) (hn : evalR ρ a = none) :
    evalArgs ρ l = none := by
  cases h : evalArgs ρ l with
  | none => rfl
  | some vs =>
    obtain ⟨v, _, hv⟩ := evalArgs_mem_some h ha
    rw [hn] at hv; cases hv

theorem powSem_one (vb ve : Option ℝ) : powSem vb (.int 1) ve = vb := by
  cases vb <;> simp [powSem]

theorem powSem_nonint {x : Expr} (hx : ∀ n, x ≠ .int n) (b : ℝ) (ve : Option ℝ) :
    powSem (some b) x ve = ve.bind fun v => if 0 < b then some (b.rpow v) else none := by
  cases x with
  | int n => exact absurd rfl (hx n)
  | _ => cases ve <;> rfl

theorem powSem_base_none (x : Expr) (ve : Option ℝ) : powSem none x ve = none := rfl

theorem powSem_int (b : ℝ) (n : ℤ) (ve : Option ℝ) :
    powSem (some b) (.int n) ve = if b = 0 ∧ n < 0 then none else some (b ^ n) := by
  simp only [powSem]
  split
  · rename_i h
    rw [if_neg (fun h' => absurd h (not_le.mpr h'.2)), ← zpow_natCast, Int.toNat_of_nonneg h]
  · rename_i h
    have hn : n = -(n.natAbs : ℤ) := by omega
    by_cases hb : b = 0
    · rw [if_pos hb, if_pos ⟨hb, not_le.mp h⟩]
    · rw [if_neg hb, if_neg (fun h' => hb h'.1), ← zpow_natCast, ← zpow_neg, ← hn]

theorem powSem_neg_one {y v : ℝ} {ve : Option ℝ} (h : powSem (some y) (.int (-1)) ve = some v) :
    y ≠ 0 ∧ v = y⁻¹ := by
  rw [powSem_int] at h
  split at h
  · cases h
  · rename_i hy
    cases h
    exact ⟨fun h0 => hy ⟨h0, by decide⟩, zpow_neg_one y⟩

theorem powSem_of_pos {b : ℝ} (hb : 0 < b) (x : Expr) :
    powSem (some b) x (evalR ρ x) = (evalR ρ x).map fun vx => b ^ vx := by
  by_cases hxi : ∃ n, x = .int n
  · obtain ⟨n, rfl⟩ := hxi
    rw [powSem_int, if_neg (fun h => hb.ne' h.1)]
    simp only [evalR, Option.map_some, Real.rpow_intCast]
  · rw [powSem_nonint (fun n hn => hxi ⟨n, hn⟩)]
    cases evalR ρ x with
    | none => rfl
    | some vx => exact if_pos hb

theorem powSem_exp_none {x : Expr} (vb : Option ℝ) (h : evalR ρ x = none) :
    powSem vb x (evalR ρ x) = none := by
  cases vb with
  | none => rfl
  | some b =>
    rw [powSem_nonint (fun n hn => by subst hn; simp only [evalR, reduceCtorEq] at h), h]
    rfl

theorem powSem_none {b x : Expr} (h : evalR ρ b = none ∨ evalR ρ x = none) :
    powSem (evalR ρ b) x (evalR ρ x) = none :=
  h.elim (fun hb => hb ▸ powSem_base_none _ _) (powSem_exp_none _)

theorem powSem_nonint_pos {y v : ℝ} {x : Expr} (hxi : ∀ n, x ≠ .int n)
    (h : powSem (some y) x (evalR ρ x) = some v) : 0 < y := by
  rw [powSem_nonint hxi] at h
  by_contra hy
  cases hx : evalR ρ x <;> simp only [hx, Option.bind_none, Option.bind_some, if_neg hy, reduceCtorEq] at h

theorem evalR_pow_some {b x : Expr} {v : ℝ} :
    evalR ρ (.pow b x) = some v ↔ ∃ vb, evalR ρ b = some vb ∧ powSem (some vb) x (evalR ρ x) = some v := by
  simp only [evalR]
  cases evalR ρ b with
  | none => simp [powSem_base_none]
  | some vb => simp

theorem evalR_app_one (h : String) (a : Expr) :
    evalR ρ (.app h [a]) = (evalR ρ a).bind fun x => appSem h (some [x]) := by
  simp only [evalR, evalArgs]
  cases evalR ρ a <;> rfl

theorem evalR_app_single {h : String} {a : Expr} {v : ℝ}
    (hv : evalR ρ (.app h [a]) = some v) : ∃ x, evalR ρ a = some x ∧ appSem h (some [x]) = some v :=
  Option.bind_eq_some_iff.mp (evalR_app_one h a ▸ hv)

theorem evalR_mul_single {k v : Expr} :
    evalR ρ (.mul v [(k, .int 1)])
      = (evalR ρ k).bind fun vk => (evalR ρ v).bind fun vv => some (vk * vv) := by
  simp only [evalR, evalFacs, powSem_one]
  cases evalR ρ v <;> cases evalR ρ k <;> simp
  ring

theorem addArgs_eq_map (ts : List (Expr × Expr)) :
    addArgs ts = ts.map fun p => if isOne p.2 then p.1 else termOf p.1 p.2 := by
  induction ts with
  | nil => rfl
  | cons p t ih => rw [List.map_cons, ← ih]; rfl

theorem mulArgs_eq_map (fs : List (Expr × Expr)) :
    mulArgs fs = fs.map fun p => if isOne p.2 then p.1 else .pow p.1 p.2 := by
  induction fs with
  | nil => rfl
  | cons p t ih => rw [List.map_cons, ← ih]; rfl

theorem mem_argsOf_add {a c : Expr} {ts : List (Expr × Expr)} (h : a ∈ argsOf (.add c ts)) :
    a = c ∨ ∃ p ∈ ts, a = if isOne p.2 then p.1 else termOf p.1 p.2 := by
  simp only [argsOf, addArgs_eq_map, List.mem_append, List.mem_ite_nil_left, List.mem_singleton, List.mem_map] at h
  exact h.imp And.right fun ⟨p, hp, he⟩ => ⟨p, hp, he.symm⟩

theorem mem_argsOf_mul {a c : Expr} {fs : List (Expr × Expr)} (h : a ∈ argsOf (.mul c fs)) :
    a = c ∨ ∃ p ∈ fs, a = if isOne p.2 then p.1 else .pow p.1 p.2 := by
  simp only [argsOf, mulArgs_eq_map, List.mem_append, List.mem_ite_nil_left, List.mem_singleton, List.mem_map] at h
  exact h.imp And.right fun ⟨p, hp, he⟩ => ⟨p, hp, he.symm⟩

theorem wfTerms_iff {ts : List (Expr × Expr)} : wfTerms ts = true ↔
    ∀ p ∈ ts, wf p.1 = true ∧ wf p.2 = true ∧ p.2.isNum = true ∧ mulCoefOne p.1 = true ∧ p.1.isNum = false := by
  induction ts with
  | nil => exact iff_of_true rfl nofun
  | cons p t ih => simp only [wfTerms, Bool.and_eq_true, Bool.not_eq_true', ih, List.forall_mem_cons, and_assoc]

theorem wfPairs_iff {fs : List (Expr × Expr)} : wfPairs fs = true ↔ ∀ p ∈ fs, wf p.1 = true ∧ wf p.2 = true := by
  induction fs with
  | nil => exact iff_of_true rfl nofun
  | cons p t ih => simp only [wfPairs, Bool.and_eq_true, ih, List.forall_mem_cons, and_assoc]

theorem wfList_iff {l : List Expr} : wfList l = true ↔ ∀ a ∈ l, wf a = true := by
  induction l with
  | nil => exact iff_of_true rfl nofun
  | cons a t ih => simp only [wfList, Bool.and_eq_true, ih, List.forall_mem_cons]

theorem isIntZero_iff {c : Expr} : isIntZero c = true ↔ c = .int 0 := by
  cases c <;> simp [isIntZero]

theorem wf_rat {n : ℤ} {d : ℕ} : wf (.rat n d) = true ↔ 1 < d ∧ Nat.gcd n.natAbs d = 1 := by
  simp only [wf, Bool.and_eq_true, decide_eq_true_eq, beq_iff_eq]

theorem wf_add {c : Expr} {ts : List (Expr × Expr)} : wf (.add c ts) = true ↔
    wf c = true ∧ c.isNum = true ∧ (numIsZero c = true → c = .int 0) ∧ ts ≠ [] ∧
    ∀ p ∈ ts, wf p.1 = true ∧ wf p.2 = true ∧ p.2.isNum = true ∧ mulCoefOne p.1 = true ∧ p.1.isNum = false := by
  have hz : (!numIsZero c || isIntZero c) = true ↔ (numIsZero c = true → c = .int 0) := by
    cases numIsZero c <;> simp [isIntZero_iff]
  simp only [wf, Bool.and_eq_true, hz, wfTerms_iff, and_assoc, Bool.not_eq_true', List.isEmpty_eq_false_iff, ne_eq]

theorem wf_mul {c : Expr} {fs : List (Expr × Expr)} : wf (.mul c fs) = true ↔
    wf c = true ∧ c.isNum = true ∧ ∀ p ∈ fs, wf p.1 = true ∧ wf p.2 = true := by
  simp only [wf, Bool.and_eq_true, wfPairs_iff, and_assoc]

theorem wf_pow {b x : Expr} : wf (.pow b x) = true ↔ wf b = true ∧ wf x = true := by
  simp only [wf, Bool.and_eq_true]

theorem wf_app {h : String} {args : List Expr} : wf (.app h args) = true ↔ ∀ a ∈ args, wf a = true := by
  simp only [wf, wfList_iff]

theorem evalR_term {k v : Expr} (hk : mulCoefOne k = true) :
    evalR ρ (if isOne v then k else termOf k v)
      = (evalR ρ k).bind fun vk => (evalR ρ v).bind fun vv => some (vk * vv) := by
  rcases isOne_cases v with rfl | h1
  · simp [isOne, evalR]
  · simp only [h1, if_false, Bool.false_eq_true]
    cases k with
    | mul kc fs =>
      -- `termOf` puts `v` in the place of `kc`
      have hkc := isOne_eq (by simpa [mulCoefOne] using hk : isOne kc = true)
      subst hkc
      simp only [termOf, evalR]
      cases evalR ρ v <;> cases evalFacs ρ fs <;> simp
      ring
    | pow b x =>
      simp only [termOf, evalR, evalFacs]
      cases evalR ρ v <;> cases powSem (evalR ρ b) x (evalR ρ x) <;> simp
      ring
    | _ => exact evalR_mul_single

theorem evalTerms_args : ∀ {ts : List (Expr × Expr)}, (∀ p ∈ ts, mulCoefOne p.1 = true) →
    (evalArgs ρ (addArgs ts)).map List.sum = evalTerms ρ ts := by
  intro ts
  induction ts with
  | nil => intro _; simp [addArgs, evalArgs, evalTerms]
  | cons p t ih =>
    obtain ⟨k, v⟩ := p
    intro h
    obtain ⟨hk, ht⟩ := List.forall_mem_cons.mp h
    simp only [addArgs, evalArgs, evalTerms, evalR_term hk, ← ih ht]
    cases evalR ρ k <;> cases evalR ρ v <;> cases evalArgs ρ (addArgs t) <;> simp

theorem evalR_add_args {ρ : String → ℝ} {c : Expr} {ts : List (Expr × Expr)} (hw : wf (.add c ts) = true) :
    evalR ρ (.add c ts) = (evalArgs ρ (argsOf (.add c ts))).map List.sum := by
  obtain ⟨_, _, hz, _, hts⟩ := wf_add.mp hw
  have hone : ∀ p ∈ ts, mulCoefOne p.1 = true := fun p hp => (hts p hp).2.2.2.1
  simp only [evalR, argsOf, ← evalTerms_args hone]
  by_cases h0 : numIsZero c = true
  · -- `get_args()` drops every zero coefficient; a canonical one is the Integer 0, the only zero with the value 0 here
    have hc0 : c = .int 0 := hz h0
    subst hc0
    simp [evalR, numIsZero]
    cases evalArgs ρ (addArgs ts) <;> simp
  · simp only [h0, if_false, Bool.false_eq_true, List.singleton_append, evalArgs]
    cases evalR ρ c <;> simp
    cases evalArgs ρ (addArgs ts) <;> simp

theorem evalFacs_args : ∀ (fs : List (Expr × Expr)),
    (evalArgs ρ (mulArgs fs)).map List.prod = evalFacs ρ fs := by
  intro fs
  induction fs with
  | nil => simp [mulArgs, evalArgs, evalFacs]
  | cons p t ih =>
    obtain ⟨b, x⟩ := p
    simp only [mulArgs, evalArgs, evalFacs, ← ih]
    rcases isOne_cases x with rfl | h1
    · simp only [isOne, beq_self_eq_true, if_true, powSem_one]
      cases evalR ρ b <;> cases evalArgs ρ (mulArgs t) <;> simp
    · simp only [h1, if_false, Bool.false_eq_true, evalR]
      cases powSem (evalR ρ b) x (evalR ρ x) <;> cases evalArgs ρ (mulArgs t) <;> simp

theorem evalR_mul_args {ρ : String → ℝ} {c : Expr} {fs : List (Expr × Expr)} :
    evalR ρ (.mul c fs) = (evalArgs ρ (argsOf (.mul c fs))).map List.prod := by
  simp only [evalR, argsOf, ← evalFacs_args fs]
  rcases isOne_cases c with rfl | h1
  · simp [evalR, isOne]
    cases evalArgs ρ (mulArgs fs) <;> simp
  · simp only [h1, if_false, Bool.false_eq_true, List.singleton_append, evalArgs]
    cases evalR ρ c <;> simp
    cases evalArgs ρ (mulArgs fs) <;> simp

theorem wf_termOf {k v : Expr} (hk : wf k = true) (hv : wf v = true) (hn : v.isNum = true) :
    wf (termOf k v) = true := by
  unfold termOf
  split
  · exact wf_mul.mpr ⟨hv, hn, (wf_mul.mp hk).2.2⟩
  · exact wf_mul.mpr ⟨hv, hn, List.forall_mem_singleton.mpr (wf_pow.mp hk)⟩
  · exact wf_mul.mpr ⟨hv, hn, List.forall_mem_singleton.mpr ⟨hk, rfl⟩⟩

theorem wf_argsOf {e : Expr} (hw : wf e = true) : ∀ a ∈ argsOf e, wf a = true := by
  intro a ha
  cases e with
  | add c ts =>
    obtain ⟨hc, _, _, _, hts⟩ := wf_add.mp hw
    rcases mem_argsOf_add ha with rfl | ⟨p, hp, rfl⟩
    · exact hc
    · obtain ⟨hk, hv, hn, _⟩ := hts p hp
      split
      exacts [hk, wf_termOf hk hv hn]
  | mul c fs =>
    obtain ⟨hc, _, hfs⟩ := wf_mul.mp hw
    rcases mem_argsOf_mul ha with rfl | ⟨p, hp, rfl⟩
    · exact hc
    · split
      exacts [(hfs p hp).1, wf_pow.mpr (hfs p hp)]
  | _ => cases ha

end SymVerif.C34
