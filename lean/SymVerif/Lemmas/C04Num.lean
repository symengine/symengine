/-
C04 helper lemmas: the *value* of the exact numeric leaves.

`Arith.Q` (the `rational_class` representation) is mapped to Lean's `Rat` by `qr`; canonical
representations are in bijection with `Rat` (`qr_inj`, `ofR`), and `Q.add / Q.mul / Q.neg` compute
`+ / * / -`.  On top of it `gq : Expr → ℚ × ℚ` is the Gaussian-rational value of an exact Number leaf
and `ofG` its inverse on canonical leaves, so that `numAdd` / `numMul` become the ring operations of
ℚ(i) (`numAdd_eq`, `numMul_eq`) and inherit commutativity / associativity from `Rat`.
-/
import Mathlib.Tactic.Ring
import Mathlib.Algebra.Order.Ring.Rat
import Mathlib.Algebra.Group.Prod
import SymVerif.Lemmas.C03Num

namespace SymVerif.AC
open SymVerif SymVerif.Arith

def qr (q : Q) : ℚ := mkRat q.num q.den

def ofR (r : ℚ) : Q := ⟨r.num, r.den⟩

theorem qr_ofR (r : ℚ) : qr (ofR r) = r := by simp [qr, ofR]

theorem ofR_canon (r : ℚ) : Q.canon (ofR r) = true := by
  rw [Q.canon_iff]
  exact ⟨r.den_nz, r.reduced⟩

theorem qr_num_den {q : Q} (h : Q.canon q = true) : (qr q).num = q.num ∧ (qr q).den = q.den := by
  rw [Q.canon_iff] at h
  obtain ⟨h1, h2⟩ := h
  have h2' : q.den.gcd q.num.natAbs = 1 := by rw [Nat.gcd_comm]; exact h2
  constructor
  · simp [qr, Rat.num_mkRat, h1, h2']
  · simp [qr, Rat.den_mkRat, h1, h2']

theorem ofR_qr {q : Q} (h : Q.canon q = true) : ofR (qr q) = q := by
  obtain ⟨h1, h2⟩ := qr_num_den h
  cases q
  simp_all [ofR]

theorem qr_inj {a b : Q} (ha : Q.canon a = true) (hb : Q.canon b = true) (h : qr a = qr b) : a = b := by
  rw [← ofR_qr ha, ← ofR_qr hb, h]

theorem Q.norm_eq_ofR (n : Int) {d : Nat} (hd : d ≠ 0) : Q.norm n d = ofR (mkRat n d) := by
  have hg : Nat.gcd n.natAbs d ≠ 0 := fun h => hd (Nat.eq_zero_of_gcd_eq_zero_right h)
  simp [Q.norm, ofR, hg, hd, Rat.num_mkRat, Rat.den_mkRat, Nat.gcd_comm d]

theorem qr_norm (n : Int) {d : Nat} (hd : d ≠ 0) : qr (Q.norm n d) = mkRat n d := by
  rw [Q.norm_eq_ofR n hd, qr_ofR]

theorem qr_add {a b : Q} (ha : a.den ≠ 0) (hb : b.den ≠ 0) : qr (Q.add a b) = qr a + qr b := by
  unfold Q.add
  rw [qr_norm _ (Nat.mul_ne_zero ha hb)]
  simp only [qr]
  rw [Rat.mkRat_add_mkRat _ _ ha hb]

theorem qr_mul {a b : Q} (ha : a.den ≠ 0) (hb : b.den ≠ 0) : qr (Q.mul a b) = qr a * qr b := by
  unfold Q.mul
  rw [qr_norm _ (Nat.mul_ne_zero ha hb)]
  simp only [qr]
  rw [Rat.mkRat_mul_mkRat]

theorem qr_neg (a : Q) : qr (Q.neg a) = - qr a := by
  simp [qr, Q.neg, Rat.neg_mkRat]

theorem qr_sub {a b : Q} (ha : a.den ≠ 0) (hb : b.den ≠ 0) : qr (Q.sub a b) = qr a - qr b := by
  unfold Q.sub
  rw [qr_add ha (by simpa [Q.neg] using hb), qr_neg]
  ring

theorem Q.den_ne_zero {q : Q} (h : Q.canon q = true) : q.den ≠ 0 := (Q.canon_iff.mp h).1

theorem qr_zero : qr Q.zero = 0 := by simp [qr, Q.zero]
theorem qr_ofInt (n : Int) : qr (Q.ofInt n) = n := by
  simp [qr, Q.ofInt, Rat.mkRat_one]

/-- Gaussian-rational value of an exact Number leaf (`(0,0)` on anything else) -/
def gq (e : Expr) : ℚ × ℚ :=
  match toGQ e with
  | some (re, im) => (qr re, qr im)
  | none => (0, 0)

/-- the canonical leaf with a given value -/
def ofG (p : ℚ × ℚ) : Expr := ofGQ (ofR p.1) (ofR p.2)

theorem exOK_ofG (p : ℚ × ℚ) : ExOK (ofG p) := ofGQ_exOK (ofR_canon _) (ofR_canon _)

theorem ofQ_ofR_toGQ (r : ℚ) : toGQ (ofQ (ofR r)) = some (ofR r, Q.zero) := by
  unfold ofQ
  split
  · rename_i h
    simp only [ofR, beq_iff_eq] at h
    simp [toGQ, ofR, h]
  · simp [toGQ, ofR]

theorem ofG_re (a : ℚ) : ofG (a, 0) = ofQ (ofR a) := by simp [ofG, ofGQ, ofR]

theorem ofG_im (a : ℚ) {b : ℚ} (hb : b ≠ 0) : ofG (a, b) = .cplx (ofR a) (ofR b) := by
  simp [ofG, ofGQ, ofR, hb]

theorem gq_ofG (p : ℚ × ℚ) : gq (ofG p) = p := by
  obtain ⟨a, b⟩ := p
  by_cases hb : b = 0
  · subst hb
    simp [ofG_re, gq, ofQ_ofR_toGQ, qr_ofR, qr_zero]
  · simp [ofG_im a hb, gq, toGQ, qr_ofR]

theorem ofG_gq {e : Expr} (h : ExOK e) : ofG (gq e) = e := by
  obtain ⟨re, im, hg, hr, hi⟩ := exOK_toGQ h
  have hc := h.2
  simp only [gq, hg, ofG, ofR_qr hr, ofR_qr hi]
  -- `ofQ` / `ofGQ` choose the constructor `e` already has: a canonical `.rat` has `d ≠ 1`, a canonical `.cplx` has `im.num ≠ 0`
  cases e <;> simp [toGQ] at hg
  case int n =>
    obtain ⟨rfl, rfl⟩ := hg
    simp [ofGQ, ofQ, Q.zero]
  case rat n d =>
    obtain ⟨rfl, rfl⟩ := hg
    rw [canon_rat] at hc
    have hd : d ≠ 1 := by simp [ratCanon] at hc; exact hc.1.2
    simp [ofGQ, ofQ, Q.zero, hd]
  case cplx re' im' =>
    obtain ⟨rfl, rfl⟩ := hg
    rw [canon_cplx] at hc
    have hi0 : im'.num ≠ 0 := by simp [cplxCanon] at hc; exact hc.1.1
    simp [ofGQ, hi0]

theorem gq_inj {a b : Expr} (ha : ExOK a) (hb : ExOK b) (h : gq a = gq b) : a = b := by
  rw [← ofG_gq ha, ← ofG_gq hb, h]

/-- complex multiplication on pairs -/
def cmul (a b : ℚ × ℚ) : ℚ × ℚ := (a.1 * b.1 - a.2 * b.2, a.1 * b.2 + a.2 * b.1)

theorem cmul_comm (a b : ℚ × ℚ) : cmul a b = cmul b a := by
  simp only [cmul, Prod.mk.injEq]; constructor <;> ring

theorem cmul_assoc (a b c : ℚ × ℚ) : cmul (cmul a b) c = cmul a (cmul b c) := by
  simp only [cmul, Prod.mk.injEq]; constructor <;> ring

theorem cmul_one (a : ℚ × ℚ) : cmul a (1, 0) = a := by
  obtain ⟨x, y⟩ := a
  simp [cmul]

theorem one_cmul (a : ℚ × ℚ) : cmul (1, 0) a = a := by rw [cmul_comm, cmul_one]

theorem cmul_ne_zero {a b : ℚ × ℚ} (ha : a ≠ 0) (hb : b ≠ 0) : cmul a b ≠ 0 := by
  obtain ⟨a1, a2⟩ := a
  obtain ⟨b1, b2⟩ := b
  intro h
  simp only [cmul, Prod.mk_eq_zero] at h
  have key : (a1 ^ 2 + a2 ^ 2) * (b1 ^ 2 + b2 ^ 2) = 0 := by
    have : (a1 * b1 - a2 * b2) ^ 2 + (a1 * b2 + a2 * b1) ^ 2 = (a1 ^ 2 + a2 ^ 2) * (b1 ^ 2 + b2 ^ 2) := by
      ring
    rw [← this, h.1, h.2]; ring
  have sq0 : ∀ x y : ℚ, x ^ 2 + y ^ 2 = 0 → x = 0 ∧ y = 0 := by
    intro x y hxy
    have h1 := (add_eq_zero_iff_of_nonneg (sq_nonneg x) (sq_nonneg y)).mp hxy
    exact ⟨pow_eq_zero_iff (two_ne_zero) |>.mp h1.1, pow_eq_zero_iff (two_ne_zero) |>.mp h1.2⟩
  rcases mul_eq_zero.mp key with h1 | h1
  · obtain ⟨e1, e2⟩ := sq0 _ _ h1
    exact ha (by simp [e1, e2])
  · obtain ⟨e1, e2⟩ := sq0 _ _ h1
    exact hb (by simp [e1, e2])

theorem Q.add_eq {a b : Q} (ha : Q.canon a = true) (hb : Q.canon b = true) : Q.add a b = ofR (qr a + qr b) :=
  qr_inj (Q.add_canon ha hb) (ofR_canon _) (by rw [qr_add (Q.den_ne_zero ha) (Q.den_ne_zero hb), qr_ofR])

theorem Q.sub_eq {a b : Q} (ha : Q.canon a = true) (hb : Q.canon b = true) : Q.sub a b = ofR (qr a - qr b) :=
  qr_inj (Q.sub_canon ha hb) (ofR_canon _) (by rw [qr_sub (Q.den_ne_zero ha) (Q.den_ne_zero hb), qr_ofR])

theorem Q.mul_eq {a b : Q} (ha : Q.canon a = true) (hb : Q.canon b = true) : Q.mul a b = ofR (qr a * qr b) :=
  qr_inj (Q.mul_canon ha hb) (ofR_canon _) (by rw [qr_mul (Q.den_ne_zero ha) (Q.den_ne_zero hb), qr_ofR])

theorem numAdd_eq {a b : Expr} (ha : ExOK a) (hb : ExOK b) :
    numAdd a b = .ok (ofG (gq a + gq b)) := by
  obtain ⟨ar, ai, hga, har, hai⟩ := exOK_toGQ ha
  obtain ⟨br, bi, hgb, hbr, hbi⟩ := exOK_toGQ hb
  simp [numAdd, hga, hgb, gq, ofG, Q.add_eq har hbr, Q.add_eq hai hbi]

theorem numMul_eq {a b : Expr} (ha : ExOK a) (hb : ExOK b) :
    numMul a b = .ok (ofG (cmul (gq a) (gq b))) := by
  obtain ⟨ar, ai, hga, har, hai⟩ := exOK_toGQ ha
  obtain ⟨br, bi, hgb, hbr, hbi⟩ := exOK_toGQ hb
  simp [numMul, hga, hgb, gq, ofG, cmul, Q.sub_eq (ofR_canon _) (ofR_canon _), Q.add_eq (ofR_canon _) (ofR_canon _),
    Q.mul_eq har hbr, Q.mul_eq hai hbi, Q.mul_eq har hbi, Q.mul_eq hai hbr, qr_ofR]

theorem numIsZero_ofG (p : ℚ × ℚ) : numIsZero (ofG p) = decide (p = 0) := by
  obtain ⟨a, b⟩ := p
  by_cases hb : b = 0
  · subst hb
    rw [ofG_re]
    unfold ofQ
    have e : (a.num == 0) = decide (a = 0) := by rw [Bool.eq_iff_iff]; simp [Rat.num_eq_zero]
    split <;> simpa [numIsZero, ofR, Prod.ext_iff] using e
  · simp [ofG_im a hb, numIsZero, Prod.ext_iff, hb]

theorem gq_zero : gq zero = 0 := by
  simp [gq, toGQ, zero, qr, Q.zero, Prod.ext_iff]

theorem gq_one : gq one = (1, 0) := by
  simp [gq, toGQ, one, qr, Q.zero, Rat.mkRat_one]

theorem gq_int (n : Int) : gq (.int n) = ((n : ℚ), 0) := by
  simp [gq, toGQ, qr, Q.zero, Rat.mkRat_one]

theorem ofG_zero : ofG 0 = zero := by
  rw [← gq_zero]; exact ofG_gq (exOK_int 0)

theorem numIsZero_iff {e : Expr} (h : ExOK e) : numIsZero e = true ↔ gq e = 0 := by
  conv_lhs => rw [← ofG_gq h, numIsZero_ofG]
  simp

theorem numIsZero_false_iff {e : Expr} (h : ExOK e) : numIsZero e = false ↔ gq e ≠ 0 :=
  Bool.eq_false_iff.trans (not_congr (numIsZero_iff h))

theorem numIsZero_eq_zero {e : Expr} (h : ExOK e) (hz : numIsZero e = true) : e = zero := by
  rw [numIsZero_iff h] at hz
  rw [← ofG_gq h, hz, ofG_zero]

theorem isIntLit_one_iff {e : Expr} (h : ExOK e) : isIntLit e 1 = true ↔ gq e = (1, 0) := by
  constructor
  · intro h1
    cases e <;> simp [isIntLit] at h1
    subst h1
    exact gq_one
  · intro h1
    have : e = one := gq_inj h (exOK_int 1) (by rw [h1]; exact gq_one.symm)
    subst this
    rfl

end SymVerif.AC
