/-
C31: series_nthroot (Newton iteration `r += (r - r^(n+1)·s/ct)/n`, through `newton_stepList`), the first-order
expansion of `R ↦ R^m` and with it the uniqueness of roots modulo `X^n`.  The loop does not go through
`Expands.newton`: the model step `r + r(1 - r^m·sn)/m` is not the Newton step of an `Expands` instance (it has `1` where
Newton has `1/(r^m·sn)`, right only because `r^m·sn ≡ 1` to the previous order), so it keeps its own invariant.
-/
import SymVerif.Lemmas.C31Newton

namespace SymVerif.C31
open SymVerif.Series PowerSeries

/-- Mathlib's `Polynomial.powAddExpansion` at `1` (its module, `Mathlib.Algebra.Polynomial.Identities`, is not among the imports) -/
theorem one_add_pow_exists {R : Type} [CommRing R] (y : R) (m : ℕ) :
    ∃ q : R, (1 + y) ^ m = 1 + (m : R) * y + y ^ 2 * q := by
  induction m with
  | zero => exact ⟨0, by simp⟩
  | succ m ih =>
    obtain ⟨q, hq⟩ := ih
    refine ⟨(m : R) + q + q * y, ?_⟩
    rw [pow_succ, hq]
    push_cast
    ring

theorem rootStep_eq (sn r : Poly) (m step : ℕ) :
    EqMod step (toPS (rootStep sn m r step))
      (toPS r * (1 + C (1 / (m : ℚ)) * (1 - toPS r ^ m * toPS sn))) := by
  unfold rootStep
  rw [toPS_padd, toPS_scale, toPS_psub]
  have hpw : EqMod step (toPS (mulTrunc (powPos r (m + 1) step) sn step)) (toPS r ^ (m + 1) * toPS sn) :=
    (toPS_mulTrunc _ _ _).trans ((toPS_powPos r (m + 1) step (Nat.le_add_left 1 m)).mul_right _)
  have : toPS r * (1 + C (1 / (m : ℚ)) * (1 - toPS r ^ m * toPS sn))
      = toPS r + C (1 / (m : ℚ)) * (toPS r - toPS r ^ (m + 1) * toPS sn) := by
    rw [pow_succ]; ring
  rw [this]
  exact (EqMod.refl _ _).add (EqMod.mul_left _ ((EqMod.refl _ _).sub hpw))

/-- with `e = 1 - R^m·sn` and `c = 1/m`: `R^m·sn = 1 - e` and `(1 + c e)^m = 1 + e + c²e²q` (as `m c = 1`), so the product
is `1 - e²(…)` -/
theorem rootStep_spec {sn r : Poly} {m k step : ℕ} (hm : 1 ≤ m) (hk : 1 ≤ k) (hst : 1 ≤ step)
    (hr : constantCoeff (toPS r) = 1) (h : EqMod k (toPS r ^ m * toPS sn) 1) (hs : step ≤ 2 * k) :
    constantCoeff (toPS (rootStep sn m r step)) = 1 ∧
    EqMod step (toPS (rootStep sn m r step) ^ m * toPS sn) 1 := by
  have h1 := rootStep_eq sn r m step
  set R := toPS r
  set SN := toPS sn
  set e := 1 - R ^ m * SN with he_def
  set c := C (1 / (m : ℚ))
  have he : EqMod k e 0 := eqMod_sub_zero.mpr h.symm
  refine ⟨?_, ?_⟩
  · rw [constantCoeff_eq_of_eqMod hst h1, map_mul, map_add, map_mul, hr, constantCoeff_eq_of_eqMod hk he,
      map_zero, mul_zero, add_zero, map_one, mul_one]
  refine ((h1.pow m).mul_right SN).trans ?_
  have hmc : (m : ℚ⟦X⟧) * c = 1 := by
    rw [← map_natCast (C (R := ℚ)), ← map_mul, mul_one_div_cancel (Nat.cast_ne_zero.mpr (Nat.ne_of_gt hm)),
      map_one]
  obtain ⟨q, hq⟩ := one_add_pow_exists (c * e) m
  have key : (R * (1 + c * e)) ^ m * SN = 1 - e * e * (1 - c ^ 2 * q * (1 - e)) := by
    rw [mul_pow, hq]
    linear_combination (1 + (m : ℚ⟦X⟧) * (c * e) + (c * e) ^ 2 * q) * he_def + e * (1 - e) * hmc
  rw [key]
  exact eqMod_sub_of_zero 1 (((eqMod_sq_of_eqMod he).mono hs).mul_right_zero _)

theorem rootLoop_spec (sn : Poly) (m prec : ℕ) (hm : 1 ≤ m) (hsn : constantCoeff (toPS sn) = 1) :
    (1 ≤ prec → constantCoeff (toPS ((stepList prec).foldl (rootStep sn m) [1])) = 1) ∧
    EqMod prec (toPS ((stepList prec).foldl (rootStep sn m) [1]) ^ m * toPS sn) 1 := by
  -- `stepList 0 = [2, 0]`: the last step at precision 0 truncates the product to nothing and leaves the constant term `1 + 1/m`
  by_cases hp : prec = 0
  · subst hp; exact ⟨fun h => absurd h (by omega), eqMod_zero _ _⟩
  have hinit : constantCoeff (toPS [1]) = 1 ∧ EqMod 1 (toPS [1] ^ m * toPS sn) 1 := by
    refine ⟨by rw [toPS_one, map_one], eqMod_one_iff.mpr ?_⟩
    rw [toPS_one, one_pow, one_mul, hsn, map_one]
  have := newton_stepList (fun k q => constantCoeff (toPS q) = 1 ∧ EqMod k (toPS q ^ m * toPS sn) 1) (rootStep sn m)
    (fun k st a hk hst ha hs => rootStep_spec hm hk hst ha.1 ha.2 hs) (Nat.pos_of_ne_zero hp) hinit
  exact ⟨fun _ => this.1, this.2⟩

theorem ratRoot_spec (c r : ℚ) (m : ℕ) (h : ratRoot c m = some r) : r ^ m = c ∧ 0 < c ∧ 0 ≤ r := by
  unfold ratRoot at h
  split at h
  · next hc =>
    simp only at h
    split at h
    · next hab =>
      cases h
      simp only [Bool.and_eq_true, beq_iff_eq] at hab
      have hnum : (c.num.toNat : ℚ) = c.num := by
        rw [← Int.cast_natCast, Int.toNat_of_nonneg (Rat.num_pos.mpr hc).le]
      rw [Rat.mkRat_eq_div, Int.cast_natCast]
      refine ⟨?_, hc, div_nonneg (Nat.cast_nonneg _) (Nat.cast_nonneg _)⟩
      rw [div_pow, ← Nat.cast_pow, ← Nat.cast_pow, hab.1, hab.2, hnum]
      exact Rat.num_div_den c
    · cases h
  · cases h

/-- **series_nthroot**: for `n ≥ 2` the result `g` satisfies `g^n ≡ s`, for `n ≤ -2` it satisfies
`g^|n| · s ≡ 1`; the constant terms of `s` and (for `prec ≥ 1`) of `g` are positive. -/
theorem nthroot_spec (s g : Poly) (n : Int) (prec : ℕ) (hn : 2 ≤ n.natAbs) (h : nthroot s n prec = .ok g) :
    (0 < n → EqMod prec (toPS g ^ n.natAbs) (toPS s)) ∧
    (n < 0 → EqMod prec (toPS g ^ n.natAbs * toPS s) 1) ∧
    0 < constantCoeff (toPS s) ∧ (1 ≤ prec → 0 < constantCoeff (toPS g)) := by
  unfold nthroot at h
  have hne : ∀ c : Int, c.natAbs < 2 → (n == c) = false := fun c hc =>
    Bool.eq_false_iff.mpr fun h => by rw [beq_iff_eq.mp h] at hn; exact absurd hn (Nat.not_le.mpr hc)
  simp only [hne 0 (by decide), hne 1 (by decide), hne (-1) (by decide), Bool.false_eq_true,
    ↓reduceIte] at h
  split at h
  · cases h  -- ldegree s = none: oob
  · set ct := Series.coeff s 0
    set m := n.natAbs
    have hm : 1 ≤ m := by omega
    split at h
    · cases h  -- ratRoot ct m = none: notRational
    · next ctroot hroot =>
      obtain ⟨hrt, hctpos, hctroot⟩ := ratRoot_spec ct ctroot m hroot
      have hc0 : ct ≠ 0 := hctpos.ne'
      set sn := scale (1 / ct) s
      have hsnS : toPS sn = C (1 / ct) * toPS s := toPS_scale _ _
      have hsn1 : constantCoeff (toPS sn) = 1 := by
        rw [hsnS, map_mul, constantCoeff_C, constantCoeff_toPS]
        exact one_div_mul_cancel hc0
      obtain ⟨hres1, hloop⟩ := rootLoop_spec sn m prec hm hsn1
      set res := (stepList prec).foldl (rootStep sn m) [1]
      have hctrootpos : 0 < ctroot := by
        refine lt_of_le_of_ne hctroot fun h0 => hc0 ?_
        rw [← hrt, ← h0, zero_pow (by omega)]
      have hpos : 0 < constantCoeff (toPS s) := by rw [constantCoeff_toPS]; exact hctpos
      split at h
      · next hneg =>
        cases h
        rw [toPS_scale]
        refine ⟨fun hp => absurd hp (by omega), fun _ => ?_, hpos, fun h1 => ?_⟩
        · -- (1/ctroot)^m = 1/ct (`hrt`) and sn = s/ct, so `(res/ctroot)^m · s = res^m · sn`
          rw [mul_pow, ← map_pow, div_pow, one_pow, hrt, mul_assoc, mul_left_comm, ← hsnS]
          exact hloop
        · rw [map_mul, constantCoeff_C, hres1 h1, mul_one]
          exact one_div_pos.mpr hctrootpos
      · next hnn =>
        obtain ⟨inv, hinv, h⟩ := bind_ok.mp h
        obtain rfl := Except.ok.inj h
        have hi := invert_spec res inv prec hinv
        rw [toPS_scale]
        refine ⟨fun _ => ?_, fun hp => absurd hp (by omega), hpos, fun h1 => ?_⟩
        · -- inv^m · res^m ≡ 1 and res^m · sn ≡ 1, hence inv^m ≡ sn
          have h3 := hi.pow m
          rw [mul_pow, one_pow] at h3
          have h4 : EqMod prec (toPS inv ^ m) (toPS sn) := by
            have := ((hloop.mul_left (toPS inv ^ m)).symm.trans (EqMod.of_eq (mul_assoc _ _ _).symm)).trans
              (h3.mul_right (toPS sn))
            rwa [mul_one, one_mul] at this
          rw [mul_pow, ← map_pow, hrt]
          refine (h4.mul_left (C ct)).trans (EqMod.of_eq ?_)
          rw [hsnS, ← mul_assoc, ← map_mul, mul_one_div_cancel hc0, map_one, one_mul]
        · have hc := constantCoeff_eq_of_eqMod h1 hi
          rw [map_mul, hres1 h1, mul_one, map_one] at hc
          rw [map_mul, constantCoeff_C, hc, mul_one]
          exact hctrootpos
  · cases h  -- ldegree s ≠ 0: laurent

/-- first-order expansion of the `m`-th power at a series with constant term `c ≠ 0`: with `y = d/(m R^m)`,
`(R (1 + y))^m = R^m (1 + m y + y² q) = R^m + d + R^m y² q` -/
theorem pow_expands {m : ℕ} (hm : 1 ≤ m) {c : ℚ} (hc : c ≠ 0) :
    Expands (fun R => R ^ m) (fun R => R * ((m : ℚ⟦X⟧) * R ^ m)⁻¹) c := by
  have hMc : ∀ {R : ℚ⟦X⟧}, constantCoeff R = c → constantCoeff ((m : ℚ⟦X⟧) * R ^ m) ≠ 0 := fun hR => by
    rw [map_mul, map_natCast, map_pow, hR]
    exact mul_ne_zero (Nat.cast_ne_zero.mpr (Nat.pos_iff_ne_zero.mp hm)) (pow_ne_zero _ hc)
  refine ⟨fun hR => ?_, fun {k R d} _ hR hd => ?_⟩
  · rw [map_mul, constantCoeff_inv, hR]
    exact mul_ne_zero hc (inv_ne_zero (hMc hR))
  set M := (m : ℚ⟦X⟧) * R ^ m with hM
  set y := d * M⁻¹ with hy
  have hyk : EqMod k y 0 := hd.mul_right_zero M⁻¹
  obtain ⟨q, hq⟩ := one_add_pow_exists y m
  have : (R + d * (R * M⁻¹)) ^ m = R ^ m + d + y * y * (R ^ m * q) := by
    have e : R + d * (R * M⁻¹) = R * (1 + y) := by rw [hy]; ring
    rw [e, mul_pow, hq, hy]
    linear_combination d * PowerSeries.mul_inv_cancel M (hMc hR)
  show EqMod (2 * k) ((R + d * (R * M⁻¹)) ^ m) (R ^ m + d)
  rw [this]
  exact eqMod_add_of_zero _ ((eqMod_sq_of_eqMod hyk).mul_right_zero _)

theorem pow_inj_mod {n m : ℕ} (hm : 1 ≤ m) {G D : ℚ⟦X⟧} (hc : constantCoeff G = constantCoeff D)
    (hD : constantCoeff D ≠ 0) (h : EqMod n (G ^ m) (D ^ m)) : EqMod n G D :=
  (pow_expands hm hD).inj hc rfl h

theorem pos_root_unique {n m : ℕ} (hm : 1 ≤ m) {G D : ℚ⟦X⟧} (hG : 1 ≤ n → 0 < constantCoeff G)
    (hD : 0 < constantCoeff D) (h : EqMod n (G ^ m) (D ^ m)) : EqMod n G D := eqMod_of_pos fun hn => by
  have hc := constantCoeff_eq_of_eqMod hn h
  rw [map_pow, map_pow] at hc
  exact pow_inj_mod hm ((pow_left_inj₀ (hG hn).le hD.le (Nat.pos_iff_ne_zero.mp hm)).mp hc) hD.ne' h

end SymVerif.C31
