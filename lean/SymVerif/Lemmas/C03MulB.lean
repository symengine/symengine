/-
C03: induction step of the Mul / Pow contracts for `powNumRat`, `powrat`, and both branches of
`Mul::dict_add_term_new` (the loop invariant of the Mul dictionary).
The `…_cases` lemmas (here and in C03MulE) list the ways in which a function comes by its result: one
disjunct per group of arms of the model, with the branch conditions (where an arm returns a literal, what the
steps need of it) and no hypothesis on the arguments, so that each serves the step of `Spec` and the step of
`SpecN` (C03Shape).
-/
import SymVerif.Lemmas.C03Dom

namespace SymVerif.Arith

variable {n : Nat}

theorem changed_iff {rb re t e : Expr} : (!(eqE rb t && eqE re e)) = true ↔ ¬(rb = t ∧ re = e) := by
  rw [← eqE_iff (a := rb), ← eqE_iff (a := re)]
  cases eqE rb t <;> cases eqE re e <;> simp

theorem unchanged {rb re t e : Expr} (h : ¬(!(eqE rb t && eqE re e)) = true) : Expr.pow rb re = .pow t e := by
  obtain ⟨rfl, rfl⟩ := Classical.not_not.mp (mt changed_iff.mpr h)
  rfl

theorem radical_inv (ih : Spec n) {rv : Bool} {t e res : Expr} (ht : inv t = true) (he : inv e = true)
    (h3 : (isInteger t || isRational t || isComplex t) = true) (hr : isRational e = true)
    (hres : powNumRat n rv t e = .ok res) : inv res = true :=
  ih.powNumRat rv t e res (exOK_of_exactNum ht h3) (exOK_of_exactNum he (by simp [hr])) hres

theorem pre_of_inv_pow {b e : Expr} (h : inv (.pow b e) = true) : Pre b e :=
  have ⟨hb, he, _, hf⟩ := inv_pow_iff.mp h
  pre_of_factorOK hb he hf

theorem factorOK_of_unchanged (hshape : RadShape) {f : Nat} {rv : Bool} {t e res : Expr}
    (hres : powNumRat f rv t e = .ok res) (hn : res.isNum = false) (hnm : isMul res = false)
    (hpw : isPow res = true → res = .pow t e) (hri : inv res = true) : factorOK t e = true := by
  obtain ⟨rb, re, rfl⟩ := hshape.isPow hres hn hnm
  rw [hpw rfl] at hri
  exact (inv_pow_iff.mp hri).2.2.2

theorem step_powNumRat (ih : Spec n) : ∀ rv t e r, ExOK t → ExOK e →
    powNumRat (n + 1) rv t e = .ok r → inv r = true := by
  intro rv t e r ht he h
  simp only [powNumRat] at h
  split at h
  · exact ih.rpowrat rv _ _ _ r (exOK_ratCanon he) h
  · exact ih.powrat rv _ _ _ _ r (exOK_ratCanon ht) (exOK_ratCanon he) h
  · simp at h

theorem step_powrat (ih : Spec n) : ∀ rv p q nn d r, ratCanon p q = true → ratCanon nn d = true →
    powrat (n + 1) rv p q nn d = .ok r → inv r = true := by
  intro rv p q nn d r hpq hnd h
  unfold powrat at h
  obtain ⟨x, h1, h⟩ := bind_eq_ok h
  obtain ⟨y, h2, h⟩ := bind_eq_ok h
  exact ih.mulF rv x y r (ih.rpowrat rv nn d p x hnd h1)
    (ih.rpowrat rv (-nn) d q y (ratCanon_neg hnd) h2) h

theorem datNew_notFound_cases {rv : Bool} {coef exp t c' : Expr} {d d' : Dict} (hf : dfind d t = none)
    (h : datNew (n + 1) rv coef d exp t = .ok (c', d')) :
    -- Number ** Integer: into the coefficient
    (∃ p, (isInteger t || isRational t || isComplex t) = true ∧ numPow t exp = .ok p
        ∧ numMul coef p = .ok c' ∧ d' = d)
    -- Number ** Rational: the result of `powNumRat` is absorbed, re-inserted as another Pow, or `(t, exp)` inserted
    ∨ (∃ res, (isInteger t || isRational t || isComplex t) = true ∧ isRational exp = true
        ∧ powNumRat n rv t exp = .ok res
        ∧ (absorb n rv coef d res = .ok (some (c', d'))
          ∨ (res.isNum = false ∧ isMul res = false
            ∧ ((∃ rb re, res = .pow rb re ∧ ¬(rb = t ∧ re = exp)
                ∧ datNew n rv coef d re rb = .ok (c', d'))
              ∨ (c' = coef ∧ d' = dinsert d t exp ∧ (isPow res = true → res = .pow t exp))))))
    -- Pow ** Integer: folded by `pow`
    ∨ (∃ r, isPow t = true ∧ isInteger exp = true ∧ powF n rv t exp = .ok r
        ∧ mulInto n rv coef d r = .ok (c', d'))
    -- the two last `else`: `(t, exp)` inserted as it is
    ∨ (c' = coef ∧ d' = dinsert d t exp
        ∧ (((isInteger t || isRational t || isComplex t) = true ∧ isInteger exp = false
            ∧ (isRational exp && !isComplex t) = false)
          ∨ ((isInteger t || isRational t || isComplex t) = false
            ∧ (isPow t && isInteger exp) = false))) := by
  unfold datNew at h
  rw [hf] at h
  dsimp only at h
  by_cases h3 : (isInteger t || isRational t || isComplex t) = true
  · rw [if_pos h3] at h
    by_cases hi : isInteger exp = true
    · rw [if_pos hi] at h
      obtain ⟨p, hp, h⟩ := bind_eq_ok h
      obtain ⟨c1, hm, h⟩ := bind_eq_ok h
      cases h
      exact .inl ⟨p, h3, hp, hm, rfl⟩
    rw [if_neg hi] at h
    by_cases hr : (isRational exp && !isComplex t) = true
    · rw [if_pos hr] at h
      rw [Bool.and_eq_true] at hr
      obtain ⟨res, hres, h⟩ := bind_eq_ok h
      obtain ⟨o, habs, h⟩ := bind_eq_ok h
      refine .inr (.inl ⟨res, h3, hr.1, hres, ?_⟩)
      cases o with
      | some x => cases h; exact .inl habs
      | none =>
        refine .inr ⟨(absorb_none habs).1, (absorb_none habs).2, ?_⟩
        dsimp only at h
        split at h
        · split at h
          · rename_i heq
            exact .inl ⟨_, _, rfl, changed_iff.mp heq, h⟩
          · rename_i heq
            cases h
            exact .inr ⟨rfl, rfl, fun _ => unchanged heq⟩
        · rename_i hnp
          cases h
          exact .inr ⟨rfl, rfl, fun e => absurd e (isPow_eq_false hnp ▸ Bool.false_ne_true)⟩
    · rw [if_neg hr] at h
      cases h
      -- inserted, Number base
      exact .inr (.inr (.inr ⟨rfl, rfl, .inl ⟨h3, Bool.eq_false_iff.mpr hi, Bool.eq_false_iff.mpr hr⟩⟩))
  · rw [if_neg h3] at h
    by_cases hpi : (isPow t && isInteger exp) = true
    · rw [if_pos hpi] at h
      obtain ⟨r, hr, h⟩ := bind_eq_ok h
      rw [Bool.and_eq_true] at hpi
      -- Pow ** Integer
      exact .inr (.inr (.inl ⟨r, hpi.1, hpi.2, hr, h⟩))
    · rw [if_neg hpi] at h
      cases h
      -- inserted, other base
      exact .inr (.inr (.inr ⟨rfl, rfl, .inr ⟨Bool.eq_false_iff.mpr h3, Bool.eq_false_iff.mpr hpi⟩⟩))

theorem step_datNew_notFound (hshape : RadShape) (ih : Spec n) {rv : Bool} {coef exp t c' : Expr}
    {d d' : Dict} (hs : St coef d) (hp : Pre t exp) (hf : dfind d t = none)
    (h : datNew (n + 1) rv coef d exp t = .ok (c', d')) : St c' d' := by
  rcases datNew_notFound_cases hf h with ⟨p, h3, hpw, hm, rfl⟩ | ⟨res, h3, hr, hres, hcase⟩
    | ⟨r, hpt, -, hr, hmi⟩
    | ⟨rfl, rfl, ⟨h3, hi, hr⟩ | ⟨h3, hpi⟩⟩
  · -- Number ** Integer
    exact ⟨numMul_ok hs.1.2 (numPow_ok (inv_canon hp.invT) hpw).2 hm, hs.2⟩
  · -- Number ** Rational
    have hri := radical_inv ih hp.invT hp.invE h3 hr hres
    rcases hcase with habs | ⟨hn, hnm, ⟨rb, re, rfl, -, h⟩ | ⟨rfl, rfl, hpw⟩⟩
    · exact ih.absorb rv coef d res c' d' hs hri habs                                   -- absorbed
    · exact ih.datNew rv coef d re rb c' d' hs (pre_of_inv_pow hri) h                    -- another Pow
    · exact ⟨hs.1, hs.2.insert hp.invT hp.invE (factorOK_of_unchanged hshape hres hn hnm hpw hri)⟩   -- inserted
  · -- Pow ** Integer
    obtain ⟨b, x, rfl⟩ := isPow_iff.mp hpt
    exact ih.mulInto rv coef d r c' d' hs (ih.powF rv _ exp r hp.invT hp.invE rfl hr) hmi
  · exact ⟨hs.1, hs.2.insert hp.invT hp.invE (factorOK_of_pre_exactNum hp.nz hp.ok h3 hi hr)⟩   -- inserted, Number base
  · exact ⟨hs.1, hs.2.insert hp.invT hp.invE (factorOK_of_pre_other hp.nz hp.ok h3 hpi)⟩         -- inserted, other base

theorem datNew_found {rv : Bool} {coef exp t old c' : Expr} {d d' : Dict}
    (hf : dfind d t = some old) (h : datNew (n + 1) rv coef d exp t = .ok (c', d')) :
    ∃ v, (if exp.isNum && old.isNum then numAdd old exp else addCore old exp) = .ok v
      ∧ datFound n rv coef (dset d t v) t v = .ok (c', d') := by
  unfold datNew at h
  rw [hf] at h
  dsimp only at h
  split at h
  · rename_i hc
    obtain ⟨v, hv, h⟩ := bind_eq_ok h
    exact ⟨v, by rw [if_pos hc]; exact hv, h⟩
  · rename_i hc
    obtain ⟨v, hv, h⟩ := bind_eq_ok h
    exact ⟨v, by rw [if_neg hc]; exact hv, h⟩

theorem step_datNew (hshape : RadShape) (ih : Spec n) : ∀ rv, invDom.DatNew (n + 1) rv := by
  intro rv coef d exp t c' d' hs hp h
  cases hf : dfind d t with
  | none => exact step_datNew_notFound hshape ih hs hp hf h
  | some old =>
    have hm := dfind_some hf
    have hold := hs.2.ent _ hm
    obtain ⟨v, hv, h⟩ := datNew_found hf h
    refine ih.datFound rv coef d t old v c' d' hs hm ?_ h
    split at hv
    · exact (numAdd_ok (inv_canon hold.2) (inv_canon hp.invE) hv).inv
    · exact addCore_inv hold.2 hp.invE hv

theorem datFound_cases {rv : Bool} {coef t v c' : Expr} {d d' : Dict}
    (h : datFound (n + 1) rv coef d t v = .ok (c', d')) :
    -- Integer exponent of a Number base, or exponent 0: the entry is erased
    (d' = derase d t ∧ (c' = coef ∨ ∃ p, numPow t v = .ok p ∧ numMul coef p = .ok c'))
    -- through `pow`: Pow ** Integer, or base 0
    ∨ (∃ r, powF n rv t v = .ok r ∧ mulInto n rv coef (derase d t) r = .ok (c', d'))
    -- (Integer | Rational) ** Rational: the result of `powNumRat` is absorbed or re-inserted as another Pow
    ∨ (∃ res, powNumRat n rv t v = .ok res ∧ isRational v = true ∧ (isInteger t || isRational t) = true
        ∧ (absorb n rv coef (derase d t) res = .ok (some (c', d'))
          ∨ ∃ rb re, res = .pow rb re ∧ datNew n rv coef (derase d t) re rb = .ok (c', d')))
    -- a zero exponent that is not an Integer (a Rational `0/d`; excluded by `canon v` in the steps)
    ∨ (numIsZero v = true ∧ isInteger v = false ∧ ∃ p, numMul coef p = .ok c' ∧ d' = derase d t)
    -- Mul ** Number: `power_num`
    ∨ (∃ mc mfs, t = .mul mc mfs ∧ v.isNum = true
        ∧ powerNum n rv mc mfs coef (derase d t) v = .ok (c', d'))
    -- the entry stays; for a Number exponent with the negated tests of the arms above (the last clause: `powNumRat`
    -- returned `t ** v` itself, or neither Number, Mul nor Pow)
    ∨ (c' = coef ∧ d' = d ∧ (v.isNum = false ∨ (v.isNum = true ∧ numIsZero v = false
        ∧ isIntLit t 0 = false
        ∧ (isInteger v = true →
            (isInteger t || isRational t || isComplex t) = false ∧ isPow t = false ∧ isMul t = false)
        ∧ (∀ mc mfs, t = .mul mc mfs → (!isIntLit mc 1 && !isIntLit mc (-1)) = false)
        ∧ ((isRational v && (isInteger t || isRational t)) = true →
            ∃ res, powNumRat n rv t v = .ok res ∧ res.isNum = false ∧ isMul res = false
              ∧ (isPow res = true → res = .pow t v))))) := by
  unfold datFound at h
  dsimp only at h
  by_cases hc1 : (isInteger v && (isInteger t || isRational t || isComplex t)) = true
  · rw [if_pos hc1] at h
    rw [Bool.and_eq_true] at hc1
    refine .inl ?_
    split at h
    · obtain ⟨c1, hc, h⟩ := bind_eq_ok h
      obtain ⟨p, hp, hmu⟩ := bind_eq_ok hc
      cases h
      exact ⟨rfl, .inr ⟨p, hp, hmu⟩⟩
    · cases h
      exact ⟨rfl, .inl rfl⟩
  rw [if_neg hc1] at h
  by_cases hc2 : (isInteger v && numIsZero v) = true
  · rw [if_pos hc2] at h
    cases h
    exact .inl ⟨rfl, .inl rfl⟩
  rw [if_neg hc2] at h
  by_cases hc3 : (isInteger v && isPow t) = true
  · rw [if_pos hc3] at h
    obtain ⟨r, hr, h⟩ := bind_eq_ok h
    exact .inr (.inl ⟨r, hr, h⟩)
  rw [if_neg hc3] at h
  obtain ⟨early, he, h⟩ := bind_eq_ok h
  cases early with
  | some x =>
    obtain rfl := Except.ok.inj h
    -- absorbed or another Pow
    refine .inr (.inr (.inl ?_))
    split at he
    · rename_i hc
      rw [Bool.and_eq_true] at hc
      obtain ⟨res, hres, he⟩ := bind_eq_ok he
      refine ⟨res, hres, hc.1, hc.2, ?_⟩
      split at he
      · exact .inl he
      · split at he
        · rename_i rb re _
          split at he
          · obtain ⟨r, hr, he⟩ := bind_eq_ok he
            cases he
            exact .inr ⟨rb, re, rfl, hr⟩
          · cases he
        · cases he
    · cases he
  | none =>
    have hnone : (isRational v && (isInteger t || isRational t)) = true →
        ∃ res, powNumRat n rv t v = .ok res ∧ res.isNum = false ∧ isMul res = false
          ∧ (isPow res = true → res = .pow t v) := by
      intro hc
      rw [if_pos hc] at he
      obtain ⟨res, hres, he⟩ := bind_eq_ok he
      refine ⟨res, hres, ?_⟩
      split at he
      · rename_i hnm
        rw [(absorb_none he).1, (absorb_none he).2] at hnm
        cases hnm
      · rename_i hnm
        rw [Bool.or_eq_true, not_or, Bool.not_eq_true, Bool.not_eq_true] at hnm
        refine ⟨hnm.1, hnm.2, ?_⟩
        intro hp
        obtain ⟨rb, re, rfl⟩ := isPow_iff.mp hp
        dsimp only at he
        split at he
        · obtain ⟨r, hr, he⟩ := bind_eq_ok he
          cases he
        · rename_i heq
          exact unchanged heq
    clear he
    dsimp only at h
    by_cases hvn : v.isNum = true
    · rw [if_pos hvn] at h
      by_cases hvz : numIsZero v = true
      · rw [if_pos hvz] at h
        obtain ⟨p, hp, h⟩ := bind_eq_ok h
        obtain ⟨c1, hmu, h⟩ := bind_eq_ok h
        cases h
        -- zero, not an Integer
        exact .inr (.inr (.inr (.inl ⟨hvz, by simpa [hvz] using hc2, p, hmu, rfl⟩)))
      rw [if_neg hvz] at h
      by_cases ht0 : isIntLit t 0 = true
      · rw [if_pos ht0] at h
        obtain ⟨r, hr, h⟩ := bind_eq_ok h
        exact .inr (.inl ⟨r, hr, h⟩)
      rw [if_neg ht0] at h
      rw [Bool.not_eq_true] at hvz ht0
      split at h
      · split at h
        · -- power_num
          exact .inr (.inr (.inr (.inr (.inl ⟨_, _, rfl, hvn, h⟩))))
        · rename_i hcond
          rw [Bool.or_eq_true, not_or, Bool.not_eq_true, Bool.not_eq_true] at hcond
          cases h
          -- stays
          refine .inr (.inr (.inr (.inr (.inr ⟨rfl, rfl, .inr ⟨hvn, hvz, ht0, fun hi => ?_, ?_, hnone⟩⟩))))
          · rw [hcond.1] at hi; cases hi
          · intro mc' mfs' e; cases e; exact hcond.2
      · rename_i hnm
        cases h
        -- stays
        refine .inr (.inr (.inr (.inr (.inr ⟨rfl, rfl, .inr ⟨hvn, hvz, ht0, fun hi =>
          ⟨by simpa [hi] using hc1, by simpa [hi] using hc3, isMul_eq_false hnm⟩,
          fun mc mfs e => absurd e (hnm mc mfs), hnone⟩⟩))))
    · rw [if_neg hvn] at h
      cases h
      -- stays
      exact .inr (.inr (.inr (.inr (.inr ⟨rfl, rfl, .inl (Bool.eq_false_iff.mpr hvn)⟩))))

theorem step_datFound (hshape : RadShape) (ih : Spec n) : ∀ rv coef d0 t old v c' d', St coef d0 →
    (t, old) ∈ d0 → inv v = true → datFound (n + 1) rv coef (dset d0 t v) t v = .ok (c', d') →
    St c' d' := by
  intro rv coef d0 t old v c' d' hs hm hv h
  have ht : inv t = true := (hs.2.ent _ hm).1
  have hfo : factorOK t old = true := hs.2.fac _ hm
  have hE : St coef (derase (dset d0 t v) t) := ⟨hs.1, hs.2.set_erase⟩
  have hrat : ∀ res, powNumRat n rv t v = .ok res → isRational v = true →
      (isInteger t || isRational t) = true → inv res = true := fun res hres hrv hrt =>
    radical_inv ih ht hv (by rw [hrt]; rfl) hrv hres
  rcases datFound_cases h with ⟨rfl, rfl | ⟨p, hp, hmu⟩⟩ | ⟨r, hr, h⟩
    | ⟨res, hres, hrv, hrt, h | ⟨rb, re, rfl, h⟩⟩ | ⟨hz, hi, -⟩ | ⟨mc, mfs, rfl, hvn, h⟩
    | ⟨rfl, rfl, hst⟩
  · exact hE                                                                            -- erased, exponent 0
  · exact ⟨numMul_ok hs.1.2 (numPow_ok (inv_canon ht) hp).2 hmu, hE.2⟩                    -- erased, into the coefficient
  · exact ih.mulInto rv coef _ r c' d' hE (ih.powF rv t v r ht hv (factorOK_base hfo).1 hr) h   -- through `pow`
  · exact ih.absorb rv coef _ res c' d' hE (hrat res hres hrv hrt) h                      -- absorbed
  · exact ih.datNew rv coef _ re rb c' d' hE (pre_of_inv_pow (hrat _ hres hrv hrt)) h     -- another Pow
  · rw [numIsZero_isInteger (inv_canon hv) hz] at hi; cases hi                            -- zero, not an Integer
  · -- `power_num`; `okBase (.mul mc mfs)` is `isExactNum mc` by unfolding
    exact ih.powerNum rv mc mfs coef _ v c' d' ht (factorOK_base hfo).1 hE ⟨hvn, inv_canon hv⟩ h
  · -- the entry stays
    refine ⟨hs.1, hs.2.set hm hv ?_⟩
    rcases hst with hvn | ⟨hvn, hvz, ht0, h1, h4, hnone⟩
    · rw [factorOK_of_nonNum hvn, (factorOK_base hfo).1, (factorOK_base hfo).2]; rfl
    · by_cases hr : (isRational v && (isInteger t || isRational t)) = true
      · obtain ⟨res, hres, hn, hnm, hpw⟩ := hnone hr
        rw [Bool.and_eq_true] at hr
        exact factorOK_of_unchanged hshape hres hn hnm hpw (hrat _ hres hr.1 hr.2)
      · exact factorOK_of_found_stay (factorOK_base hfo) ((isNumZero_eq v).trans hvz) h1 (fun hrv => by simpa [hrv] using hr) ht0 h4

end SymVerif.Arith
