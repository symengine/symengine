/-
C37 — the preprocessing steps of `treeEquiv`: what the small trees denote that the checkers build
(`f(a)`, a one-entry `Add` / `Mul`, `scaleExp`, `shiftExp`, `negE`; one equation between partial values each), the value
`facVal` of a `Pow` node / `Mul` entry, what `expNorm` builds and that it keeps the value (`expNorm_shape`, `evalS_expNorm`),
`foldPow` leaves the denotation unchanged, and the atoms collected by `atomsOf` are defined where the tree is.
-/
import SymVerif.Lemmas.C37Sem

namespace SymVerif
namespace CSE

open NF

-- every statement takes `[CharZero K]` from the variable line, whether its proof needs it or not; the one source of the need
-- is `cast_sign_div`: `expNorm` builds the rational `sign c / |c|`, and `|c| ≠ 0` must hold in `K`
set_option linter.unusedSectionVars false

section
variable {K : Type} [Field K] [CharZero K] {M : Interp K}

/-- Value of the `Pow` node / `Mul` entry `(b, e)`: the `pow` case of `evalS` and the factor in the cons case of
`evalSFacs` are this one expression (`evalS_pow_eq`, `evalSFacs_cons`), so a fact about `Pow` nodes is proved once, for
`facVal`, with the statement for the base `b` as a hypothesis. -/
noncomputable def facVal (M : Interp K) (b e : Expr) : Option K :=
  match intLit? e with
  | some n => (evalS M b).bind (fun v => powVal v n)
  | none => pwVal M (evalS M b) (evalS M e)

theorem evalS_pow_eq (b e : Expr) : evalS M (.pow b e) = facVal M b e := by
  simp only [evalS, facVal]
  cases intLit? e <;> rfl

theorem evalSFacs_cons (b e : Expr) (t : List (Expr × Expr)) :
    evalSFacs M ((b, e) :: t) = mul2 (facVal M b e) (evalSFacs M t) := by
  simp only [evalSFacs, facVal]
  cases intLit? e <;> rfl

theorem pwVal_some {a b : Option K} {v : K} (h : pwVal M a b = some v) :
    ∃ vb ve, a = some vb ∧ b = some ve ∧ vb ≠ 0 ∧ v = M.pw vb ve := by
  unfold pwVal at h
  split at h
  · rename_i vb ve
    split at h
    · cases h
    · rename_i hz
      exact ⟨vb, ve, rfl, rfl, hz, (Option.some.inj h).symm⟩
  · cases h

theorem pwVal_eq {vb ve : K} (h : vb ≠ 0) : pwVal M (some vb) (some ve) = some (M.pw vb ve) := by
  simp [pwVal, h]

theorem evalS_add_single (c a : Expr) : evalS M (.add c [(a, .int 1)]) = add2 (evalS M c) (evalS M a) := by
  simp only [evalS, evalSTerms, Int.cast_one, mul2_one_right, add2_zero_right]

theorem evalS_mul_single (c a : Expr) : evalS M (.mul c [(a, .int 1)]) = mul2 (evalS M c) (evalS M a) := by
  simp only [evalS, evalSFacs, intLit?, bind_powVal_one, mul2_one_right]

theorem evalS_app1 (h : String) (a : Expr) :
    evalS M (.app h [a]) = (evalS M a).map (fun v => M.app h [v]) := by
  simp only [evalS, evalSList]
  cases evalS M a <;> simp [consO]

theorem evalS_app_some {hd : String} {l : List Expr} {u : K} (h : evalS M (.app hd l) = some u) :
    ∃ us, evalSList M l = some us ∧ u = M.app hd us := by
  simp only [evalS] at h
  obtain ⟨us, hus, rfl⟩ := Option.map_eq_some_iff.mp h
  exact ⟨us, hus, rfl⟩

theorem evalS_app1_some {h : String} {a : Expr} {v : K} (hv : evalS M (.app h [a]) = some v) :
    ∃ va, evalS M a = some va ∧ v = M.app h [va] := by
  rw [evalS_app1] at hv
  obtain ⟨va, ha, rfl⟩ := Option.map_eq_some_iff.mp hv
  exact ⟨va, ha, rfl⟩

theorem evalS_scaleExp (e : Expr) (k : Int) :
    evalS M (scaleExp e k) = (evalS M e).map fun ve => (k : K) * ve := by
  rw [scaleExp, evalS_mul_single, evalS]
  cases evalS M e <;> rfl

theorem evalS_shiftExp (e : Expr) (k : Int) :
    evalS M (shiftExp e k) = (evalS M e).map fun ve => (k : K) + ve := by
  rw [shiftExp, evalS_add_single, evalS]
  cases evalS M e <;> rfl

theorem evalS_negE (a : Expr) : evalS M (negE a) = (evalS M a).map Neg.neg := by
  rw [negE, evalS_mul_single, evalS]
  cases evalS M a <;> simp [mul2]

theorem intLit_scaleExp (e : Expr) (k : Int) : intLit? (scaleExp e k) = none := rfl

/-- what `expNorm` builds, whatever the heuristics answer; the unshifted / unscaled alternative carries `k = 0` / `c = 1`
because the equation `e = k + c·e0` of `evalS_expNorm` needs the value there -/
theorem expNorm_shape (e : Expr) : ∃ (k c : Int) (e1 : Expr), c ≠ 0 ∧
    (k = 0 ∧ e1 = e ∨ e1 = .add (.int (-k)) [(e, .int 1)]) ∧
    (c = 1 ∧ expNorm e = (k, c, e1) ∨ expNorm e = (k, c, .mul (.rat c.sign c.natAbs) [(e1, .int 1)])) := by
  unfold expNorm
  simp only
  -- `k`, `c0`: whatever `constHeur` / `contentHeur` answer, from here on arbitrary integers
  generalize (if (if isRatLit e then (0 : Int) else constHeur e).natAbs > 16 then (0 : Int)
      else (if isRatLit e then (0 : Int) else constHeur e)) = k
  have h1 : (k = 0 ∧ (if k = 0 then e else .add (.int (-k)) [(e, .int 1)]) = e) ∨
      (if k = 0 then e else .add (.int (-k)) [(e, .int 1)]) = .add (.int (-k)) [(e, .int 1)] := by
    by_cases hk : k = 0
    · exact Or.inl ⟨hk, if_pos hk⟩
    · exact Or.inr (if_neg hk)
  generalize (if k = 0 then e else Expr.add (.int (-k)) [(e, .int 1)]) = e1 at h1 ⊢
  generalize (if isRatLit e then (1 : Int) else contentHeur e1) = c0
  have hc0 : (if c0 = 0 || c0.natAbs > 16 then (1 : Int) else c0) ≠ 0 := by
    split
    · decide
    · rename_i hne
      simp only [Bool.or_eq_true, decide_eq_true_eq, not_or] at hne
      exact hne.1
  generalize (if c0 = 0 || c0.natAbs > 16 then (1 : Int) else c0) = c at hc0 ⊢
  refine ⟨k, c, e1, hc0, h1, ?_⟩
  by_cases hc : c = 1
  · exact Or.inl ⟨hc, by rw [if_pos hc]⟩
  · exact Or.inr (by rw [if_neg hc])

theorem intLit_expNorm (e : Expr) (h : intLit? e = none) : intLit? (expNorm e).2.2 = none := by
  obtain ⟨k, c, e1, -, h1, h2⟩ := expNorm_shape e
  have he1 : intLit? e1 = none := by
    rcases h1 with ⟨-, rfl⟩ | rfl
    · exact h
    · rfl
  rcases h2 with ⟨-, h2⟩ | h2 <;> rw [h2]
  · exact he1
  · rfl

theorem cast_sign_div {c : Int} (hc : c ≠ 0) :
    ((c : ℤ) : K) * (((c.sign : ℤ) : K) / ((c.natAbs : ℕ) : K)) = 1 := by
  have hn : ((c.natAbs : ℕ) : K) ≠ 0 := Nat.cast_ne_zero.mpr (Int.natAbs_ne_zero.mpr hc)
  rw [mul_div_assoc', ← Int.cast_mul, Int.mul_sign_self, Int.cast_natCast, div_self hn]

theorem evalS_expNorm {e : Expr} {ve : K} (h : evalS M e = some ve) :
    ∃ v0, evalS M (expNorm e).2.2 = some v0 ∧
      ve = ((expNorm e).1 : K) + ((expNorm e).2.1 : K) * v0 := by
  obtain ⟨k, c, e1, hc0, h1, h2⟩ := expNorm_shape e
  -- the shifted exponent `e1 = e - k`
  have hv1 : ∃ v1, evalS M e1 = some v1 ∧ ve = (k : K) + v1 := by
    rcases h1 with ⟨rfl, rfl⟩ | rfl
    · exact ⟨ve, h, by simp⟩
    · exact ⟨(-k : K) + ve, by rw [evalS_add_single, h, evalS, Int.cast_neg]; rfl, by ring⟩
  obtain ⟨v1, hv1, hve⟩ := hv1
  -- the rest `e0 = e1 / c`
  rcases h2 with ⟨rfl, h2⟩ | h2 <;> rw [h2]
  · exact ⟨v1, hv1, by rw [hve]; simp⟩
  · have hn : c.natAbs ≠ 0 := by omega
    refine ⟨((c.sign : ℤ) : K) / ((c.natAbs : ℕ) : K) * v1, ?_, ?_⟩
    · rw [evalS_mul_single, hv1, evalS, if_neg hn]; rfl
    · rw [hve, ← mul_assoc, cast_sign_div hc0, one_mul]

theorem facVal_lit_some {b e : Expr} {n : Int} {v : K} (he : intLit? e = some n) (h : facVal M b e = some v) :
    ∃ a, evalS M b = some a ∧ (n < 0 → a ≠ 0) ∧ v = a ^ n := by
  simp only [facVal, he] at h; exact bind_powVal_some h

theorem facVal_nonlit_some {b e : Expr} {v : K} (he : intLit? e = none) (h : facVal M b e = some v) :
    ∃ vb ve, evalS M b = some vb ∧ evalS M e = some ve ∧ vb ≠ 0 ∧ v = M.pw vb ve := by
  simp only [facVal, he] at h; exact pwVal_some h

/-- the atom `b ** e0` of the power `b ** e` is defined with it -/
theorem facVal_powAtom {b e : Expr} {v : K} (he : intLit? e = none) (h : facVal M b e = some v) :
    ∃ vb ve v0, evalS M b = some vb ∧ vb ≠ 0 ∧
      ve = ((expNorm e).1 : K) + ((expNorm e).2.1 : K) * v0 ∧ v = M.pw vb ve ∧
      evalS M (.pow b (expNorm e).2.2) = some (M.pw vb v0) := by
  obtain ⟨vb, ve, hvb, hve, hne, rfl⟩ := facVal_nonlit_some he h
  obtain ⟨v0, hv0, hc⟩ := evalS_expNorm hve
  refine ⟨vb, ve, v0, hvb, hne, hc, rfl, ?_⟩
  rw [evalS_pow_eq]
  simp only [facVal, intLit_expNorm e he, hvb, hv0, pwVal_eq hne]

theorem mkPow_eq (b' e : Expr) : mkPow b' e = .pow (mkFac b' e).1 (mkFac b' e).2 := by
  unfold mkPow mkFac
  split
  · split <;> rfl
  · rfl

/-- folding `(b0 ** e0) ** k` into `b0 ** (k * e0)` changes neither the value nor where it is defined:
a defined `b0 ** e0` is not zero (`pw_ne_zero`), so every integer power of it is defined -/
theorem facVal_mkFac (hM : Lawful M) (b' e : Expr) :
    facVal M (mkFac b' e).1 (mkFac b' e).2 = facVal M b' e := by
  unfold mkFac
  split
  · rename_i k b0 e0 hk
    split
    · rename_i he0
      simp only [facVal, hk, evalS_pow_eq, he0, intLit_scaleExp, evalS_scaleExp]
      cases evalS M b0 with
      | none => rfl
      | some vb =>
        cases evalS M e0 with
        | none => rfl
        | some ve =>
          by_cases hvb : vb = 0
          · simp [pwVal, hvb]  -- zero base: both sides undefined
          · simp only [Option.map_some, pwVal_eq hvb, Option.bind_some,
              powVal_of_ne (hM.pw_ne_zero vb ve hvb), hM.pw_mul_int vb ve k hvb]
    · rfl
  · rfl

theorem facVal_congr {b b2 : Expr} (e : Expr) (h : evalS M b2 = evalS M b) : facVal M b2 e = facVal M b e := by
  unfold facVal; rw [h]

mutual
  theorem evalS_foldPow (hM : Lawful M) : ∀ e : Expr, evalS M (foldPow e) = evalS M e
    | .add c ts => by simp only [foldPow, evalS, evalSTerms_foldTerms hM ts]
    | .mul c fs => by simp only [foldPow, evalS, evalSFacs_foldFacs hM fs]
    | .pow b e => by
      rw [foldPow, mkPow_eq, evalS_pow_eq, facVal_mkFac hM, facVal_congr e (evalS_foldPow hM b), evalS_pow_eq]
    | .int _ | .rat _ _ | .cplx _ _ | .dbl _ | .cdbl _ _ | .infty _ | .nan | .sym _ | .dummy _ _
    | .const _ | .fsym _ _ | .app _ _ | .bool _ => rfl
  theorem evalSTerms_foldTerms (hM : Lawful M) : ∀ ts : List (Expr × Expr),
      evalSTerms M (foldTerms ts) = evalSTerms M ts
    | [] => rfl
    | (k, c) :: t => by simp only [foldTerms, evalSTerms, evalS_foldPow hM k, evalSTerms_foldTerms hM t]
  theorem evalSFacs_foldFacs (hM : Lawful M) : ∀ fs : List (Expr × Expr),
      evalSFacs M (foldFacs fs) = evalSFacs M fs
    | [] => rfl
    | (b, e) :: t => by
      -- `evalSFacs_cons` is stated for a written-out pair, `foldFacs` conses `mkFac ..` as it comes: hence the eta step
      rw [foldFacs, ← Prod.mk.eta (p := mkFac (foldPow b) e), evalSFacs_cons, facVal_mkFac hM,
        facVal_congr e (evalS_foldPow hM b), evalSFacs_foldFacs hM t, evalSFacs_cons]
end

theorem foldPow_sound (hM : Lawful M) : ∀ (e : Expr) (v : K), evalS M e = some v →
      evalS M (foldPow e) = some v :=
  fun e _ h => (evalS_foldPow hM e).trans h

theorem foldTerms_sound (hM : Lawful M) : ∀ (ts : List (Expr × Expr)) (v : K),
      evalSTerms M ts = some v → evalSTerms M (foldTerms ts) = some v :=
  fun ts _ h => (evalSTerms_foldTerms hM ts).trans h

theorem foldFacs_sound (hM : Lawful M) : ∀ (fs : List (Expr × Expr)) (v : K),
      evalSFacs M fs = some v → evalSFacs M (foldFacs fs) = some v :=
  fun fs _ h => (evalSFacs_foldFacs hM fs).trans h

theorem atomsOfFacs_cons (b e : Expr) (t : List (Expr × Expr)) :
    atomsOfFacs ((b, e) :: t) = atomsOf (.pow b e) ++ atomsOfFacs t := by
  simp only [atomsOfFacs, atomsOf]
  cases intLit? e <;> rfl

theorem powAtoms_defined {b e : Expr} {x : K}
    (hb : ∀ a, evalS M b = some a → ∀ r ∈ atomsOf b, ∃ w, evalS M r = some w)
    (hx : facVal M b e = some x) : ∀ r ∈ atomsOf (.pow b e), ∃ w, evalS M r = some w := by
  intro r hr
  simp only [atomsOf] at hr
  cases he : intLit? e with
  | some n =>
    simp only [he] at hr
    obtain ⟨a, ha, _, _⟩ := facVal_lit_some he hx
    exact hb a ha r hr
  | none =>
    simp only [he, List.mem_cons] at hr
    obtain ⟨vb, ve, v0, hvb, _, _, _, hat⟩ := facVal_powAtom he hx
    rcases hr with rfl | hr
    · exact ⟨_, hat⟩
    · exact hb vb hvb r hr

mutual
  theorem atomsOf_defined : ∀ (e : Expr) (v : K), evalS M e = some v →
      ∀ r ∈ atomsOf e, ∃ w, evalS M r = some w
    | .add c ts, v, h, r, hr => by
      simp only [evalS] at h
      obtain ⟨a, b, ha, hb, rfl⟩ := add2_some h
      simp only [atomsOf, List.mem_append] at hr
      rcases hr with hr | hr
      · exact atomsOf_defined c a ha r hr
      · exact atomsOfTerms_defined ts b hb r hr
    | .mul c fs, v, h, r, hr => by
      simp only [evalS] at h
      obtain ⟨a, b, ha, hb, rfl⟩ := mul2_some h
      simp only [atomsOf, List.mem_append] at hr
      rcases hr with hr | hr
      · exact atomsOf_defined c a ha r hr
      · exact atomsOfFacs_defined fs b hb r hr
    | .pow b e, v, h, r, hr => by
      rw [evalS_pow_eq] at h
      exact powAtoms_defined (fun a ha => atomsOf_defined b a ha) h r hr
    | .sym _, v, h, r, hr | .dummy _ _, v, h, r, hr | .const _, v, h, r, hr | .fsym _ _, v, h, r, hr
    | .app _ _, v, h, r, hr => by
      simp only [atomsOf, List.mem_singleton] at hr; subst hr; exact ⟨v, h⟩
    | .int _, v, h, r, hr | .rat _ _, v, h, r, hr | .cplx _ _, v, h, r, hr | .dbl _, v, h, r, hr | .cdbl _ _, v, h, r, hr
    | .infty _, v, h, r, hr | .nan, v, h, r, hr | .bool _, v, h, r, hr => by simp [atomsOf] at hr
  theorem atomsOfTerms_defined : ∀ (ts : List (Expr × Expr)) (v : K), evalSTerms M ts = some v →
      ∀ r ∈ atomsOfTerms ts, ∃ w, evalS M r = some w
    | [], v, h, r, hr => by simp [atomsOfTerms] at hr
    | (k, c) :: t, v, h, r, hr => by
      simp only [evalSTerms] at h
      obtain ⟨x, y, hx, hy, rfl⟩ := add2_some h
      obtain ⟨a, b, ha, hb, rfl⟩ := mul2_some hx
      simp only [atomsOfTerms, List.mem_append] at hr
      rcases hr with hr | hr | hr
      · exact atomsOf_defined k a ha r hr
      · exact atomsOf_defined c b hb r hr
      · exact atomsOfTerms_defined t y hy r hr
  theorem atomsOfFacs_defined : ∀ (fs : List (Expr × Expr)) (v : K), evalSFacs M fs = some v →
      ∀ r ∈ atomsOfFacs fs, ∃ w, evalS M r = some w
    | [], v, h, r, hr => by simp [atomsOfFacs] at hr
    | (b, e) :: t, v, h, r, hr => by
      rw [evalSFacs_cons] at h
      obtain ⟨x, y, hx, hy, rfl⟩ := mul2_some h
      rw [atomsOfFacs_cons, List.mem_append] at hr
      rcases hr with hr | hr
      · exact powAtoms_defined (fun a ha => atomsOf_defined b a ha) hx r hr
      · exact atomsOfFacs_defined t y hy r hr
end

end

end CSE
end SymVerif
