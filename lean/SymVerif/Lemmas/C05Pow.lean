import SymVerif.Lemmas.C05Num
import Mathlib.Data.Nat.Bitwise
import Mathlib.Tactic.NormNum
/-!
The binary-exponentiation loop of `pow_number(const Complex&, unsigned long)` (complex.cpp):
loop invariant and result.
-/
namespace SymVerif.C05
open SymVerif.Num
open Q (Rep)


def P2 (p : Q × Q) : Prop := p.1.Canon ∧ p.2.Canon
noncomputable def gval (p : Q × Q) : ℂ := gv p.1 p.2

theorem gmul_rep {r p : Q × Q} (hr : P2 r) (hp : P2 p) :
    Rep (gmul r p).1 (r.1.toRat * p.1.toRat - r.2.toRat * p.2.toRat) ∧
    Rep (gmul r p).2 (r.1.toRat * p.2.toRat + r.2.toRat * p.1.toRat) :=
  ⟨((Rep.self hr.1).mul (.self hp.1)).sub ((Rep.self hr.2).mul (.self hp.2)),
   ((Rep.self hr.1).mul (.self hp.2)).add ((Rep.self hr.2).mul (.self hp.1))⟩

theorem gmul_P2 {r p : Q × Q} (hr : P2 r) (hp : P2 p) : P2 (gmul r p) :=
  ⟨(gmul_rep hr hp).1.canon, (gmul_rep hr hp).2.canon⟩

theorem gmul_val {r p : Q × Q} (hr : P2 r) (hp : P2 p) : gval (gmul r p) = gval r * gval p :=
  (congrArg₂ gq (gmul_rep hr hp).1.eq (gmul_rep hr hp).2.eq).trans (gq_mul ..).symm

theorem gsq_rep {p : Q × Q} (hp : P2 p) :
    Rep (gsq p).1 (p.1.toRat * p.1.toRat - p.2.toRat * p.2.toRat) ∧
    Rep (gsq p).2 (2 * p.1.toRat * p.2.toRat) :=
  ⟨((Rep.self hp.1).mul (.self hp.1)).sub ((Rep.self hp.2).mul (.self hp.2)),
   ((Rep.ofInt 2).mul (.self hp.1)).mul (.self hp.2)⟩

theorem gsq_P2 {p : Q × Q} (hp : P2 p) : P2 (gsq p) :=
  ⟨(gsq_rep hp).1.canon, (gsq_rep hp).2.canon⟩

theorem gsq_val {p : Q × Q} (hp : P2 p) : gval (gsq p) = gval p ^ 2 := by
  refine (congrArg₂ gq (gsq_rep hp).1.eq (gsq_rep hp).2.eq).trans ?_
  show _ = gq _ _ ^ 2
  rw [pow_two, gq_mul, two_mul, add_mul, mul_comm p.2.toRat p.1.toRat]

/-- the bit test `n & mask` of the loop, for `mask = 2^k` -/
theorem and_two_pow_bne (n k : Nat) : (n &&& 2 ^ k != 0) = decide (n / 2 ^ k % 2 = 1) := by
  rw [Nat.and_two_pow, Nat.testBit_eq_decide_div_mod_eq]
  by_cases h : n / 2 ^ k % 2 = 1 <;> simp [h]

/-- Loop invariant of the binary exponentiation `pow_number`.  Entering an iteration with `mask = 2^k`,
`p = x^(2^k)` and `r = x^(n mod 2^k)`, the loop returns `x^n` (for `n < 2^64`; `fuel` only has to cover the remaining
`64 - k` iterations). -/
theorem pow_number_invariant (x : ℂ) (n : Nat) (hn : n < 2 ^ 64) (fuel k : Nat) (r p : Q × Q)
    (hk : k < 64) (hf : 64 - k ≤ fuel) (hr : P2 r) (hp : P2 p)
    (hpv : gval p = x ^ (2 ^ k)) (hrv : gval r = x ^ (n % 2 ^ k)) :
    P2 (powNumberLoop fuel n (2 ^ k) r p) ∧ gval (powNumberLoop fuel n (2 ^ k) r p) = x ^ n := by
  induction fuel generalizing k r p with
  | zero => omega
  | succ fuel ih =>
    have hstep : P2 (if n &&& 2 ^ k != 0 then gmul r p else r) ∧
        gval (if n &&& 2 ^ k != 0 then gmul r p else r) = x ^ (n % 2 ^ (k + 1)) := by
      have hmod : n % 2 ^ (k + 1) = n % 2 ^ k + 2 ^ k * (n / 2 ^ k % 2) := Nat.mod_pow_succ
      rw [and_two_pow_bne, hmod]
      by_cases hb : n / 2 ^ k % 2 = 1
      · rw [decide_eq_true hb, if_pos rfl, hb, Nat.mul_one, pow_add, gmul_val hr hp, hrv, hpv]
        exact ⟨gmul_P2 hr hp, rfl⟩
      · have hb0 : n / 2 ^ k % 2 = 0 := by omega
        rw [decide_eq_false hb, if_neg Bool.false_ne_true, hb0, Nat.mul_zero, Nat.add_zero]
        exact ⟨hr, hrv⟩
    have hshift : (2 ^ k <<< 1) % 2 ^ 64 = if k + 1 = 64 then 0 else 2 ^ (k + 1) := by
      rw [Nat.shiftLeft_eq, ← Nat.pow_succ]
      simp only [Nat.succ_eq_add_one]
      split
      · next h => rw [h]; simp
      · next h => exact Nat.mod_eq_of_lt (Nat.pow_lt_pow_right (by norm_num) (by omega))
    unfold powNumberLoop
    simp only [hshift]
    by_cases hc : k + 1 < 64 ∧ 2 ^ (k + 1) ≤ n
    · have h64 : k + 1 ≠ 64 := by omega
      have hpos : 0 < 2 ^ (k + 1) := Nat.pow_pos (by norm_num)
      have hcont : (!(decide ((if k + 1 = 64 then 0 else 2 ^ (k + 1)) > 0) &&
          decide (n ≥ if k + 1 = 64 then 0 else 2 ^ (k + 1)))) = false := by
        simp [h64, hpos, hc.2]
      rw [if_neg (hcont ▸ Bool.false_ne_true), if_neg h64]
      exact ih (k + 1) _ _ (by omega) (by omega) hstep.1 (gsq_P2 hp)
        (by rw [gsq_val hp, hpv, ← pow_mul, ← Nat.pow_succ]) hstep.2
    · -- the mask wraps to 0 or exceeds `n`: the loop stops, all bits of `n` are consumed
      have hlt : n < 2 ^ (k + 1) := by
        by_cases h64 : k + 1 = 64
        · rw [h64]; exact hn
        · omega
      rw [Nat.mod_eq_of_lt hlt] at hstep
      have hexit : (!(decide ((if k + 1 = 64 then 0 else 2 ^ (k + 1)) > 0) &&
          decide (n ≥ if k + 1 = 64 then 0 else 2 ^ (k + 1)))) = true := by
        split
        · simp             -- `mask'` wrapped to 0: `0 > 0` is false
        · simpa using hlt  -- `mask' = 2^(k+1) > n`
      rw [if_pos hexit]
      exact hstep

theorem powNumber_good {F : Type} [FloatOps F] {re im : Q} {x y : ℚ} (hre : Rep re x) (him : Rep im y)
    (n : Nat) (hn : n < 2 ^ 64) :
    Good (F := F) (powNumber re im n) (gq x y ^ n) := by
  -- 65 is the fuel `Num.powNumber` passes; 64 iterations suffice
  have h := pow_number_invariant (gq x y) n hn (fuel := 65) (k := 0) (r := (Q.ofInt 1, Q.ofInt 0)) (p := (re, im))
    (hk := by norm_num) (hf := by norm_num)
    (hr := ⟨Q.Canon.ofInt 1, Q.Canon.ofInt 0⟩) (hp := ⟨hre.canon, him.canon⟩)
    (hpv := by rw [pow_zero, pow_one]; exact gv_rep hre him)
    (hrv := by rw [pow_zero, Nat.mod_one, pow_zero]; exact (gv_ofInt 1).trans Int.cast_one)
  unfold powNumber
  exact cFromMpq_good h.1.1 h.1.2 h.2.symm

end SymVerif.C05
