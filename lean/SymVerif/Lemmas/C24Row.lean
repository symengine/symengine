import SymVerif.Lemmas.C24Struct
/-! Row operations (in-place single loops over the columns), as instances of `gridLoop`. -/
namespace SymVerif.Dense

/-- an in-place loop over row `i` whose iteration `k` writes `g k` to cell `(i, k)`; `g k` may be read from the
    other rows and from the cells `(i, b)`, `k ≤ b`, which are still those of `A` -/
theorem rowLoop_spec (A : DM) (hA : A.wf) {i : Nat} (hi : i < A.row) (g : Nat → X)
    (body : Nat → Array X → M (Array X))
    (hb : ∀ k, k < A.col → ∀ m : Array X, m.size = A.row * A.col →
      (∀ r b, b < A.col → (r = i → k ≤ b) → cell m A.col r b = A.at r b) →
      body k m = wr m (i * A.col + k) (g k)) :
    Returns (do let m ← forN A.col 0 body A.m; pure { A with m := m }) A.row A.col
      fun r k => if r = i then g k else A.at r k := by
  obtain ⟨m, hm, hs, hq, hfr⟩ := gridLoop1 A.row A.col (fun _ => i) (fun k => k) g body A.m A.col 0 hA
    (fun k _ hk => ⟨hi, hk⟩) (fun k k' _ h _ e => Nat.ne_of_lt h e.2)
    (fun k _ hk m hs hfr => by
      -- "another row, or a column `≥ k`" is "not owned by an earlier iteration"
      have still : ∀ r b, b < A.col → (r = i → k ≤ b) → cell m A.col r b = A.at r b :=
        fun r b hb h => hfr r b hb fun _ _ h2 e => Nat.not_le_of_lt h2 (e.2 ▸ h e.1)
      exact hb k hk m hs still)
  refine ⟨{ A with m := m }, by rw [hm]; rfl, rfl, rfl, hs, fun r _ k hk => ?_⟩
  show cell m A.col r k = if r = i then g k else A.at r k
  by_cases e : r = i
  · rw [if_pos e, e]; exact hq k (Nat.zero_le k) hk
  · rw [if_neg e]; exact hfr r k hk (fun _ _ _ h => e h.1)

theorem rowMulScalar_spec (A : DM) (i : Nat) (c : X) (hA : A.wf) (hi : i < A.row) :
    Returns (rowMulScalar A i c) A.row A.col
      fun r k => if r = i then X.mul c (A.at i k) else A.at r k := by
  have hq : decide (i < A.row) = true := by simp [hi]
  simp only [rowMulScalar, rowMulScalarM, req_true hq, bind_ok]
  refine rowLoop_spec A hA hi _ _ fun k hk m hs h0 => ?_
  rw [rd_cell hs hi hk, h0 i k hk (fun _ => Nat.le_refl k)]; rfl

theorem rowAddRow_spec (A : DM) (i j : Nat) (c : X) (hA : A.wf) (hi : i < A.row) (hj : j < A.row)
    (hij : i ≠ j) :
    Returns (rowAddRow A i j c) A.row A.col
      fun r k => if r = i then X.add (A.at i k) (X.mul c (A.at j k)) else A.at r k := by
  have hq : (i != j && decide (i < A.row) && decide (j < A.row)) = true := by simp [hi, hj, hij]
  simp only [rowAddRow, rowAddRowM, req_true hq, bind_ok]
  refine rowLoop_spec A hA hi _ _ fun k hk m hs h0 => ?_
  rw [rd_cell hs hi hk, rd_cell hs hj hk, h0 i k hk (fun _ => Nat.le_refl k),
    h0 j k hk (fun e => absurd e.symm hij)]; rfl

theorem rowExchange_spec (A : DM) (i j : Nat) (hA : A.wf) (hi : i < A.row) (hj : j < A.row)
    (hij : i ≠ j) :
    Returns (rowExchange A i j) A.row A.col
      fun r k => if r = i then A.at j k else if r = j then A.at i k else A.at r k := by
  -- iteration `k` owns the two cells `(i, k)` and `(j, k)`
  obtain ⟨m, hm, hs, hq, hfr⟩ := gridLoop A.row A.col (fun k a b => b = k ∧ (a = i ∨ a = j))
    (fun k m => cell m A.col i k = A.at j k ∧ cell m A.col j k = A.at i k)
    (fun k m => do
      let a ← rd m (i * A.col + k)
      let b ← rd m (j * A.col + k)
      let m ← wr m (i * A.col + k) b
      wr m (j * A.col + k) a) A.m A.col 0 hA
    (fun k _ hk m m' hag h => by
      rw [hag i k hk (fun _ h1 _ h => Nat.ne_of_lt h1 h.1), hag j k hk (fun _ h1 _ h => Nat.ne_of_lt h1 h.1)]
      exact h)
    (fun k _ hk m hs hfr => by
      obtain ⟨m1, h1, hs1, v1⟩ := wr_cell hs hi hk (cell m A.col j k)
      obtain ⟨m2, h2, hs2, v2⟩ := wr_cell hs1 hj hk (cell m A.col i k)
      refine ⟨m2, by rw [rd_cell hs hi hk, rd_cell hs hj hk]; simp only [bind_ok, h1, h2], hs2,
        ⟨?_, ?_⟩, fun a b hb h => ?_⟩
      · rw [v2 i k hk, if_neg (fun h => hij h.1), v1 i k hk, if_pos ⟨rfl, rfl⟩]
        exact hfr j k hk (fun _ _ h2 h => Nat.ne_of_lt h2 h.1.symm)
      · rw [v2 j k hk, if_pos ⟨rfl, rfl⟩]
        exact hfr i k hk (fun _ _ h2 h => Nat.ne_of_lt h2 h.1.symm)
      · rw [v2 a b hb, if_neg (fun e => h ⟨e.2, Or.inr e.1⟩), v1 a b hb,
          if_neg (fun e => h ⟨e.2, Or.inl e.1⟩)])
  have hq' : (i != j && decide (i < A.row) && decide (j < A.row)) = true := by simp [hi, hj, hij]
  refine ⟨{ A with m := m }, by simp only [rowExchange, rowExchangeM, req_true hq', bind_ok, hm]; rfl,
    rfl, rfl, hs, fun r _ k hk => ?_⟩
  show cell m A.col r k = if r = i then A.at j k else if r = j then A.at i k else A.at r k
  by_cases e : r = i
  · rw [if_pos e, e]; exact (hq k (Nat.zero_le k) hk).1
  · rw [if_neg e]
    by_cases e2 : r = j
    · rw [if_pos e2, e2]; exact (hq k (Nat.zero_le k) hk).2
    · rw [if_neg e2]
      exact hfr r k hk (fun _ _ _ h => h.2.elim e e2)

end SymVerif.Dense
