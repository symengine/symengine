import SymVerif.Lemmas.C33Nat
/-! State invariant of the sieve model, the effect of `push` and `clear` on it, and the relation
`Grows` between the state before and after a call. -/
namespace SymVerif.C33
open SymVerif.Sieve

/-- The invariant of the process-global sieve state: the whole storage `buf` — including the
stale region `[size, buf.size)` left behind by `clear` — is a prefix of the increasing
enumeration of the primes, the logical size is between 10 and the storage size, and the
segment size is positive.  So the stored primes are known from the two sizes: an equation `s.size = cnt n` beside
`Inv s` says that the cache holds exactly the primes `< n`. -/
structure Inv (s : State) : Prop where
  size_le : s.size ≤ s.buf.size
  ten_le : 10 ≤ s.size
  nth : ∀ i, i < s.buf.size → s.buf[i]? = some (np i)
  bits : 0 < s.sieveBits

theorem Inv.get {s : State} (h : Inv s) {i : Nat} (hi : i < s.buf.size) : s.get i = np i := by
  simp [State.get, h.nth i hi]

theorem Inv.back {s : State} (h : Inv s) : s.back = np (s.size - 1) := by
  have := h.size_le; have := h.ten_le
  simp [State.back, h.nth (s.size - 1) (by omega)]

theorem Inv.size_eq_cnt {s : State} (h : Inv s) : s.size = cnt (s.back + 1) := by
  have := h.ten_le
  rw [h.back, cnt_np_succ]; omega

theorem Inv.back_ge {s : State} (h : Inv s) : 29 ≤ s.back := by
  have := h.ten_le
  rw [h.back]
  have h9 : np 9 = 29 := Option.some.inj (congrArg (·[9]?) np_firstTen)
  have := np_le_np (show 9 ≤ s.size - 1 by omega)
  omega

theorem Inv.back_lt_iff {s : State} (h : Inv s) (m : Nat) : s.back < m ↔ s.size ≤ cnt m := by
  have := h.ten_le
  rw [h.back, ← idx_lt_cnt]
  omega

theorem Inv.le_back_iff {s : State} (h : Inv s) (m : Nat) : m ≤ s.back ↔ cnt m < s.size := by
  rw [← not_lt, h.back_lt_iff, not_le]

theorem Inv.back_mono {s s1 : State} (h : Inv s) (h1 : Inv s1) (hsz : s.size ≤ s1.size) :
    s.back ≤ s1.back := by
  rw [h.back, h1.back]; exact np_le_np (Nat.sub_le_sub_right hsz 1)

theorem Inv.back_odd {s : State} (h : Inv s) : s.back % 2 = 1 := by
  have := h.ten_le
  rw [h.back]; exact np_odd (by omega)

theorem Inv.cnt_le_size {s : State} (h : Inv s) {limit : Nat} (hle : limit ≤ s.back + 1) :
    cnt (limit + 1) ≤ s.size := by
  rw [h.size_eq_cnt]
  rcases Nat.eq_or_lt_of_le hle with e | l
  · -- `limit = back + 1` is even and above 2, so not prime: the early return `if (limit <= start)` is right here too
    have := h.back_odd
    have := h.back_ge
    rw [e, cnt_succ_not_prime (not_prime_even (by omega) (by omega))]
  · exact cnt_mono l

theorem inv_init : Inv init := by
  refine ⟨by decide, by decide, fun i hi => ?_, by decide⟩
  have hi' : i < 10 := hi
  show firstTen[i]? = some (np i)
  rw [← Array.getElem?_toList, ← np_firstTen, List.getElem?_map, List.getElem?_range hi']
  rfl

theorem inv_clear {s : State} (h : Inv s) : Inv s.clear := by
  have := h.size_le; have := h.ten_le
  refine ⟨?_, ?_, h.nth, h.bits⟩
  · show min s.size 10 ≤ s.buf.size; omega
  · show 10 ≤ min s.size 10; omega

theorem inv_settings {s : State} (h : Inv s) (c : Bool) {bits : Nat} (hb : 0 < bits) :
    Inv { s with clearFlag := c, sieveBits := bits } :=
  ⟨h.size_le, h.ten_le, h.nth, hb⟩

/-- `Grows s s'`: `s'` arises from `s` by storing further primes (or forgetting some logically):
it satisfies the invariant, keeps the two settings, and its storage has not shrunk — so an
iterator standing inside the storage of `s` still stands inside that of `s'`.  `sieve_segment_correct`,
`extend_correct`, `generatePrimes_correct` and `nextPrime_correct` have these four as conjuncts, written out. -/
structure Grows (s s' : State) : Prop where
  inv : Inv s'
  bits : s'.sieveBits = s.sieveBits
  clear : s'.clearFlag = s.clearFlag
  buf : s.buf.size ≤ s'.buf.size

theorem Grows.refl {s : State} (h : Inv s) : Grows s s := ⟨h, rfl, rfl, le_refl _⟩

theorem Grows.trans {s s1 s2 : State} (h1 : Grows s s1) (h2 : Grows s1 s2) : Grows s s2 :=
  ⟨h2.inv, h2.bits.trans h1.bits, h2.clear.trans h1.clear, le_trans h1.buf h2.buf⟩

/-- `push_back` of the next prime: the storage stays a prefix of the prime enumeration (a stale
slot is overwritten with the value it already holds). -/
theorem inv_push {s : State} (h : Inv s) {n : Nat} (hp : n.Prime) (hc : s.size = cnt n) :
    Grows s (s.push n) ∧ (s.push n).size = cnt (n + 1) := by
  have hle := h.size_le
  have h10 := Nat.le_succ_of_le h.ten_le
  have hn : np s.size = n := by rw [hc, np_cnt hp]
  rw [cnt_succ_prime hp, ← hc]
  unfold State.push
  split
  · rename_i hlt
    refine ⟨{ inv := ⟨by simpa using hlt, h10, fun i hi => ?_, h.bits⟩, bits := rfl, clear := rfl, buf := by simp }, rfl⟩
    simp only [Array.set!_eq_setIfInBounds, Array.size_setIfInBounds] at hi
    simp only [Array.set!_eq_setIfInBounds, Array.getElem?_setIfInBounds]
    split
    · rename_i he; subst he; simp [hn]
    · exact h.nth i hi
  · rename_i hlt
    have heq : s.size = s.buf.size := by omega
    refine ⟨{ inv := ⟨by simp [heq], h10, fun i hi => ?_, h.bits⟩, bits := rfl, clear := rfl, buf := by simp }, rfl⟩
    simp only [Array.size_push] at hi
    rw [Array.getElem?_push]
    split
    · rename_i he; subst he; rw [← heq, hn]
    · exact h.nth i (by omega)

end SymVerif.C33
