import Mathlib.Data.Nat.Totient
import Mathlib.NumberTheory.ArithmeticFunction.Moebius
import Mathlib.NumberTheory.ArithmeticFunction.Carmichael
import SymVerif.Lemmas.C32Factor
/-! `totient`, `mobius` and `carmichael` read off the ascending factor list (`FactList l N`) agree with Mathlib's
`φ`, `μ`, `λ` of `N`. -/
namespace SymVerif.C32
open SymVerif.NTheory

/-- the loop of `totient` multiplies `N·K` down to `φ(N)·K` -/
theorem totientLoop_spec : ∀ (l : List (Nat × Nat)) (N K : Nat), FactList l N →
    totientLoop l (N * K) = Nat.totient N * K := by
  intro l
  induction l with
  | nil => intro N K h; rw [FactList.nil_iff.mp h]; simp [totientLoop]
  | cons x t ih =>
    intro N K h
    obtain ⟨p, e⟩ := x
    obtain ⟨hp, he, N', rfl, ht, hcop, _⟩ := h.cons_inv
    obtain ⟨e', rfl⟩ : ∃ e', e = e' + 1 := ⟨e - 1, by omega⟩
    have e1 : p ^ (e' + 1) * N' * K / p * (p - 1) = N' * (p ^ e' * (p - 1) * K) := by
      rw [pow_succ', mul_assoc, mul_assoc, Nat.mul_div_cancel_left _ hp.pos]
      ring
    rw [totientLoop, e1, ih N' _ ht, Nat.totient_mul hcop, Nat.totient_prime_pow_succ hp]
    ring

theorem carmichael_one : ArithmeticFunction.carmichael 1 = 1 :=
  Nat.dvd_one.mp ((ArithmeticFunction.carmichael_dvd_totient 1).trans (by rw [Nat.totient_one]))

theorem carmichael_pos {n : Nat} (hn : n ≠ 0) : 0 < ArithmeticFunction.carmichael n := by
  have : NeZero n := ⟨hn⟩
  rw [ArithmeticFunction.carmichael_eq_exponent hn]
  exact Nat.pos_of_ne_zero Monoid.exponent_ne_zero_of_finite

open ArithmeticFunction in
theorem moebius_factList : ∀ (l : List (Nat × Nat)) (N : Nat), FactList l N →
    ArithmeticFunction.moebius N =
      if l.any (fun pe => decide (pe.2 > 1)) then 0 else (if l.length % 2 = 0 then 1 else -1) := by
  intro l
  induction l with
  | nil =>
    intro N h
    rw [FactList.nil_iff.mp h, isMultiplicative_moebius.map_one]
    rfl
  | cons x t ih =>
    intro N h
    obtain ⟨p, e⟩ := x
    obtain ⟨hp, he, N', hN, ht, hcop, _⟩ := h.cons_inv
    rw [hN, isMultiplicative_moebius.map_mul_of_coprime hcop, ih N' ht,
      moebius_apply_prime_pow hp (by omega), List.any_cons, List.length_cons]
    by_cases h1 : e = 1
    · -- one more simple prime factor flips the sign
      subst h1
      rw [if_pos rfl, show decide ((1 : Nat) > 1) = false from rfl, Bool.false_or]
      split
      · rfl
      · have hpar : (t.length + 1) % 2 = 0 ↔ ¬ t.length % 2 = 0 :=
          Nat.succ_mod_two_eq_zero_iff.trans Nat.mod_two_ne_zero.symm
        by_cases hh : t.length % 2 = 0
        · rw [if_pos hh, if_neg (hpar.not.mpr (not_not.mpr hh))]
          rfl
        · rw [if_neg hh, if_pos (hpar.mpr hh)]
          rfl
    · rw [if_neg h1, zero_mul, show decide (e > 1) = true from decide_eq_true (by omega), Bool.true_or,
        if_pos rfl]

-- the exponent on the right is the `let mult := …` of `carmichaelLoop` verbatim: `carmichaelLoop_spec` rewrites with it
theorem carmichael_prime_pow {p e : Nat} (hp : p.Prime) (he : 0 < e) :
    ArithmeticFunction.carmichael (p ^ e) =
      (p - 1) * p ^ ((if (p == 2 && decide (e > 2)) = true then e - 1 else e) - 1) := by
  by_cases hp2 : p = 2
  · subst hp2
    simp only [beq_self_eq_true, Bool.true_and, decide_eq_true_eq]
    rw [show (2 : Nat) - 1 = 1 from rfl, Nat.one_mul]
    split
    · rw [ArithmeticFunction.carmichael_two_pow_of_ne_two (by omega), Nat.sub_sub]
    · rw [ArithmeticFunction.carmichael_two_pow_of_le_two (by omega)]
  · rw [if_neg (by simp [hp2]), ArithmeticFunction.carmichael_pow_of_prime_ne_two e hp hp2,
      Nat.totient_prime_pow hp he, mul_comm]

theorem lcm_mul_prime_pow {p lam : Nat} (hp : p.Prime) (hlam : ¬ p ∣ lam) (k : Nat) :
    Nat.lcm lam (p - 1) * p ^ k = Nat.lcm lam ((p - 1) * p ^ k) := by
  have hp2 := hp.two_le
  have hp1 : ¬ p ∣ p - 1 := fun hd => by
    have := Nat.le_of_dvd (by omega) hd
    omega
  have h1 : Nat.Coprime (p - 1) (p ^ k) :=
    Nat.Coprime.pow_right _ ((Nat.Prime.coprime_iff_not_dvd hp).mpr hp1).symm
  have h2 : Nat.Coprime (Nat.lcm lam (p - 1)) (p ^ k) := by
    apply Nat.Coprime.pow_right
    apply ((Nat.Prime.coprime_iff_not_dvd hp).mpr ?_).symm
    intro hd
    rcases (Nat.Prime.dvd_mul hp).mp (hd.trans (Nat.lcm_dvd_mul _ _)) with h | h
    · exact hlam h
    · exact hp1 h
  rw [← h2.lcm_eq_mul, Nat.lcm_assoc, h1.lcm_eq_mul]

/-- the loop multiplies `lcm(lam, p - 1)` by `p^(e-1)`, which is the lcm with `λ(p^e)` only when `p ∤ lam`: hence the
hypothesis that every prime of `lam` is below every listed prime (kept by the loop: the list is ascending) -/
theorem carmichaelLoop_spec : ∀ (l : List (Nat × Nat)) (N lam : Nat), FactList l N →
    (∀ q, q.Prime → q ∣ lam → ∀ pe ∈ l, q < pe.1) →
    carmichaelLoop l lam = Nat.lcm lam (ArithmeticFunction.carmichael N) := by
  intro l
  induction l with
  | nil =>
    intro N lam h _
    rw [FactList.nil_iff.mp h, carmichael_one, Nat.lcm_one_right]
    rfl
  | cons x t ih =>
    intro N lam h hsmall
    obtain ⟨p, e⟩ := x
    obtain ⟨hp, he, N', hN, ht, hcop, _⟩ := h.cons_inv
    have hlam : ¬ p ∣ lam := fun hd => lt_irrefl _ (hsmall p hp hd (p, e) (List.mem_cons_self ..))
    -- prime factors of the new value divide `lam` or `λ(p^e) ∣ (p-1) p^e`, so they are `≤ p`
    have hsmall' : ∀ q, q.Prime → q ∣ Nat.lcm lam (ArithmeticFunction.carmichael (p ^ e)) → ∀ pe ∈ t, q < pe.1 := by
      intro q hq hd pe hpe
      have hpe_big : p < pe.1 := h.head_lt hpe
      rcases (Nat.Prime.dvd_mul hq).mp (hd.trans (Nat.lcm_dvd_mul _ _)) with h1 | h1
      · exact hsmall q hq h1 pe (List.mem_cons_of_mem _ hpe)
      · rw [carmichael_prime_pow hp he] at h1
        rcases (Nat.Prime.dvd_mul hq).mp h1 with h2 | h2
        · have := Nat.le_of_dvd (by have := hp.two_le; omega) h2
          omega
        · have := (Nat.prime_dvd_prime_iff_eq hq hp).mp (hq.dvd_of_dvd_pow h2)
          omega
    rw [carmichaelLoop, lcm_mul_prime_pow hp hlam, ← carmichael_prime_pow hp he, ih N' _ ht hsmall', hN,
      ArithmeticFunction.carmichael_mul hcop, Nat.lcm_assoc]

end SymVerif.C32
