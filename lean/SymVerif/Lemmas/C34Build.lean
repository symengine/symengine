/-
Soundness of the `Assumptions` constructor: every assignment that satisfies the statements satisfies the
fact tables built from them.
-/
import SymVerif.Lemmas.C34Args

namespace SymVerif.C34
open SymVerif SymVerif.Queries

variable {ρ : String → ℝ} {A : Assumptions}

/-- what must be true of `ρ` for the update to record a true fact; `.c` and `.r` ask nothing because `ρ` is real-valued -/
def justified (ρ : String → ℝ) : Upd → Prop
  | .c _ => True
  | .r _ => True
  | .q s => ∃ q : ℚ, ρ s = (q : ℝ)
  | .z s => ∃ n : ℤ, ρ s = (n : ℝ)
  | .m id s v => (v = true ↔ mapSem id (ρ s))

theorem getMap_setMapRaw_same (A : Assumptions) (id : MapId) (m : List (String × Bool)) :
    (A.setMapRaw id m).getMap id = m := by
  cases id <;> rfl

theorem getMap_setMapRaw_other (A : Assumptions) {id id' : MapId} (m : List (String × Bool)) (h : id' ≠ id) :
    (A.setMapRaw id m).getMap id' = A.getMap id' := by
  cases id <;> cases id' <;> first | rfl | exact absurd rfl h

theorem setMapRaw_ratS (A : Assumptions) (id : MapId) (m : List (String × Bool)) : (A.setMapRaw id m).ratS = A.ratS := by
  cases id <;> rfl

theorem setMapRaw_intS (A : Assumptions) (id : MapId) (m : List (String × Bool)) : (A.setMapRaw id m).intS = A.intS := by
  cases id <;> rfl

theorem factsSat_setMap (hA : FactsSat ρ A) {id : MapId} {s : String} {v : Bool}
    (hj : v = true ↔ mapSem id (ρ s)) : FactsSat ρ (A.setMapRaw id ((s, v) :: A.getMap id)) where
  rat := by rw [setMapRaw_ratS]; exact hA.rat
  int := by rw [setMapRaw_intS]; exact hA.int
  maps := by
    intro id' s' b hmem
    by_cases hid : id' = id
    · subst hid
      rw [getMap_setMapRaw_same] at hmem
      rcases List.mem_cons.mp hmem with heq | hmem
      · cases heq; exact hj
      · exact hA.maps _ s' b hmem
    · rw [getMap_setMapRaw_other A _ hid] at hmem
      exact hA.maps id' s' b hmem

theorem applyUpd_sat {A A' : Assumptions} (hA : FactsSat ρ A) {u : Upd} (hj : justified ρ u)
    (h : applyUpd A u = .ok A') : FactsSat ρ A' := by
  cases u with
  | c s | r s => simp [applyUpd] at h; subst h; exact ⟨hA.rat, hA.int, hA.maps⟩
  | q s =>
    simp [applyUpd] at h; subst h
    exact ⟨List.forall_mem_cons.mpr ⟨hj, hA.rat⟩, hA.int, hA.maps⟩
  | z s =>
    simp [applyUpd] at h; subst h
    exact ⟨hA.rat, List.forall_mem_cons.mpr ⟨hj, hA.int⟩, hA.maps⟩
  | m id s v =>
    simp only [applyUpd] at h
    split at h
    · split at h
      · cases h; exact factsSat_setMap hA hj
      · cases h
    · cases h; exact factsSat_setMap hA hj

theorem applyUpds_sat : ∀ (us : List Upd) {A A' : Assumptions}, FactsSat ρ A →
    (∀ u ∈ us, justified ρ u) → applyUpds A us = .ok A' → FactsSat ρ A' := by
  intro us
  induction us with
  | nil => intro A A' hA _ h; simp [applyUpds] at h; subst h; exact hA
  | cons u t ih =>
    intro A A' hA hj h
    simp only [applyUpds] at h
    split at h
    · rename_i A1 h1
      exact ih (applyUpd_sat hA (hj u (by simp)) h1) (fun u' hu' => hj u' (List.mem_cons_of_mem _ hu')) h
    · cases h

theorem justified_true {id : MapId} {x : String} (h : mapSem id (ρ x)) : justified ρ (.m id x true) :=
  iff_of_true rfl h

theorem justified_false {id : MapId} {x : String} (h : ¬ mapSem id (ρ x)) : justified ρ (.m id x false) :=
  iff_of_false Bool.false_ne_true h

theorem just_positive {x : String} (h : 0 < ρ x) : ∀ u ∈ updsPositive x, justified ρ u := by
  simp only [updsPositive, List.forall_mem_cons, List.not_mem_nil, false_imp_iff, implies_true, and_true]
  -- in the order of `updsPositive`: nonneg, pos, neg, nonpos, nonzero, zero
  exact ⟨justified_true h.le, justified_true h, justified_false h.not_gt, justified_false h.not_ge,
    justified_true h.ne', justified_false h.ne'⟩

theorem just_negative {x : String} (h : ρ x < 0) : ∀ u ∈ updsNegative x, justified ρ u := by
  simp only [updsNegative, List.forall_mem_cons, List.not_mem_nil, false_imp_iff, implies_true, and_true]
  -- in the order of `updsNegative`: nonneg, pos, neg, nonpos, nonzero, zero
  exact ⟨justified_false h.not_ge, justified_false h.not_gt, justified_true h, justified_true h.le,
    justified_true h.ne, justified_false h.ne⟩

theorem just_nonneg {x : String} (h : 0 ≤ ρ x) :
    ∀ u ∈ [Upd.m .nonneg x true, .m .neg x false], justified ρ u := by
  simp only [List.forall_mem_cons, List.not_mem_nil, false_imp_iff, implies_true, and_true]
  exact ⟨justified_true h, justified_false h.not_gt⟩

theorem just_nonpos {x : String} (h : ρ x ≤ 0) :
    ∀ u ∈ [Upd.m .nonpos x true, .m .pos x false], justified ρ u := by
  simp only [List.forall_mem_cons, List.not_mem_nil, false_imp_iff, implies_true, and_true]
  exact ⟨justified_true h, justified_false h.not_gt⟩

theorem just_nonzero {x : String} (h : ρ x ≠ 0) :
    ∀ u ∈ [Upd.m .zero x false, .m .nonzero x true], justified ρ u := by
  simp only [List.forall_mem_cons, List.not_mem_nil, false_imp_iff, implies_true, and_true]
  exact ⟨justified_false h, justified_true h⟩

theorem just_zero {x : String} (h : ρ x = 0) :
    ∀ u ∈ [Upd.m .zero x true, .r x, .q x, .z x, .m .pos x false, .m .neg x false, .m .nonpos x true,
      .m .nonneg x true, .m .nonzero x false], justified ρ u := by
  simp only [List.forall_mem_cons, List.not_mem_nil, false_imp_iff, implies_true, and_true]
  exact ⟨justified_true h, trivial, ⟨0, h.trans Rat.cast_zero.symm⟩, ⟨0, h.trans Int.cast_zero.symm⟩,
    justified_false h.not_gt, justified_false h.not_lt, justified_true h.le, justified_true h.ge,
    justified_false (not_not.mpr h)⟩

theorem just_ite_nil {c : Prop} [Decidable c] {l : List Upd} (h : c → ∀ u ∈ l, justified ρ u) :
    ∀ u ∈ (if c then l else []), justified ρ u := by
  split
  · exact h ‹c›
  · exact List.forall_mem_nil _

theorem just_contains {a b : Expr} (hs : holds ρ (.app "Contains" [a, b])) :
    ∀ u ∈ stmtUpds (.app "Contains" [a, b]), justified ρ u := by
  intro u hu
  simp only [stmtUpds, String.reduceBEq, ↓reduceIte] at hu
  simp only [holds, ↓reduceIte] at hs
  split at hu
  · rename_i x st
    -- Complexes and Reals only record membership in the complex / real numbers
    split at hu
    · rw [List.mem_singleton.mp hu]; trivial
    split at hu
    · simp only [List.mem_cons, List.mem_nil_iff, or_false] at hu
      rcases hu with rfl | rfl <;> trivial
    split at hu
    · rename_i hQ
      cases eq_of_beq hQ
      simp only [↓reduceIte, List.mem_cons, List.mem_nil_iff, or_false] at hu hs
      rcases hu with rfl | rfl | rfl
      exacts [trivial, trivial, hs]
    split at hu
    · rename_i hZ
      cases eq_of_beq hZ
      simp only [String.reduceEq, ↓reduceIte, List.mem_cons, List.mem_nil_iff, or_false] at hu hs
      obtain ⟨n, hn⟩ := hs
      rcases hu with rfl | rfl | rfl | rfl
      exacts [trivial, trivial, ⟨n, hn.trans (Rat.cast_intCast n).symm⟩, ⟨n, hn⟩]
    · cases hu
  · cases hu

theorem just_le {a b : Expr} (hs : holds ρ (.app "LessThan" [a, b])) :
    ∀ u ∈ stmtUpds (.app "LessThan" [a, b]), justified ρ u := by
  simp only [stmtUpds, String.reduceBEq, Bool.false_eq_true, ↓reduceIte]
  obtain ⟨va, vb, ha, hb, hab⟩ := holds_le.mp hs
  split
  · rename_i x
    cases evalR_sym hb
    refine just_ite_nil fun hn => List.forall_mem_cons.mpr ⟨trivial, ?_⟩
    split
    · rename_i hp
      exact just_positive (lt_of_lt_of_le (numIsPos_sound hp ha) hab)
    · exact just_ite_nil fun hz => just_nonneg ((numIsZero_iff hn ha).mp hz ▸ hab)
  · rename_i x _
    cases evalR_sym ha
    refine just_ite_nil fun hn => List.forall_mem_cons.mpr ⟨trivial, ?_⟩
    split
    · rename_i hp
      exact just_negative (lt_of_le_of_lt hab (numIsNeg_sound hp hb))
    · exact just_ite_nil fun hz => just_nonpos ((numIsZero_iff hn hb).mp hz ▸ hab)
  · exact List.forall_mem_nil _

theorem just_lt {a b : Expr} (hs : holds ρ (.app "StrictLessThan" [a, b])) :
    ∀ u ∈ stmtUpds (.app "StrictLessThan" [a, b]), justified ρ u := by
  simp only [stmtUpds, String.reduceBEq, Bool.false_eq_true, ↓reduceIte]
  obtain ⟨va, vb, ha, hb, hab⟩ := holds_lt.mp hs
  split
  · rename_i x
    cases evalR_sym hb
    exact just_ite_nil fun hn => List.forall_mem_cons.mpr ⟨trivial, just_ite_nil fun hp =>
      just_positive (lt_of_le_of_lt ((not_numIsNeg_iff hn ha).mp hp) hab)⟩
  · rename_i x _
    cases evalR_sym ha
    exact just_ite_nil fun hn => List.forall_mem_cons.mpr ⟨trivial, just_ite_nil fun hp =>
      just_negative (lt_of_lt_of_le hab ((not_numIsPos_iff hn hb).mp hp))⟩
  · exact List.forall_mem_nil _

theorem just_eq {a b : Expr} (hs : holds ρ (.app "Equality" [a, b])) :
    ∀ u ∈ stmtUpds (.app "Equality" [a, b]), justified ρ u := by
  simp only [stmtUpds, String.reduceBEq, Bool.false_eq_true, ↓reduceIte]
  obtain ⟨va, vb, ha, hb, rfl⟩ := holds_eq.mp hs
  split
  · rename_i x
    cases evalR_sym hb
    refine just_ite_nil fun hn => List.forall_mem_cons.mpr ⟨trivial, ?_⟩
    split
    · rename_i hz
      exact just_zero ((numIsZero_iff hn ha).mp hz)
    · rename_i hz
      exact just_nonzero fun h => hz ((numIsZero_iff hn ha).mpr h)
  · exact List.forall_mem_nil _

theorem just_ne {a b : Expr} (hs : holds ρ (.app "Unequality" [a, b])) :
    ∀ u ∈ stmtUpds (.app "Unequality" [a, b]), justified ρ u := by
  simp only [stmtUpds, String.reduceBEq, Bool.false_eq_true, ↓reduceIte]
  obtain ⟨va, vb, ha, hb, hab⟩ := holds_ne.mp hs
  split
  · rename_i x
    cases evalR_sym hb
    exact just_ite_nil fun hn => just_ite_nil fun hz =>
      just_nonzero fun h => hab (((numIsZero_iff hn ha).mp hz).trans h.symm)
  · exact List.forall_mem_nil _

theorem stmtUpds_justified {s : Expr} (hs : holds ρ s) : ∀ u ∈ stmtUpds s, justified ρ u := by
  intro u hu
  -- the split only exposes `h a b`: `hu` is then the body of `stmtUpds`, which the five lemmas accept by unfolding
  unfold stmtUpds at hu
  split at hu
  · rename_i h a b
    by_cases h1 : h = "Contains"
    · subst h1; exact just_contains hs u hu
    by_cases h2 : h = "LessThan"
    · subst h2; exact just_le hs u hu
    by_cases h3 : h = "StrictLessThan"
    · subst h3; exact just_lt hs u hu
    by_cases h4 : h = "Equality"
    · subst h4; exact just_eq hs u hu
    by_cases h5 : h = "Unequality"
    · subst h5; exact just_ne hs u hu
    simp only [beq_iff_eq, h1, h2, h3, h4, h5, ↓reduceIte, List.not_mem_nil] at hu
  · cases hu

/-- **Assumptions are sound**: an assignment satisfying the statements satisfies every fact the constructor
    records (`is_positive(x)`, `is_integer(x)`, … for symbols). -/
theorem assumptions_sound {ρ : String → ℝ} {stmts : List Expr} {A : Assumptions} (hb : build stmts = .ok A)
    (hs : Sat ρ stmts) : FactsSat ρ A := by
  unfold build at hb
  refine applyUpds_sat _ (factsSat_empty ρ) ?_ hb
  intro u hu
  simp only [List.mem_flatten, List.mem_map] at hu
  obtain ⟨l, ⟨s, hsm, rfl⟩, hul⟩ := hu
  exact stmtUpds_justified (hs s hsm) u hul

end SymVerif.C34
