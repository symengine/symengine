import SymVerif.Lemmas.Basic
import SymVerif.Lemmas.C27Fs
import SymVerif.Lemmas.C27Iv
import SymVerif.Lemmas.C27Ints

/-! Soundness of one unfolding of the mutually recursive set methods and free functions, and of `ops n`. -/
namespace SymVerif.Sets

/-- what it means for the recursive entry points to be right (partial correctness); each field is a `Den` statement
    written out, as the claimed theorems of Props/C27 are (`Sound.den_mu` … give it that form) -/
structure Sound (r : Ops) : Prop where
  mu : ∀ a b s, WF a → WF b → r.mu a b = .ok s → WF s ∧ ∀ q, mem s q ↔ (mem a q ∨ mem b q)
  mi : ∀ a b s, WF a → WF b → r.mi a b = .ok s → WF s ∧ ∀ q, mem s q ↔ (mem a q ∧ mem b q)
  mc : ∀ a b s, WF a → WF b → r.mc a b = .ok s → WF s ∧ ∀ q, mem s q ↔ (mem b q ∧ ¬ mem a q)
  nu : ∀ l s, WFL l → r.nu l = .ok s → WF s ∧ ∀ q, mem s q ↔ memAny l q
  ni : ∀ l s, WFL l → r.ni l = .ok s → WF s ∧ ∀ q, mem s q ↔ memAll l q

theorem sound_bottom : Sound Ops.bottom := by
  constructor <;> intros <;> simp_all [Ops.bottom]

section
variable {r : Ops} (hr : Sound r) {a b : SetE} {l : List SetE}
include hr

theorem Sound.den_mu (ha : WF a) (hb : WF b) : Den (r.mu a b) fun q => mem a q ∨ mem b q :=
  fun s => hr.mu a b s ha hb
theorem Sound.den_mi (ha : WF a) (hb : WF b) : Den (r.mi a b) fun q => mem a q ∧ mem b q :=
  fun s => hr.mi a b s ha hb
theorem Sound.den_mc (ha : WF a) (hb : WF b) : Den (r.mc a b) fun q => mem b q ∧ ¬ mem a q :=
  fun s => hr.mc a b s ha hb
theorem Sound.den_nu (hl : WFL l) : Den (r.nu l) (memAny l) := fun s => hr.nu l s hl
theorem Sound.den_ni (hl : WFL l) : Den (r.ni l) (memAll l) := fun s => hr.ni l s hl
end

theorem memAny_and {l : List SetE} {q : ℚ} {B : Prop} : (∃ x ∈ l, mem x q ∧ B) ↔ (memAny l q ∧ B) := by
  simp only [memAny_iff, ← and_assoc, exists_and_right]

theorem memAll_or {l : List SetE} {q : ℚ} {B : Prop} : (∀ x ∈ l, mem x q ∨ B) ↔ (memAll l q ∨ B) := by
  simp only [memAll_iff, ← forall_or_right]

theorem mapE_sem {f : SetE → Except Err SetE} {P : SetE → ℚ → Prop} : ∀ {l ys : List SetE}, WFL l →
    (∀ x, WF x → Den (f x) (P x)) → mapE f l = .ok ys →
    WFL ys ∧ (∀ q, memAny ys q ↔ ∃ x ∈ l, P x q) ∧ (∀ q, memAll ys q ↔ ∀ x ∈ l, P x q)
  | [], ys, _, _, h => by
    cases h
    exact ⟨trivial, fun q => ⟨False.elim, fun ⟨_, h, _⟩ => (nomatch h)⟩, fun q => ⟨fun _ _ h => (nomatch h), fun _ => trivial⟩⟩
  | x :: t, ys, hwl, hf, h => by
    obtain ⟨y, hy, h⟩ := bind_eq_ok h
    obtain ⟨ys', hys, h⟩ := bind_eq_ok h
    cases h
    have hx := hf x hwl.1 y hy
    have ht := mapE_sem hwl.2 hf hys
    exact ⟨⟨hx.1, ht.1⟩, fun q => (or_congr (hx.2 q) (ht.2.1 q)).trans (List.exists_mem_cons_iff (fun x => P x q) _ _).symm,
      fun q => (and_congr (hx.2 q) (ht.2.2 q)).trans (List.forall_mem_cons (p := fun x => P x q)).symm⟩

section
variable {r : Ops} (hr : Sound r) {f : SetE → Except Err SetE} (P : SetE → ℚ → Prop) {l : List SetE}
include hr

omit P in
theorem den_nu_mkSS (hl : WFL l) : Den (r.nu (mkSS l)) (memAny l) :=
  (hr.den_nu ((WFL_mkSS _).2 hl)).congr (memAny_mkSS _)

omit P in
theorem den_ni_mkSS (hl : WFL l) : Den (r.ni (mkSS l)) (memAll l) :=
  (hr.den_ni ((WFL_mkSS _).2 hl)).congr (memAll_mkSS _)

theorem mapE_nu (hwl : WFL l) (hf : ∀ x, WF x → Den (f x) (P x)) :
    Den (mapE f l >>= fun parts => r.nu (mkSS parts)) fun q => ∃ x ∈ l, P x q :=
  Den.bind fun _ hparts =>
    have hm := mapE_sem hwl hf hparts
    (den_nu_mkSS hr hm.1).congr hm.2.1

theorem mapE_ni (hwl : WFL l) (hf : ∀ x, WF x → Den (f x) (P x)) :
    Den (mapE f l >>= fun parts => r.ni (mkSS parts)) fun q => ∀ x ∈ l, P x q :=
  Den.bind fun _ hparts =>
    have hm := mapE_sem hwl hf hparts
    (den_ni_mkSS hr hm.1).congr hm.2.2
end

/-- a left fold with a sound binary method of meaning `C`; `M` is the n-ary meaning over the list -/
theorem foldE_sound {f : SetE → SetE → Except Err SetE} {C : Prop → Prop → Prop} {M : List SetE → ℚ → Prop}
    (hf : ∀ {a b}, WF a → WF b → Den (f a b) fun q => C (mem a q) (mem b q))
    (hnil : ∀ p q, C p (M [] q) ↔ p) (hcons : ∀ p x t q, C (C p (mem x q)) (M t q) ↔ C p (M (x :: t) q)) :
    ∀ (l : List SetE) {init : SetE}, WF init → WFL l → Den (foldE f init l) fun q => C (mem init q) (M l q)
  | [], _, hi, _ => Den.ok hi fun q => (hnil _ q).symm
  | x :: t, _, hi, hl => Den.bind fun b hb =>
    have h1 := hf hi hl.1 b hb
    (foldE_sound hf hnil hcons t h1.1 hl.2).congr fun q => by rw [h1.2 q]; exact hcons _ x t q

theorem foldE_mu {r : Ops} (hr : Sound r) : ∀ (l : List SetE) {init : SetE}, WF init → WFL l →
    Den (foldE (fun acc it => r.mu acc it) init l) fun q => mem init q ∨ memAny l q :=
  foldE_sound hr.den_mu (fun _ _ => or_iff_left id) fun _ _ _ _ => or_assoc

theorem foldE_mi {r : Ops} (hr : Sound r) : ∀ (l : List SetE) {init : SetE}, WF init → WFL l →
    Den (foldE (fun acc it => r.mi acc it) init l) fun q => mem init q ∧ memAll l q :=
  foldE_sound hr.den_mi (fun _ _ => and_iff_left trivial) fun _ _ _ _ => and_assoc

theorem memAny_erase {it : SetE} {l : List SetE} (hit : it ∈ l) (q : ℚ) :
    memAny l q ↔ (mem it q ∨ memAny (eraseK it l) q) := by
  simp only [memAny_iff]
  constructor
  · rintro ⟨x, hx, hq⟩
    rcases eq_or_mem_eraseK soundBEq_SetE it x l hx with rfl | hx'
    · exact Or.inl hq
    · exact Or.inr ⟨x, hx', hq⟩
  · rintro (h | ⟨x, hx, hq⟩)
    · exact ⟨it, hit, h⟩
    · exact ⟨x, mem_of_mem_eraseK hx, hq⟩

theorem memAll_erase {it : SetE} {l : List SetE} (hit : it ∈ l) (q : ℚ) :
    memAll l q ↔ (mem it q ∧ memAll (eraseK it l) q) := by
  simp only [memAll_iff]
  constructor
  · intro h
    exact ⟨h it hit, fun x hx => h x (mem_of_mem_eraseK hx)⟩
  · rintro ⟨h1, h2⟩ x hx
    rcases eq_or_mem_eraseK soundBEq_SetE it x l hx with rfl | hx'
    · exact h1
    · exact h2 x hx'

theorem WF_of_mem {l : List SetE} {x : SetE} (hl : WFL l) (hx : x ∈ l) : WF x := (WFL_iff l).1 hl x hx

theorem WFL_mono {l l' : List SetE} (hsub : ∀ x ∈ l', x ∈ l) (h : WFL l) : WFL l' :=
  (WFL_iff l').2 fun x hx => WF_of_mem h (hsub x hx)

theorem WFL_erase {it : SetE} {l : List SetE} : WFL l → WFL (eraseK it l) :=
  WFL_mono fun _ => mem_of_mem_eraseK

theorem mem_of_any_eq {p : SetE → Bool} {c : SetE} (hp : ∀ s, p s = true → s = c) {l : List SetE}
    (h : l.any p = true) : c ∈ l := by
  obtain ⟨x, hx, hpx⟩ := List.any_eq_true.1 h
  exact hp x hpx ▸ hx

theorem SetE.eq_univ_of_isUniv (s : SetE) (h : s.isUniv = true) : s = .univ := by
  cases s with
  | univ => rfl
  | _ => cases h

theorem SetE.eq_empty_of_isEmptySet (s : SetE) (h : s.isEmptySet = true) : s = .empty := by
  cases s with
  | empty => rfl
  | _ => cases h

/-- the test `unionUnchanged` (in `interLoop`: `temp == un`) only chooses between two answers that are both right; its
    meaning is never used, so neither loop lemma has a hypothesis on it -/
theorem unionLoop_ok {r : Ops} (hr : Sound r) (o : SetE) (container : List SetE) (ho : WF o)
    (hc : WFL container) : ∀ (rest : List SetE), (∀ x ∈ rest, x ∈ container) →
    Den (unionLoop r o container rest) fun q => mem o q ∨ memAny container q
  | [], _ => (makeUnion_ok (WFL_insertK hc ho)).congr (memAny_insertK o container)
  | it :: rest, hsub => by
    have hit : it ∈ container := hsub it List.mem_cons_self
    refine Den.bind fun temp htemp => ?_
    have ht := hr.den_mu ho (WF_of_mem hc hit) temp htemp
    split
    · exact (hr.den_nu (WFL_insertK (WFL_erase hc) ht.1)).congr fun q => by
        rw [memAny_insertK, ht.2 q, memAny_erase hit q, or_assoc]
    · exact unionLoop_ok hr o container ho hc rest fun x hx => hsub x (List.mem_cons_of_mem _ hx)

theorem interLoop_ok {r : Ops} (hr : Sound r) (o : SetE) (container : List SetE) (ho : WF o)
    (hc : WFL container) : ∀ (rest : List SetE), (∀ x ∈ rest, x ∈ container) →
    Den (interLoop r o container rest) fun q => mem o q ∧ memAll container q
  | [], _ => (makeInter_ok (WFL_insertK hc ho)).congr (memAll_insertK o container)
  | it :: rest, hsub => by
    have hit : it ∈ container := hsub it List.mem_cons_self
    refine Den.bind fun temp htemp => Den.bind fun _ _ => ?_
    have ht := hr.den_mi ho (WF_of_mem hc hit) temp htemp
    split
    · exact (hr.den_ni (WFL_insertK (WFL_erase hc) ht.1)).congr fun q => by
        rw [memAll_insertK, ht.2 q, memAll_erase hit q, and_assoc]
    · exact interLoop_ok hr o container ho hc rest fun x hx => hsub x (List.mem_cons_of_mem _ hx)

/-- a syntactic test that is sufficient for `a ⊆ b` on rational points: everything is below `Reals`, `Rationals`
    and the universal set, and `∅ ⊆ Naturals ⊆ Naturals0 ⊆ Integers` -/
def incl : SetE → SetE → Bool
  | .empty, _ => true
  | _, .univ | _, .reals | _, .rats => true
  | .nats, .nats | .nats, .nats0 | .nats, .ints | .nats0, .nats0 | .nats0, .ints | .ints, .ints => true
  | _, _ => false

theorem incl_sound {a b : SetE} (h : incl a b = true) (q : ℚ) : mem a q → mem b q := by
  unfold incl at h
  -- in the order of the arms of `incl`: empty, the three tops, the six pairs of number sets, the rest
  split at h
  · exact False.elim
  · exact fun _ => trivial
  · exact fun _ => trivial
  · exact fun _ => trivial
  · exact id
  · exact fun h => ⟨h.1, h.2.le⟩
  · exact fun h => h.1
  · exact id
  · exact fun h => h.1
  · exact id
  · cases h

/-- `incl .univ b` tests that `b` is UniversalSet, Reals or Rationals: `b` has every rational point; stated with an `a`
    so that it fits the inclusion argument of `left`, `right`, `nothing` below -/
theorem mem_top {a b : SetE} (hb : incl .univ b = true) (q : ℚ) : mem a q → mem b q :=
  fun _ => incl_sound hb q trivial

theorem muStep_sound {r : Ops} (hr : Sound r) (a b : SetE) (ha : WF a) (hb : WF b) :
    Den (muStep r a b) fun q => mem a q ∨ mem b q := by
  -- the reasons of the cells that do no work of their own
  have swap : Den (r.mu b a) fun q => mem a q ∨ mem b q := (hr.den_mu hb ha).congr fun _ => or_comm
  have pair : Den (makeUnion (mkSS [a, b])) fun q => mem a q ∨ mem b q := pairAny_ok makeUnion_ok ha hb
  have left : (∀ q, mem b q → mem a q) → Den (.ok a) fun q => mem a q ∨ mem b q := fun h =>
    Den.ok ha fun q => (or_iff_left_of_imp (h q)).symm
  have right : (∀ q, mem a q → mem b q) → Den (.ok b) fun q => mem a q ∨ mem b q := fun h =>
    Den.ok hb fun q => (or_iff_right_of_imp (h q)).symm
  cases a with
  | empty => exact right fun _ => False.elim
  | univ => exact left (mem_top rfl)
  | reals =>
    cases b with
    | fs | un | univ => exact swap
    | inter | co => exact pair
    | _ => exact left (mem_top rfl)
  | rats =>
    cases b with
    | fs | reals | un | univ => exact swap
    | iv | inter | co => exact pair
    | _ => exact left (mem_top rfl)
  | ints =>
    cases b with
    | reals | rats | univ => exact right (mem_top rfl)
    | fs => exact swap
    | iv | un | inter | co => exact pair
    | _ => exact left (incl_sound rfl)
  | nats =>
    cases b with
    | empty => exact left (incl_sound rfl)
    | fs => exact swap
    | iv | un | inter | co => exact pair
    | _ => exact right (incl_sound rfl)
  | nats0 =>
    cases b with
    | empty | nats => exact left (incl_sound rfl)
    | fs => exact swap
    | iv | un | inter | co => exact pair
    | _ => exact right (incl_sound rfl)
  | iv s1 e1 lo1 ro1 =>
    cases b with
    | iv s2 e2 lo2 ro2 => exact ivUnionIv_ok s1 e1 lo1 ro1 s2 e2 lo2 ro2 ha hb
    | inter | co => exact pair
    | _ => exact swap
  | fs l =>
    cases b with
    | fs l2 => exact Den.ok (WF_finiteset _) fun q => by simp only [mem_finiteset, mem_insertAllSB, mem]
    | iv s2 e2 lo2 ro2 => exact fsUnionIv_ok l s2 e2 lo2 ro2 hb
    | reals | rats => exact right (mem_top rfl)
    -- kinds 0 / 1 / 2 = Integers / Naturals / Naturals0: after `cases b` the model's `match o with | .ints => 0 …` and
    -- `numSet k` reduce, so the lemma stated with `numSet k` is this cell
    | ints => exact fsUnionNum_ok l 0
    | nats => exact fsUnionNum_ok l 1
    | nats0 => exact fsUnionNum_ok l 2
    | univ | empty | un => exact swap
    | inter | co => exact pair
  | un c => exact (unionLoop_ok hr b c hb ha.2 c fun _ hx => hx).congr fun _ => or_comm
  | inter c =>
    exact (mapE_ni hr (fun x q => mem x q ∨ mem b q) ha fun x hx => hr.den_mu hx hb).congr fun _ => memAll_or
  | co u c => exact Den.error

theorem nu_pair {r : Ops} (hr : Sound r) {a b s : SetE} (h : r.nu (mkSS [a, b]) = .ok s) (ha : WF a) (hb : WF b) :
    WF s ∧ ∀ q, mem s q ↔ (mem a q ∨ mem b q) :=
  pairAny_ok hr.den_nu ha hb s h

theorem miStep_sound {r : Ops} (hr : Sound r) (a b : SetE) (ha : WF a) (hb : WF b) :
    Den (miStep r a b) fun q => mem a q ∧ mem b q := by
  have swap : Den (r.mi b a) fun q => mem a q ∧ mem b q := (hr.den_mi hb ha).congr fun _ => and_comm
  have pair : Den (makeInter (mkSS [a, b])) fun q => mem a q ∧ mem b q := pairAll_ok makeInter_ok ha hb
  have free : Den (r.ni (mkSS [a, b])) fun q => mem a q ∧ mem b q := pairAll_ok hr.den_ni ha hb
  have left : (∀ q, mem a q → mem b q) → Den (.ok a) fun q => mem a q ∧ mem b q := fun h =>
    Den.ok ha fun q => (and_iff_left_of_imp (h q)).symm
  have right : (∀ q, mem b q → mem a q) → Den (.ok b) fun q => mem a q ∧ mem b q := fun h =>
    Den.ok hb fun q => (and_iff_right_of_imp (h q)).symm
  cases a with
  | empty => exact left fun _ => False.elim
  | univ => exact right (mem_top rfl)
  | reals =>
    cases b with
    | fs => exact swap
    | univ | un | inter | co => exact free
    | _ => exact right (mem_top rfl)
  | rats =>
    cases b with
    | fs | reals => exact swap
    | iv => exact pair
    | univ | un | inter | co => exact free
    | _ => exact right (mem_top rfl)
  | ints =>
    cases b with
    | reals | rats => exact left (mem_top rfl)
    | fs | iv => exact swap
    | univ | un | inter | co => exact free
    | _ => exact right (incl_sound rfl)
  | nats =>
    cases b with
    | empty | nats => exact right (incl_sound rfl)
    | fs | iv => exact swap
    | univ | un | inter | co => exact free
    | _ => exact left (incl_sound rfl)
  | nats0 =>
    cases b with
    | empty | nats | nats0 => exact right (incl_sound rfl)
    | fs | iv => exact swap
    | univ | un | inter | co => exact free
    | _ => exact left (incl_sound rfl)
  | iv s1 e1 lo1 ro1 =>
    cases b with
    | iv s2 e2 lo2 ro2 =>
      exact Den.ok (ivInterIv_WF) (ivInterIv_mem s1 e1 lo1 ro1 s2 e2 lo2 ro2)
    | ints => exact ivInterInts_ok s1 e1 lo1 ro1 0 (by omega) ha
    | nats => exact ivInterInts_ok s1 e1 lo1 ro1 1 (by omega) ha
    | nats0 => exact ivInterInts_ok s1 e1 lo1 ro1 2 (by omega) ha
    | inter | co => exact pair
    | _ => exact swap
  | fs l =>
    cases b with
    | fs => exact free
    | iv s2 e2 lo2 ro2 => exact fsFilter_ok l fun q => ivContains_iff s2 e2 lo2 ro2 q hb
    | reals => exact Den.ok (WF_finiteset _) fun q => (mem_finiteset l q).trans (and_iff_left trivial).symm
    | rats => exact fsFilter_ok l fun q => iff_of_true rfl trivial
    | ints => exact fsFilter_ok l (inNumSet_iff 0)
    | nats => exact fsFilter_ok l (inNumSet_iff 1)
    | nats0 => exact fsFilter_ok l (inNumSet_iff 2)
    | univ | empty | un => exact swap
    | inter | co => exact pair
  | un c =>
    exact (mapE_nu hr (fun x q => mem x q ∧ mem b q) ha.2 fun x hx => hr.den_mi hx hb).congr fun _ => memAny_and
  | inter c => exact (interLoop_ok hr b c hb ha c fun _ hx => hx).congr fun _ => and_comm
  | co u c => exact free

theorem complHelper_ok {r : Ops} (hr : Sound r) {container uni : SetE} (hc : WF container) (hu : WF uni) :
    Den (complHelper r container uni) fun q => mem uni q ∧ ¬ mem container q := by
  cases uni with
  | un l =>
    exact (mapE_nu hr (fun x q => mem x q ∧ ¬ mem container q) hu.2 fun x hx => hr.den_mc hc hx).congr
      fun _ => memAny_and
  | empty => exact Den.ok trivial fun q => (and_iff_left_of_imp False.elim).symm
  | fs l =>
    exact fsFilter_ok l fun q => by rw [Bool.not_eq_true', ← Bool.not_eq_true, contains_iff container q hc]
  | _ => exact Den.ok ⟨hu, hc⟩ fun _ => Iff.rfl

theorem mcStep_sound {r : Ops} (hr : Sound r) (a b : SetE) (ha : WF a) (hb : WF b) :
    Den (mcStep r a b) fun q => mem b q ∧ ¬ mem a q := by
  have nothing : (∀ q, mem b q → mem a q) → Den (.ok .empty) fun q => mem b q ∧ ¬ mem a q := fun h =>
    Den.ok trivial fun q => ⟨False.elim, fun hq => hq.2 (h q hq.1)⟩
  have whole : (∀ q, mem b q → ¬ mem a q) → Den (.ok b) fun q => mem b q ∧ ¬ mem a q := fun h =>
    Den.ok hb fun q => ⟨fun hq => ⟨hq, h q hq⟩, And.left⟩
  have uneval : Den (.ok (.co b a)) fun q => mem b q ∧ ¬ mem a q := Den.ok ⟨hb, ha⟩ fun _ => Iff.rfl
  have helper := complHelper_ok hr ha hb
  cases a with
  | empty => exact whole fun _ _ => id
  | univ => exact nothing (mem_top rfl)
  | reals =>
    cases b with
    | univ => exact uneval
    | fs | un | inter | co => exact helper
    | _ => exact nothing (mem_top rfl)
  | rats =>
    cases b with
    | univ | reals | iv => exact uneval
    | fs | un | inter | co => exact helper
    | _ => exact nothing (mem_top rfl)
  | ints =>
    cases b with
    | univ | rats | reals => exact uneval
    | iv | fs | un | inter | co => exact helper
    | _ => exact nothing (incl_sound rfl)
  | nats =>
    cases b with
    | empty | nats => exact nothing (incl_sound rfl)
    | univ | ints | rats | reals => exact uneval
    | _ => exact helper
  | nats0 =>
    cases b with
    | empty | nats0 | nats => exact nothing (incl_sound rfl)
    | univ | ints | rats | reals => exact uneval
    | _ => exact helper
  | iv s1 e1 lo1 ro1 =>
    cases b with
    | iv s2 e2 lo2 ro2 =>
      have hsem := ivInterIv_mem s1 e1 lo1 ro1 s2 e2 lo2 ro2
      simp only [mcStep]
      split
      · rename_i hemp
        rw [hemp] at hsem
        exact whole fun q hq hq' => (hsem q).2 ⟨hq', hq⟩
      · rename_i hne
        have hmeet := ivInterIv_ne_empty hne
        exact (hr.den_nu (ivComplPieces_WFL)).congr fun q =>
          ivComplPieces_mem s1 e1 lo1 ro1 s2 e2 lo2 ro2 ha hb q hmeet
    | _ => exact helper
  | fs l =>
    cases b with
    | fs l2 =>
      exact fsFilter_ok l2 fun q => by simp only [Bool.not_eq_true', List.contains_eq_mem, decide_eq_false_iff_not]; rfl
    | iv s2 e2 lo2 ro2 => exact fsComplIv_ok l s2 e2 lo2 ro2 hb
    | _ => exact helper
  | un c =>
    refine (mapE_ni hr (fun x q => mem b q ∧ ¬ mem x q) ha.2 fun x hx => hr.den_mc hx hb).congr fun q => ?_
    simp only [mem, memAny_iff]
    constructor
    · intro hall
      -- a Union has members, so `b` is mentioned at least once
      obtain ⟨x, hx⟩ := List.exists_mem_of_ne_nil c ha.1
      exact ⟨(hall x hx).1, fun ⟨y, hy, hq⟩ => (hall y hy).2 hq⟩
    · rintro ⟨hbq, hno⟩ x hx
      exact ⟨hbq, fun hq => hno ⟨x, hx, hq⟩⟩
  | inter c => exact Den.error
  | co u c => exact Den.error

/-- the free `set_union` collects the elements of the FiniteSet operands and drops the empty sets; the two functions are
    those of `nuStep` verbatim: `nuStep_sound` generalises them in this statement and in its goal at once -/
theorem memAny_split (q : ℚ) : ∀ (l : List SetE) (acc : List ENum),
    (ENum.fin q ∈ l.foldl (fun acc s => match s with | .fs e => insertAllSB acc e | _ => acc) acc ∨
      memAny (l.filter (fun s => !s.isFs && !s.isEmptySet)) q) ↔ (ENum.fin q ∈ acc ∨ memAny l q)
  | [], acc => Iff.rfl
  | x :: t, acc => by
    rw [List.foldl_cons, List.filter_cons]
    cases x with
    | fs e => exact (memAny_split q t _).trans (by rw [mem_insertAllSB, or_assoc]; rfl)
    | empty => exact (memAny_split q t _).trans (or_congr_right (or_iff_right id).symm)
    | _ => exact (or_left_comm.trans (or_congr_right (memAny_split q t _))).trans or_left_comm

theorem WFL_filter {l : List SetE} (p : SetE → Bool) : WFL l → WFL (l.filter p) :=
  WFL_mono fun _ => List.mem_of_mem_filter

theorem nuStep_sound {r : Ops} (hr : Sound r) (l : List SetE) (hl : WFL l) : Den (nuStep r l) (memAny l) := by
  unfold nuStep
  split
  · rename_i hany
    exact Den.ok trivial fun q =>
      iff_of_true trivial ((memAny_iff l q).2 ⟨_, mem_of_any_eq SetE.eq_univ_of_isUniv hany, trivial⟩)
  · dsimp only
    have hin := WFL_filter (fun s => !s.isFs && !s.isEmptySet) hl
    -- stated on the two terms of `nuStep` so that `generalize` renames them in `key` and the goal together; the
    -- `replace` only shows what `key` has become
    have key := fun q => ((memAny_split q l []).trans (or_iff_right List.not_mem_nil)).symm
    generalize l.filter _ = input at hin key ⊢
    generalize l.foldl _ [] = combined at key ⊢
    replace key : ∀ q, memAny l q ↔ (ENum.fin q ∈ combined ∨ memAny input q) := key
    split
    · exact Den.ok (WF_finiteset _) fun q => by rw [key q, mem_finiteset]; simp [memAny]
    · split
      · rename_i hemp
        rw [List.isEmpty_iff] at hemp
        exact Den.ok hin.1 fun q => by rw [key q]; simp [hemp, memAny]
      · exact (hr.den_mu (WF_finiteset _) hin.1).congr fun q => by rw [key q, mem_finiteset]; simp [memAny]
    · exact (foldE_mu hr _ (WF_finiteset _) hin).congr fun q => by rw [key q, mem_finiteset]

/-- `l.all (contains · a)`, as the free `set_intersection` writes it, is `Intersection::contains` -/
theorem all_contains_eq (l : List SetE) (a : ENum) : l.all (fun s => contains s a) = containsAll l a := by
  induction l with
  | nil => rfl
  | cons x t ih => simp only [List.all_cons, containsAll, ih]

theorem all_contains_iff (l : List SetE) (hl : WFL l) (q : ℚ) :
    l.all (fun s => contains s (.fin q)) = true ↔ memAll l q := by
  rw [all_contains_eq]; exact containsAll_iff l q hl

theorem memAll_partition (l : List SetE) (p : SetE → Bool) (q : ℚ) :
    memAll l q ↔ (memAll (l.filter p) q ∧ memAll (l.filter (fun s => !p s)) q) := by
  simp only [memAll_iff, List.mem_filter]
  constructor
  · intro h; exact ⟨fun x hx => h x hx.1, fun x hx => h x hx.1⟩
  · rintro ⟨h1, h2⟩ x hx
    cases hp : p x
    · exact h2 x ⟨hx, by simp [hp]⟩
    · exact h1 x ⟨hx, hp⟩

theorem niStep_sound {r : Ops} (hr : Sound r) (l : List SetE) (hl : WFL l) : Den (niStep r l) (memAll l) := by
  unfold niStep
  split
  · rename_i hemp
    rw [List.isEmpty_iff] at hemp
    subst hemp
    exact Den.ok trivial fun q => by simp [mem, memAll]
  · split
    · rename_i hany
      exact Den.ok trivial fun q =>
        iff_of_false id fun hall => (memAll_iff l q).1 hall _ (mem_of_any_eq SetE.eq_empty_of_isEmptySet hany)
    · dsimp only
      have hinc := WFL_filter (fun s => !s.isUniv) hl
      have key : ∀ q, memAll l q ↔ memAll (l.filter (fun s => !s.isUniv)) q := fun q =>
        (memAll_partition l (fun s => !s.isUniv) q).trans <| and_iff_left <| (memAll_iff _ q).2 fun x hx => by
          rw [SetE.eq_univ_of_isUniv x (by simpa using (List.mem_filter.1 hx).2)]; trivial
      generalize l.filter (fun s => !s.isUniv) = incopy at hinc key ⊢
      split
      · exact Den.ok trivial fun q => by rw [key q]; simp [mem, memAll]
      · exact Den.ok hinc.1 fun q => by rw [key q]; simp [memAll]
      · split
        · -- the first FiniteSet, filtered by membership in all other operands (finite or not)
          rename_i cont rest hfs
          refine Den.ok (WF_finiteset _) fun q => ?_
          have hwf := WFL_filter SetE.isFs hinc
          rw [hfs] at hwf
          have hwo := WFL_filter (fun s => !s.isFs) hinc
          rw [key q, memAll_partition incopy SetE.isFs q, hfs, mem_finiteset, List.mem_filter]
          simp only [Bool.and_eq_true, memAll, mem]
          rw [all_contains_iff rest hwf.2 q, all_contains_iff _ hwo q]
          exact (and_assoc).symm
        · split
          · -- distribute over the first Union
            rename_i container hfind
            have hit : SetE.un container ∈ incopy := List.mem_of_find?_eq_some hfind
            have hwit : WF (SetE.un container) := WF_of_mem hinc hit
            refine Den.bind fun other hother => ?_
            have ho := hr.den_ni (WFL_erase hinc) other hother
            refine (mapE_nu hr (fun c q => mem c q ∧ mem other q) hwit.2
              fun c hc => pairAll_ok hr.den_ni hc ho.1).congr fun q => ?_
            rw [key q, memAll_erase hit q, ho.2 q]
            exact memAny_and
          · split
            · -- pull the first Complement out
              rename_i uni container hfind
              have hit : SetE.co uni container ∈ incopy := List.mem_of_find?_eq_some hfind
              have hwit : WF (SetE.co uni container) := WF_of_mem hinc hit
              simp only [WF] at hwit
              refine Den.bind fun other hother => ?_
              have ho := hr.den_ni (WFL_insertK (WFL_erase hinc) hwit.1) other hother
              refine (hr.den_mc hwit.2 ho.1).congr fun q => ?_
              rw [ho.2 q, key q, memAll_erase hit q, memAll_insertK]
              exact and_right_comm
            · split
              · exact (foldE_mi hr _ hinc.1 hinc.2).congr fun q => by rw [key q]; simp [memAll]
              · exact Den.error

theorem ops_sound : ∀ n, Sound (ops n)
  | 0 => sound_bottom
  | n + 1 =>
    have hr := ops_sound n
    ⟨fun a b s ha hb => muStep_sound hr a b ha hb s, fun a b s ha hb => miStep_sound hr a b ha hb s,
      fun a b s ha hb => mcStep_sound hr a b ha hb s, fun l s hl => nuStep_sound hr l hl s,
      fun l s hl => niStep_sound hr l hl s⟩

theorem top_sound : Sound top := ops_sound topFuel

end SymVerif.Sets
