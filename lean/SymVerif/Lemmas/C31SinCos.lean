/-
C31: composition `Σ a_d S^d` of a coefficient sequence with a power series without constant term, and the
power sums `_series_sin` / `_series_cos`.
-/
import Mathlib.Data.Nat.Factorial.Basic
import SymVerif.Lemmas.C31Basic

namespace SymVerif.C31
open SymVerif.Series PowerSeries

/-- partial sums of the composition `Σ_d a_d S^d` -/
noncomputable def psum (a : ℕ → ℚ) (S : ℚ⟦X⟧) (N : ℕ) : ℚ⟦X⟧ :=
  ∑ d ∈ Finset.range N, C (a d) * S ^ d

theorem psum_succ (a : ℕ → ℚ) (S : ℚ⟦X⟧) (N : ℕ) :
    psum a S (N + 1) = psum a S N + C (a N) * S ^ N := Finset.sum_range_succ _ _

@[simp] theorem psum_zero (a : ℕ → ℚ) (S : ℚ⟦X⟧) : psum a S 0 = 0 := Finset.sum_range_zero _

theorem psum_one (a : ℕ → ℚ) (S : ℚ⟦X⟧) : psum a S 1 = C (a 0) := by
  rw [psum_succ, psum_zero, zero_add, pow_zero, mul_one]

theorem coeff_pow_of_lt {S : ℚ⟦X⟧} (hS : constantCoeff S = 0) {e d : ℕ} (h : e < d) :
    coeff e (S ^ d) = 0 := by
  have hX : X ∣ S := PowerSeries.X_dvd_iff.mpr hS
  have : X ^ d ∣ S ^ d := pow_dvd_pow_of_dvd hX d
  exact (PowerSeries.X_pow_dvd_iff.mp this) e h

theorem eqMod_pow_zero {S : ℚ⟦X⟧} (hS : constantCoeff S = 0) {n d : ℕ} (h : n ≤ d) :
    EqMod n (S ^ d) 0 := fun _ he =>
  (coeff_pow_of_lt hS (lt_of_lt_of_le he h)).trans (map_zero _).symm

/-- the composition of the series `Σ a_d Y^d` with `S` (meaningful when `S(0) = 0`) -/
noncomputable def comp (a : ℕ → ℚ) (S : ℚ⟦X⟧) : ℚ⟦X⟧ :=
  PowerSeries.mk fun e => coeff e (psum a S (e + 1))

theorem coeff_psum_stable (a : ℕ → ℚ) {S : ℚ⟦X⟧} (hS : constantCoeff S = 0) (e N : ℕ) (h : e < N) :
    coeff e (psum a S N) = coeff e (psum a S (e + 1)) := by
  induction N, h using Nat.le_induction with
  | base => rfl
  | succ N hN ih => rw [psum_succ, map_add, ih, coeff_C_mul, coeff_pow_of_lt hS hN, mul_zero, add_zero]

theorem eqMod_comp_psum (a : ℕ → ℚ) {S : ℚ⟦X⟧} (hS : constantCoeff S = 0) (n N : ℕ) (h : n ≤ N) :
    EqMod n (comp a S) (psum a S N) := by
  intro e he
  rw [comp, coeff_mk, coeff_psum_stable a hS e N (by omega)]

theorem psum_congr (a : ℕ → ℚ) {S S' : ℚ⟦X⟧} {n : ℕ} (h : EqMod n S S') (N : ℕ) :
    EqMod n (psum a S N) (psum a S' N) := by
  induction N with
  | zero => simp [EqMod.refl]
  | succ N ih =>
    rw [psum_succ, psum_succ]
    exact ih.add ((h.pow N).mul_left _)

theorem comp_congr (a : ℕ → ℚ) {n : ℕ} {S S' : ℚ⟦X⟧} (h : EqMod n S S') :
    EqMod n (comp a S) (comp a S') := fun e he => by
  rw [comp, comp, coeff_mk, coeff_mk]
  exact psum_congr a h (e + 1) e he

theorem constantCoeff_comp (a : ℕ → ℚ) (S : ℚ⟦X⟧) : constantCoeff (comp a S) = a 0 := by
  rw [← coeff_zero_eq_constantCoeff_apply, comp, coeff_mk, psum_one, coeff_zero_C]

/-- Taylor coefficients of sine and cosine -/
def sinC (d : ℕ) : ℚ := if d % 2 = 1 then (-1) ^ (d / 2) / (d.factorial : ℚ) else 0
def cosC (d : ℕ) : ℚ := if d % 2 = 0 then (-1) ^ (d / 2) / (d.factorial : ℚ) else 0

theorem sinC_even (i : ℕ) : sinC (2 * i) = 0 := if_neg (by omega)

theorem sinC_odd (i : ℕ) : sinC (2 * i + 1) = (-1) ^ i / ((2 * i + 1).factorial : ℚ) := by
  rw [sinC, if_pos (Nat.mul_add_mod 2 i 1), show (2 * i + 1) / 2 = i from Nat.mul_add_div two_pos i 1]

theorem cosC_odd (i : ℕ) : cosC (2 * i + 1) = 0 := if_neg (by omega)

theorem cosC_even (i : ℕ) : cosC (2 * i) = (-1) ^ i / ((2 * i).factorial : ℚ) := by
  rw [cosC, if_pos (Nat.mul_mod_right 2 i), Nat.mul_div_cancel_left i two_pos]

/-- The loop body `_series_sin` and `_series_cos` share: the state is (coefficient, power of `s`, sum),
`g` is the coefficient update.  The model has this body as an inline lambda: `sinCore_spec` / `cosCore_spec` close only
because its fold unfolds definitionally to `foldl (psumBody g …)`, so their local `g` must be the model's update letter for letter. -/
def psumBody (g : ℕ → ℚ → ℚ) (ssq : Poly) (prec : ℕ) (st : ℚ × Poly × Poly) (i : ℕ) : ℚ × Poly × Poly :=
  (g i st.1, mulTrunc st.2.1 ssq prec, padd st.2.2 (mulTrunc st.2.1 [g i st.1] prec))

/-- Loop invariant. `c` lists the coefficient register: `c 0` the start value, `c (i + 1) = a (2 i + d)` the coefficient added
in round `i`; the `a` in between vanish, the power starts at `S ^ d` and the sum at `psum a S d`. -/
theorem psumBody_spec {a c : ℕ → ℚ} {g : ℕ → ℚ → ℚ} {S : ℚ⟦X⟧} {d prec : ℕ} {ssq : Poly} {st₀ : ℚ × Poly × Poly}
    (hg : ∀ i, g i (c i) = c (i + 1)) (ha : ∀ i, a (2 * i + d) = c (i + 1)) (ha' : ∀ i, a (2 * i + d + 1) = 0)
    (hssq : EqMod prec (toPS ssq) (S * S)) (h1 : st₀.1 = c 0) (h2 : EqMod prec (toPS st₀.2.1) (S ^ d))
    (h3 : EqMod prec (toPS st₀.2.2) (psum a S d)) (i : ℕ) :
    let st := (List.range i).foldl (psumBody g ssq prec) st₀
    st.1 = c i ∧ EqMod prec (toPS st.2.1) (S ^ (2 * i + d)) ∧ EqMod prec (toPS st.2.2) (psum a S (2 * i + d)) := by
  induction i with
  | zero =>
    rw [Nat.mul_zero, Nat.zero_add]
    exact ⟨h1, h2, h3⟩
  | succ i ih =>
    rw [List.range_succ, List.foldl_concat]
    obtain ⟨h1, h2, h3⟩ := ih
    set st := (List.range i).foldl (psumBody g ssq prec) st₀
    have hc : g i st.1 = c (i + 1) := by rw [h1, hg]
    have e : 2 * (i + 1) + d = 2 * i + d + 1 + 1 := by omega
    refine ⟨hc, ?_, ?_⟩
    · rw [e, pow_succ, pow_succ, mul_assoc]
      exact (toPS_mulTrunc _ _ _).trans (h2.mul hssq)
    · show EqMod prec (toPS (padd st.2.2 (mulTrunc st.2.1 [g i st.1] prec))) _
      rw [e, psum_succ, psum_succ, ha', map_zero, zero_mul, add_zero, ha, toPS_padd, hc]
      refine h3.add ((toPS_mulTrunc _ _ _).trans ?_)
      rw [toPS_singleton, mul_comm]
      exact h2.mul_left _

/-- the recurrence both loops use for the Taylor coefficients: divide by `1 - j` and by `j`, where `j = m + 2` -/
theorem taylor_step (m k : ℕ) (j : ℤ) (hj : j = m + 2) :
    (-1 : ℚ) ^ k / (m.factorial : ℚ) / ((1 - j : ℤ) : ℚ) / (j : ℚ) = (-1) ^ (k + 1) / ((m + 2).factorial : ℚ) := by
  subst hj
  have f1 : (m + 2).factorial = (m + 2) * ((m + 1) * m.factorial) :=
    (Nat.factorial_succ (m + 1)).trans (congrArg _ (Nat.factorial_succ m))
  rw [f1, div_div, div_div, pow_succ, mul_neg_one, neg_div, ← div_neg]
  congr 1
  push_cast
  ring

theorem sinCore_spec (s : Poly) (prec : ℕ) (hS : constantCoeff (toPS s) = 0) :
    EqMod prec (toPS (sinCore s prec)) (comp sinC (toPS s)) := by
  -- `c 0 = 1` is the start value of the C++ variable `prod`, not a Taylor coefficient
  let c : ℕ → ℚ := fun i => if i = 0 then 1 else sinC (2 * i - 1)
  let g : ℕ → ℚ → ℚ := fun i p =>
    (if i != 0 then p / (((1 - (2 * (i : Int) + 1) : Int)) : ℚ) else p) / (((2 * (i : Int) + 1 : Int)) : ℚ)
  have hc : ∀ i, sinC (2 * i + 1) = c (i + 1) := fun i => (if_neg i.succ_ne_zero).symm
  have hg : ∀ i, g i (c i) = c (i + 1) := by
    intro i
    rw [← hc]
    cases i with
    | zero =>
      show (1 : ℚ) / ((2 * ((0 : ℕ) : ℤ) + 1 : ℤ) : ℚ) = _
      simp [sinC]
    | succ k =>
      rw [← hc k]
      show sinC (2 * k + 1) / _ / _ = _
      rw [sinC_odd, sinC_odd]
      exact taylor_step (2 * k + 1) k _ (by push_cast; ring)
  have h3 : EqMod prec (toPS []) (psum sinC (toPS s) 1) := by
    rw [psum_one, sinC_even 0, map_zero]
    exact EqMod.of_eq toPS_nil
  have hfold : sinCore s prec =
      ((List.range (prec / 2)).foldl (psumBody g (mulTrunc s s prec) prec) (1, s, [])).2.2 := rfl
  have := (psumBody_spec (st₀ := (1, s, [])) hg hc (fun i => sinC_even (i + 1)) (toPS_mulTrunc s s prec) (h1 := rfl)
    (h2 := EqMod.of_eq (pow_one _).symm) (h3 := h3) (prec / 2)).2.2
  -- the loop bound `prec / 2` of the C++ reaches every degree below `prec`
  have hbound : prec ≤ 2 * (prec / 2) + 1 := by omega
  rw [hfold]
  exact this.trans (eqMod_comp_psum sinC hS prec _ hbound).symm

theorem cosCore_spec (s : Poly) (prec : ℕ) (hS : constantCoeff (toPS s) = 0) :
    EqMod prec (toPS (cosCore s prec)) (comp cosC (toPS s)) := by
  let g : ℕ → ℚ → ℚ := fun i p =>
    p / (((1 - (2 * ((i : Int) + 1)) : Int)) : ℚ) / (((2 * ((i : Int) + 1) : Int)) : ℚ)
  have hg : ∀ i, g i (cosC (2 * i)) = cosC (2 * (i + 1)) := by
    intro i
    rw [cosC_even, cosC_even]
    exact taylor_step (2 * i) i _ (by push_cast; ring)
  have h0 : cosC 0 = 1 := by simp [cosC]
  have hssq := toPS_mulTrunc s s prec
  have h2 : EqMod prec (toPS (mulTrunc s s prec)) (toPS s ^ 2) := by
    rw [pow_two]
    exact hssq
  have h3 : EqMod prec (toPS [1]) (psum cosC (toPS s) 2) := by
    rw [psum_succ, psum_one, cosC_odd 0, h0, map_zero, zero_mul, add_zero, map_one, toPS_one]
    exact EqMod.refl _ _
  have hfold : cosCore s prec =
      ((List.range (prec / 2)).foldl (psumBody g (mulTrunc s s prec) prec) (1, mulTrunc s s prec, [1])).2.2 := rfl
  have := (psumBody_spec (d := 2) (st₀ := (1, mulTrunc s s prec, [1])) hg (fun i => rfl) (fun i => cosC_odd (i + 1))
    hssq (h1 := h0.symm) (h2 := h2) (h3 := h3) (prec / 2)).2.2
  have hbound : prec ≤ 2 * (prec / 2) + 2 := by omega
  rw [hfold]
  exact this.trans (eqMod_comp_psum cosC hS prec _ hbound).symm

theorem sin_spec (s g : Poly) (prec : ℕ) (h : seriesSin s prec = .ok g) :
    constantCoeff (toPS s) = 0 ∧ EqMod prec (toPS g) (comp sinC (toPS s)) := by
  obtain ⟨hS, h⟩ := guard_ok h
  cases h
  exact ⟨hS, sinCore_spec s prec hS⟩

theorem cos_spec (s g : Poly) (prec : ℕ) (h : seriesCos s prec = .ok g) :
    constantCoeff (toPS s) = 0 ∧ EqMod prec (toPS g) (comp cosC (toPS s)) := by
  obtain ⟨hS, h⟩ := guard_ok h
  cases h
  exact ⟨hS, cosCore_spec s prec hS⟩

end SymVerif.C31
