/-
C04: binary bracketings.  `BTree` is a bracketing of a list of operands, `evalT f` combines it with
the binary constructor `f`.  When the n-ary constructor is `build` of the fold of an accumulator
(Lemmas/C04Fold.lean), re-reading a result gives the state back, and `f` agrees with the n-ary constructor on
pairs, every bracketing evaluates to the n-ary constructor on the leaves (`evalT_acc_eq`).  For `add`:
`evalT_add_eq_addN`, which only depends on the multiset of the leaves (`addN_perm_aux`).
-/
import Mathlib.Algebra.BigOperators.Group.List.Basic
import SymVerif.Lemmas.C04Add

namespace SymVerif.AC
open SymVerif SymVerif.Arith

inductive BTree where
  | leaf (a : Expr)
  | node (l r : BTree)

def BTree.leaves : BTree → List Expr
  | .leaf a => [a]
  | .node l r => l.leaves ++ r.leaves

def evalT (f : Expr → Expr → R Expr) : BTree → R Expr
  | .leaf a => .ok a
  | .node l r => do
    let x ← evalT f l
    let y ← evalT f r
    f x y

theorem BTree.leaves_ne_nil : ∀ t : BTree, t.leaves ≠ []
  | .leaf _ => by simp [BTree.leaves]
  | .node l _ => by simp [BTree.leaves, BTree.leaves_ne_nil l]

theorem evalT_pair (f : Expr → Expr → R Expr) (a b : Expr) :
    evalT f (.node (.leaf a) (.leaf b)) = f a b := rfl
theorem evalT_left3 (f : Expr → Expr → R Expr) (a b c : Expr) :
    evalT f (.node (.node (.leaf a) (.leaf b)) (.leaf c)) = (do let ab ← f a b; f ab c) := rfl
theorem evalT_right3 (f : Expr → Expr → R Expr) (a b c : Expr) :
    evalT f (.node (.leaf a) (.node (.leaf b) (.leaf c))) = (do let bc ← f b c; f a bc) := rfl

/-- `hbuild` (re-reading a result gives the state back, `absorb e x = state`) is asked for non-empty lists only:
`max()` of nothing is an error.  `size` and `B` carry the fuel bound of `mul`. -/
theorem evalT_acc_eq {σ : Type} {N : σ → Prop} {OK : Expr → Prop} {absorb : σ → Expr → σ} {e : σ}
    {build : σ → R Expr} {size : Expr → Nat} {B : Nat} {f : Expr → Expr → R Expr}
    (A : Acc N OK absorb) (he : N e)
    (hbuild : ∀ {l : List Expr}, l ≠ [] → (∀ a ∈ l, OK a) → (l.map size).sum ≤ B →
      ∃ x, build (l.foldl absorb e) = .ok x ∧ OK x ∧ absorb e x = l.foldl absorb e
        ∧ size x ≤ (l.map size).sum)
    (hsingle : ∀ {a}, OK a → build (absorb e a) = .ok a)
    (hbin : ∀ {a b}, OK a → OK b → size a + size b ≤ B → f a b = build (absorb (absorb e a) b)) :
    ∀ t : BTree, (∀ a ∈ t.leaves, OK a) → (t.leaves.map size).sum ≤ B →
      evalT f t = build (t.leaves.foldl absorb e)
  | .leaf a, h, _ => (hsingle (h a List.mem_cons_self)).symm
  | .node l r, h, hB => by
    have hl : ∀ a ∈ l.leaves, OK a := fun a ha => h a (List.mem_append_left _ ha)
    have hr : ∀ a ∈ r.leaves, OK a := fun a ha => h a (List.mem_append_right _ ha)
    simp only [BTree.leaves, List.map_append, List.sum_append] at hB
    obtain ⟨x, hx, hxo, hxe, hxs⟩ := hbuild l.leaves_ne_nil hl (by omega)
    obtain ⟨y, hy, hyo, hye, hys⟩ := hbuild r.leaves_ne_nil hr (by omega)
    have hyl : ∀ a ∈ y :: l.leaves, OK a := by
      intro a ha
      rcases List.mem_cons.mp ha with rfl | ha
      · exact hyo
      · exact hl a ha
    -- absorbing the result `y` of the right subtree is absorbing its leaves: move either to the front
    have key : absorb (l.leaves.foldl absorb e) y = (l.leaves ++ r.leaves).foldl absorb e := by
      rw [A.foldl_perm List.perm_append_comm h e he, List.foldl_append, ← hye, ← List.foldl_cons,
        A.foldl_perm (List.perm_append_singleton y l.leaves).symm hyl e he, List.foldl_append]
      rfl
    simp only [evalT, evalT_acc_eq A he hbuild hsingle hbin l hl (by omega), hx,
      evalT_acc_eq A he hbuild hsingle hbin r hr (by omega), hy, ok_bind]
    rw [hbin hxo hyo (by omega), hxe, key]
    rfl

theorem evalT_acc_eq_nofuel {σ : Type} {N : σ → Prop} {OK : Expr → Prop} {absorb : σ → Expr → σ} {e : σ}
    {build : σ → R Expr} {f : Expr → Expr → R Expr}
    (A : Acc N OK absorb) (he : N e)
    (hbuild : ∀ {l : List Expr}, l ≠ [] → (∀ a ∈ l, OK a) →
      ∃ x, build (l.foldl absorb e) = .ok x ∧ OK x ∧ absorb e x = l.foldl absorb e)
    (hsingle : ∀ {a}, OK a → build (absorb e a) = .ok a)
    (hbin : ∀ {a b}, OK a → OK b → f a b = build (absorb (absorb e a) b))
    (t : BTree) (h : ∀ a ∈ t.leaves, OK a) :
    evalT f t = build (t.leaves.foldl absorb e) :=
  evalT_acc_eq (size := fun _ => 0) (B := 0) A he
    (fun hne hl _ => let ⟨x, h1, h2, h3⟩ := hbuild hne hl; ⟨x, h1, h2, h3, by simp⟩)
    hsingle (fun ha hb _ => hbin ha hb) t h (by simp)

theorem evalT_add_eq_addN (t : BTree) (h : ∀ a ∈ t.leaves, AOK a) :
    evalT addE t = addN t.leaves := by
  rw [addN_eq h]
  exact evalT_acc_eq_nofuel (f := addE) (build := fun s => addFromDict s.1 s.2) raddAcc NR_unit
    (hbuild := fun {l} _ hl => by
      have hs := raddAcc.foldl_N l NR_unit hl
      obtain ⟨x, hx, hxo, hxr⟩ := AOK_fromDict hs
      exact ⟨x, hx, hxo, by rw [hxr, radd_unit hs]⟩)
    (hsingle := fun ha => by rw [radd_unit ha.nr]; exact ha.rebuild)
    (hbin := fun ha hb => by rw [addE_eq ha hb, radd_unit ha.nr])
    t h

theorem addN_perm_aux {l₁ l₂ : List Expr} (hp : l₁.Perm l₂) (h : ∀ a ∈ l₁, AOK a) :
    addN l₁ = addN l₂ := by
  rw [addN_eq h, addN_eq (fun a ha => h a (hp.mem_iff.mpr ha)), rsum, rsum, raddAcc.foldl_perm hp h _ NR_unit]

end SymVerif.AC
