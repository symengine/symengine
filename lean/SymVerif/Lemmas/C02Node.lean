/-
What a class `compare` is, locally.  On the fragment every `compare` is "`hd` first, then the loop over `children`"
(`cmp_node`), and `hd` with `children` determines the node (`node_ext`).  These, and `beq'_node` for `eq`, are where
the order proofs tell the classes apart (the range `cmp_rng` has its own case analysis: it holds under `WF` alone).
From them, without looking at a constructor: `J_all`, on the fragment `eq` and `cmp = 0` are identity of the model
objects and `cmp` is antisymmetric; after it the node equation holds without its side condition (`cmp_node'`).
-/
import SymVerif.Lemmas.C02Class
import Mathlib.Data.List.Perm.Subperm

namespace SymVerif
namespace Expr
open TC (Kind)

/-- the local key of a node: type code, name, two numbers (integers, sizes, `dblKey`s and `qv` values, cast
to ℚ), compared lexicographically -/
abbrev Hd := Nat ×ₗ String ×ₗ ℚ ×ₗ ℚ

def Hd.mk (t : Nat) (s : String) (p q : ℚ) : Hd := toLex (t, toLex (s, toLex (p, q)))

theorem cmpLin_mk (t t' : Nat) (s s' : String) (p p' q q' : ℚ) :
    cmpLin (Hd.mk t s p q) (Hd.mk t' s' p' q') =
      lex (cmpLin t t') (lex (cmpLin s s') (lex (cmpLin p p') (cmpLin q q'))) := by
  simp only [Hd.mk, cmpLin_toLex]

theorem Hd.mk_inj {t t' : Nat} {s s' : String} {p p' q q' : ℚ} :
    Hd.mk t s p q = Hd.mk t' s' p' q' ↔ t = t' ∧ s = s' ∧ p = p' ∧ q = q' := by
  simp [Hd.mk]

/-- what a class `compare` looks at before the stored sub-expressions: the type code (`Basic::__cmp__`), then
the name of the classes that have one, then up to two numbers (the value, the size of a container, the rank of
an Interval's flags), `""` / `0` where there is none.  `kindOf` of a well-formed `app` node is `some k`: the `0`
of its `elim` is not reached on the fragment. -/
def hd : Expr → Hd
  | int x => .mk TC.cInteger "" x 0
  | rat n d => .mk TC.cRational "" (qv n d) 0
  | cplx r i => .mk TC.cComplex "" (qv r.num r.den) (qv i.num i.den)
  | dbl x => .mk TC.cRealDouble "" (dblKey x) 0
  | cdbl r i => .mk TC.cComplexDouble "" (dblKey r) (dblKey i)
  | infty d => .mk TC.cInfty "" d 0
  | nan => .mk TC.cNaN "" 0 0
  | sym n => .mk TC.cSymbol n 0 0
  | dummy n i => .mk TC.cDummy n i 0
  | const n => .mk TC.cConstant n 0 0
  | add _ ts => .mk TC.cAdd "" ts.length 0
  | mul _ fs => .mk TC.cMul "" fs.length 0
  | pow _ _ => .mk TC.cPow "" 0 0
  | fsym n as => .mk TC.cFunctionSymbol n as.length 0
  | app h as => .mk (typeCode (app h as)) "" ((kindOf (app h as)).elim 0 (appKey · as) : Nat) 0
  | bool b => .mk TC.cBooleanAtom "" (if b then 1 else 0) 0

theorem hd_tc (a : Expr) : ∃ s p q, hd a = .mk (typeCode a) s p q := by
  cases a <;> exact ⟨_, _, _, rfl⟩

theorem tc_of_hd {a b : Expr} (h : hd a = hd b) : typeCode a = typeCode b := by
  obtain ⟨s, p, q, ea⟩ := hd_tc a
  obtain ⟨s', p', q', eb⟩ := hd_tc b
  rw [ea, eb] at h
  exact (Hd.mk_inj.mp h).1

theorem OK_dbl {x : UInt64} (h : OK (dbl x)) : dblIsNaN x = false ∧ x ≠ negZeroBits := by
  have h1 := allNodes_self _ h.2.1
  have h2 := allNodes_self _ h.2.2
  simp only [notNaNNode, Bool.not_eq_true'] at h1
  simp only [notNegZeroNode, bne_iff_ne, ne_eq] at h2
  exact ⟨h1, h2⟩

theorem OK_cdbl {r i : UInt64} (h : OK (cdbl r i)) :
    (dblIsNaN r = false ∧ dblIsNaN i = false) ∧ (r ≠ negZeroBits ∧ i ≠ negZeroBits) := by
  have h1 := allNodes_self _ h.2.1
  have h2 := allNodes_self _ h.2.2
  simp only [notNaNNode, Bool.and_eq_true, Bool.not_eq_true'] at h1
  simp only [notNegZeroNode, Bool.and_eq_true, bne_iff_ne, ne_eq] at h2
  exact ⟨h1, h2⟩

theorem OK_rat {n : Int} {d : Nat} (h : OK (rat n d)) : qCanon n d = true := by simpa [WF] using h.1

theorem OK_cplx {r i : Q} (h : OK (cplx r i)) : qCanon r.num r.den = true ∧ qCanon i.num i.den = true := by
  simpa [WF] using h.1

theorem WF_add_sorted {c : Expr} {ts : List (Expr × Expr)} (h : WF (add c ts) = true) :
    pairwiseB keyLess (ts.map Prod.fst) = true := by
  simp only [WF, Bool.and_eq_true] at h; exact h.2

theorem children_cons_inj {c c' : Expr} {ts ts' : List (Expr × Expr)}
    (h : c :: flat ts = c' :: flat ts') : c = c' ∧ ts = ts' := by
  simp only [List.cons.injEq] at h
  exact ⟨h.1, flat_inj h.2⟩

theorem Q_ext {a b : Q} (h : a.num = b.num ∧ a.den = b.den) : a = b := by
  cases a; cases b; cases h.1; cases h.2; rfl

theorem cmpBad_ne_zero : cmpBad ≠ 0 := by decide

theorem cmpArgs_nil : cmpArgs [] [] = 0 := by simp [cmpArgs]

/-- TwoArgBasic's eq-then-cmp is the plain lexicographic loop once `eq` and `cmp = 0` agree on the first
fields -/
theorem cmpTwo_eq {x1 x2 y1 y2 : Expr} (he : beq' x1 y1 = true ↔ cmp x1 y1 = 0) :
    cmpTwo [x1, x2] [y1, y2] = cmpArgs [x1, x2] [y1, y2] := by
  rw [cmpTwo, cmpArgs_cons x1 y1 [x2] [y2]]
  by_cases hb : beq' x1 y1 = true
  · rw [hb, lex_of_eq_zero (he.mp hb)]; rfl
  · rw [lex_of_ne_zero (fun c0 => hb (he.mpr c0)), Bool.eq_false_iff.mpr hb]; rfl

/-- every class `compare`, on the fragment; `he` is needed for the TwoArgBasic classes only -/
theorem cmp_node {a b : Expr} (oa : OK a) (ob : OK b)
    (he : ∀ x ∈ children a, ∀ y ∈ children b, (beq' x y = true ↔ cmp x y = 0)) :
    cmp a b = lex (cmpLin (hd a) (hd b)) (cmpArgs (children a) (children b)) := by
  by_cases hc : typeCode a = typeCode b
  swap
  · obtain ⟨s, p, q, ea⟩ := hd_tc a
    obtain ⟨s', p', q', eb⟩ := hd_tc b
    have n : cmpLin (typeCode a) (typeCode b) ≠ 0 := fun e => hc ((cmpLin_eq_zero _ _).mp e)
    rw [cmp_tc_ne hc, cmpNat_eq, ea, eb, cmpLin_mk, lex_of_ne_zero n, lex_of_ne_zero n]
  -- the `simp only` brings the right side to the shape of the class equations `cmp_int` … `cmp_fsym` of C02Struct
  cases sameClass oa.1 ob.1 hc <;>
    simp only [hd, children, cmpArgs_nil, cmpLin_mk, cmpLin_self, lex_zero_left, lex_zero_right, lex_assoc,
      cmpLin_intCast, cmpLin_natCast]
  case int x y => rw [cmp_int, cmpInt_eq]
  case rat n d n' d' => rw [cmp_rat, cmpQ_eq (OK_rat oa) (OK_rat ob)]
  case cplx r i r' i' =>
    rw [cmp_cplx, cmpQ_eq (OK_cplx oa).1 (OK_cplx ob).1, cmpQ_eq (OK_cplx oa).2 (OK_cplx ob).2]
  case dbl x y => rw [cmp_dbl, cmpDbl_eq (OK_dbl oa).1 (OK_dbl ob).1]
  case cdbl r i r' i' =>
    rw [cmp_cdbl, cmpDbl_eq (OK_cdbl oa).1.1 (OK_cdbl ob).1.1, cmpDbl_eq (OK_cdbl oa).1.2 (OK_cdbl ob).1.2]
  case infty x y => rw [cmp_infty, cmpInt_eq]
  case nan => rw [cmp_nan]
  case sym x y => rw [cmp_sym, cmpStr_eq]
  case dummy n i m j => rw [cmp_dummy, cmpStr_eq, cmpNat_eq]
  case const x y => rw [cmp_const, cmpStr_eq]
  case bool x y => rw [cmp_bool_eq]
  case pow b e b' e' => rw [cmp_pow]
  case mul c fs c' fs' => rw [cmp_mul, cmpNat_eq]
  case add c ts c' ts' => rw [cmp_add, cmpNat_eq]
  case fsym n as m bs => rw [cmp_fsym, cmpStr_eq, cmpNat_eq]
  case app h as bs =>
    obtain ⟨k, hk, hk', ha, hb, e⟩ := cmp_app_wf oa.1 ob.1
    rw [e]
    simp only [hk, hk', hc, Option.elim, cmpLin_self, lex_zero_left]
    show lex _ (if k = Kind.two then cmpTwo as bs else cmpArgs as bs) = lex _ (cmpArgs as bs)
    split
    · subst k
      obtain ⟨x1, x2, rfl⟩ := arityOK_two ha
      obtain ⟨y1, y2, rfl⟩ := arityOK_two hb
      rw [cmpTwo_eq (he x1 (by simp [children]) y1 (by simp [children]))]
    · rfl

theorem node_ext {a b : Expr} (oa : OK a) (ob : OK b) (h : hd a = hd b) :
    (children a).length = (children b).length ∧ (children a = children b → a = b) := by
  cases sameClass oa.1 ob.1 (tc_of_hd h) <;> simp only [hd, Hd.mk_inj, Int.cast_inj, Nat.cast_inj] at h <;>
    obtain ⟨-, hs, hp, hq⟩ := h
  case int x y => exact ⟨rfl, fun _ => congrArg int hp⟩
  case rat n d n' d' =>
    obtain ⟨rfl, rfl⟩ := qv_inj (OK_rat oa) (OK_rat ob) hp
    exact ⟨rfl, fun _ => rfl⟩
  case cplx r i r' i' =>
    rw [Q_ext (qv_inj (OK_cplx oa).1 (OK_cplx ob).1 hp), Q_ext (qv_inj (OK_cplx oa).2 (OK_cplx ob).2 hq)]
    exact ⟨rfl, fun _ => rfl⟩
  case dbl x y =>
    rw [dblKey_inj (OK_dbl oa).2 (OK_dbl ob).2 hp]
    exact ⟨rfl, fun _ => rfl⟩
  case cdbl r i r' i' =>
    rw [dblKey_inj (OK_cdbl oa).2.1 (OK_cdbl ob).2.1 hp, dblKey_inj (OK_cdbl oa).2.2 (OK_cdbl ob).2.2 hq]
    exact ⟨rfl, fun _ => rfl⟩
  case infty x y => exact ⟨rfl, fun _ => congrArg infty hp⟩
  case nan => exact ⟨rfl, fun _ => rfl⟩
  case sym x y => exact ⟨rfl, fun _ => congrArg sym hs⟩
  case dummy n i m j => rw [hs, hp]; exact ⟨rfl, fun _ => rfl⟩
  case const x y => exact ⟨rfl, fun _ => congrArg const hs⟩
  case bool x y => exact ⟨rfl, fun _ => by cases x <;> cases y <;> simp at hp ⊢⟩
  case pow b e b' e' => exact ⟨rfl, fun e => by cases e; rfl⟩
  case mul c fs c' fs' | add c fs c' fs' =>
    refine ⟨by simp [children, flat_length, hp], fun e => ?_⟩
    rw [(children_cons_inj e).1, (children_cons_inj e).2]
  case fsym n as m bs => exact ⟨hp, fun e => by rw [hs]; exact congrArg _ e⟩
  case app h' as bs =>
    obtain ⟨k, hk, hk', ha, hb, _⟩ := cmp_app_wf oa.1 ob.1
    simp only [hk, hk', Option.elim] at hp
    exact ⟨appKey_length ha hb hp, fun e => congrArg _ e⟩

/-- on the pair `a`, `b`: `eq`, `cmp = 0` and identity of the model objects coincide, and `cmp` is
antisymmetric -/
structure J (a b : Expr) : Prop where
  eq : beq' a b = true ↔ a = b
  /-- the induction is on `a` alone, so what it needs of the pair `(b, a)` is carried along (`J.symm`) -/
  eqRev : beq' b a = true ↔ a = b
  zero : cmp a b = 0 ↔ a = b
  anti : cmp a b = - cmp b a

theorem J.symm {a b : Expr} (j : J a b) : J b a where
  eq := j.eqRev.trans eq_comm
  eqRev := j.eq.trans eq_comm
  zero := by
    have := j.anti
    constructor
    · intro h; exact (j.zero.mp (by omega)).symm
    · intro h; have := j.zero.mpr h.symm; omega
  anti := by rw [j.anti]; omega

theorem J.eqv {a b : Expr} (j : J a b) : beq' a b = true ↔ cmp a b = 0 := j.eq.trans j.zero.symm

theorem forall₂_of_mem {α β : Type} {P : α → β → Prop} {as : List α} {bs : List β} (hl : as.length = bs.length)
    (h : ∀ x ∈ as, ∀ y ∈ bs, P x y) : List.Forall₂ P as bs :=
  List.forall₂_iff_zip.mpr ⟨hl, fun hm => h _ (List.of_mem_zip hm).1 _ (List.of_mem_zip hm).2⟩

section
variable {as bs : List Expr} (hj : ∀ x ∈ as, ∀ y ∈ bs, J x y)
include hj

theorem beqArgs_iff : beqArgs as bs = true ↔ as = bs := by
  induction as generalizing bs with
  | nil => cases bs <;> simp [beqArgs]
  | cons a t ih => cases bs with
    | nil => simp [beqArgs]
    | cons b t' =>
      rw [beqArgs, Bool.and_eq_true, (hj a (List.mem_cons_self ..) b (List.mem_cons_self ..)).eq,
        ih (fun x hx y hy => hj x (List.mem_cons_of_mem _ hx) y (List.mem_cons_of_mem _ hy)), List.cons.injEq]

theorem cmpArgs_zero (h : cmpArgs as bs = 0) : as = bs := by
  induction as generalizing bs with
  | nil => cases bs with
    | nil => rfl
    | cons b t' => simp [cmpArgs, cmpBad] at h
  | cons a t ih => cases bs with
    | nil => simp [cmpArgs, cmpBad] at h
    | cons b t' =>
      rw [cmpArgs_cons, lex_eq_zero] at h
      rw [(hj a (List.mem_cons_self ..) b (List.mem_cons_self ..)).zero.mp h.1,
        ih (fun x hx y hy => hj x (List.mem_cons_of_mem _ hx) y (List.mem_cons_of_mem _ hy)) h.2]

theorem cmpArgs_anti (hl : as.length = bs.length) : cmpArgs as bs = - cmpArgs bs as := by
  have h := forall₂_of_mem hl hj
  clear hl hj
  induction h with
  | nil => simp [cmpArgs]
  | cons h _ ih => rw [cmpArgs_cons, cmpArgs_cons]; exact lex_anti h.anti (fun _ => ih)
end

theorem keyLess_irrefl {x : Expr} (h : beq' x x = true) : keyLess x x = false := by
  simp [keyLess, h]

theorem keyLess_of_hash_eq {x y : Expr} (e : hash x = hash y) :
    keyLess x y = (if beq' x y = true then false else cmp x y == -1) := by
  unfold keyLess
  have : (hash x != hash y) = false := by simp [e]
  rw [this]; simp

theorem keyLess_of_hash_ne {x y : Expr} (e : hash x ≠ hash y) :
    keyLess x y = decide (hash x < hash y) := by
  unfold keyLess
  have : (hash x != hash y) = true := by simpa using e
  rw [if_pos this]

theorem keyLess_asymm {x y : Expr} (anti : cmp x y = - cmp y x) (h1 : keyLess x y = true) (h2 : keyLess y x = true) :
    False := by
  by_cases hh : hash x = hash y
  · rw [keyLess_of_hash_eq hh] at h1
    rw [keyLess_of_hash_eq hh.symm] at h2
    split at h1
    · cases h1
    · split at h2
      · cases h2
      · have a1 : cmp x y = -1 := by simpa using h1
        have a2 : cmp y x = -1 := by simpa using h2
        omega
  · rw [keyLess_of_hash_ne hh] at h1
    rw [keyLess_of_hash_ne (Ne.symm hh)] at h2
    exact UInt64.lt_asymm (of_decide_eq_true h1) (of_decide_eq_true h2)

theorem pairwiseB_iff {α : Type} (r : α → α → Bool) : ∀ {l : List α},
    pairwiseB r l = true ↔ List.Pairwise (fun a b => r a b = true) l
  | [] => by simp [pairwiseB]
  | a :: t => by
    simp only [pairwiseB, Bool.and_eq_true, List.all_eq_true, List.pairwise_cons, pairwiseB_iff r (l := t)]

theorem sorted_eq_of_subset {l1 l2 : List (Expr × Expr)}
    (irr : ∀ p ∈ l1, keyLess p.1 p.1 = false)
    (asym : ∀ p ∈ l1, ∀ q ∈ l2, keyLess p.1 q.1 = true → keyLess q.1 p.1 = true → False)
    (s1 : pairwiseB keyLess (l1.map Prod.fst) = true) (s2 : pairwiseB keyLess (l2.map Prod.fst) = true)
    (hl : l1.length = l2.length) (hsub : l1 ⊆ l2) : l1 = l2 := by
  have p1 : List.Pairwise (fun p q : Expr × Expr => keyLess p.1 q.1 = true) l1 :=
    List.pairwise_map.mp ((pairwiseB_iff keyLess).mp s1)
  have p2 : List.Pairwise (fun p q : Expr × Expr => keyLess p.1 q.1 = true) l2 :=
    List.pairwise_map.mp ((pairwiseB_iff keyLess).mp s2)
  have nd : l1.Nodup := by
    refine List.Pairwise.imp_of_mem ?_ p1
    intro p q hp _ hk e
    subst e
    rw [irr p hp] at hk; cases hk
  have perm : l1.Perm l2 := (nd.subperm hsub).perm_of_length_le (by omega)
  exact List.Perm.eq_of_pairwise (fun p q hp hq h1 h2 => (asym p hp q hq h1 h2).elim) p1 p2 perm

/-- Only the `Add` case uses `hr`: the dictionaries are strictly sorted, so one contained in the other of the same
size is the other, once the keys are known not to be below themselves; as one dictionary is inside the other it is
enough to know that for the keys of either. -/
theorem beq'_node {a b : Expr} (oa : OK a) (ob : OK b) (hj : ∀ x ∈ children a, ∀ y ∈ children b, J x y)
    (hr : (∀ x ∈ children a, beq' x x = true) ∨ (∀ y ∈ children b, beq' y y = true)) :
    beq' a b = true ↔ a = b := by
  by_cases hc : typeCode a = typeCode b
  swap
  · exact ⟨fun h => absurd (beq'_tc h) hc, fun h => absurd (congrArg typeCode h) hc⟩
  cases sameClass oa.1 ob.1 hc with
  | int x y => simp [beq']
  | rat n d n' d' => simp [beq']
  | cplx r i r' i' => simp [beq']
  | dbl x y =>
    simp only [beq', dblEq_iff (OK_dbl oa).1 (OK_dbl ob).1]
    exact ⟨fun h => congrArg dbl (dblKey_inj (OK_dbl oa).2 (OK_dbl ob).2 h), fun h => by cases h; rfl⟩
  | cdbl r i r' i' =>
    simp only [beq', Bool.and_eq_true, dblEq_iff (OK_cdbl oa).1.1 (OK_cdbl ob).1.1,
      dblEq_iff (OK_cdbl oa).1.2 (OK_cdbl ob).1.2]
    exact ⟨fun h => by rw [dblKey_inj (OK_cdbl oa).2.1 (OK_cdbl ob).2.1 h.1,
      dblKey_inj (OK_cdbl oa).2.2 (OK_cdbl ob).2.2 h.2], fun h => by cases h; exact ⟨rfl, rfl⟩⟩
  | infty x y => simp [beq']
  | nan => simp [beq']
  | sym x y => simp [beq']
  | dummy n i m j => simp [beq']
  | const x y => simp [beq']
  | bool x y => simp [beq']
  | pow b e b' e' => rw [beq'_pow, beqArgs_iff (as := [b, e]) (bs := [b', e']) hj]; simp
  | mul c fs c' fs' =>
    rw [beq'_mul, beqArgs_iff (as := c :: flat fs) (bs := c' :: flat fs') hj]
    exact ⟨fun h => by rw [(children_cons_inj h).1, (children_cons_inj h).2], fun h => by cases h; rfl⟩
  | fsym n as m bs => rw [beq'_fsym, Bool.and_eq_true, beq_iff_eq, beqArgs_iff (as := as) (bs := bs) hj]; simp
  | app h as bs => rw [beq'_app, Bool.and_eq_true, beqArgs_iff (as := as) (bs := bs) hj]; simp
  | add c ts c' ts' =>
    have mk : ∀ {c : Expr} {ts : List (Expr × Expr)}, ∀ p ∈ ts,
        p.1 ∈ children (add c ts) ∧ p.2 ∈ children (add c ts) := fun p hp =>
      ⟨List.mem_cons_of_mem _ (mem_flat.mpr ⟨p, hp, Or.inl rfl⟩),
       List.mem_cons_of_mem _ (mem_flat.mpr ⟨p, hp, Or.inr rfl⟩)⟩
    have jk : ∀ p ∈ ts, ∀ q ∈ ts', J p.1 q.1 ∧ J p.2 q.2 := fun p hp q hq =>
      ⟨hj _ (mk p hp).1 _ (mk q hq).1, hj _ (mk p hp).2 _ (mk q hq).2⟩
    rw [beq'_add]
    simp only [Bool.and_eq_true, beq_iff_eq, allFind_iff]
    constructor
    · rintro ⟨⟨hcc, hlen⟩, hfind⟩
      have hsub : ts ⊆ ts' := fun p hp => by
        obtain ⟨q, hq, _, b1, b2⟩ := hfind p hp
        rw [Prod.ext ((jk p hp q hq).1.eq.mp b1) ((jk p hp q hq).2.eq.mp b2)]
        exact hq
      have irr : ∀ p ∈ ts, keyLess p.1 p.1 = false := fun p hp => keyLess_irrefl <|
        hr.elim (fun h => h _ (mk p hp).1) (fun h => h _ (mk p (hsub hp)).1)
      rw [(hj c (List.mem_cons_self ..) c' (List.mem_cons_self ..)).eq.mp hcc,
        sorted_eq_of_subset irr (fun p hp q hq => keyLess_asymm (jk p hp q hq).1.anti)
          (WF_add_sorted oa.1) (WF_add_sorted ob.1) hlen hsub]
    · intro h
      cases h
      have hr' : ∀ x ∈ children (add c ts), beq' x x = true := hr.elim id id
      exact ⟨⟨hr' c (List.mem_cons_self ..), rfl⟩, fun p hp => ⟨p, hp, rfl, hr' _ (mk p hp).1, hr' _ (mk p hp).2⟩⟩

/-- `TwoArgBasic::compare` calls `eq`, and that two `eq` Adds are identical needs the order of the (sorted) dictionaries'
keys to be antisymmetric, so `eq` = identity, `cmp = 0` ⇔ identity and antisymmetry go through one induction together. -/
theorem J_all : ∀ a b, OK a → OK b → J a b := by
  intro a
  refine induct_children (fun a => ∀ b, OK a → OK b → J a b) ?_ a
  clear a
  intro a ih b oa ob
  have hj : ∀ x ∈ children a, ∀ y ∈ children b, J x y := fun x hx y hy =>
    ih x hx y (oa.children x hx) (ob.children y hy)
  have hj' : ∀ y ∈ children b, ∀ x ∈ children a, J y x := fun y hy x hx => (hj x hx y hy).symm
  have hr : ∀ x ∈ children a, beq' x x = true := fun x hx =>
    (ih x hx x (oa.children x hx) (oa.children x hx)).eq.mpr rfl
  have e := cmp_node oa ob (fun x hx y hy => (hj x hx y hy).eqv)
  have e' := cmp_node ob oa (fun y hy x hx => (hj' y hy x hx).eqv)
  refine {
    eq := beq'_node oa ob hj (Or.inl hr)
    eqRev := (beq'_node ob oa hj' (Or.inr hr)).trans eq_comm
    zero := ?_
    anti := ?_ }
  · rw [e, cmpLin_lex_zero]
    constructor
    · rintro ⟨h1, h2⟩
      exact (node_ext oa ob h1).2 (cmpArgs_zero hj h2)
    · rintro rfl
      exact ⟨rfl, cmpArgs_self (fun x hx => (hj x hx x hx).zero.mpr rfl)⟩
  · rw [e, e']
    exact cmpLin_lex_anti fun hh => cmpArgs_anti hj (node_ext oa ob hh).1

theorem beq'_refl {a : Expr} (h : OK a) : beq' a a = true := (J_all a a h h).eq.mpr rfl

theorem cmp_node' {a b : Expr} (oa : OK a) (ob : OK b) :
    cmp a b = lex (cmpLin (hd a) (hd b)) (cmpArgs (children a) (children b)) :=
  cmp_node oa ob fun x hx y hy => (J_all x y (oa.children x hx) (ob.children y hy)).eqv

end Expr
end SymVerif
