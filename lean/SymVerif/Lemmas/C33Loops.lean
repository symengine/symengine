import SymVerif.Lemmas.C33State
/-! The loops of `Sieve::_extend`, innermost first.  Progress is an equation `s.size = cnt n` beside `Inv s` (the cache
holds exactly the primes `< n`): one segment pass takes it from `start` to `finish + 1` (`sieve_segment_correct`),
the segment loop to `limit + 1` (`segLoop_spec`), and `_extend`, which first recurses on `sqrt limit` for the sieving
primes, to the larger of the old size and `cnt (limit + 1)` (`extendWith_spec`). -/
namespace SymVerif.C33
open SymVerif.Sieve

theorem set_false_true (a : Array Bool) (i j : Nat) :
    (a.set! i false)[j]? = some true ↔ a[j]? = some true ∧ j ≠ i := by
  simp only [Array.set!_eq_setIfInBounds, Array.getElem?_setIfInBounds]
  split
  · rename_i h; subst h
    split <;> simp
  · rename_i h
    exact (and_iff_left fun e => h e.symm).symm

theorem markSlice_spec (a : Array Bool) (first count stride : Nat)
    (h : ∀ t, t < count → first + t * stride < a.size) :
    ∃ a', markSlice a first count stride = .ok a' ∧ a'.size = a.size ∧
      ∀ j, (a'[j]? = some true ↔ a[j]? = some true ∧ ¬ ∃ t, t < count ∧ j = first + t * stride) := by
  induction count generalizing a first with
  | zero => exact ⟨a, rfl, rfl, by simp⟩
  | succ k ih =>
    rw [Nat.forall_lt_succ_left, Nat.zero_mul, Nat.add_zero] at h
    have hshift : ∀ t, first + stride + t * stride = first + (t + 1) * stride := fun t => by
      rw [Nat.succ_mul, Nat.add_assoc, Nat.add_comm stride]
    obtain ⟨a', e, hs, hj⟩ := ih (a.set! first false) (first + stride) (fun t ht => by
      rw [Array.set!_eq_setIfInBounds, Array.size_setIfInBounds, hshift]
      exact h.2 t ht)
    refine ⟨a', by rw [markSlice, if_pos h.1, e], by simpa using hs, fun j => ?_⟩
    rw [hj, set_false_true, Nat.exists_lt_succ_left, Nat.zero_mul, Nat.add_zero, not_or, and_assoc]
    simp only [hshift]

theorem markSlice_oob (a : Array Bool) (first count stride : Nat)
    (h : ∃ t, t < count ∧ a.size ≤ first + t * stride) :
    markSlice a first count stride = .error .oob := by
  induction count generalizing a first with
  | zero => obtain ⟨t, ht, _⟩ := h; omega
  | succ k ih =>
    obtain ⟨t, ht, hge⟩ := h
    unfold markSlice
    split
    · rename_i hlt
      apply ih
      cases t with
      | zero => simp at hge; omega
      | succ t =>
        refine ⟨t, by omega, ?_⟩
        rw [Nat.succ_mul] at hge
        simp only [Array.set!_eq_setIfInBounds, Array.size_setIfInBounds]
        omega
    · rfl

/-- Only bits `j` with `start + 2j + 1 ≤ finish` are spoken of: the slices stop at `finish`, later bits stay set and are
never read.  `hfuel`: the fuel bounds the indices still to visit (the model starts with `size + 1` at index 1). -/
theorem markLoop_spec (s : State) (hinv : Inv s) (start finish : Nat) (hs : start % 2 = 0)
    (fuel index : Nat) (a : Array Bool) (hidx : 1 ≤ index) (hfuel : s.size ≤ index + fuel)
    (hfin : finish < start + 2 * a.size) :
    ∃ a', markLoop s start finish fuel index a = .ok a' ∧ a'.size = a.size ∧
      ∀ j, start + 2 * j + 1 ≤ finish →
        (a'[j]? = some true ↔ a[j]? = some true ∧
          ∀ i, index ≤ i → i < s.size → np i * np i ≤ finish → ¬ np i ∣ start + 2 * j + 1) := by
  have hget : ∀ i, i < s.size → s.get i = np i := fun i hi =>
    hinv.get (lt_of_lt_of_le hi hinv.size_le)
  have hpar : ∀ j, (start + 2 * j + 1) % 2 = 1 := fun j => by omega
  induction fuel generalizing index a with
  | zero =>
    exact ⟨a, rfl, rfl, fun j _ => ⟨fun h => ⟨h, fun i h1 h2 => by omega⟩, And.left⟩⟩
  | succ fuel ih =>
    rw [markLoop]
    simp only [Bool.and_eq_true, decide_eq_true_eq]
    by_cases hc : index < s.size ∧ s.get index * s.get index ≤ finish
    · rw [if_pos hc, hget index hc.1]
      obtain ⟨hlt, hsq⟩ := hc
      rw [hget index hlt] at hsq
      have hn : np index % 2 = 1 := np_odd hidx
      have hfuel' : s.size ≤ index + 1 + fuel := by omega
      have hpeel : ∀ j, (∀ i, index ≤ i → i < s.size → np i * np i ≤ finish → ¬ np i ∣ start + 2 * j + 1) ↔
          ¬ np index ∣ start + 2 * j + 1 ∧
            ∀ i, index + 1 ≤ i → i < s.size → np i * np i ≤ finish → ¬ np i ∣ start + 2 * j + 1 := fun j =>
        ⟨fun h => ⟨h index (le_refl index) hlt hsq, fun i hi => h i (Nat.le_of_succ_le hi)⟩,
          fun h i hi => (Nat.eq_or_lt_of_le hi).elim (fun e _ _ => e ▸ h.1) (h.2 i)⟩
      by_cases hgt : finish < firstOddMultiple start (np index)
      · obtain ⟨a', e, hsz, hj⟩ := ih (index + 1) a (Nat.le_add_left 1 index) hfuel' hfin
        refine ⟨a', by rw [if_pos hgt, e], hsz, fun j hjf => ?_⟩
        have hnd : ¬ np index ∣ start + 2 * j + 1 := fun hd => by
          obtain ⟨t, ht⟩ := (dvd_bit_iff hs hn j).1 hd
          exact absurd ((le_of_le_of_eq (Nat.le_add_right _ _) ht.symm).trans hjf) (not_le.2 hgt)
        rw [hj j hjf, hpeel j, and_iff_right hnd]
      · -- the slice holds exactly the bits of the multiples of this prime up to `finish`
        have hslice := slice_index_iff hs hn (not_lt.1 hgt)
        -- the access `is_prime[sl]`, in bounds: slice element `t` stands for a number `≤ finish`, and
        -- `finish < start + 2 * a.size` (`hfin`)
        have hbound : ∀ t, t < 1 + (finish - firstOddMultiple start (np index)) / (2 * np index) →
            (firstOddMultiple start (np index) - start) / 2 + t * np index < a.size := fun t ht => by
          have := ((hslice _).1 ⟨t, ht, rfl⟩).2; omega
        obtain ⟨a1, e1, hs1, hj1⟩ := markSlice_spec a
          ((firstOddMultiple start (np index) - start) / 2)
          (1 + (finish - firstOddMultiple start (np index)) / (2 * np index)) (np index)
          hbound
        obtain ⟨a', e, hsz, hj⟩ := ih (index + 1) a1 (Nat.le_add_left 1 index) hfuel'
          (by rw [hs1]; exact hfin)
        refine ⟨a', ?_, hsz.trans hs1, fun j hjf => ?_⟩
        · rw [if_neg hgt, e1]
          exact e
        · rw [hj j hjf, hj1 j, hslice j, and_iff_left hjf, and_assoc, hpeel j]
    · -- the primes increase, so no later one passes the guard either
      refine ⟨a, if_neg hc, rfl, fun j _ => ⟨fun h => ⟨h, fun i h1 h2 h3 => ?_⟩, And.left⟩⟩
      have := np_le_np h1
      have hlt := lt_of_le_of_lt h1 h2
      exact absurd ⟨hlt, hget index hlt ▸ le_trans (Nat.mul_le_mul this this) h3⟩ hc

/-- One iteration, with the loop variable written as `start + 2k + 1` so that the index is `k`. -/
theorem collectLoop_step {a : Array Bool} {start finish k : Nat} (fuel : Nat) (s : State)
    (h : start + 2 * k + 1 ≤ finish) :
    collectLoop a start finish (fuel + 1) (start + 2 * k + 1) s =
      if hk : k < a.size then
        collectLoop a start finish fuel (start + 2 * (k + 1) + 1)
          (if a[k] then s.push (start + 2 * k + 1) else s)
      else .error .oob := by
  rw [collectLoop, if_pos h]
  have hi : (start + 2 * k + 1 - start) / 2 = k := by omega
  simp only [hi]
  rfl

/-- `4 ≤ start`: the even numbers `start + 2k` that the loop steps over must exceed 2 to be non-prime (the callers have
`start = back + 1 ≥ 30`). -/
theorem cnt_exit {start k finish : Nat} (hs : start % 2 = 0) (hs4 : 4 ≤ start)
    (hk : start + 2 * k ≤ finish + 1) (hlt : finish < start + 2 * k + 1) :
    cnt (start + 2 * k + 1) = cnt (finish + 1) := by
  rcases Nat.eq_or_lt_of_le (Nat.succ_le_of_lt hlt) with e | l
  · rw [← e]
  · have e : finish + 1 = start + 2 * k := Nat.le_antisymm (Nat.le_of_lt_succ l) hk
    have h2 : 2 < start + 2 * k := Nat.lt_of_lt_of_le (by decide) (Nat.le_add_right_of_le hs4)
    rw [e, cnt_succ_not_prime (not_prime_even (by omega) h2)]

/-- `if (is_prime[..]) push_back(n)` for the odd `n` the loop stands at -/
theorem push_if_prime {s : State} (hinv : Inv s) {n : Nat} (hn : n % 2 = 1) (h3 : 3 ≤ n)
    (hc : s.size = cnt n) {b : Bool} (hb : b = true ↔ n.Prime) :
    Grows s (if b then s.push n else s) ∧ (if b then s.push n else s).size = cnt (n + 2) := by
  have h2 : cnt (n + 2) = cnt (n + 1) :=
    cnt_succ_not_prime (not_prime_even (by omega) (by omega))
  rw [h2]
  by_cases hp : n.Prime
  · rw [if_pos (hb.2 hp)]
    exact inv_push hinv hp hc
  · rw [if_neg (fun h => hp (hb.1 h)), cnt_succ_not_prime hp]
    exact ⟨Grows.refl hinv, hc⟩

theorem collectLoop_spec (a : Array Bool) (start finish : Nat) (hs : start % 2 = 0) (hs4 : 4 ≤ start)
    (hfin : finish < start + 2 * a.size)
    (hbits : ∀ j, start + 2 * j + 1 ≤ finish → (a[j]? = some true ↔ (start + 2 * j + 1).Prime))
    (fuel k : Nat) (s : State) (hinv : Inv s) (hk : start + 2 * k ≤ finish + 1)
    (hfuel : finish ≤ start + 2 * k + fuel) (hc : s.size = cnt (start + 2 * k + 1)) :
    ∃ s', collectLoop a start finish fuel (start + 2 * k + 1) s = .ok s' ∧
      s'.size = cnt (finish + 1) ∧ Grows s s' := by
  have hodd : ∀ k, (start + 2 * k + 1) % 2 = 1 ∧ 3 ≤ start + 2 * k + 1 := fun k => by omega
  induction fuel generalizing k s with
  | zero =>
    exact ⟨s, rfl, hc.trans (cnt_exit hs hs4 hk (Nat.lt_succ_of_le hfuel)), Grows.refl hinv⟩
  | succ fuel ih =>
    by_cases hle : start + 2 * k + 1 ≤ finish
    · -- the access `is_prime[(n - start) / 2]`, in bounds by `hfin`
      have hka : k < a.size := by omega
      have hb : a[k] = true ↔ (start + 2 * k + 1).Prime := by
        rw [← hbits k hle, Array.getElem?_eq_getElem hka, Option.some.injEq]
      obtain ⟨g1, sz1⟩ := push_if_prime hinv (hodd k).1 (hodd k).2 hc hb
      obtain ⟨s', e, sz, g⟩ := ih (k + 1) _ g1.inv (Nat.succ_le_succ hle) (by omega) sz1
      exact ⟨s', by rw [collectLoop_step fuel s hle, dif_pos hka, e], sz, g1.trans g⟩
    · exact ⟨s, by rw [collectLoop, if_neg hle], hc.trans (cnt_exit hs hs4 hk (not_le.1 hle)),
        Grows.refl hinv⟩

/-- One pass of the segment loop body: the marking loop stays in bounds and leaves bit `j`
(standing for the odd number `start + 2j + 1 ≤ finish`) set iff that number is prime; the
collecting loop then appends exactly the primes of the segment. -/
theorem sieve_segment_correct (s : State) (hinv : Inv s) (start finish segment : Nat)
    (hs : start % 2 = 0) (hs4 : 4 ≤ start) (hsf : start ≤ finish)
    (hfin : finish < start + 2 * segment) (hc : s.size = cnt start)
    (hq : ∀ q, q.Prime → q * q ≤ finish → q < start) :
    ∃ a', markLoop s start finish (s.size + 1) 1 (Array.replicate segment true) = .ok a' ∧
      a'.size = segment ∧
      (∀ j, start + 2 * j + 1 ≤ finish → (a'[j]? = some true ↔ (start + 2 * j + 1).Prime)) ∧
    ∃ s', collectLoop a' start finish (finish + 1) (start + 1) s = .ok s' ∧ Inv s' ∧
      s'.size = cnt (finish + 1) ∧
      s'.sieveBits = s.sieveBits ∧ s'.clearFlag = s.clearFlag ∧ s.buf.size ≤ s'.buf.size := by
  obtain ⟨a', e, hsz, hj⟩ := markLoop_spec s hinv start finish hs (fuel := s.size + 1) (index := 1)
    (Array.replicate segment true) (le_refl _) (by omega) (by rw [Array.size_replicate]; exact hfin)
  rw [Array.size_replicate] at hsz
  have hbits : ∀ j, start + 2 * j + 1 ≤ finish →
      (a'[j]? = some true ↔ (start + 2 * j + 1).Prime) := by
    intro j hjf
    have hjs : j < segment := by omega
    refine (hj j hjf).trans ((and_iff_right (by simp [hjs])).trans ?_)
    rw [hc]
    exact sieve_unmarked_iff_prime (Nat.le_trans (by decide) hs4) hq (by omega)
      (Nat.lt_succ_of_le (Nat.le_add_right _ _)) hjf
  obtain ⟨s', e', sz, g⟩ := collectLoop_spec a' start finish hs hs4 (by rw [hsz]; exact hfin) hbits
    (fuel := finish + 1) (k := 0) s hinv (Nat.le_succ_of_le hsf) (by omega)
    (by rw [hc]; exact (cnt_succ_not_prime (not_prime_even hs (by omega))).symm)
  exact ⟨a', e, hsz, hbits, s', e', g.inv, sz, g.bits, g.clear, g.buf⟩

theorem finishFixed_min {start segment limit : Nat} (hseg : 0 < segment) (hle : start ≤ limit) :
    start ≤ min (finishFixed start segment) limit ∧
    min (finishFixed start segment) limit < start + 2 * segment ∧
    min (finishFixed start segment) limit + 1 = min (start + 2 * segment) (limit + 1) := by
  unfold finishFixed
  omega

/-- `hc` has `min start (limit + 1)` because the last `start` of the loop overshoots the limit. -/
theorem segLoop_spec (f : Nat → Nat → Nat) (segment limit : Nat) (hseg : 0 < segment)
    (fuel start : Nat) (s : State) (hinv : Inv s)
    (hf : ∀ st, start ≤ st → st ≤ limit →
      min (f st segment) limit = min (finishFixed st segment) limit)
    (hs : start % 2 = 0) (hs4 : 4 ≤ start)
    (hc : s.size = cnt (min start (limit + 1)))
    (hq : ∀ q, q.Prime → q * q ≤ limit → q < start)
    (hfuel : limit < start + fuel) :
    ∃ s', segLoop f segment limit fuel start s = .ok s' ∧
      s'.size = cnt (limit + 1) ∧ Grows s s' := by
  induction fuel generalizing start s with
  | zero =>
    exact ⟨s, rfl, by rw [hc, Nat.min_eq_right (show limit + 1 ≤ start from hfuel)], Grows.refl hinv⟩
  | succ fuel ih =>
    by_cases hle : start ≤ limit
    · have hs' : (start + 2 * segment) % 2 = 0 := by omega
      have hfuel' : limit < start + 2 * segment + fuel := by omega
      obtain ⟨h1, h2, h3⟩ := finishFixed_min hseg hle
      -- the facts about the repaired segment end hold of `f`, which agrees with it below the limit
      rw [← hf start (le_refl _) hle] at h1 h2 h3
      obtain ⟨a', e1, _, _, s1, e2, i1, sz1, b1, c1, bf1⟩ :=
        sieve_segment_correct s hinv start (min (f start segment) limit) segment hs hs4 h1 h2
          (by rw [hc, Nat.min_eq_left (Nat.le_succ_of_le hle)])
          (fun q hp hqq => hq q hp (le_trans hqq (Nat.min_le_right _ _)))
      have g1 : Grows s s1 := ⟨i1, b1, c1, bf1⟩
      obtain ⟨s', e, sz, g⟩ := ih (start + 2 * segment) s1 i1
        (fun st hst => hf st (le_trans (Nat.le_add_right _ _) hst)) hs'
        (Nat.le_add_right_of_le hs4) (by rw [sz1, h3])
        (fun q hp hqq => Nat.lt_add_right _ (hq q hp hqq)) hfuel'
      refine ⟨s', ?_, sz, g1.trans g⟩
      rw [segLoop, if_pos hle]
      simp only [e1, e2]
      exact e
    · exact ⟨s, by rw [segLoop, if_neg hle],
        by rw [hc, Nat.min_eq_right (Nat.succ_le_of_lt (not_le.1 hle))], Grows.refl hinv⟩

theorem extendWith_done {f : Nat → Nat → Nat} {fuel : Nat} {s : State} {limit : Nat}
    (h : limit ≤ s.back + 1) : extendWith f (fuel + 1) s limit = .ok s := by
  rw [extendWith]
  exact if_pos h

/-- The body of `_extend` once the recursive call on `sqrt limit` has returned `s1`.  (The guard
`sqrtLimit ≥ start` of that call only skips a call that would return at once.) -/
theorem extendWith_step {f : Nat → Nat → Nat} {fuel : Nat} {s s1 : State} {limit : Nat}
    (hb : 0 < s.sieveBits) (hl : ¬ limit ≤ s.back + 1)
    (e : extendWith f (fuel + 1) s (Nat.sqrt limit) = .ok s1) :
    extendWith f (fuel + 2) s limit =
      segLoop f s1.sieveBits limit (limit + 1) (s1.back + 1) s1 := by
  have hr : (if Nat.sqrt limit ≥ s.back + 1 then extendWith f (fuel + 1) s (Nat.sqrt limit)
      else .ok s) = .ok s1 := by
    split
    · exact e
    · rw [← e, extendWith_done (by omega)]
  have hbits : (s.sieveBits == 0) = false := beq_false_of_ne (by omega)
  rw [extendWith]
  dsimp only
  rw [if_neg hl, hr]
  simp only [hbits, Bool.false_eq_true, if_false]

theorem sqrt_lt_tower {limit fuel : Nat} (h : limit < 2 ^ 2 ^ (fuel + 1)) :
    Nat.sqrt limit < 2 ^ 2 ^ fuel := by
  rw [Nat.sqrt_lt']
  calc limit < 2 ^ 2 ^ (fuel + 1) := h
    _ = (2 ^ 2 ^ fuel) ^ 2 := by rw [← pow_mul, pow_succ]

theorem extendWith_spec_done (f : Nat → Nat → Nat) (fuel : Nat) {s : State} {limit : Nat} (hinv : Inv s)
    (hle : limit ≤ s.back + 1) : ∃ s', extendWith f (fuel + 1) s limit = .ok s' ∧
      s'.size = max s.size (cnt (limit + 1)) ∧ Grows s s' :=
  ⟨s, extendWith_done hle, (Nat.max_eq_left (hinv.cnt_le_size hle)).symm, Grows.refl hinv⟩

/-- `_extend` for any segment-end function `f` that, cut at the limit, agrees with the repaired one: `extend` is the case
`f = finishFixed`, and `orig_extend_oob` uses the case `f = finishOrig` for the recursive call, which stays within its
first segment.  `hf` speaks of every `l ≤ limit` because the recursion runs with the limit `sqrt limit`; each level
takes a square root, hence fuel `fuel + 1` for `limit < 2^2^fuel`. -/
theorem extendWith_spec (f : Nat → Nat → Nat) (fuel : Nat) (s : State) (limit : Nat) (hinv : Inv s)
    (hf : ∀ l st, s.back < st → st ≤ l → l ≤ limit →
      min (f st s.sieveBits) l = min (finishFixed st s.sieveBits) l)
    (hlim : limit < 2 ^ (2 ^ fuel)) :
    ∃ s', extendWith f (fuel + 1) s limit = .ok s' ∧
      s'.size = max s.size (cnt (limit + 1)) ∧ Grows s s' := by
  induction fuel generalizing s limit with
  | zero =>
    have hb := hinv.back_ge
    have hl : limit < 2 := by simpa using hlim
    have hle : limit ≤ s.back + 1 := by omega
    exact extendWith_spec_done f 0 hinv hle
  | succ fuel ih =>
    by_cases hle : limit ≤ s.back + 1
    · exact extendWith_spec_done f _ hinv hle
    have hsl : Nat.sqrt limit ≤ limit := Nat.sqrt_le_self _
    obtain ⟨s1, e1, sz1, g1⟩ := ih s _ hinv (fun l st h1 h2 h3 => hf l st h1 h2 (le_trans h3 hsl))
      (sqrt_lt_tower hlim)
    have inv1 := g1.inv
    have hback := hinv.back_mono inv1 (by rw [sz1]; exact le_max_left _ _)
    have hsl' : s.size ≤ cnt (limit + 1) := (hinv.back_lt_iff _).1 (by omega)
    have hstart1 : s1.back < limit + 1 := (inv1.back_lt_iff _).2 (by
      rw [sz1]; exact max_le hsl' (cnt_mono (Nat.succ_le_succ hsl)))
    obtain ⟨s', e, sz, g⟩ := segLoop_spec f (segment := s1.sieveBits) limit inv1.bits (fuel := limit + 1)
      (start := s1.back + 1) s1 inv1
      (fun st h1 h2 => by rw [g1.bits]; exact hf limit st (lt_of_le_of_lt hback h1) h2 (le_refl _))
      (by have := inv1.back_odd; omega) (by have := inv1.back_ge; omega)
      (by rw [Nat.min_eq_left hstart1]; exact inv1.size_eq_cnt)
      (fun q hq hqq => by
        have hcq : cnt q < s1.size := by
          rw [sz1]
          exact lt_max_of_lt_right (cnt_lt_of_prime_lt hq (Nat.lt_succ_of_le (Nat.le_sqrt.2 hqq)))
        exact Nat.lt_succ_of_le ((inv1.le_back_iff q).2 hcq))
      (by omega)
    exact ⟨s', by rw [extendWith_step hinv.bits hle e1, e], by rw [sz, Nat.max_eq_right hsl'],
      g1.trans g⟩

end SymVerif.C33
