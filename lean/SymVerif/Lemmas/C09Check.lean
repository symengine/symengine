/-
Lemmas for the C09 certificate checker (Model/C09Check.lean): `Expr.eqb` decides equality (the statements of
Lemmas/ExprEqb.lean again in the namespace `C09`; `C09.eqb_iff` is audited by the check of the property), the completeness
predicate as an inductive proposition, and that a polynomial expression has a value under every assignment.
-/
import SymVerif.Lemmas.NFSound
import SymVerif.Lemmas.ExprEqb
import SymVerif.Model.C09Check

namespace SymVerif
namespace C09

open NF

theorem eqbList_eq : ∀ (l m : List Expr), Expr.eqbList l m = true → l = m := Expr.eqbList_eq

theorem eqbPairs_eq : ∀ (l m : List (Expr × Expr)), Expr.eqbPairs l m = true → l = m := Expr.eqbPairs_eq

theorem eqbList_refl : ∀ (l : List Expr), Expr.eqbList l l = true := Expr.eqbList_refl

theorem eqbPairs_refl : ∀ (l : List (Expr × Expr)), Expr.eqbPairs l l = true := Expr.eqbPairs_refl

theorem eqb_iff {a b : Expr} : Expr.eqb a b = true ↔ a = b :=
  ⟨Expr.eqb_eq a b, fun h => h ▸ Expr.eqb_refl a⟩

/-- `R` contains, outside function arguments and exponents, no sum as a key of a sum, no factor
`(sum)^(positive integer)` in a product and no power `(sum)^(positive integer)`. -/
inductive Expanded : Expr → Prop
  | add (c : Expr) (ts : List (Expr × Expr))
      (h1 : ∀ k v, (k, v) ∈ ts → isAdd k = false)
      (h2 : ∀ k v, (k, v) ∈ ts → Expanded k) : Expanded (.add c ts)
  | mul (c : Expr) (fs : List (Expr × Expr))
      (h1 : ∀ b x, (b, x) ∈ fs → ¬(isAdd b = true ∧ posInt x = true))
      (h2 : ∀ b x, (b, x) ∈ fs → Expanded b) : Expanded (.mul c fs)
  | pow (b x : Expr) (h1 : ¬(isAdd b = true ∧ posInt x = true)) (h2 : Expanded b) : Expanded (.pow b x)
  | leaf (e : Expr) (h : ∀ c ts, e ≠ .add c ts) (h' : ∀ c fs, e ≠ .mul c fs) (h'' : ∀ b x, e ≠ .pow b x) :
      Expanded e

theorem not_sumPow {b x : Expr} (h : (isAdd b && posInt x) = false) : ¬(isAdd b = true ∧ posInt x = true) := by
  simpa using h

mutual
  theorem expandedB_sound : ∀ (e : Expr), expandedB e = true → Expanded e
    | .add c ts, h => by
      simp only [expandedB] at h
      exact .add c ts (fun k v hm => (expandedTerms_sound ts h k v hm).1)
        (fun k v hm => (expandedTerms_sound ts h k v hm).2)
    | .mul c fs, h => by
      simp only [expandedB] at h
      exact .mul c fs (fun b x hm => (expandedFacs_sound fs h b x hm).1)
        (fun b x hm => (expandedFacs_sound fs h b x hm).2)
    | .pow b x, h => by
      simp only [expandedB, Bool.and_eq_true, Bool.not_eq_true'] at h
      exact .pow b x (not_sumPow h.1) (expandedB_sound b h.2)
    | .int _, _ | .rat _ _, _ | .cplx _ _, _ | .dbl _, _ | .cdbl _ _, _ | .infty _, _ | .nan, _ | .sym _, _ |
      .dummy _ _, _ | .const _, _ | .fsym _ _, _ | .app _ _, _ | .bool _, _ =>
        .leaf _ (by simp) (by simp) (by simp)
  termination_by structural e => e
  theorem expandedTerms_sound : ∀ (ts : List (Expr × Expr)), expandedTerms ts = true →
      ∀ k v, (k, v) ∈ ts → isAdd k = false ∧ Expanded k
    | [], _, k, v, hm => by simp at hm
    | (k0, v0) :: t, h, k, v, hm => by
      simp only [expandedTerms, Bool.and_eq_true, Bool.not_eq_true'] at h
      simp only [List.mem_cons, Prod.mk.injEq] at hm
      rcases hm with ⟨hk, _⟩ | hm
      · rw [hk]; exact ⟨h.1.1, expandedB_sound k0 h.1.2⟩
      · exact expandedTerms_sound t h.2 k v hm
  termination_by structural ts => ts
  theorem expandedFacs_sound : ∀ (fs : List (Expr × Expr)), expandedFacs fs = true →
      ∀ b x, (b, x) ∈ fs → ¬(isAdd b = true ∧ posInt x = true) ∧ Expanded b
    | [], _, b, x, hm => by simp at hm
    | (b0, x0) :: t, h, b, x, hm => by
      simp only [expandedFacs, Bool.and_eq_true, Bool.not_eq_true'] at h
      simp only [List.mem_cons, Prod.mk.injEq] at hm
      rcases hm with ⟨hb, hx⟩ | hm
      · rw [hb, hx]
        exact ⟨not_sumPow h.1.1, expandedB_sound b0 h.1.2⟩
      · exact expandedFacs_sound t h.2 b x hm
  termination_by structural fs => fs
end

section
variable {K : Type*} [Field K] (I : K) (ρ : String → K)

theorem isNumLit_evalK {c : Expr} (h : isNumLit c = true) : ∃ v, evalK I ρ c = some v := by
  cases c <;> simp [isNumLit] at h
  case int => simp [evalK]
  case rat => simp [evalK, h]
  case cplx => simp [evalK, h.1, h.2]

theorem natExp_spec {x : Expr} (h : natExp x = true) : ∃ n : Int, x = .int n ∧ 0 ≤ n := by
  cases x <;> simp [natExp] at h
  exact ⟨_, rfl, h.1⟩

mutual
  theorem polyB_evalK_some : ∀ (e : Expr), polyB e = true → ∃ v, evalK I ρ e = some v
    | .int n, _ => by simp [evalK]
    | .rat n d, h => by
      simp [polyB] at h
      simp [evalK, h]
    | .cplx re im, h => by
      simp [polyB] at h
      simp [evalK, h.1, h.2]
    | .sym n, _ => by simp [evalK]
    | .add c ts, h => by
      simp only [polyB, Bool.and_eq_true] at h
      obtain ⟨a, ha⟩ := isNumLit_evalK I ρ h.1
      obtain ⟨b, hb⟩ := polyTerms_evalK_some ts h.2
      exact ⟨a + b, by simp [evalK, ha, hb, add2]⟩
    | .mul c fs, h => by
      simp only [polyB, Bool.and_eq_true] at h
      obtain ⟨a, ha⟩ := isNumLit_evalK I ρ h.1
      obtain ⟨b, hb⟩ := polyFacs_evalK_some fs h.2
      exact ⟨a * b, by simp [evalK, ha, hb, mul2]⟩
    | .pow b x, h => by
      simp only [polyB, Bool.and_eq_true] at h
      obtain ⟨n, rfl, hn⟩ := natExp_spec h.1
      obtain ⟨v, hv⟩ := polyB_evalK_some b h.2
      exact ⟨v ^ n, by simp [evalK, intLit?, hv, powVal_of_nonneg hn]⟩
    | .dbl _, h | .cdbl _ _, h | .infty _, h | .nan, h => by simp [polyB] at h
    | .dummy _ _, _ | .const _, _ | .fsym _ _, _ | .app _ _, _ => by simp [evalK]
    | .bool _, h => by simp [polyB] at h
  termination_by structural e => e
  theorem polyTerms_evalK_some : ∀ (ts : List (Expr × Expr)), polyTerms ts = true →
      ∃ v, evalTerms I ρ ts = some v
    | [], _ => ⟨0, by simp [evalTerms]⟩
    | (k, c) :: t, h => by
      simp only [polyTerms, Bool.and_eq_true] at h
      obtain ⟨a, ha⟩ := polyB_evalK_some k h.1.1
      obtain ⟨b, hb⟩ := isNumLit_evalK I ρ h.1.2
      obtain ⟨r, hr⟩ := polyTerms_evalK_some t h.2
      exact ⟨a * b + r, by simp [evalTerms, ha, hb, hr, add2, mul2]⟩
  termination_by structural ts => ts
  theorem polyFacs_evalK_some : ∀ (fs : List (Expr × Expr)), polyFacs fs = true →
      ∃ v, evalFacs I ρ fs = some v
    | [], _ => ⟨1, by simp [evalFacs]⟩
    | (b, x) :: t, h => by
      simp only [polyFacs, Bool.and_eq_true] at h
      obtain ⟨n, rfl, hn⟩ := natExp_spec h.1.2
      obtain ⟨v, hv⟩ := polyB_evalK_some b h.1.1
      obtain ⟨r, hr⟩ := polyFacs_evalK_some t h.2
      exact ⟨v ^ n * r, by simp [evalFacs, intLit?, hv, hr, powVal_of_nonneg hn, mul2]⟩
  termination_by structural fs => fs
end

end

end C09
end SymVerif
