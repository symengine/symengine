/-
The specification of one decoder call on arbitrary bytes (C20), `Safe Q f bs r`: what the call leaves is a
suffix of `bs` (no read past the end), its result satisfies `Q`, and `fuel` is not reported while the nesting
fuel `f` exceeds the number of bytes.  Its rules, and the field decoders `decSeq`/`decFld`/`decFlds` under
that assumption about the recursive call.
-/
import SymVerif.Model.Codec

namespace SymVerif.Codec

theorem error_ne_fuel {α β : Type} {x : Except Err α} {e : Err} (hx : x ≠ .error .fuel) (h : x = .error e) :
    (Except.error e : Except Err β) ≠ .error .fuel :=
  fun h' => hx (h.trans (congrArg _ (Except.error.inj h')))

theorem rdNat_ok {swap : Bool} {w : Nat} {bs : Bytes} {n : Nat} {rest : Bytes}
    (h : rdNat swap w bs = .ok (n, rest)) : rest = bs.drop w ∧ w ≤ bs.length := by
  unfold rdNat at h
  split at h
  · simp at h; exact ⟨h.2.symm, by assumption⟩
  · simp at h

theorem rdNat_length {swap : Bool} {w : Nat} {bs : Bytes} {n : Nat} {rest : Bytes}
    (h : rdNat swap w bs = .ok (n, rest)) : rest.length + w = bs.length := by
  rw [(rdNat_ok h).1, List.length_drop]; have := (rdNat_ok h).2; omega

theorem rdNat_suffix {swap : Bool} {w : Nat} {bs : Bytes} {n : Nat} {rest : Bytes}
    (h : rdNat swap w bs = .ok (n, rest)) : rest <:+ bs :=
  (rdNat_ok h).1 ▸ List.drop_suffix _ _

theorem rdNat_ne_fuel {swap : Bool} {w : Nat} {bs : Bytes} : rdNat swap w bs ≠ .error .fuel := by
  unfold rdNat; split <;> simp

theorem rdNat_err {swap : Bool} {w : Nat} {bs : Bytes} {e : Err} (h : rdNat swap w bs = .error e) :
    e = .eof ∧ bs.length < w := by
  unfold rdNat at h
  split at h
  · simp at h
  · simp at h; exact ⟨h.symm, by omega⟩

theorem rdStr_suffix {cfg : Cfg} {bs s rest : Bytes} (h : rdStr cfg bs = .ok (s, rest)) : rest <:+ bs := by
  unfold rdStr at h
  split at h
  · cases h
  next n bs' hr =>
    split at h
    · cases h
    split at h
    · cases h
    split at h <;> cases h
    exact (List.drop_suffix _ _).trans (rdNat_suffix hr)

theorem rdStr_ne_fuel {cfg : Cfg} {bs : Bytes} : rdStr cfg bs ≠ .error .fuel := by
  unfold rdStr
  split
  next e hr => exact error_ne_fuel rdNat_ne_fuel hr
  · split
    · simp
    · split
      · simp
      · split <;> simp

/-- the guarantee of the head comment; `Q` is the postcondition on the value returned -/
def Safe {α : Type} (Q : α → Prop) (f : Nat) (bs : Bytes) (r : R α) : Prop :=
  (∀ v m rest, r = .ok (v, m, rest) → rest <:+ bs ∧ Q v) ∧ (bs.length < f → r ≠ .error .fuel)

namespace Safe
variable {α β : Type} {Q : α → Prop} {Q' : β → Prop} {f : Nat} {bs bs1 rest : Bytes} {m : Map}

theorem suffix {r : R α} {v : α} (h : Safe Q f bs r) (hr : r = .ok (v, m, rest)) : rest <:+ bs :=
  (h.1 v m rest hr).1

theorem post {r : R α} {v : α} (h : Safe Q f bs r) (hr : r = .ok (v, m, rest)) : Q v :=
  (h.1 v m rest hr).2

theorem ne_fuel {r : R α} (h : Safe Q f bs r) (hl : bs.length < f) : r ≠ .error .fuel := h.2 hl

/-- with no fuel at all nothing is promised about errors -/
theorem zero {e : Err} : Safe Q 0 bs (.error e) :=
  ⟨nofun, fun h => absurd h (Nat.not_lt_zero _)⟩

theorem err {e : Err} (he : e ≠ .fuel) : Safe Q f bs (.error e) :=
  ⟨nofun, fun _ h => he (Except.error.inj h)⟩

theorem ok {v : α} (hs : rest <:+ bs) (hv : Q v) : Safe Q f bs (.ok (v, m, rest)) :=
  ⟨fun _ _ _ h => by cases h; exact ⟨hs, hv⟩, fun _ => nofun⟩

theorem err_ne {γ : Type} {x : Except Err γ} {e : Err} (hx : x ≠ .error .fuel) (h : x = .error e) : Safe Q f bs (.error e) :=
  .err fun he => hx (he ▸ h)

theorem err_of {r : R β} {e : Err} (h : Safe Q' f bs r) (hr : r = .error e) : Safe Q f bs (.error e) :=
  ⟨nofun, fun hl => error_ne_fuel (h.ne_fuel hl) hr⟩

/-- a call on what an earlier read left -/
theorem after {r : R α} (hs : bs1 <:+ bs) (h : Safe Q f bs1 r) : Safe Q f bs r :=
  ⟨fun v m rest hr => ⟨((h.1 v m rest hr).1).trans hs, (h.1 v m rest hr).2⟩,
    fun hl => h.ne_fuel (Nat.lt_of_le_of_lt hs.length_le hl)⟩

/-- a nested call: the level of fuel it is short of is paid for by a byte read before it -/
theorem nested {r : R α} (hs : bs1 <:+ bs) (hl : bs1.length < bs.length) (h : Safe Q f bs1 r) :
    Safe Q (f + 1) bs r :=
  ⟨(h.after hs).1, fun hf => h.ne_fuel (by omega)⟩

end Safe

section
variable {rec : Cls → Map → Bytes → R T} {f : Nat} {P : Cls → T → Prop} (hrec : ∀ c m bs, Safe (P c) f bs (rec c m bs))
include hrec

theorem decSeq_safe (cs : List Cls) : ∀ (k j : Nat) (m : Map) (bs : Bytes),
    Safe (fun _ => True) f bs (decSeq rec cs k j m bs)
  | 0, j, m, bs => .ok (List.suffix_refl _) trivial
  | k + 1, j, m, bs => by
    have h := hrec (cs.getD (j % cs.length) .basic) m bs
    rw [decSeq]
    split
    next e h1 => exact h.err_of h1
    next t m1 bs1 h1 =>
      have s1 := h.suffix h1
      have ih := (decSeq_safe cs k (j + 1) m1 bs1).after s1
      split
      next e h2 => exact ih.err_of h2
      next ts m2 bs2 h2 => exact .ok (ih.suffix h2) trivial

theorem decFld_safe (cfg : Cfg) (k : Kind) (m : Map) (bs : Bytes) :
    Safe (fun _ => True) f bs (decFld cfg rec k m bs) := by
  cases k with
  | str =>
    rw [decFld]
    split
    next e h1 => exact .err_ne rdStr_ne_fuel h1
    next s bs1 h1 => exact .ok (rdStr_suffix h1) trivial
  | u64 | f64 | byte =>
    rw [decFld]
    split
    next e h1 => exact .err_ne rdNat_ne_fuel h1
    next n bs1 h1 => exact .ok (rdNat_suffix h1) trivial
  | ptr c =>
    have h := hrec c m bs
    rw [decFld]
    split
    next e h1 => exact h.err_of h1
    next t m1 bs1 h1 => exact .ok (h.suffix h1) trivial
  | seq elem cs =>
    rw [decFld]
    split
    next e h1 => exact .err_ne rdNat_ne_fuel h1
    next n bs1 h1 =>
      have s1 := rdNat_suffix h1
      split
      · exact .err nofun
      split
      · exact .err nofun
      have ih := (decSeq_safe hrec cs (n * cs.length) 0 m bs1).after s1
      split
      next e h2 => exact ih.err_of h2
      next ts m2 bs2 h2 => exact .ok (ih.suffix h2) trivial

theorem decFlds_safe (cfg : Cfg) : ∀ (ks : List Kind) (m : Map) (bs : Bytes),
    Safe (fun _ => True) f bs (decFlds cfg rec ks m bs)
  | [], m, bs => .ok (List.suffix_refl _) trivial
  | k :: ks, m, bs => by
    have h := decFld_safe hrec cfg k m bs
    rw [decFlds]
    split
    next e h1 => exact h.err_of h1
    next fd m1 bs1 h1 =>
      have ih := (decFlds_safe cfg ks m1 bs1).after (h.suffix h1)
      split
      next e h2 => exact ih.err_of h2
      next fs m2 bs2 h2 => exact .ok (ih.suffix h2) trivial

end

end SymVerif.Codec
