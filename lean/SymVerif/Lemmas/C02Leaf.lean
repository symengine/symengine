/-
Three-way comparisons for the C02 model.  A compound `compare` is a lexicographic combination `lex` of
simpler ones, so range, "0 only on equal operands" and antisymmetry are each proved once for
`lex` from the same property of its components.  Every leaf `compare` is the three-way comparison `cmpLin`
of a key in a linear order, and the key is injective on well-formed leaves (canonical rationals; doubles
without NaN / without -0.0).  `cmpLin` of a lexicographic product or list of Mathlib is the `lex` of the
components' (`cmpLin_toLex`, `cmpLin_cons`), which is how tuples of keys become one key.
-/
import SymVerif.Lemmas.C02Struct
import Mathlib.Data.String.Basic
import Mathlib.Data.Prod.Lex
import Mathlib.Algebra.Order.Field.Rat
import Mathlib.Data.Rat.Lemmas
import Mathlib.Algebra.Order.Ring.Cast
import Mathlib.Data.Int.Cast.Lemmas

namespace SymVerif
namespace Expr

/-- the values a `compare` may return -/
def Rng (v : Int) : Prop := v = -1 ∨ v = 0 ∨ v = 1

theorem rng_ite (p q : Prop) [Decidable p] [Decidable q] : Rng (if p then 0 else if q then -1 else 1) := by
  unfold Rng; split <;> [simp; (split <;> simp)]

theorem lex_assoc (a b c : Int) : lex (lex a b) c = lex a (lex b c) := by
  by_cases h : a = 0
  · rw [lex_of_eq_zero h, lex_of_eq_zero h]
  · rw [lex_of_ne_zero h, lex_of_ne_zero h, lex_of_ne_zero h]

theorem lex_eq_zero {c d : Int} : lex c d = 0 ↔ c = 0 ∧ d = 0 := by
  by_cases h : c = 0
  · rw [lex_of_eq_zero h]; exact ⟨fun hd => ⟨h, hd⟩, fun hd => hd.2⟩
  · rw [lex_of_ne_zero h]; exact ⟨fun hc => absurd hc h, fun hd => hd.1⟩

theorem lex_anti {c c' d d' : Int} (hc : c = -c') (hd : c = 0 → d = -d') : lex c d = - lex c' d' := by
  by_cases h : c = 0
  · rw [lex_of_eq_zero h, lex_of_eq_zero (by omega), hd h]
  · rw [lex_of_ne_zero h, lex_of_ne_zero (by omega), hc]

theorem lex_rng {c d : Int} (hc : Rng c) (hd : c = 0 → Rng d) : Rng (lex c d) := by
  by_cases h : c = 0
  · rw [lex_of_eq_zero h]; exact hd h
  · rw [lex_of_ne_zero h]; exact hc

def cmpLin {α : Type} [LinearOrder α] (x y : α) : Int := if x = y then 0 else if x < y then -1 else 1

section
variable {α : Type} [LinearOrder α] (x y z : α)
theorem cmpLin_self : cmpLin x x = 0 := if_pos rfl
theorem cmpLin_of_lt {x y : α} (h : x < y) : cmpLin x y = -1 := by
  rw [cmpLin, if_neg (ne_of_lt h), if_pos h]
theorem cmpLin_of_gt {x y : α} (h : y < x) : cmpLin x y = 1 := by
  rw [cmpLin, if_neg (ne_of_gt h), if_neg (lt_asymm h)]
theorem cmpLin_eq_zero : cmpLin x y = 0 ↔ x = y := by
  rcases lt_trichotomy x y with h | h | h
  · rw [cmpLin_of_lt h]; exact ⟨fun e => absurd e (by decide), fun e => absurd e (ne_of_lt h)⟩
  · rw [h, cmpLin_self]; exact ⟨fun _ => rfl, fun _ => rfl⟩
  · rw [cmpLin_of_gt h]; exact ⟨fun e => absurd e (by decide), fun e => absurd e (ne_of_gt h)⟩
theorem cmpLin_eq_neg_one : cmpLin x y = -1 ↔ x < y := by
  rcases lt_trichotomy x y with h | h | h
  · rw [cmpLin_of_lt h]; exact ⟨fun _ => h, fun _ => rfl⟩
  · rw [h, cmpLin_self]; exact ⟨fun e => absurd e (by decide), fun e => absurd e (lt_irrefl _)⟩
  · rw [cmpLin_of_gt h]; exact ⟨fun e => absurd e (by decide), fun e => absurd e (lt_asymm h)⟩
theorem cmpLin_rng : Rng (cmpLin x y) := rng_ite ..
theorem cmpLin_antisymm : cmpLin x y = - cmpLin y x := by
  rcases lt_trichotomy x y with h | h | h
  · rw [cmpLin_of_lt h, cmpLin_of_gt h]
  · rw [h, cmpLin_self]; rfl
  · rw [cmpLin_of_gt h, cmpLin_of_lt h]; rfl
theorem cmpLin_nonpos : cmpLin x y ≤ 0 ↔ x ≤ y := by
  rcases lt_trichotomy x y with h | h | h
  · rw [cmpLin_of_lt h]; exact ⟨fun _ => le_of_lt h, fun _ => by decide⟩
  · rw [h, cmpLin_self]; exact ⟨fun _ => le_refl _, fun _ => le_refl _⟩
  · rw [cmpLin_of_gt h]; exact ⟨fun e => absurd e (by decide), fun e => absurd e (not_le_of_gt h)⟩
theorem cmpLin_trans (h1 : cmpLin x y = -1) (h2 : cmpLin y z = -1) : cmpLin x z = -1 :=
  cmpLin_of_lt (lt_trans ((cmpLin_eq_neg_one x y).mp h1) ((cmpLin_eq_neg_one y z).mp h2))

variable {x y} {c c' : Int}
theorem cmpLin_lex_zero : lex (cmpLin x y) c = 0 ↔ x = y ∧ c = 0 := by rw [lex_eq_zero, cmpLin_eq_zero]
theorem cmpLin_lex_anti (h : x = y → c = -c') : lex (cmpLin x y) c = - lex (cmpLin y x) c' :=
  lex_anti (cmpLin_antisymm x y) (fun e => h ((cmpLin_eq_zero x y).mp e))
theorem cmpLin_lex_rng (h : x = y → Rng c) : Rng (lex (cmpLin x y) c) :=
  lex_rng (cmpLin_rng x y) (fun e => h ((cmpLin_eq_zero x y).mp e))
end

theorem cmpLin_strictMono {α β : Type} [LinearOrder α] [LinearOrder β] {f : α → β} (hf : StrictMono f)
    (x y : α) : cmpLin (f x) (f y) = cmpLin x y := by
  unfold cmpLin; simp only [hf.injective.eq_iff, hf.lt_iff_lt]

/-- the local key `Hd` (Lemmas/C02Node.lean) has two ℚ slots that every leaf class fills: integers, sizes and flags
are compared there through their casts -/
theorem cmpLin_intCast (x y : Int) : cmpLin (x : ℚ) (y : ℚ) = cmpLin x y :=
  cmpLin_strictMono Int.cast_strictMono x y

theorem cmpLin_natCast (x y : Nat) : cmpLin (x : ℚ) (y : ℚ) = cmpLin x y :=
  cmpLin_strictMono Nat.strictMono_cast x y

theorem cmpLin_of_lt_iff {α β γ : Type} [LinearOrder α] [LinearOrder β] [LinearOrder γ] (f : α → β → γ)
    (hf : ∀ {a a' b b'}, f a b < f a' b' ↔ a < a' ∨ a = a' ∧ b < b') (a a' : α) (b b' : β) :
    cmpLin (f a b) (f a' b') = lex (cmpLin a a') (cmpLin b b') := by
  rcases lt_trichotomy a a' with h | rfl | h
  · rw [cmpLin_of_lt h, cmpLin_of_lt (hf.mpr (Or.inl h))]; rfl
  · rw [cmpLin_self, lex_zero_left]
    rcases lt_trichotomy b b' with h | rfl | h
    · rw [cmpLin_of_lt h, cmpLin_of_lt (hf.mpr (Or.inr ⟨rfl, h⟩))]
    · rw [cmpLin_self, cmpLin_self]
    · rw [cmpLin_of_gt h, cmpLin_of_gt (hf.mpr (Or.inr ⟨rfl, h⟩))]
  · rw [cmpLin_of_gt h, cmpLin_of_gt (hf.mpr (Or.inl h))]; rfl

theorem cmpLin_toLex {α β : Type} [LinearOrder α] [LinearOrder β] (a a' : α) (b b' : β) :
    cmpLin (toLex (a, b)) (toLex (a', b')) = lex (cmpLin a a') (cmpLin b b') :=
  cmpLin_of_lt_iff (fun a b => toLex (a, b)) (Prod.Lex.toLex_lt_toLex (α := α) (β := β)) a a' b b'

theorem cmpLin_cons {α : Type} [LinearOrder α] (x y : α) (u v : List α) :
    cmpLin (x :: u) (y :: v) = lex (cmpLin x y) (cmpLin u v) :=
  cmpLin_of_lt_iff (fun a (l : List α) => a :: l) List.cons_lt_cons_iff x y u v

theorem cmpInt_eq (x y : Int) : cmpInt x y = cmpLin x y := by simp [cmpInt, cmpLin]
theorem cmpNat_eq (x y : Nat) : cmpNat x y = cmpLin x y := by simp [cmpNat, cmpLin]
theorem cmpStr_eq (x y : String) : cmpStr x y = cmpLin x y := by simp [cmpStr, cmpLin]
theorem cmp_bool_eq (x y : Bool) :
    cmp (bool x) (bool y) = cmpLin (if x then 1 else 0 : ℚ) (if y then 1 else 0) := by
  rw [cmp_bool]; cases x <;> cases y <;> simp [cmpLin]

structure QKey where
  n : Int
  d : Nat
  deriving DecidableEq

theorem qCanon_iff {n : Int} {d : Nat} : qCanon n d = true ↔ 0 < d ∧ Int.gcd n d = 1 := by
  simp [qCanon, Int.gcd]

/-- `d` goes through `Int` because `Rat.num_div_eq_of_coprime` (in `qv_inj`) is stated for a quotient of two integers -/
def qv (n : Int) (d : Nat) : ℚ := (n : ℚ) / ((d : Int) : ℚ)

theorem qv_inj {n n' : Int} {d d' : Nat} (h : qCanon n d = true) (h' : qCanon n' d' = true)
    (e : qv n d = qv n' d') : n = n' ∧ d = d' := by
  obtain ⟨hd, hg⟩ := qCanon_iff.mp h
  obtain ⟨hd', hg'⟩ := qCanon_iff.mp h'
  have hd0 : (0 : Int) < d := by exact_mod_cast hd
  have hd0' : (0 : Int) < d' := by exact_mod_cast hd'
  have c : n.natAbs.Coprime (d : Int).natAbs := hg
  have c' : n'.natAbs.Coprime (d' : Int).natAbs := hg'
  unfold qv at e
  have e1 := Rat.num_div_eq_of_coprime hd0 c
  have e2 := Rat.den_div_eq_of_coprime hd0 c
  rw [e, Rat.num_div_eq_of_coprime hd0' c'] at e1
  rw [e, Rat.den_div_eq_of_coprime hd0' c'] at e2
  exact ⟨e1.symm, by exact_mod_cast e2.symm⟩

/-- on fractions in lowest terms `mpq_class ==` is equality of the values, and the cross multiplication of
`<` compares the values, so `cmpQ` is their three-way comparison -/
theorem cmpQ_eq {n n' : Int} {d d' : Nat} (h : qCanon n d = true) (h' : qCanon n' d' = true) :
    cmpQ n d n' d' = cmpLin (qv n d) (qv n' d') := by
  have hd0 : (0 : ℚ) < ((d : Int) : ℚ) := by exact_mod_cast (qCanon_iff.mp h).1
  have hd0' : (0 : ℚ) < ((d' : Int) : ℚ) := by exact_mod_cast (qCanon_iff.mp h').1
  unfold cmpQ cmpLin
  by_cases e : n = n' ∧ d = d'
  · obtain ⟨rfl, rfl⟩ := e; simp
  · have b : (n == n' && d == d') = false := Bool.eq_false_iff.mpr (fun hb => e (by simpa using hb))
    rw [b, if_neg (fun hh => e (qv_inj h h' hh))]
    unfold qv
    simp only [div_lt_div_iff₀ hd0 hd0']
    norm_cast

theorem cmpQ_rng (n n' : Int) (d d' : Nat) : Rng (cmpQ n d n' d') := rng_ite ..

theorem cmpDbl_rng (x y : UInt64) : Rng (cmpDbl x y) := rng_ite ..

theorem dblMag_toNat (x : UInt64) : (dblMag x).toNat = x.toNat % 2 ^ 63 := by
  unfold dblMag
  rw [UInt64.toNat_and]
  have : (0x7fffffffffffffff : UInt64).toNat = 2 ^ 63 - 1 := by decide
  rw [this, Nat.and_two_pow_sub_one_eq_mod]

theorem dbl_decomp (x : UInt64) :
    x.toNat = (x >>> 63).toNat * 2 ^ 63 + (dblMag x).toNat := by
  rw [dblMag_toNat, UInt64.toNat_shiftRight, Nat.shiftRight_eq_div_pow]
  exact (Nat.div_add_mod' x.toNat (2 ^ 63)).symm

theorem dbl_shift_lt (x : UInt64) : (x >>> 63).toNat < 2 := by
  rw [UInt64.toNat_shiftRight, Nat.shiftRight_eq_div_pow]
  exact Nat.div_lt_of_lt_mul x.toNat_lt

theorem dblMag_lt (x : UInt64) : (dblMag x).toNat < 2 ^ 63 := by
  rw [dblMag_toNat]
  exact Nat.mod_lt _ (by decide)

theorem dblNeg_iff (x : UInt64) : dblNeg x = true ↔ (x >>> 63).toNat = 1 := by
  unfold dblNeg
  rw [beq_iff_eq, ← UInt64.toNat_inj]
  rfl

theorem dblKey_eq (x : UInt64) : dblKey x =
    if (x >>> 63).toNat = 1 then -((dblMag x).toNat : Int) else ((dblMag x).toNat : Int) := by
  unfold dblKey; by_cases b : dblNeg x = true
  · rw [if_pos b, if_pos ((dblNeg_iff x).mp b)]; rfl
  · rw [if_neg b, if_neg (fun e => b ((dblNeg_iff x).mpr e))]; rfl

theorem dblKey_inj {x y : UInt64} (hx : x ≠ negZeroBits) (hy : y ≠ negZeroBits)
    (h : dblKey x = dblKey y) : x = y := by
  have dx := dbl_decomp x
  have dy := dbl_decomp y
  have sx := dbl_shift_lt x
  have sy := dbl_shift_lt y
  have mx := dblMag_lt x
  have my := dblMag_lt y
  have nx : x.toNat ≠ 2 ^ 63 := fun e => hx (UInt64.toNat_inj.mp (by rw [e]; decide))
  have ny : y.toNat ≠ 2 ^ 63 := fun e => hy (UInt64.toNat_inj.mp (by rw [e]; decide))
  apply UInt64.toNat_inj.mp
  rw [dblKey_eq, dblKey_eq] at h
  -- bits = sign * 2^63 + magnitude, key = ± magnitude.  Same sign (first and last case): equal magnitudes, equal bits.
  -- Opposite signs (the two in the middle): magnitude = - magnitude = 0, so the negative one is 2^63 = -0.0 (`nx`, `ny`).
  split at h <;> split at h <;> omega

theorem cmpDbl_eq {x y : UInt64} (hx : dblIsNaN x = false) (hy : dblIsNaN y = false) :
    cmpDbl x y = cmpLin (dblKey x) (dblKey y) := by
  simp [cmpDbl, cmpLin, dblEq, dblLt, hx, hy]

theorem dblEq_iff {x y : UInt64} (hx : dblIsNaN x = false) (hy : dblIsNaN y = false) :
    dblEq x y = true ↔ dblKey x = dblKey y := by
  simp [dblEq, hx, hy]

theorem dblLt_iff {x y : UInt64} (hx : dblIsNaN x = false) (hy : dblIsNaN y = false) :
    dblLt x y = true ↔ dblKey x < dblKey y := by
  simp [dblLt, hx, hy]

end Expr
end SymVerif
