import SymVerif.Lemmas.C30Den
/-!
C30 — soundness of the factorisation certificate `checkFactor` (Model/SolveCert.lean):
if the coefficients of `lc · Π (X - rᵢ)^{mᵢ}` agree formally with those of `p`, the values of the `rᵢ`
are exactly the roots of `p` in `K`.
-/
namespace SymVerif.C30
open SymVerif SymVerif.Solve SymVerif.Solve.RP

set_option linter.unusedSectionVars false  -- the `_nil`/`_cons` simp lemmas below do not use `[CharZero K]`
variable {K : Type*} [Field K] [CharZero K]

/-- Horner value of a coefficient list c0, c1, … -/
def evalK (cs : List K) (x : K) : K := cs.foldr (fun c acc => c + x * acc) 0

@[simp] theorem evalK_nil (x : K) : evalK ([] : List K) x = 0 := rfl
@[simp] theorem evalK_cons (c : K) (cs : List K) (x : K) : evalK (c :: cs) x = c + x * evalK cs x := rfl

/-- a rational polynomial seen in `K` -/
def polyK (p : Poly) : List K := List.map (fun (c : ℚ) => (c : K)) p

@[simp] theorem polyK_nil : polyK (K := K) [] = [] := rfl
@[simp] theorem polyK_cons (c : ℚ) (p : Poly) : polyK (K := K) (c :: p) = (c : K) :: polyK p := rfl

variable (sq : ℚ → K) (hsq : ∀ r : ℚ, sq r * sq r = (r : K))

def evs (q : List RP) : List K := q.map (ev sq)

@[simp] theorem evs_nil : evs sq [] = ([] : List K) := rfl
@[simp] theorem evs_cons (c : RP) (q : List RP) : evs sq (c :: q) = ev sq c :: evs sq q := rfl

theorem evalK_addHead (c : RP) (q : List RP) (x : K) :
    evalK (evs sq (addHead c q)) x = ev sq c + evalK (evs sq q) x := by
  cases q with
  | nil => exact congrArg (ev sq c + ·) (mul_zero x)
  | cons d ds =>
    show ev sq (add c d) + _ = _
    rw [ev_add, add_assoc]; rfl

include hsq in
theorem evalK_mulLin (r : RP) (q : List RP) (x : K) :
    evalK (evs sq (mulLin r q)) x = (x - ev sq r) * evalK (evs sq q) x := by
  induction q with
  | nil => simp [mulLin]
  | cons c cs ih =>
    rw [mulLin, evs_cons, evs_cons, evalK_cons, evalK_cons, evalK_addHead, ih, ev_neg, ev_mul sq hsq]
    ring

include hsq in
theorem evalK_mulLinPow (r : RP) (m : ℕ) (q : List RP) (x : K) :
    evalK (evs sq (mulLinPow r m q)) x = (x - ev sq r) ^ m * evalK (evs sq q) x := by
  induction m generalizing q with
  | zero => rw [mulLinPow, pow_zero, one_mul]
  | succ m ih => rw [mulLinPow, ih, evalK_mulLin sq hsq, pow_succ, mul_assoc]

/-- `lc · Π (x - rᵢ)^{mᵢ}` -/
def prodVal (lc : ℚ) (x : K) : List (RP × ℕ) → K
  | [] => (lc : K)
  | (r, m) :: rest => (x - ev sq r) ^ m * prodVal lc x rest

include hsq in
theorem evalK_prodPoly (lc : ℚ) (l : List (RP × ℕ)) (x : K) :
    evalK (evs sq (prodPoly lc l)) x = prodVal sq lc x l := by
  induction l with
  | nil => simp [prodPoly, prodVal]
  | cons a rest ih => rw [prodPoly, evalK_mulLinPow sq hsq, ih, prodVal]

include hsq in
theorem coeffsEq_sound : ∀ (q : List RP) (p : Poly), coeffsEq q p = true → evs sq q = polyK p
  | [], [], _ => rfl
  | c :: cs, a :: as, h => by
    simp only [coeffsEq, Bool.and_eq_true] at h
    have h1 := isZero_sound sq hsq _ h.1
    rw [ev_sub, ev_ofRat, sub_eq_zero] at h1
    have h2 := coeffsEq_sound cs as h.2
    rw [evs_cons, polyK_cons, h1, h2]
  | [], _ :: _, h => by simp [coeffsEq] at h
  | _ :: _, [], h => by simp [coeffsEq] at h

theorem prodVal_eq_zero_iff (lc : ℚ) (hlc : lc ≠ 0) (x : K) : ∀ l : List (RP × ℕ), (∀ rm ∈ l, 0 < rm.2) →
    (prodVal sq lc x l = 0 ↔ x ∈ (l.map Prod.fst).map (ev sq))
  | [], _ => iff_of_false (Rat.cast_ne_zero.2 hlc) List.not_mem_nil
  | (r, m) :: l, h => by
    rw [prodVal, mul_eq_zero, pow_eq_zero_iff (h _ List.mem_cons_self).ne', sub_eq_zero,
      prodVal_eq_zero_iff lc hlc x l (fun rm hrm => h rm (List.mem_cons_of_mem _ hrm)),
      List.map_cons, List.map_cons, List.mem_cons]

include hsq in
theorem checkFactorWith_sound (p : Poly) (lc : ℚ) (hlc : lc ≠ 0) (rs : List RP) (ms : List ℕ)
    (h : checkFactorWith p lc rs ms = true) (x : K) :
    evalK (polyK p) x = 0 ↔ x ∈ rs.map (ev sq) := by
  simp only [checkFactorWith, Bool.and_eq_true, decide_eq_true_eq, List.all_eq_true] at h
  obtain ⟨⟨hlen, hpos⟩, hco⟩ := h
  rw [← coeffsEq_sound sq hsq _ _ hco, evalK_prodPoly sq hsq,
    prodVal_eq_zero_iff sq lc hlc x _ (fun rm h => hpos _ (List.of_mem_zip h).2),
    List.map_fst_zip (le_of_eq hlen)]

include hsq in
theorem checkFactor_sound (p : Poly) (rs : List RP) (h : checkFactor p rs = true) (x : K) :
    evalK (polyK p) x = 0 ↔ x ∈ rs.map (ev sq) := by
  unfold checkFactor at h
  split at h
  · simp at h
  · rename_i lc _
    simp only [Bool.and_eq_true, decide_eq_true_eq, List.any_eq_true] at h
    -- the length bound and `ms ∈ compositions ..` are dropped: soundness needs any accepted `ms`; the search space matters only
    -- for completeness of the checker, which is not claimed
    obtain ⟨⟨hlc, _⟩, ms, _, hms⟩ := h
    exact checkFactorWith_sound sq hsq p lc hlc rs ms hms x

variable (rt : ℕ → K → K) (hrt : ∀ (d : ℕ) (x : K), d ≠ 0 → rt d x ^ d = x)

include hrt in
theorem toRPs_sound : ∀ (es : List Expr) (ps : List RP), toRPs es = some ps →
    es.map (den rt) = ps.map (ev (sqOf rt))
  | [], ps, h => by
    simp only [toRPs, Option.some.injEq] at h; subst h; rfl
  | e :: es, ps, h => by
    simp only [toRPs, Option.bind_eq_bind, Option.bind_eq_some_iff, Option.pure_def, Option.some.injEq] at h
    obtain ⟨p, he, ps', hes, rfl⟩ := h
    rw [List.map_cons, List.map_cons, toRP_sound rt hrt e p he, toRPs_sound es ps' hes]

end SymVerif.C30
