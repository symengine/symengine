import Mathlib.Data.Nat.GCD.Basic
import Mathlib.Data.Int.GCD
import Mathlib.Tactic.Ring
import Mathlib.Tactic.Linarith
import Mathlib.Data.Nat.ModEq
import Mathlib.Data.Int.ModEq
import Mathlib.Data.Int.Basic
import Mathlib.Data.Nat.Fib.Basic
import Mathlib.Data.Nat.Factorial.Basic
import SymVerif.Model.NTheory
import SymVerif.Lemmas.GmpSpec
/-! The GMP layer of the C32 model read as mathematics: modular powers, extended gcd and inverse,
the Fibonacci/Lucas pairs, falling factorials, primality. -/
namespace SymVerif.C32
open SymVerif.NTheory

theorem powModNat_eq (a e m : Nat) : powModNat a e m = a ^ e % m := by
  induction e using Nat.strongRecOn with
  | ind e ih =>
    unfold powModNat
    by_cases h : e = 0
    · simp [h]
    · simp only [h, dite_false]
      rw [ih _ (Nat.div_lt_self (Nat.pos_of_ne_zero h) (by decide))]
      split
      · have he : a ^ e = a ^ (e / 2) * a ^ (e / 2) * a := by
          rw [← pow_add, ← pow_succ]
          congr 1
          omega
        rw [he, Nat.mul_mod (a ^ (e / 2) * a ^ (e / 2)) a, Nat.mul_mod (a ^ (e / 2))]
      · have he : a ^ e = a ^ (e / 2) * a ^ (e / 2) := by
          rw [← pow_add]
          congr 1
          omega
        rw [he]
        exact (Nat.mul_mod _ _ _).symm

theorem egcd_spec (a b : Nat) :
    (egcd a b).1 = Nat.gcd a b ∧ (a : Int) * (egcd a b).2.1 + (b : Int) * (egcd a b).2.2 = (Nat.gcd a b : Int) :=
  GmpSpec.xgcd_spec (fun a b => by rw [egcd]; rfl) a b

theorem invNat_spec {a m : Nat} (hm : 0 < m) :
    (Nat.gcd a m = 1 → ∃ i, invNat a m = some i ∧ i < m ∧ a * i % m = 1 % m) ∧
    (Nat.gcd a m ≠ 1 → invNat a m = none) := by
  obtain ⟨h1, h2⟩ := egcd_spec (a % m) m
  have hg : Nat.gcd (a % m) m = Nat.gcd a m := by rw [← Nat.gcd_rec, Nat.gcd_comm]
  rw [hg] at h1 h2
  unfold invNat
  simp only [h1, beq_iff_eq]
  refine ⟨fun hc => ?_, fun hc => if_neg hc⟩
  rw [if_pos hc]
  have hmz : (m : Int) ≠ 0 := Int.natCast_ne_zero.mpr hm.ne'
  have hi := Int.toNat_of_nonneg (Int.emod_nonneg (egcd (a % m) m).2.1 hmz)
  have hlt := Int.emod_lt_of_pos (egcd (a % m) m).2.1 (Int.natCast_pos.mpr hm)
  refine ⟨_, rfl, by omega, Int.natCast_modEq_iff.mp ?_⟩
  -- `a i ≡ (a % m) s = 1 - m t ≡ 1` for the Bézout pair `(s, t)` of `a % m` and `m`
  have e1 : ((a % m : Nat) : Int) * (egcd (a % m) m).2.1 ≡ 1 [ZMOD m] := by
    rw [eq_sub_of_add_eq h2, hc, Nat.cast_one]
    exact Int.modEq_iff_dvd.mpr ⟨(egcd (a % m) m).2.2, by ring⟩
  rw [Nat.cast_mul, hi, Nat.cast_one]
  refine (Int.ModEq.mul ?_ (Int.mod_modEq _ _)).trans e1
  rw [Int.natCast_mod]
  exact (Int.mod_modEq _ _).symm

/-- `powmN` is the canonical representative of `a^e` modulo `m > 0`. -/
theorem powmN_eq (a : Int) (e m : Nat) (hm : 0 < m) : powmN a e m = a ^ e % (m : Int) := by
  unfold powmN
  rw [powModNat_eq]
  have hmz : (m : Int) ≠ 0 := by exact_mod_cast hm.ne'
  have hnn : 0 ≤ a % (m : Int) := Int.emod_nonneg _ hmz
  push_cast
  rw [Int.toNat_of_nonneg hnn]
  exact (Int.ModEq.pow e (Int.mod_modEq a m))

theorem fmod_neg_bounds (n : Int) {d : Int} (h : d < 0) : d < n.fmod d ∧ n.fmod d ≤ 0 :=
  ((Int.fdiv_fmod_unique' h).mp ⟨rfl, rfl⟩).2

theorem gcd_natAbs_right (a n : Int) : Int.gcd a (n.natAbs : Int) = Int.gcd a n := by
  show Nat.gcd a.natAbs (n.natAbs : Int).natAbs = Nat.gcd a.natAbs n.natAbs
  rw [Int.natAbs_natCast]

theorem mpInvert_emod (a m : Int) : mpInvert (a % (m.natAbs : Int)) m = mpInvert a m := by
  rw [mpInvert, mpInvert, Int.emod_emod]

theorem mpInvert_spec (a : Int) {m : Int} (hm : m ≠ 0) :
    (Int.gcd a m = 1 → ∃ inv, mpInvert a m = some inv ∧ 0 ≤ inv ∧ inv < (m.natAbs : Int) ∧
        (a * inv) % (m.natAbs : Int) = 1 % (m.natAbs : Int)) ∧
    (Int.gcd a m ≠ 1 → mpInvert a m = none) := by
  have hM : 0 < m.natAbs := Int.natAbs_pos.mpr hm
  have hr := Int.toNat_of_nonneg (Int.emod_nonneg a (Int.natCast_ne_zero.mpr hM.ne'))
  have hg : Nat.gcd (a % (m.natAbs : Int)).toNat m.natAbs = Int.gcd a m := by
    rw [← Int.gcd_natCast_natCast, hr, Int.gcd_emod, gcd_natAbs_right]
  obtain ⟨h1, h2⟩ := invNat_spec (a := (a % (m.natAbs : Int)).toNat) hM
  rw [hg] at h1 h2
  refine ⟨fun hc => ?_, fun hc => by rw [mpInvert, h2 hc]; rfl⟩
  obtain ⟨i, hi, hlt, hmod⟩ := h1 hc
  refine ⟨i, by rw [mpInvert, hi]; rfl, Int.natCast_nonneg i, by exact_mod_cast hlt, ?_⟩
  have := congrArg (Nat.cast : Nat → Int) hmod
  rw [Int.natCast_mod, Int.natCast_mod, Nat.cast_mul, hr, Nat.cast_one] at this
  rw [← this]
  exact (Int.ModEq.mul_right _ (Int.mod_modEq a _)).symm

theorem mpPowm_natCast (a : Int) (e : Nat) {m : Int} (hm : m ≠ 0) :
    mpPowm a (e : Int) m = .ok (a ^ e % (m.natAbs : Int)) := by
  rw [mpPowm, if_neg (by simpa using hm), if_pos (Int.natCast_nonneg e), Int.toNat_natCast,
    powmN_eq a e m.natAbs (Int.natAbs_pos.mpr hm)]

theorem fibPair_eq (n : Nat) : fibPair n = (Nat.fib n, Nat.fib (n + 1)) := by
  induction n with
  | zero => rfl
  | succ k ih => simp [fibPair, ih, Nat.fib_add_two]

theorem lucasPair_eq (n : Nat) :
    (lucasPair n).1 + Nat.fib n = 2 * Nat.fib (n + 1) ∧
    (lucasPair n).2 + Nat.fib (n + 1) = 2 * Nat.fib (n + 2) := by
  induction n with
  | zero => exact ⟨rfl, rfl⟩
  | succ k ih =>
    have h1 : Nat.fib (k + 2) = Nat.fib k + Nat.fib (k + 1) := Nat.fib_add_two
    have h2 : Nat.fib (k + 3) = Nat.fib (k + 1) + Nat.fib (k + 2) := Nat.fib_add_two
    refine ⟨ih.2, ?_⟩
    show (lucasPair k).1 + (lucasPair k).2 + Nat.fib (k + 2) = 2 * Nat.fib (k + 3)
    omega

theorem fallingFact_nat (n k : Nat) : fallingFact (n : Int) k = (n.descFactorial k : Nat) := by
  induction k with
  | zero => rfl
  | succ k ih =>
    rw [fallingFact, ih, Nat.descFactorial_succ]
    by_cases h : k ≤ n
    · rw [Nat.cast_mul, Nat.cast_sub h, mul_comm]
    · rw [Nat.descFactorial_eq_zero_iff_lt.mpr (by omega), mul_zero, Nat.cast_zero, zero_mul]

theorem fallingFact_neg (n k : Nat) : fallingFact (-(n : Int)) k = (-1) ^ k * (n.ascFactorial k : Nat) := by
  induction k with
  | zero => rfl
  | succ k ih =>
    rw [fallingFact, ih, Nat.ascFactorial_succ, pow_succ]
    push_cast
    ring

theorem isPrime_iff (n : Nat) : isPrime n = true ↔ n.Prime :=
  GmpSpec.trialPrime_iff (fun _ => rfl) (fun _ _ => rfl) (Nat.le_succ _)   -- fuel `√n` suffices

end SymVerif.C32
