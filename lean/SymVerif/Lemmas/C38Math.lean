import Mathlib.LinearAlgebra.Lagrange
import Mathlib.Algebra.Polynomial.Derivative
import Mathlib.Tactic.Ring
import Mathlib.Tactic.FieldSimp
import Mathlib.Tactic.Linarith
/-!
Mathematics behind Fornberg's recurrences (C38): Lagrange basis polynomials on the first `i+1`
nodes, their derivatives at the centre, and the two recurrences the C++ loop nest implements.
-/
namespace SymVerif.C38
open Polynomial Finset

/-- Lagrange basis polynomial of node `j` on the nodes `x 0 … x i`. -/
noncomputable def Lb (x : ℕ → ℚ) (i j : ℕ) : ℚ[X] := Lagrange.basis (range (i + 1)) x j

/-- `k`-th derivative at `z` of `Lb x i j` — what `weights[j + k*len]` must hold after stage `i`. -/
noncomputable def dv (x : ℕ → ℚ) (z : ℚ) (i j k : ℕ) : ℚ := (derivative^[k] (Lb x i j)).eval z

/-- Leibniz rule for a linear factor. -/
theorem iterate_derivative_linear_mul (a : ℚ) (p : ℚ[X]) (k : ℕ) :
    derivative^[k + 1] ((X - C a) * p)
      = (X - C a) * derivative^[k + 1] p + ((k + 1 : ℕ) : ℚ[X]) * derivative^[k] p := by
  induction k with
  | zero => simp [derivative_mul]; ring
  | succ k ih =>
    rw [Function.iterate_succ_apply', ih, Function.iterate_succ_apply' (f := derivative) (n := k + 1),
      Function.iterate_succ_apply' (f := derivative) (n := k)]
    simp only [derivative_add, derivative_mul, derivative_sub, derivative_X, derivative_C,
      derivative_natCast, Nat.cast_add, Nat.cast_one, derivative_one]
    ring

theorem Lb_zero (x : ℕ → ℚ) : Lb x 0 0 = 1 := by
  simp [Lb]

theorem Lb_succ_of_le (x : ℕ → ℚ) {i j : ℕ} (hj : j ≤ i) :
    Lb x (i + 1) j = C (x j - x (i + 1))⁻¹ * ((X - C (x (i + 1))) * Lb x i j) := by
  unfold Lb Lagrange.basis
  have h1 : (range (i + 1 + 1)).erase j = insert (i + 1) ((range (i + 1)).erase j) := by
    rw [range_add_one (n := i + 1), erase_insert_of_ne (by omega)]
  rw [h1, prod_insert (by simp), Lagrange.basisDivisor, mul_assoc]

/-- running product `∏_{m<n} (x i - x m)` — the value of `c2` after `n` iterations of the `j` loop -/
def cprod (x : ℕ → ℚ) (i n : ℕ) : ℚ := ∏ m ∈ range n, (x i - x m)

theorem cprod_zero (x : ℕ → ℚ) (i : ℕ) : cprod x i 0 = 1 := by simp [cprod]

theorem cprod_succ (x : ℕ → ℚ) (i n : ℕ) : cprod x i (n + 1) = cprod x i n * (x i - x n) := by
  simp [cprod, prod_range_succ]

theorem Lb_self_eq (x : ℕ → ℚ) (i : ℕ) :
    Lb x i i = C (cprod x i i)⁻¹ * ∏ m ∈ range i, (X - C (x m)) := by
  unfold Lb Lagrange.basis cprod
  have h1 : (range (i + 1)).erase i = range i := by
    rw [range_add_one, erase_insert (by simp)]
  rw [h1]
  simp only [Lagrange.basisDivisor, prod_mul_distrib, ← map_prod, prod_inv_distrib]

theorem Lb_succ_self (x : ℕ → ℚ) (i : ℕ) (h1 : cprod x i i ≠ 0) :
    Lb x (i + 1) (i + 1)
      = C (cprod x i i / cprod x (i + 1) (i + 1)) * ((X - C (x i)) * Lb x i i) := by
  have h : C (cprod x i i / cprod x (i + 1) (i + 1)) * C (cprod x i i)⁻¹
      = C (cprod x (i + 1) (i + 1))⁻¹ := by
    rw [← C_mul, div_mul_eq_mul_div, mul_inv_cancel₀ h1, one_div]
  rw [Lb_self_eq x (i + 1), Lb_self_eq x i, prod_range_succ, ← h]
  ring

theorem dv_zero_zero (x : ℕ → ℚ) (z : ℚ) : dv x z 0 0 0 = 1 := by
  simp [dv, Lb_zero]

/-- The degree bound needs no distinct nodes: a factor `basisDivisor (x j) (x m)` is zero when the two
nodes coincide and linear otherwise. -/
theorem natDegree_Lb_le (x : ℕ → ℚ) {i j : ℕ} (hj : j ≤ i) : (Lb x i j).natDegree ≤ i := by
  unfold Lb Lagrange.basis
  refine (natDegree_prod_le _ _).trans ?_
  have hcard : ((range (i + 1)).erase j).card = i := by
    rw [card_erase_of_mem (mem_range.mpr (by omega)), card_range, Nat.add_sub_cancel]
  calc ∑ m ∈ (range (i + 1)).erase j, (Lagrange.basisDivisor (x j) (x m)).natDegree
      ≤ ∑ _m ∈ (range (i + 1)).erase j, 1 := sum_le_sum fun m _ => by
        by_cases h : x j = x m
        · rw [h, Lagrange.basisDivisor_self, natDegree_zero]; exact Nat.zero_le _
        · exact (Lagrange.natDegree_basisDivisor_of_ne h).le
    _ = i := by rw [sum_const, hcard, smul_eq_mul, mul_one]

theorem dv_eq_zero_of_lt (x : ℕ → ℚ) (z : ℚ) {i j k : ℕ} (hj : j ≤ i) (hk : i < k) :
    dv x z i j k = 0 := by
  unfold dv
  rw [iterate_derivative_eq_zero ((natDegree_Lb_le x hj).trans_lt hk), eval_zero]

/-- Both Fornberg recurrences at once: when the basis polynomial of the next stage is a linear factor
times one of this stage, its derivatives at `z` follow by the Leibniz rule.  At `k = 0` the second
term vanishes, which is why the C++ can update row `0` without reading a row `-1`. -/
theorem dv_step (x : ℕ → ℚ) (z : ℚ) {c a : ℚ} {i j s : ℕ}
    (h : Lb x (i + 1) j = C c * ((X - C a) * Lb x i s)) (k : ℕ) :
    dv x z (i + 1) j k = c * ((z - a) * dv x z i s k + (k : ℚ) * dv x z i s (k - 1)) := by
  unfold dv
  rw [h, iterate_derivative_C_mul]
  cases k with
  | zero =>
    simp only [Function.iterate_zero, id_eq, eval_mul, eval_C, eval_sub, eval_X, Nat.cast_zero,
      zero_mul, add_zero]
  | succ k =>
    rw [iterate_derivative_linear_mul]
    simp only [eval_mul, eval_C, eval_sub, eval_X, eval_add, eval_natCast, Nat.add_sub_cancel]

theorem dv_old (x : ℕ → ℚ) (z : ℚ) {i j : ℕ} (k : ℕ) (hj : j ≤ i) (hne : x (i + 1) ≠ x j) :
    dv x z (i + 1) j k
      = ((x (i + 1) - z) * dv x z i j k - (k : ℚ) * dv x z i j (k - 1)) / (x (i + 1) - x j) := by
  have h1 : x (i + 1) - x j ≠ 0 := sub_ne_zero.mpr hne
  have h2 : x j - x (i + 1) ≠ 0 := sub_ne_zero.mpr (Ne.symm hne)
  rw [dv_step x z (Lb_succ_of_le x hj) k]
  field_simp
  ring

theorem dv_old_succ (x : ℕ → ℚ) (z : ℚ) {i j : ℕ} (k : ℕ) (hj : j ≤ i) (hne : x (i + 1) ≠ x j) :
    dv x z (i + 1) j (k + 1)
      = ((x (i + 1) - z) * dv x z i j (k + 1) - ((k + 1 : ℕ) : ℚ) * dv x z i j k)
          / (x (i + 1) - x j) :=
  dv_old x z (k + 1) hj hne

theorem dv_new (x : ℕ → ℚ) (z : ℚ) (i k : ℕ) (h1 : cprod x i i ≠ 0) :
    dv x z (i + 1) (i + 1) k
      = cprod x i i * ((k : ℚ) * dv x z i i (k - 1) - (x i - z) * dv x z i i k)
          / cprod x (i + 1) (i + 1) := by
  rw [dv_step x z (Lb_succ_self x i h1) k]
  ring

theorem dv_new_succ (x : ℕ → ℚ) (z : ℚ) (i k : ℕ) (h1 : cprod x i i ≠ 0) :
    dv x z (i + 1) (i + 1) (k + 1)
      = cprod x i i * (((k + 1 : ℕ) : ℚ) * dv x z i i k - (x i - z) * dv x z i i (k + 1))
          / cprod x (i + 1) (i + 1) :=
  dv_new x z i (k + 1) h1

/-- Exactness from the Lagrange representation: the weights `dv x z (len-1) j k` of the last stage (all `len`
nodes) reproduce the `k`-th derivative at `z` of every polynomial of degree `< len`. -/
theorem sum_dv_eq (x : ℕ → ℚ) (z : ℚ) {len : ℕ} (hpos : 0 < len) (hx : Set.InjOn x (range len)) (k : ℕ)
    (P : ℚ[X]) (hP : P.degree < len) :
    ∑ j ∈ range len, dv x z (len - 1) j k * P.eval (x j) = (derivative^[k] P).eval z := by
  obtain ⟨n, rfl⟩ : ∃ n, len = n + 1 := ⟨len - 1, by omega⟩
  have h := Lagrange.eq_interpolate (s := range (n + 1)) (v := x) hx (by simpa using hP)
  conv_rhs => rw [h]
  rw [Lagrange.interpolate_apply, iterate_derivative_sum, eval_finsetSum]
  refine sum_congr rfl fun j _ => ?_
  rw [iterate_derivative_C_mul, eval_mul, eval_C, mul_comm]
  rfl

end SymVerif.C38
