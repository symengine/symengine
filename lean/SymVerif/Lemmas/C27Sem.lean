import SymVerif.Lemmas.C27Order
import Mathlib.Data.List.Basic

/-! Denotation of set objects on rational points, well-formedness, the container lemmas, and `Den`: what the answer
of a method denotes.
In the modules that import this one, statements that copy a sub-expression of the model (`ivInter_left`, `ivInter_right`,
`clamp_le`, `lowerEnd_le`, `upperEnd_le`, `mem_intsBetween`, `fsUnionNum_ok`, `memAny_split`) are used by `rw`/`exact`/
`generalize` on the model term as the calling theorem has unfolded it, and must stay syntactically equal to that (up to evaluation of `numSet k` at a literal kind). -/
namespace SymVerif.Sets

mutual
theorem SetE.beq'_sound : ∀ a b : SetE, SetE.beq' a b = true → a = b
  | .empty, b, h | .univ, b, h | .reals, b, h | .rats, b, h | .ints, b, h | .nats, b, h | .nats0, b, h => by
      cases b <;> first | rfl | cases h
  | .iv a b l r, x, h => by
      cases x <;> try cases h
      simp only [SetE.beq', Bool.and_eq_true, beq_iff_eq] at h
      obtain ⟨⟨⟨rfl, rfl⟩, rfl⟩, rfl⟩ := h
      rfl
  | .fs l, x, h => by
      cases x <;> try cases h
      exact congrArg SetE.fs (eq_of_beq h)
  | .un l, x, h | .inter l, x, h => by
      cases x <;> try cases h
      exact congrArg _ (SetE.beqL_sound _ _ h)
  | .co u a, x, h => by
      cases x <;> try cases h
      simp only [SetE.beq', Bool.and_eq_true] at h
      rw [SetE.beq'_sound _ _ h.1, SetE.beq'_sound _ _ h.2]
theorem SetE.beqL_sound : ∀ a b : List SetE, SetE.beqL a b = true → a = b
  | [], b, h => by cases b <;> first | rfl | cases h
  | a :: l, b, h => by
      cases b <;> try cases h
      simp only [SetE.beqL, Bool.and_eq_true] at h
      rw [SetE.beq'_sound _ _ h.1, SetE.beqL_sound _ _ h.2]
end

/-- a `BEq` whose `true` answers are right: the half of `LawfulBEq` that `SetE.beq'_sound` proves for the `BEq SetE`
    instance (reflexivity is not proved) -/
def SoundBEq (α : Type) [BEq α] : Prop := ∀ a b : α, (a == b) = true → a = b

theorem soundBEq_SetE : SoundBEq SetE := SetE.beq'_sound
theorem soundBEq_ENum : SoundBEq ENum := fun _ _ h => by simpa using h

theorem mem_foldl_insert {α : Type} {ins : α → List α → List α} (hins : ∀ x y l, y ∈ ins x l ↔ y = x ∨ y ∈ l)
    (y : α) (l acc : List α) : y ∈ l.foldl (fun acc x => ins x acc) acc ↔ y ∈ acc ∨ y ∈ l := by
  induction l generalizing acc with
  | nil => simp
  | cons z t ih =>
    rw [List.foldl_cons, ih, hins, List.mem_cons, or_comm (a := y = z), or_assoc]

section containers
variable {α : Type} [BEq α]

theorem mem_insertK (hs : SoundBEq α) (key : α → UInt64) (x y : α) (l : List α) :
    y ∈ insertK key x l ↔ y = x ∨ y ∈ l := by
  induction l with
  | nil => exact List.mem_singleton.trans (or_iff_left List.not_mem_nil).symm
  | cons z t ih =>
    unfold insertK
    split
    · rename_i h1
      cases hs _ _ h1
      exact ⟨Or.inr, fun h => h.elim (fun h => h ▸ List.mem_cons_self) id⟩
    · split
      · exact List.mem_cons
      · rw [List.mem_cons, ih, List.mem_cons]
        exact or_left_comm

theorem mem_of_mem_eraseK {x y : α} {l : List α} : y ∈ eraseK x l → y ∈ l := by
  induction l with
  | nil => exact id
  | cons z t ih =>
    unfold eraseK
    split
    · exact List.mem_cons_of_mem _
    · exact fun h => (List.mem_cons.1 h).elim (fun e => e ▸ List.mem_cons_self) fun h => List.mem_cons_of_mem _ (ih h)

theorem eq_or_mem_eraseK (hs : SoundBEq α) (x y : α) (l : List α) : y ∈ l → y = x ∨ y ∈ eraseK x l := by
  induction l with
  | nil => exact fun h => nomatch h
  | cons z t ih =>
    unfold eraseK
    intro h
    split
    · rename_i h1
      cases hs _ _ h1
      exact List.mem_cons.1 h
    · exact (List.mem_cons.1 h).elim (fun e => Or.inr (e ▸ List.mem_cons_self))
        fun h => (ih h).imp_right (List.mem_cons_of_mem _)

end containers

theorem mem_mkSB (y : ENum) (l : List ENum) : y ∈ mkSB l ↔ y ∈ l := by
  unfold mkSB; rw [mem_foldl_insert (mem_insertK soundBEq_ENum _)]; simp
theorem mem_mkSS (y : SetE) (l : List SetE) : y ∈ mkSS l ↔ y ∈ l := by
  unfold mkSS; rw [mem_foldl_insert (mem_insertK soundBEq_SetE _)]; simp
theorem mem_insertAllSB (y : ENum) (acc l : List ENum) : y ∈ insertAllSB acc l ↔ y ∈ acc ∨ y ∈ l := by
  unfold insertAllSB; rw [mem_foldl_insert (mem_insertK soundBEq_ENum _)]

mutual
/-- the rational points of a set object -/
def mem : SetE → ℚ → Prop
  | .empty, _ => False
  | .univ, _ => True
  | .reals, _ => True
  | .rats, _ => True
  | .ints, q => q.den = 1
  | .nats, q => q.den = 1 ∧ 0 < q.num
  | .nats0, q => q.den = 1 ∧ 0 ≤ q.num
  | .iv s e lo ro, q => memIv s e lo ro q
  | .fs l, q => ENum.fin q ∈ l
  | .un l, q => memAny l q
  | .inter l, q => memAll l q
  | .co u a, q => mem u q ∧ ¬ mem a q
def memAny : List SetE → ℚ → Prop
  | [], _ => False
  | x :: t, q => mem x q ∨ memAny t q
def memAll : List SetE → ℚ → Prop
  | [], _ => True
  | x :: t, q => mem x q ∧ memAll t q
end

mutual
/-- every interval node is a canonical `Interval` (`start < end`), every `Union` node has members: `set_complement` of a
    `Union` intersects `b \ member` over the members, which is `b \ ⋃` only if there is one; an `Intersection` may be
    empty -/
def WF : SetE → Prop
  | .iv s e _ _ => s < e
  | .un l => l ≠ [] ∧ WFL l
  | .inter l => WFL l
  | .co u a => WF u ∧ WF a
  | _ => True
def WFL : List SetE → Prop
  | [] => True
  | x :: t => WF x ∧ WFL t
end

theorem memAny_iff (l : List SetE) (q : ℚ) : memAny l q ↔ ∃ s ∈ l, mem s q := by
  induction l with
  | nil => simp [memAny]
  | cons x t ih => simp [memAny, ih]

theorem memAll_iff (l : List SetE) (q : ℚ) : memAll l q ↔ ∀ s ∈ l, mem s q := by
  induction l with
  | nil => simp [memAll]
  | cons x t ih => simp [memAll, ih]

theorem WFL_iff (l : List SetE) : WFL l ↔ ∀ s ∈ l, WF s := by
  induction l with
  | nil => simp [WFL]
  | cons x t ih => simp [WFL, ih]

theorem memAny_insertK (x : SetE) (l : List SetE) (q : ℚ) :
    memAny (insertK SetE.hash x l) q ↔ (mem x q ∨ memAny l q) := by
  simp only [memAny_iff, mem_insertK soundBEq_SetE, exists_eq_or_imp]

theorem memAll_insertK (x : SetE) (l : List SetE) (q : ℚ) :
    memAll (insertK SetE.hash x l) q ↔ (mem x q ∧ memAll l q) := by
  simp only [memAll_iff, mem_insertK soundBEq_SetE, forall_eq_or_imp]

theorem WFL_insertK {o : SetE} {container : List SetE} (hc : WFL container) (ho : WF o) :
    WFL (insertK SetE.hash o container) := by
  rw [WFL_iff] at hc ⊢
  exact fun x hx => ((mem_insertK soundBEq_SetE _ _ _ _).1 hx).elim (fun e => e ▸ ho) (hc x)

theorem mem_finiteset (l : List ENum) (q : ℚ) : mem (finiteset l) q ↔ ENum.fin q ∈ l := by
  unfold finiteset
  cases l <;> simp [mem]

theorem WF_finiteset (l : List ENum) : WF (finiteset l) := by
  unfold finiteset
  cases l <;> simp [WF]

theorem ivCanonical_iff (s e : ENum) : ivCanonical s e = true ↔ s < e := by
  unfold ivCanonical
  simp only [ENum.min2_eq, beq_iff_eq]
  grind

theorem interval_answers (s e : ENum) (lo ro : Bool) :
    (s < e ∧ interval s e lo ro = .iv s e lo ro) ∨
    ((s = e ∧ lo = false ∧ ro = false) ∧ interval s e lo ro = finiteset (mkSB [s])) ∨
    (¬ s < e ∧ ¬ (s = e ∧ lo = false ∧ ro = false) ∧ interval s e lo ro = .empty) := by
  unfold interval
  simp only [← ivCanonical_iff, Bool.and_eq_true, beq_iff_eq, Bool.not_eq_true', Bool.or_eq_false_iff]
  split
  · exact Or.inl ⟨‹_›, rfl⟩
  · split
    · exact Or.inr (Or.inl ⟨‹_›, rfl⟩)
    · exact Or.inr (Or.inr ⟨‹_›, ‹_›, rfl⟩)

theorem mem_interval (s e : ENum) (lo ro : Bool) (q : ℚ) :
    mem (interval s e lo ro) q ↔ memIv s e lo ro q := by
  rcases interval_answers s e lo ro with ⟨_, hi⟩ | ⟨⟨rfl, rfl, rfl⟩, hi⟩ | ⟨hn, hp, hi⟩ <;> rw [hi]
  · rfl
  · rw [mem_finiteset, mem_mkSB, List.mem_singleton]
    exact ⟨fun h => ⟨Or.inr ⟨h.symm, rfl⟩, Or.inr ⟨h.symm, rfl⟩⟩, fun h => (le_antisymm h.lb h.ub).symm⟩
  · refine ⟨False.elim, fun h => ?_⟩
    -- `s ≤ q ≤ e` and not `s < e`: the interval is the point `s = e = q`, closed at both ends
    obtain rfl : s = e := le_antisymm (h.lb.trans h.ub) (not_lt.1 hn)
    have hq : s = .fin q := le_antisymm h.lb h.ub
    exact hp ⟨rfl, (h.1.resolve_left hq.not_lt).2, (h.2.resolve_left hq.not_gt).2⟩

theorem WF_interval {s e : ENum} {lo ro : Bool} : WF (interval s e lo ro) := by
  rcases interval_answers s e lo ro with ⟨h, hi⟩ | ⟨_, hi⟩ | ⟨_, _, hi⟩ <;> rw [hi]
  exacts [h, WF_finiteset _, trivial]

/-- the rational points of the number set `kind` (0 Integers, 1 Naturals, otherwise Naturals0) at an integer -/
def kindOK (kind : Nat) (k : ℤ) : Prop := if kind = 0 then True else if kind = 1 then 0 < k else 0 ≤ k

theorem mem_numSet (kind : Nat) (q : ℚ) : mem (numSet kind) q ↔ ∃ k : ℤ, q = (k : ℚ) ∧ kindOK kind k := by
  have hq : ∀ (P : ℤ → Prop), (q.den = 1 ∧ P q.num) ↔ ∃ k : ℤ, q = (k : ℚ) ∧ P k := fun P =>
    ⟨fun h => ⟨q.num, ((Rat.den_eq_one_iff q).1 h.1).symm, h.2⟩, by rintro ⟨k, rfl, hk⟩; exact ⟨rfl, hk⟩⟩
  unfold numSet kindOK
  by_cases h0 : kind = 0
  · simpa only [h0, beq_self_eq_true, if_true, mem, and_true] using hq fun _ => True
  · by_cases h1 : kind = 1
    · simpa only [h1, beq_self_eq_true, if_true, mem, Nat.one_ne_zero, if_false, beq_iff_eq] using hq (0 < ·)
    · simpa only [h0, h1, beq_iff_eq, if_false, mem] using hq (0 ≤ ·)

theorem WF_numSet (kind : Nat) : WF (numSet kind) := by
  unfold numSet; split <;> (try split) <;> simp only [WF]

theorem inNumSet_iff (kind : Nat) (q : ℚ) : inNumSet kind (.fin q) = true ↔ mem (numSet kind) q := by
  unfold inNumSet numSet
  by_cases h0 : kind = 0
  · simp [h0, mem, ENum.isInteger]
  · by_cases h1 : kind = 1
    · simp [h1, mem, ENum.isPosInteger]
    · simp [h0, h1, mem, ENum.isNonnegInteger]

/-- `r`, if it is an answer at all, is a well-formed set whose rational points are `P` -/
def Den (r : Except Err SetE) (P : ℚ → Prop) : Prop := ∀ s, r = .ok s → WF s ∧ ∀ q, mem s q ↔ P q

section
variable {P Q : ℚ → Prop}

theorem Den.ok {t : SetE} (ht : WF t) (hP : ∀ q, mem t q ↔ P q) : Den (.ok t) P :=
  fun _ h => Except.ok.inj h ▸ ⟨ht, hP⟩

theorem Den.error {e : Err} : Den (.error e) P := fun _ h => nomatch h

theorem Den.congr {r : Except Err SetE} (h : Den r P) (hPQ : ∀ q, P q ↔ Q q) : Den r Q :=
  fun s hs => ⟨(h s hs).1, fun q => ((h s hs).2 q).trans (hPQ q)⟩

theorem Den.bind {α : Type} {x : Except Err α} {f : α → Except Err SetE}
    (h : ∀ a, x = .ok a → Den (f a) P) : Den (x >>= f) P := by
  cases x with
  | error e => exact Den.error
  | ok a => exact h a rfl
end

theorem makeUnion_ok : ∀ {l : List SetE}, WFL l → Den (makeUnion l) (memAny l)
  | [], _ => Den.error
  | [_], hl => Den.ok hl.1 fun _ => (or_iff_left id).symm
  | _ :: _ :: _, hl => by
    simp only [makeUnion]
    split
    · exact Den.ok ⟨List.cons_ne_nil _ _, hl⟩ fun _ => Iff.rfl
    · exact Den.error

theorem makeInter_ok : ∀ {l : List SetE}, WFL l → Den (makeInter l) (memAll l)
  | [], _ => Den.error
  | [_], hl => Den.ok hl.1 fun _ => (and_iff_left trivial).symm
  | _ :: _ :: _, hl => Den.ok hl fun _ => Iff.rfl

theorem WFL_mkSS (l : List SetE) : WFL (mkSS l) ↔ WFL l := by
  simp only [WFL_iff, mem_mkSS]

theorem memAny_mkSS (l : List SetE) (q : ℚ) : memAny (mkSS l) q ↔ memAny l q := by
  simp only [memAny_iff, mem_mkSS]

theorem memAll_mkSS (l : List SetE) (q : ℚ) : memAll (mkSS l) q ↔ memAll l q := by
  simp only [memAll_iff, mem_mkSS]

/-- a sound n-ary union (`make_set_union` or the free `set_union`) on the container of two sets -/
theorem pairAny_ok {f : List SetE → Except Err SetE} (hf : ∀ {l}, WFL l → Den (f l) (memAny l)) {a b : SetE}
    (ha : WF a) (hb : WF b) : Den (f (mkSS [a, b])) fun q => mem a q ∨ mem b q :=
  (hf ((WFL_mkSS [a, b]).2 ⟨ha, hb, trivial⟩)).congr fun q =>
    (memAny_mkSS _ q).trans (or_congr_right (or_iff_left id))

theorem pairAll_ok {f : List SetE → Except Err SetE} (hf : ∀ {l}, WFL l → Den (f l) (memAll l)) {a b : SetE}
    (ha : WF a) (hb : WF b) : Den (f (mkSS [a, b])) fun q => mem a q ∧ mem b q :=
  (hf ((WFL_mkSS [a, b]).2 ⟨ha, hb, trivial⟩)).congr fun q =>
    (memAll_mkSS _ q).trans (and_congr_right fun _ => and_iff_left trivial)

mutual
theorem contains_iff : ∀ (s : SetE) (q : ℚ), WF s → (contains s (.fin q) = true ↔ mem s q)
  | .empty, q, _ => iff_of_false Bool.false_ne_true id
  | .univ, q, _ | .reals, q, _ | .rats, q, _ => iff_of_true rfl trivial
  | .ints, q, _ => beq_iff_eq
  | .nats, q, _ => by
      simp only [contains, ENum.isPosInteger, mem, Bool.and_eq_true, beq_iff_eq, decide_eq_true_eq]
  | .nats0, q, _ => by
      simp only [contains, ENum.isNonnegInteger, mem, Bool.and_eq_true, beq_iff_eq, decide_eq_true_eq]
  | .iv s e lo ro, q, h => by
      simp only [contains, mem]
      exact ivContains_iff s e lo ro q (by simpa [WF] using h)
  | .fs l, q, _ => by simp [contains, mem]
  | .un l, q, h => by
      simp only [contains, mem]
      exact containsAny_iff l q (by simp only [WF] at h; exact h.2)
  | .inter l, q, h => by
      simp only [contains, mem]
      exact containsAll_iff l q (by simpa [WF] using h)
  | .co u a, q, h => by
      have h' : WF u ∧ WF a := by simpa [WF] using h
      simp only [contains, mem, Bool.and_eq_true, Bool.not_eq_true']
      rw [contains_iff u q h'.1, ← contains_iff a q h'.2]
      simp
theorem containsAny_iff : ∀ (l : List SetE) (q : ℚ), WFL l → (containsAny l (.fin q) = true ↔ memAny l q)
  | [], q, _ => by simp [containsAny, memAny]
  | x :: t, q, h => by
      simp only [containsAny, memAny, Bool.or_eq_true]
      rw [contains_iff x q h.1, containsAny_iff t q h.2]
theorem containsAll_iff : ∀ (l : List SetE) (q : ℚ), WFL l → (containsAll l (.fin q) = true ↔ memAll l q)
  | [], q, _ => by simp [containsAll, memAll]
  | x :: t, q, h => by
      simp only [containsAll, memAll, Bool.and_eq_true]
      rw [contains_iff x q h.1, containsAll_iff t q h.2]
end

end SymVerif.Sets
