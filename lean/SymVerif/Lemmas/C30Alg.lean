import Mathlib.Tactic.Ring
import Mathlib.Tactic.LinearCombination
import Mathlib.Algebra.BigOperators.Group.List.Basic
import Mathlib.Data.Rat.Cast.CharZero
import SymVerif.Model.SolveCert
/-!
C30 — the formal algebra `RP` (ℚ with formal square roots) evaluates homomorphically into every field
`K` of characteristic 0 equipped with a function `sq : ℚ → K` such that `sq r * sq r = r`.
-/
namespace SymVerif.C30
open SymVerif.Solve SymVerif.Solve.RP

set_option linter.unusedSectionVars false  -- the simp lemmas below do not use `[CharZero K]`
variable {K : Type*} [Field K] [CharZero K]

/-- value of a monomial: the product of the chosen square roots -/
def monoVal (sq : ℚ → K) (m : Mono) : K := (m.map sq).prod
def termVal (sq : ℚ → K) (t : Term) : K := (t.1 : K) * monoVal sq t.2
/-- value of a formal number -/
def ev (sq : ℚ → K) (p : RP) : K := (p.map (termVal sq)).sum

variable (sq : ℚ → K)

@[simp] theorem monoVal_nil : monoVal sq [] = 1 := by simp [monoVal]
@[simp] theorem monoVal_cons (a : ℚ) (m : Mono) : monoVal sq (a :: m) = sq a * monoVal sq m := by
  simp [monoVal]
theorem monoVal_append (m m' : Mono) : monoVal sq (m ++ m') = monoVal sq m * monoVal sq m' := by
  simp [monoVal, List.map_append, List.prod_append]

@[simp] theorem ev_nil : ev sq [] = 0 := by simp [ev]
@[simp] theorem ev_cons (t : Term) (p : RP) : ev sq (t :: p) = termVal sq t + ev sq p := by
  simp [ev]
theorem ev_append (p q : RP) : ev sq (p ++ q) = ev sq p + ev sq q := by
  simp [ev, List.map_append, List.sum_append]

@[simp] theorem ev_ofRat (r : ℚ) : ev sq (ofRat r) = (r : K) := by
  simp [ofRat, termVal]
@[simp] theorem ev_one : ev sq one = 1 := by simp [one]
@[simp] theorem ev_atom (r : ℚ) : ev sq (atom r) = sq r := by
  simp [atom, termVal]
@[simp] theorem ev_add (p q : RP) : ev sq (add p q) = ev sq p + ev sq q := ev_append sq p q

theorem ev_map_mul (f : Term → Term) (k : K) (hf : ∀ t, termVal sq (f t) = k * termVal sq t) (p : RP) :
    ev sq (p.map f) = k * ev sq p := by
  induction p with
  | nil => rw [List.map_nil, ev_nil, mul_zero]
  | cons t p ih => rw [List.map_cons, ev_cons, ev_cons, ih, hf, mul_add]

@[simp] theorem ev_neg (p : RP) : ev sq (neg p) = - ev sq p :=
  (ev_map_mul sq _ (-1) (fun t => by rw [termVal, termVal, Rat.cast_neg, neg_mul, neg_one_mul]) p).trans
    (neg_one_mul _)

@[simp] theorem ev_sub (p q : RP) : ev sq (sub p q) = ev sq p - ev sq q := by
  rw [sub, ev_add, ev_neg, sub_eq_add_neg]

theorem ev_scale (c : ℚ) (m : Mono) (q : RP) :
    ev sq (scale c m q) = (c : K) * monoVal sq m * ev sq q :=
  ev_map_mul sq _ _ (fun t => by rw [termVal, termVal, Rat.cast_mul, monoVal_append, mul_mul_mul_comm]) q

theorem ev_mulRaw (p q : RP) : ev sq (mulRaw p q) = ev sq p * ev sq q := by
  induction p with
  | nil => rw [mulRaw, ev_nil, zero_mul]
  | cons t p ih =>
    rw [mulRaw, ev_append, ev_scale, ih, ev_cons, add_mul, termVal]

section norm
variable (hsq : ∀ r : ℚ, sq r * sq r = (r : K))
include hsq

theorem termVal_insAtom (r c : ℚ) (m : Mono) :
    termVal sq (insAtom r c m) = sq r * termVal sq (c, m) := by
  show _ = sq r * ((c : K) * monoVal sq m)
  induction m with
  | nil => rw [insAtom, termVal, monoVal_cons, mul_left_comm]
  | cons a as ih =>
    rw [insAtom]
    split_ifs with h1 h2
    · -- `r = a`: the pair `√r·√r` becomes the factor `r` of the coefficient; the only use of `hsq` in this section
      rw [termVal, Rat.cast_mul, monoVal_cons, ← h1, ← hsq r, mul_assoc, mul_assoc, mul_left_comm]
    · rw [termVal, monoVal_cons, mul_left_comm]
    · rw [termVal, monoVal_cons, mul_left_comm]
      show sq a * termVal sq (insAtom r c as) = _
      rw [ih, monoVal_cons, mul_left_comm (sq a), mul_left_comm (sq a)]

theorem termVal_reduceTerm (t : Term) : termVal sq (reduceTerm t) = termVal sq t := by
  obtain ⟨c, m⟩ := t
  induction m with
  | nil => rfl
  | cons a as ih =>
    show termVal sq (insAtom a (reduceTerm (c, as)).1 (reduceTerm (c, as)).2) = _
    rw [termVal_insAtom sq hsq, ih, termVal, termVal, monoVal_cons, mul_left_comm]

omit hsq in
theorem ev_addTerm (t : Term) (p : RP) : ev sq (addTerm t p) = termVal sq t + ev sq p := by
  induction p with
  | nil => rfl
  | cons u us ih =>
    rw [addTerm]
    split_ifs with h1 h2
    · rw [ev_cons, ev_cons, termVal, termVal, termVal, Rat.cast_add, h1, add_mul, add_assoc]
    · rw [ev_cons]
    · rw [ev_cons, ev_cons, ih, add_left_comm]

omit hsq in
theorem ev_filter_ne_zero (p : RP) :
    ev sq (p.filter fun t => decide (t.1 ≠ 0)) = ev sq p := by
  induction p with
  | nil => simp
  | cons t p ih =>
    rw [List.filter_cons, ev_cons]
    split_ifs with h
    · rw [ev_cons, ih]
    · have ht : t.1 = 0 := of_not_not (mt (decide_eq_true (p := t.1 ≠ 0)) h)
      rw [ih, termVal, ht, Rat.cast_zero, zero_mul, zero_add]

theorem ev_norm (p : RP) : ev sq (norm p) = ev sq p := by
  rw [norm, ev_filter_ne_zero]
  induction p with
  | nil => rfl
  | cons t p ih => rw [List.foldr_cons, ev_addTerm, termVal_reduceTerm sq hsq, ih, ev_cons]

theorem ev_mul (p q : RP) : ev sq (mul p q) = ev sq p * ev sq q := by
  rw [mul, ev_norm sq hsq, ev_mulRaw]

theorem ev_pow (p : RP) (n : ℕ) : ev sq (pow p n) = ev sq p ^ n := by
  induction n with
  | zero => rw [pow, ev_one, pow_zero]
  | succ n ih => rw [pow, ev_mul sq hsq, ih, pow_succ']

theorem norm_eq_nil_sound (p : RP) (h : norm p = []) : ev sq p = 0 := by
  rw [← ev_norm sq hsq p, h, ev_nil]

theorem isZero_sound (p : RP) (h : isZero p = true) : ev sq p = 0 :=
  norm_eq_nil_sound sq hsq p (List.isEmpty_iff.mp h)

theorem inv?_sound (p q : RP) (h : inv? p = some q) : ev sq p * ev sq q = 1 := by
  unfold inv? at h
  split at h
  · cases h
  · split_ifs at h with hn
    cases h
    have := norm_eq_nil_sound sq hsq _ hn
    rwa [ev_sub, ev_mul sq hsq, ev_one, sub_eq_zero] at this

theorem isNonZero_sound (p : RP) (h : isNonZero p = true) : ev sq p ≠ 0 := by
  obtain ⟨q, hq⟩ := Option.isSome_iff_exists.mp h
  exact left_ne_zero_of_mul_eq_one (inv?_sound sq hsq p q hq)

end norm

end SymVerif.C30
