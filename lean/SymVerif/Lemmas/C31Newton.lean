/-
C31: Newton iteration over the precision schedule `step_list`.

One induction over the schedule, `newton_foldlM`, in two forms.  `newton_stepList`: a pure fold with the loop's own
invariant; series_invert (here) and series_nthroot keep a multiplicative residual (`p·s ≡ 1`, `r^m·s ≡ 1`).
`Expands.newton`: an implicit equation `G g = S` where `G` has a first-order expansion (`Expands`); series_exp,
series_tan, series_tanh and series_lambertw go through it, and the same property of `G` gives congruence and uniqueness
of solutions modulo `X^n` (`Expands.congr`, `Expands.inj`).
-/
import SymVerif.Lemmas.C31Basic
import SymVerif.Lemmas.Basic

namespace SymVerif.C31
open SymVerif.Series PowerSeries

/-- a precision schedule starting from accuracy `m`: each step at most doubles the accuracy reached -/
def Chain : ℕ → List ℕ → Prop
  | _, [] => True
  | m, s :: l => s ≤ 2 * m ∧ Chain s l

/-- accuracy reached at the end of a schedule -/
def lastD : ℕ → List ℕ → ℕ
  | m, [] => m
  | _, s :: l => lastD s l

theorem chain_append_singleton (m : ℕ) (l : List ℕ) (b : ℕ) :
    Chain m (l ++ [b]) ↔ Chain m l ∧ b ≤ 2 * lastD m l := by
  induction l generalizing m with
  | nil => simp [Chain, lastD]
  | cons a t ih => simp only [List.cons_append, Chain, ih a, lastD, and_assoc]

theorem lastD_append_singleton (l : List ℕ) (b m : ℕ) : lastD m (l ++ [b]) = b := by
  induction l generalizing m with
  | nil => rfl
  | cons a t ih => simp only [List.cons_append, lastD, ih]

theorem chain_stepsUp (t : ℕ) : Chain 2 (stepsUp t ++ [t]) := by
  induction t using stepsUp.induct with
  | case1 t ht ih =>
    rw [stepsUp, dif_pos ht, chain_append_singleton]
    refine ⟨ih, ?_⟩
    rw [lastD_append_singleton]
    show t ≤ 2 * (2 + t / 2)
    omega
  | case2 t ht =>
    rw [stepsUp, dif_neg ht]
    simp only [List.nil_append, Chain, and_true]
    show t ≤ 2 * 2
    omega

/-- from accuracy 1: the start value of every loop is right in its constant term only, and the first entry is `2 ≤ 2·1` -/
theorem chain_stepList (prec : ℕ) : Chain 1 (stepList prec) := by
  unfold stepList
  exact ⟨by omega, chain_stepsUp prec⟩

theorem lastD_stepList (prec m : ℕ) : lastD m (stepList prec) = prec := by
  unfold stepList
  rw [← List.cons_append, lastD_append_singleton]

/-- Newton fold principle: if one step at precision `1 ≤ s ≤ 2m` turns an `m`-accurate iterate into an
`s`-accurate one, the fold over a doubling schedule ends with the accuracy of its last entry. -/
theorem newton_foldlM {α : Type} (P : ℕ → α → Prop) (F : α → ℕ → Except Err α)
    (hstep : ∀ m s a b, 1 ≤ m → 1 ≤ s → P m a → s ≤ 2 * m → F a s = .ok b → P s b) :
    ∀ (l : List ℕ) (m : ℕ) (a r : α), (∀ s ∈ l, 1 ≤ s) → 1 ≤ m → Chain m l → P m a →
      l.foldlM F a = .ok r → P (lastD m l) r := by
  intro l
  induction l with
  | nil =>
    intro m a r _ _ _ h hr
    obtain rfl := Except.ok.inj hr
    exact h
  | cons s t ih =>
    intro m a r hpos hm hc h hr
    rw [List.foldlM_cons] at hr
    obtain ⟨b, hb, hr⟩ := bind_ok.mp hr
    exact ih s b r (fun x hx => hpos x (List.mem_cons_of_mem s hx)) (hpos s List.mem_cons_self) hc.2
      (hstep m s a b hm (hpos s List.mem_cons_self) h hc.1 hb) hr

theorem stepList_pos (prec : ℕ) (hp : 1 ≤ prec) : ∀ s ∈ stepList prec, 1 ≤ s := by
  have hup : ∀ t, ∀ s ∈ stepsUp t, 1 ≤ s := by
    intro t
    induction t using stepsUp.induct with
    | case1 t ht ih =>
      rw [stepsUp, dif_pos ht, List.forall_mem_append, List.forall_mem_singleton]
      exact ⟨ih, by omega⟩
    | case2 t ht =>
      rw [stepsUp, dif_neg ht]
      nofun
  rw [stepList, List.forall_mem_cons, List.forall_mem_append, List.forall_mem_singleton]
  exact ⟨one_le_two, hup prec, hp⟩

theorem newton_stepListM {α : Type} (P : ℕ → α → Prop) (F : α → ℕ → Except Err α)
    (hstep : ∀ m s a b, 1 ≤ m → 1 ≤ s → P m a → s ≤ 2 * m → F a s = .ok b → P s b) {prec : ℕ} (hp : 1 ≤ prec)
    {a r : α} (h1 : P 1 a) (h : (stepList prec).foldlM F a = .ok r) : P prec r := by
  have := newton_foldlM P F hstep (stepList prec) 1 a r (stepList_pos prec hp) le_rfl (chain_stepList prec) h1 h
  rwa [lastD_stepList] at this

theorem newton_stepList {α : Type} (P : ℕ → α → Prop) (F : α → ℕ → α)
    (hstep : ∀ m s a, 1 ≤ m → 1 ≤ s → P m a → s ≤ 2 * m → P s (F a s)) {prec : ℕ} (hp : 1 ≤ prec) {a : α}
    (h1 : P 1 a) : P prec ((stepList prec).foldl F a) :=
  newton_stepListM P (fun a s => pure (F a s))
    (fun m s a _ hm hs1 ha hs hb => Except.ok.inj hb ▸ hstep m s a hm hs1 ha hs) hp h1 List.foldlM_pure

theorem invStep_spec (s p : Poly) (m step : ℕ) (h : EqMod m (toPS p * toPS s) 1) (hs : step ≤ 2 * m) :
    EqMod step (toPS (invStep s p step) * toPS s) 1 := by
  set P := toPS p
  set S := toPS s
  have h1 : EqMod step (toPS (invStep s p step)) ((2 - P * S) * P) := by
    unfold invStep
    refine (toPS_mulTrunc _ _ _).trans (EqMod.mul_right _ ?_)
    rw [toPS_psub, toPS_singleton, map_ofNat]
    exact (EqMod.refl _ _).sub (toPS_mulTrunc _ _ _)
  have h2 : EqMod step ((2 - P * S) * P * S) 1 := by
    have he : EqMod m (1 - P * S) 0 := eqMod_sub_zero.mpr h.symm
    have : (2 - P * S) * P * S = 1 - (1 - P * S) * (1 - P * S) := by ring
    rw [this]
    exact eqMod_sub_of_zero 1 ((eqMod_sq_of_eqMod he).mono hs)
  exact (h1.mul_right S).trans h2

theorem invert_ok {s p : Poly} {prec : ℕ} (h : invert s prec = .ok p) :
    constantCoeff (toPS s) ≠ 0 ∧ EqMod prec (toPS p * toPS s) 1 := by
  unfold invert at h
  split at h
  · cases h  -- isZero s
  · split at h
    · next h1 =>  -- isOne s
      cases h
      rw [toPS_of_isOne h1, toPS_one, mul_one, map_one]
      exact ⟨one_ne_zero, EqMod.refl _ _⟩
    · split at h  -- ldegree s: none, some 0, some (_ + 1)
      · cases h
      · next hl =>
        cases h
        have hc := constantCoeff_of_ldegree hl
        -- `stepList 0 = [2, 0]` ends with a step at precision 0: the fold lemmas ask `1 ≤ prec` (`stepList_pos`)
        refine ⟨hc, eqMod_of_pos fun hp => ?_⟩
        have hinit : EqMod 1 (toPS [1 / Series.coeff s 0] * toPS s) 1 := by
          rw [eqMod_one_iff, toPS_singleton, map_mul, constantCoeff_C, ← constantCoeff_toPS, map_one]
          exact one_div_mul_cancel hc
        exact newton_stepList (fun m q => EqMod m (toPS q * toPS s) 1) (invStep s)
          (fun m st a _ _ ha hst => invStep_spec s a m st ha hst) hp hinit
      · cases h

/-- **series_invert**: the result times the argument is `1` modulo `X^prec` -/
theorem invert_spec (s p : Poly) (prec : ℕ) (h : invert s prec = .ok p) :
    EqMod prec (toPS p * toPS s) 1 :=
  (invert_ok h).2

theorem invert_eqMod {s g : Poly} {prec : ℕ} (h : invert s prec = .ok g) {S : ℚ⟦X⟧}
    (hs : EqMod prec (toPS s) S) (hS : constantCoeff S ≠ 0) : EqMod prec (toPS g) S⁻¹ :=
  eqMod_inv_of_mul (invert_ok h).2 hs hS

theorem invert_specC {prec : ℕ} (hp : 1 ≤ prec) {s g : Poly} (h : invert s prec = .ok g) {S : ℚ⟦X⟧}
    (hs : EqMod prec (toPS s) S) : constantCoeff S ≠ 0 ∧ EqMod prec (toPS g) S⁻¹ :=
  have hS : constantCoeff S ≠ 0 := constantCoeff_eq_of_eqMod hp hs ▸ (invert_ok h).1
  ⟨hS, invert_eqMod h hs hS⟩

/-- `G` has a first-order expansion on the series with constant term `c`: `G (R + ε) = G R + G' R · ε + O(ε²)`, written
with the unit `V R = 1 / G' R` and `ε = d · V R`, `d ≡ 0` modulo `X^k`, as a congruence modulo `X^(2k)`; `1 ≤ k` makes
`d` a series without constant term, so that `R + ε` keeps the constant term `c`. -/
structure Expands (G V : ℚ⟦X⟧ → ℚ⟦X⟧) (c : ℚ) : Prop where
  unit : ∀ {R}, constantCoeff R = c → constantCoeff (V R) ≠ 0
  expand : ∀ {k R d}, 1 ≤ k → constantCoeff R = c → EqMod k d 0 → EqMod (2 * k) (G (R + d * V R)) (G R + d)

/-- `expand` read for a given neighbour `R'` of `R`: the increment is `d = (R' - R) / V R` -/
theorem Expands.sub {G V : ℚ⟦X⟧ → ℚ⟦X⟧} {c : ℚ} (hG : Expands G V c) {k : ℕ} (hk : 1 ≤ k) {R R' : ℚ⟦X⟧}
    (hR : constantCoeff R = c) (h : EqMod k R R') :
    EqMod k ((R' - R) * (V R)⁻¹) 0 ∧ EqMod (2 * k) (G R') (G R + (R' - R) * (V R)⁻¹) := by
  have hd : EqMod k ((R' - R) * (V R)⁻¹) 0 := (eqMod_sub_zero.mpr h.symm).mul_right_zero _
  refine ⟨hd, ?_⟩
  have := hG.expand hk hR hd
  rwa [mul_assoc, PowerSeries.inv_mul_cancel _ (hG.unit hR), mul_one, add_sub_cancel] at this

theorem Expands.congr {G V : ℚ⟦X⟧ → ℚ⟦X⟧} {c : ℚ} (hG : Expands G V c) {n : ℕ} {R R' : ℚ⟦X⟧}
    (h : EqMod n R R') (hR : constantCoeff R = c) : EqMod n (G R) (G R') := eqMod_of_pos fun hn => by
  obtain ⟨hd, he⟩ := hG.sub hn hR h
  exact ((he.mono (by omega)).trans (eqMod_add_of_zero _ hd)).symm

theorem Expands.inj {G V : ℚ⟦X⟧ → ℚ⟦X⟧} {c : ℚ} (hG : Expands G V c) {n : ℕ} {R R' : ℚ⟦X⟧}
    (hR : constantCoeff R = c) (hR' : constantCoeff R' = c) (h : EqMod n (G R) (G R')) : EqMod n R R' := by
  induction n using Nat.strong_induction_on with
  | _ n ih =>
    rcases Nat.lt_or_ge n 2 with h2 | h2
    · exact eqMod_one_iff.mpr (hR.trans hR'.symm) |>.mono (by omega)
    -- agreement to half the order gives `G R' ≡ G R + d` to the full order, so `d ≡ 0` there
    have hk : EqMod ((n + 1) / 2) R R' := ih _ (by omega) (h.mono (by omega))
    obtain ⟨_, he⟩ := hG.sub (k := (n + 1) / 2) (by omega) hR hk
    have hd : EqMod n (G R + (R' - R) * (V R)⁻¹) (G R) :=
      (he.mono (by omega : n ≤ 2 * ((n + 1) / 2))).symm.trans h.symm
    have hd0 : EqMod n ((R' - R) * (V R)⁻¹) 0 := by rwa [← eqMod_sub_zero, add_sub_cancel_left] at hd
    have := hd0.mul_right (V R)
    rw [zero_mul, mul_assoc, PowerSeries.inv_mul_cancel _ (hG.unit hR), mul_one] at this
    exact (eqMod_sub_zero.mp this).symm

/-- Newton loop over `step_list` for `G g = S` on series with constant term `c`: the model step `f` computes the Newton
step `R + (S - G R) · V R` to the order of the step. -/
theorem Expands.newton {G V : ℚ⟦X⟧ → ℚ⟦X⟧} {c : ℚ} (hG : Expands G V c) {S : ℚ⟦X⟧}
    {f : Poly → ℕ → Except Err Poly}
    (hf : ∀ st a b, 1 ≤ st → constantCoeff (toPS a) = c → f a st = .ok b →
      EqMod st (toPS b) (toPS a + (S - G (toPS a)) * V (toPS a)))
    {r g : Poly} {prec : ℕ} (hp : 1 ≤ prec) (hr : constantCoeff (toPS r) = c) (h1 : EqMod 1 (G (toPS r)) S)
    (h : (stepList prec).foldlM f r = .ok g) :
    constantCoeff (toPS g) = c ∧ EqMod prec (G (toPS g)) S := by
  refine newton_stepListM (fun k r => constantCoeff (toPS r) = c ∧ EqMod k (G (toPS r)) S) f ?_ hp ⟨hr, h1⟩ h
  intro k st a b hk hst1 ⟨ha0, ha⟩ hst hb
  set Y := toPS a + (S - G (toPS a)) * V (toPS a) with hY
  have hd : EqMod k (S - G (toPS a)) 0 := eqMod_sub_zero.mpr ha.symm
  have hbY : EqMod st (toPS b) Y := hf st a b hst1 ha0 hb
  have hYc : constantCoeff Y = c := by
    rw [hY, RingHom.map_add, RingHom.map_mul, constantCoeff_of_eqMod_zero hk hd, zero_mul, add_zero, ha0]
  have hGY : EqMod (2 * k) (G Y) S := (hG.expand hk ha0 hd).trans (EqMod.of_eq (add_sub_cancel _ _))
  have hGb : EqMod st (G (toPS b)) (G Y) := (hG.congr hbY.symm hYc).symm
  exact ⟨(constantCoeff_eq_of_eqMod hst1 hbY).trans hYc, hGb.trans (hGY.mono hst)⟩

end SymVerif.C31
