/-
C14, what the builder appends.  A register never changes once written, so a fact `Holds regs v r`
survives every later instruction.  Each `mk…` call folds to a constant or appends one instruction
(`Built`); a run of such calls is a `Step`: the appended instructions are in SSA form and leave the
result with the reference value, read in the register file the run started from.  `emitOp_step`
says this of every operator.  Everything is generic in the number structure.
-/
import SymVerif.Model.LLVMD

namespace SymVerif.LLVMD
open SymVerif.EvalG

variable {α : Type}

theorem exec_append (L : LOps α) (xs : List α) (regs : List (RV α)) (A B : Prog α) :
    exec L xs regs (A ++ B) = exec L xs (exec L xs regs A) B := by
  induction A generalizing regs with
  | nil => rfl
  | cons i rest ih => simp [exec, ih]

theorem exec_length (L : LOps α) (xs : List α) (regs : List (RV α)) (A : Prog α) :
    (exec L xs regs A).length = regs.length + A.length := by
  induction A generalizing regs with
  | nil => simp [exec]
  | cons i rest ih => simp [exec, ih]; omega

theorem exec_prefix (L : LOps α) (xs : List α) (regs : List (RV α)) (A : Prog α) :
    ∃ m, exec L xs regs A = regs ++ m := by
  induction A generalizing regs with
  | nil => exact ⟨[], by simp [exec]⟩
  | cons i rest ih =>
    obtain ⟨m, hm⟩ := ih (regs ++ [stepVal L xs regs i])
    exact ⟨stepVal L xs regs i :: m, by simp [exec, hm]⟩

/-- operand refers to a register below `n` (constants always do) -/
def Val.lt (n : Nat) : Val α → Prop
  | .reg k => k < n
  | _ => True

theorem Val.lt_mono {n m : Nat} (h : n ≤ m) {v : Val α} (hv : v.lt n) : v.lt m := by
  cases v <;> simp_all [Val.lt]; omega

inductive All2 {β γ : Type} (R : β → γ → Prop) : List β → List γ → Prop where
  | nil : All2 R [] []
  | cons {a : β} {b : γ} {as : List β} {bs : List γ} : R a b → All2 R as bs → All2 R (a :: as) (b :: bs)

/-- `v` denotes `r` in the register file `regs` -/
def Holds (regs : List (RV α)) (v : Val α) (r : RV α) : Prop :=
  v.lt regs.length ∧ valOf regs v = r

theorem valOf_append {regs : List (RV α)} (m : List (RV α)) {v : Val α} (hv : v.lt regs.length) :
    valOf (regs ++ m) v = valOf regs v := by
  cases v with
  | cf x => rfl
  | cb x => rfl
  | reg k =>
    simp only [Val.lt] at hv
    simp [valOf, List.getElem?_append_left hv]

theorem Holds.mono {regs : List (RV α)} {v : Val α} {r : RV α} (h : Holds regs v r) (m : List (RV α)) :
    Holds (regs ++ m) v r := by
  refine ⟨Val.lt_mono (by simp) h.1, ?_⟩
  rw [valOf_append m h.1]; exact h.2

theorem Holds.exec {regs : List (RV α)} {v : Val α} {r : RV α} (h : Holds regs v r)
    (L : LOps α) (xs : List α) (A : Prog α) : Holds (exec L xs regs A) v r := by
  obtain ⟨m, hm⟩ := exec_prefix L xs regs A
  rw [hm]; exact h.mono m

theorem Holds.cf (regs : List (RV α)) (x : α) : Holds regs (.cf x) (.f x) := ⟨trivial, rfl⟩
theorem Holds.cb (regs : List (RV α)) (x : Bool) : Holds regs (.cb x) (.b x) := ⟨trivial, rfl⟩

/-- appending one instruction defines the next register (`LLVMD.` below: inside `Holds.emit` the bare `exec`,
`emit` would be `Holds.exec`, `Holds.emit`) -/
theorem Holds.emit (L : LOps α) (xs : List α) (regs : List (RV α)) (P : Prog α) (i : Instr α)
    (hlen : regs.length = P.length) :
    Holds (LLVMD.exec L xs regs [i]) (LLVMD.emit P i).1 (stepVal L xs regs i) := by
  simp only [LLVMD.emit, LLVMD.exec]
  refine ⟨by simp [Val.lt, hlen], ?_⟩
  simp [valOf, ← hlen]

def Instr.operands : Instr α → List (Val α)
  | .load _ => []
  | .fadd a b => [a, b]
  | .fmul a b => [a, b]
  | .call _ _ args => args
  | .powi a _ => [a]
  | .fcmp _ a b => [a, b]
  | .bop _ a b => [a, b]
  | .bnot a => [a]
  | .uitofp a => [a]
  | .condbr c => [c]
  | .phi c a b => [c, a, b]

/-- the instructions `ext`, placed from position `n` on, only use registers defined before them -/
def WFfrom : Nat → Prog α → Prop
  | _, [] => True
  | n, i :: rest => (∀ v ∈ i.operands, v.lt n) ∧ WFfrom (n + 1) rest

def WF (P : Prog α) : Prop := WFfrom 0 P

theorem WFfrom_append (n : Nat) (A B : Prog α) :
    WFfrom n (A ++ B) ↔ WFfrom n A ∧ WFfrom (n + A.length) B := by
  induction A generalizing n with
  | nil => simp [WFfrom]
  | cons i rest ih =>
    simp only [List.cons_append, WFfrom, ih, List.length_cons]
    have : n + 1 + rest.length = n + (rest.length + 1) := by omega
    rw [this]
    exact and_assoc.symm

/-- `P'` is `P` with instructions appended that only use registers defined before them -/
def Ext (P P' : Prog α) : Prop := ∃ ext, P' = P ++ ext ∧ WFfrom P.length ext

theorem Ext.refl (P : Prog α) : Ext P P := ⟨[], (List.append_nil P).symm, trivial⟩

theorem Ext.le {P P' : Prog α} (h : Ext P P') : P.length ≤ P'.length := by
  obtain ⟨e, rfl, _⟩ := h
  exact List.length_append ▸ Nat.le_add_right _ _

theorem Ext.trans {P P1 P2 : Prog α} (h1 : Ext P P1) (h2 : Ext P1 P2) : Ext P P2 := by
  obtain ⟨e1, rfl, w1⟩ := h1
  obtain ⟨e2, rfl, w2⟩ := h2
  exact ⟨e1 ++ e2, List.append_assoc .., (WFfrom_append _ _ _).2 ⟨w1, List.length_append ▸ w2⟩⟩

theorem Ext.emit (P : Prog α) (i : Instr α) (h : ∀ v ∈ i.operands, v.lt P.length) : Ext P (P ++ [i]) :=
  ⟨[i], rfl, h, trivial⟩

theorem Ext.wf {P P' : Prog α} (h : Ext P P') (hP : WF P) : WF P' := by
  obtain ⟨e, rfl, w⟩ := h
  exact (WFfrom_append 0 P e).2 ⟨hP, (Nat.zero_add _).symm ▸ w⟩

theorem holds_inv {regs : List (RV α)} {v : Val α} {r : RV α} (h : Holds regs v r) : valOf regs v = r := h.2

theorem valsOf_holds {regs : List (RV α)} {vs : List (Val α)} {rs : List (RV α)}
    (h : All2 (Holds regs) vs rs) : valsOf regs vs = rs := by
  induction h with
  | nil => rfl
  | cons ha _ ih => simp [valsOf, ha.2, ih]

theorem all2_exec {regs : List (RV α)} {vs : List (Val α)} {rs : List (RV α)}
    (h : All2 (Holds regs) vs rs) (L : LOps α) (xs : List α) (A : Prog α) :
    All2 (Holds (exec L xs regs A)) vs rs := by
  induction h with
  | nil => exact .nil
  | cons ha _ ih => exact .cons (ha.exec L xs A) ih

theorem all2_holds_lt {regs : List (RV α)} {vs : List (Val α)} {rs : List (RV α)} (h : All2 (Holds regs) vs rs) :
    ∀ v ∈ vs, v.lt regs.length := by
  induction h with
  | nil => exact nofun
  | cons ha _ ih => exact List.forall_mem_cons.mpr ⟨ha.1, ih⟩

/-- A builder step from `P` with operands `ops`: it appends `ext`; if the operands are defined, `ext` is in
SSA form, the result is defined, and run from any register file of `P`'s length it leaves the result with
the value `spec` of that file. -/
def Step (L : LOps α) (xs : List α) (P : Prog α) (ops : List (Val α)) (spec : List (RV α) → RV α)
    (res : Val α × Prog α) : Prop :=
  ∃ ext, res.2 = P ++ ext ∧ ((∀ v ∈ ops, v.lt P.length) →
    WFfrom P.length ext ∧ res.1.lt res.2.length ∧
      ∀ regs, regs.length = P.length → valOf (exec L xs regs ext) res.1 = spec regs)

/-- what one `Create…` call of llvm::IRBuilder does: fold to a constant, or append one instruction -/
inductive Built (L : LOps α) (xs : List α) (P : Prog α) (ops : List (Val α)) (spec : List (RV α) → RV α) :
    Val α × Prog α → Prop
  | const {v : Val α} : (∀ n, v.lt n) → (∀ regs, valOf regs v = spec regs) → Built L xs P ops spec (v, P)
  | emit {i : Instr α} : (∀ v ∈ i.operands, v ∈ ops) → (∀ regs, stepVal L xs regs i = spec regs) →
      Built L xs P ops spec (emit P i)

section
variable {L : LOps α} {xs : List α} {P : Prog α} {ops : List (Val α)} {spec : List (RV α) → RV α}
  {res : Val α × Prog α}

theorem Built.step (h : Built L xs P ops spec res) : Step L xs P ops spec res := by
  cases h with
  | const hv h => exact ⟨[], (List.append_nil P).symm, fun _ => ⟨trivial, hv _, fun regs _ => h regs⟩⟩
  | @emit i ho h =>
    exact ⟨[i], rfl, fun hops => ⟨⟨fun v hv => hops v (ho v hv), trivial⟩, by simp [LLVMD.emit, Val.lt],
      fun regs hl => h regs ▸ (Holds.emit L xs regs P i hl).2⟩⟩

theorem Step.mono' {ops' : List (Val α)} {spec' : List (RV α) → RV α} (h : Step L xs P ops spec res)
    (hsub : (∀ v ∈ ops', v.lt P.length) → ∀ v ∈ ops, v.lt P.length) (hs : ∀ regs, spec regs = spec' regs) :
    Step L xs P ops' spec' res :=
  h.imp fun _ h => ⟨h.1, fun hops =>
    let ⟨w, l, s⟩ := h.2 (hsub hops)
    ⟨w, l, fun regs hl => hs regs ▸ s regs hl⟩⟩

theorem Step.mono {ops' : List (Val α)} {spec' : List (RV α) → RV α} (h : Step L xs P ops spec res)
    (hsub : ∀ v ∈ ops, v ∈ ops') (hs : ∀ regs, spec regs = spec' regs) : Step L xs P ops' spec' res :=
  h.mono' (fun hops v hv => hops v (hsub v hv)) hs

/-- Sequencing: the second step may use the operands of the first and its result.  Its specification is
read in the register file the first step leaves, where the old operands keep their values. -/
theorem Step.seq {r1 r2 : Val α × Prog α} {f1 f2 f : List (RV α) → RV α}
    (h1 : Step L xs P ops f1 r1) (h2 : Step L xs r1.2 (r1.1 :: ops) f2 r2)
    (hf : ∀ regs regs1, (∀ v ∈ ops, valOf regs1 v = valOf regs v) → valOf regs1 r1.1 = f1 regs → f2 regs1 = f regs) :
    Step L xs P ops f r2 := by
  obtain ⟨e1, he1, hs1⟩ := h1
  obtain ⟨e2, he2, hs2⟩ := h2
  refine ⟨e1 ++ e2, by rw [he2, he1, List.append_assoc], fun hops => ?_⟩
  obtain ⟨w1, l1, s1⟩ := hs1 hops
  have hle : P.length ≤ r1.2.length := he1 ▸ List.length_append ▸ Nat.le_add_right _ _
  obtain ⟨w2, l2, s2⟩ := hs2 (List.forall_mem_cons.mpr ⟨l1, fun v hv => Val.lt_mono hle (hops v hv)⟩)
  refine ⟨(WFfrom_append _ _ _).2 ⟨w1, by rw [← List.length_append, ← he1]; exact w2⟩, l2, fun regs hl => ?_⟩
  obtain ⟨m, hm⟩ := exec_prefix L xs regs e1
  rw [exec_append, s2 _ (by rw [exec_length, he1, hl, List.length_append])]
  exact hf regs _ (fun v hv => by rw [hm, valOf_append _ (hl ▸ hops v hv)]) (s1 regs hl)

/-- the SSA half of a step -/
theorem Step.wf (h : Step L xs P ops spec res) (hops : ∀ v ∈ ops, v.lt P.length) :
    Ext P res.2 ∧ res.1.lt res.2.length :=
  let ⟨e, he, hs⟩ := h
  ⟨⟨e, he, (hs hops).1⟩, (hs hops).2.1⟩

/-- the value half of a step -/
theorem Step.ok (h : Step L xs P ops spec res) :
    ∃ ext, res.2 = P ++ ext ∧ ∀ regs, regs.length = P.length → (∀ v ∈ ops, v.lt regs.length) →
      Holds (exec L xs regs ext) res.1 (spec regs) :=
  h.imp fun e h => ⟨h.1, fun regs hl hops =>
    let ⟨_, l, s⟩ := h.2 (hl ▸ hops)
    ⟨by rw [exec_length, hl, ← List.length_append, ← h.1]; exact l, s regs hl⟩⟩

end

theorem mkFBin_ok (L : LOps α) (xs : List α) (isAdd : Bool) (a b : Val α) (P : Prog α) :
    Built L xs P [a, b] (fun regs => fbin (if isAdd then L.O.add else L.O.mul) (valOf regs a) (valOf regs b))
      (mkFBin L isAdd a b P) := by
  fun_cases mkFBin L isAdd a b P
  · exact .const (fun _ => trivial) fun regs => by cases isAdd <;> simp [valOf, fbin, asF]
  · exact .emit (i := if isAdd then .fadd a b else .fmul a b) (by cases isAdd <;> simp [Instr.operands])
      fun regs => by cases isAdd <;> rfl

theorem mkFCmp_ok (L : LOps α) (xs : List α) (p : FPred) (a b : Val α) (P : Prog α) :
    Built L xs P [a, b] (fun regs => rvFCmp L p (valOf regs a) (valOf regs b)) (mkFCmp L p a b P) := by
  unfold mkFCmp
  split
  · exact .const (fun _ => trivial) fun regs => by simp [valOf, rvFCmp, asF]
  · exact .emit (i := .fcmp p a b) (by simp [Instr.operands]) fun regs => rfl

theorem mkBop_ok (L : LOps α) (xs : List α) (o : BOp) (a b : Val α) (P : Prog α) :
    Built L xs P [a, b] (fun regs => rvBop o (valOf regs a) (valOf regs b)) (mkBop o a b P) := by
  unfold mkBop
  split
  · exact .const (fun _ => trivial) fun regs => by simp [valOf, rvBop, asB]
  · exact .emit (i := .bop o a b) (by simp [Instr.operands]) fun regs => rfl

theorem mkNot_ok (L : LOps α) (xs : List α) (a : Val α) (P : Prog α) :
    Built L xs P [a] (fun regs => rvNot (valOf regs a)) (mkNot a P) := by
  unfold mkNot
  split
  · exact .const (fun _ => trivial) fun regs => by simp [valOf, rvNot, asB]
  · exact .emit (i := .bnot a) (by simp [Instr.operands]) fun regs => rfl

theorem mkUIToFP_ok (L : LOps α) (xs : List α) (a : Val α) (P : Prog α) :
    Built L xs P [a] (fun regs => rvUIToFP L (valOf regs a)) (mkUIToFP L a P) := by
  unfold mkUIToFP
  split
  · exact .const (fun _ => trivial) fun regs => by simp [valOf, rvUIToFP, asB]
  · exact .emit (i := .uitofp a) (by simp [Instr.operands]) fun regs => rfl

theorem Step.uitofp {L : LOps α} {xs : List α} {P P1 : Prog α} {ops : List (Val α)} {c : Val α}
    {f1 : List (RV α) → RV α} (h1 : Step L xs P ops f1 (c, P1)) :
    Step L xs P ops (fun regs => rvUIToFP L (f1 regs)) (mkUIToFP L c P1) :=
  h1.seq ((mkUIToFP_ok L xs c P1).step.mono (by simp) fun _ => rfl) fun regs regs1 _ hr => by
    simp only [hr]

/-- What `emitOp` appends for an operator is in SSA form and computes the reference value `evalOp`.
One case per line of `emitOp`; where a line makes several builder calls, each later call reads the
results of the earlier ones (`Step.seq`). -/
theorem emitOp_step (L : LOps α) (xs : List α) (k : OpK) (vs : List (Val α)) (P : Prog α) (res : Val α × Prog α)
    (h : emitOp L k vs P = .ok res) :
    Step L xs P vs (fun regs => evalOp L k (valsOf regs vs)) res := by
  revert h
  -- `cases h` puts the result for `res`; it closes the twelfth case, the fall-through line, which is no `.ok`
  fun_cases emitOp L k vs P <;> intro h <;> cases h
  next a b => exact (mkFBin_ok L xs true a b P).step  -- .fadd
  next a b => exact (mkFBin_ok L xs false a b P).step  -- .fmul
  next a => exact (mkFBin_ok L xs false a a P).step.mono (by simp) fun _ => rfl  -- .square
  next intr name =>  -- .call
    exact (Built.emit (i := .call intr name vs) (fun _ hv => hv) fun regs => by simp [stepVal, evalOp]).step
  next n a =>  -- .powi
    exact (Built.emit (i := .powi a n) (by simp [Instr.operands]) fun regs => by simp [valsOf, stepVal, evalOp]).step
  next p a b c P1 hx => exact (hx ▸ (mkFCmp_ok L xs p a b P).step).uitofp  -- .cmpU
  next a =>  -- .truth
    -- the constant operand `0.0` is defined everywhere
    exact (mkFCmp_ok L xs .one a (.cf (zeroF L)) P).step.mono' (fun h => by simpa [Val.lt] using h) fun _ => rfl
  next o a b => exact (mkBop_ok L xs o a b P).step  -- .bop
  next a c P1 hx => exact (hx ▸ (mkNot_ok L xs a P).step).uitofp  -- .notU
  next a => exact (mkUIToFP_ok L xs a P).step  -- .toFP
  next lo ro x s e c1 P1 h1 c2 P2 h2 c3 P3 h3 =>  -- .contains
    -- four calls: c1 = s < x (or ≤), c2 = x < e (or ≤), c3 = c1 ∧ c2, result = uitofp c3.  The `seq`s nest from
    -- the last call outwards; `f` is the value of the calls still to come, read in the file before them
    have s1 := h1 ▸ (mkFCmp_ok L xs (if lo then .olt else .ole) s x P).step
    have s2 := h2 ▸ (mkFCmp_ok L xs (if ro then .olt else .ole) x e P1).step
    have s3 := h3 ▸ (mkBop_ok L xs .and c1 c2 P2).step
    refine (s1.mono (ops' := [x, s, e]) (by simp) fun _ => rfl).seq
      ((s2.mono (ops' := [c1, x, s, e]) (by simp) fun _ => rfl).seq
        (s3.uitofp.mono (ops' := [c2, c1, x, s, e]) (by simp) fun _ => rfl)
        (f := fun regs => rvUIToFP L (rvBop .and (valOf regs c1) (rvFCmp L _ (valOf regs x) (valOf regs e))))
        fun regs regs1 ho hr => by rw [hr, ho c1 (by simp)])
      fun regs regs1 ho hr => by
        simp only [hr, ho x (by simp), ho e (by simp), evalOp, valsOf]

theorem emitOp_ok (L : LOps α) (xs : List α) (k : OpK) (vs : List (Val α)) (P : Prog α) (res : Val α × Prog α)
    (h : emitOp L k vs P = .ok res) :
    ∃ ext, res.2 = P ++ ext ∧ ∀ regs rs, regs.length = P.length → All2 (Holds regs) vs rs →
      Holds (exec L xs regs ext) res.1 (evalOp L k rs) :=
  (emitOp_step L xs k vs P res h).ok.imp fun _ h => ⟨h.1, fun regs _ hl hf =>
    valsOf_holds hf ▸ h.2 regs hl (all2_holds_lt hf)⟩

theorem emitOp_wf (L : LOps α) (k : OpK) (vs : List (Val α)) (P : Prog α) (res : Val α × Prog α)
    (h : emitOp L k vs P = .ok res) (hops : ∀ v ∈ vs, v.lt P.length) : Ext P res.2 ∧ res.1.lt res.2.length :=
  -- the SSA half of a step does not depend on the inputs: any `xs` will do
  (emitOp_step L [] k vs P res h).wf hops

end SymVerif.LLVMD
