import SymVerif.Lemmas.C21Eval
import Mathlib.Algebra.Polynomial.Degree.Domain

/-! C21: `divides_upoly` (as repaired) decides exact divisibility and returns the quotient. -/
open Polynomial
namespace SymVerif.C21
open SymVerif.UPoly

variable {R : Type} [CommRing R] [DecidableEq R]

/-- what the theorem needs to know about the leading-coefficient division -/
def DivOK (dv : R → R → Option R) : Prop :=
  ∀ x y, y ≠ 0 → (∀ q, dv x y = some q → x = y * q) ∧ (dv x y = none → ¬ ∃ q, x = y * q)

theorem divExactInt_ok : DivOK divExactInt := by
  intro x y hy
  unfold divExactInt
  constructor
  · intro q h
    split at h
    · rename_i hm
      have hd := Int.dvd_of_tmod_eq_zero hm
      have := Int.mul_tdiv_cancel' hd
      simp at h; rw [← h, this]
    · cases h
  · intro h
    split at h
    · cases h
    · rename_i hm
      rintro ⟨q, hq⟩
      apply hm
      rw [hq]
      exact Int.mul_tmod_right _ _

theorem divExactRat_ok : DivOK divExactRat := by
  intro x y hy
  unfold divExactRat
  constructor
  · intro q h
    simp at h
    rw [← h, mul_comm, div_mul_cancel₀ x hy]
  · intro h; cases h

/-- one step of the long division: the leading term cancels -/
theorem degree_step [IsDomain R] {a b b' : Dict R} (ha : Canon a) (hb : Canon b) (hb' : Canon b')
    (hae : a ≠ []) (hbe : b ≠ []) {k : Nat} (hk : k + UPoly.degree a = UPoly.degree b) {q : R}
    (hq : getLc b = getLc a * q) (hq0 : q ≠ 0)
    (hpoly : toPoly b' = toPoly b - toPoly a * monomial k q) :
    b' ≠ [] → UPoly.degree b' < UPoly.degree b := by
  intro hb'e
  have hpa := toPoly_ne_zero ha hae
  have hpb := toPoly_ne_zero hb hbe
  have hpb' := toPoly_ne_zero hb' hb'e
  have hmon : (monomial k q : R[X]) ≠ 0 := by
    rw [Ne, monomial_eq_zero_iff]; exact hq0
  have hnd : (toPoly a * monomial k q).natDegree = (toPoly b).natDegree := by
    rw [natDegree_mul hpa hmon, natDegree_monomial_eq _ hq0, natDegree_toPoly ha hae,
      natDegree_toPoly hb hbe]
    omega
  have hprod : toPoly a * monomial k q ≠ 0 := mul_ne_zero hpa hmon
  have hd : (toPoly b).degree = (toPoly a * monomial k q).degree := by
    rw [degree_eq_natDegree hpb, degree_eq_natDegree hprod, hnd]
  have hlc : (toPoly b).leadingCoeff
      = (toPoly a * monomial k q).leadingCoeff := by
    rw [leadingCoeff_mul, leadingCoeff_monomial, leadingCoeff_toPoly ha hae, leadingCoeff_toPoly hb hbe, hq]
  have hlt := degree_sub_lt_left hd hpb hlc
  rw [← hpoly] at hlt
  have := natDegree_lt_natDegree hpb' hlt
  rwa [natDegree_toPoly hb' hb'e, natDegree_toPoly hb hbe] at this

/-- From any state `(b, res)`: `a * res + b` never changes, and every key of `res` exceeds `degree b - degree a` (written
    `degree b < p.1 + degree a`: no truncated subtraction; asked only while `b ≠ []`, as `degree [] = 0`), so
    `res[b_deg - a_deg] = q` prepends. Fuel: `degree b + 1` rounds and one call for the empty `b`. -/
theorem dividesLoop_spec [IsDomain R] {mul : Dict R → Dict R → Except Err (Dict R)} (hmul : MulOK mul)
    {dv : R → R → Option R} (hdv : DivOK dv) {a : Dict R} (ha : Canon a) (hae : a ≠ []) (fuel : Nat) :
    ∀ (b res : Dict R), Canon b → Sorted res →
      (b ≠ [] → ∀ p ∈ res, UPoly.degree b < p.1 + UPoly.degree a) →
      (if b = [] then 1 else UPoly.degree b + 2) ≤ fuel →
      (∃ q, dividesLoop true mul dv a fuel b res = .ok (some q) ∧ Canon q ∧
          toPoly a * toPoly q = toPoly a * toPoly res + toPoly b) ∨
      (dividesLoop true mul dv a fuel b res = .ok none ∧ ¬ toPoly a ∣ toPoly b) := by
  have hpa := toPoly_ne_zero ha hae
  induction fuel with
  | zero =>
    intro b res hb hres hinv hfuel
    exfalso
    split at hfuel <;> omega
  | succ fuel ih =>
    intro b res hb hres hinv hfuel
    rw [dividesLoop]
    by_cases hbe : b = []
    · subst hbe
      left
      refine ⟨fromMap res, by simp [divCond], canon_fromMap hres, ?_⟩
      rw [toPoly_fromMap, toPoly_nil, add_zero]
    · have hbe' : b.isEmpty = false := by simpa [List.isEmpty_iff] using hbe
      have hpb := toPoly_ne_zero hb hbe
      simp only [hbe, if_false] at hfuel
      by_cases hdeg : UPoly.degree a ≤ UPoly.degree b
      · have hcond : divCond true a b = true := by simp [divCond, hbe', hdeg]
        simp only [hcond, if_true]
        have hlca := getLc_ne_zero ha hae
        obtain ⟨hd1, hd2⟩ := hdv (getLc b) (getLc a) hlca
        cases hdvq : dv (getLc b) (getLc a) with
        | none =>
          right  -- `lc a` does not divide `lc b`, and `lc (a * Q) = lc a * lc Q`
          refine ⟨rfl, ?_⟩
          rintro ⟨Q, hQ⟩
          apply hd2 hdvq
          refine ⟨Q.leadingCoeff, ?_⟩
          rw [← leadingCoeff_toPoly hb hbe, ← leadingCoeff_toPoly ha hae, hQ, leadingCoeff_mul]
        | some q =>
          have hq := hd1 q hdvq
          have hq0 : q ≠ 0 := by
            intro h; rw [h, mul_zero] at hq
            exact getLc_ne_zero hb hbe hq
          have hnlt : ¬ UPoly.degree b < UPoly.degree a := by omega
          simp only [hnlt, if_false]
          obtain ⟨k, hka⟩ : ∃ k, k + UPoly.degree a = UPoly.degree b := ⟨_, Nat.sub_add_cancel hdeg⟩
          rw [← Nat.eq_sub_of_add_eq hka]
          have hfront : ∀ p ∈ res, k < p.1 := by
            intro p hp
            have := hinv hbe p hp
            omega
          have hctmp : Canon ([(k, q)] : Dict R) := canon_singleton hq0
          have htmp : fromMap [(k, q)] = [(k, q)] := fromMap_of_noZero hctmp.2
          rw [htmp, setKey_front hfront]
          obtain ⟨prod, hprod, hcprod, hpprod⟩ := hmul a [(k, q)] ha hctmp
          simp only [hprod]
          have hcb' : Canon (sub b prod) := canon_sub hb hcprod.2
          have hpb' : toPoly (sub b prod) = toPoly b - toPoly a * monomial k q := by
            rw [toPoly_sub, hpprod, toPoly_singleton]
          have hstep := degree_step ha hb hcb' hae hbe hka hq hq0 hpb'
          have hsres' : Sorted ((k, q) :: res) := sorted_cons.2 ⟨hfront, hres⟩
          have hinv' : sub b prod ≠ [] → ∀ p ∈ (k, q) :: res,
              UPoly.degree (sub b prod) < p.1 + UPoly.degree a := by
            intro hne p hp
            have h1 := hstep hne
            rcases List.mem_cons.1 hp with h | h
            · rw [h]; simp only; omega
            · have := hinv hbe p h; omega
          have hfuel' : (if sub b prod = [] then 1 else UPoly.degree (sub b prod) + 2) ≤ fuel := by
            split
            · omega
            · rename_i hne
              have := hstep hne; omega
          rcases ih (sub b prod) ((k, q) :: res) hcb' hsres' hinv' hfuel' with ⟨q', h1, h2, h3⟩ | ⟨h1, h2⟩
          · left
            refine ⟨q', h1, h2, ?_⟩
            rw [h3, hpb', toPoly_cons]; ring
          · right
            refine ⟨h1, ?_⟩
            intro hdvd
            apply h2
            rw [hpb']
            exact dvd_sub hdvd (dvd_mul_right _ _)
      · have hcond : divCond true a b = false := by simp [divCond, hbe', hdeg]
        simp only [hcond, Bool.false_eq_true, if_false, hbe']
        right  -- `b ≠ 0` of smaller degree, but `deg (a * Q) ≥ deg a`
        refine ⟨trivial, ?_⟩
        rintro ⟨Q, hQ⟩
        have hQ0 : Q ≠ 0 := by
          intro h; rw [h, mul_zero] at hQ; exact hpb hQ
        have := natDegree_mul hpa hQ0
        rw [← hQ, natDegree_toPoly hb hbe, natDegree_toPoly ha hae] at this
        omega

/-- `divides_upoly(a, b, out)` as repaired, for a non-zero divisor: terminates within the fuel,
    never wraps, returns `true` with the exact quotient iff `a` divides `b`. -/
theorem divides_spec [IsDomain R] {mul : Dict R → Dict R → Except Err (Dict R)} (hmul : MulOK mul)
    {dv : R → R → Option R} (hdv : DivOK dv) {a b : Dict R} (ha : Canon a) (hb : Canon b) (hae : a ≠ []) :
    (∃ q, dividesWith true mul dv a b = .ok (some q) ∧ Canon q ∧ toPoly b = toPoly a * toPoly q) ∨
    (dividesWith true mul dv a b = .ok none ∧ ¬ toPoly a ∣ toPoly b) := by
  unfold dividesWith
  have hae' : a.isEmpty = false := by simpa [List.isEmpty_iff] using hae
  simp only [hae', Bool.false_eq_true, if_false]
  have hfuel : (if b = [] then 1 else UPoly.degree b + 2) ≤ UPoly.degree b + 2 := by split <;> omega
  rcases dividesLoop_spec hmul hdv ha hae (UPoly.degree b + 2) b [] hb sorted_nil
      (by intro _ p hp; cases hp) hfuel with ⟨q, h1, h2, h3⟩ | ⟨h1, h2⟩
  · left
    refine ⟨q, h1, h2, ?_⟩
    rw [h3, toPoly_nil, mul_zero, zero_add]
  · right; exact ⟨h1, h2⟩

end SymVerif.C21
