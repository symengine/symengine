import Mathlib.NumberTheory.LegendreSymbol.JacobiSymbol
import SymVerif.Model.NTheory
/-! The loop of the Kronecker/Jacobi model (`jacobiAux`, `jacobiOdd`) computes Mathlib's Jacobi symbol for odd positive
moduli; `kronecker` itself is read in `jacobi_spec` (Props/C32).  `jacobiAux_eq` follows Mathlib's
`fastJacobiSymAux.eq_jacobiSym` step by step; it is repeated because that definition is private. -/
namespace SymVerif.C32
open SymVerif.NTheory
open NumberTheorySymbols jacobiSym

theorem ite_xor_neg (P : Prop) [Decidable P] (flip : Bool) (x : ℤ) :
    (if (xor (decide P) flip) = true then -x else x) =
      if flip = true then -(if P then -x else x) else (if P then -x else x) := by
  by_cases h : P <;> cases flip <;> simp [h]

theorem jacobiAux_eq {a b : ℕ} {flip : Bool} (ha0 : 0 < a) (hb2 : b % 2 = 1) (hb1 : b > 1) :
    jacobiAux a b flip = if flip then -J(a | b) else J(a | b) := by
  induction a using Nat.strongRecOn generalizing b flip with | ind a IH =>
  rw [jacobiAux, dif_neg ha0.ne']
  by_cases ha4 : a % 4 = 0
  · rw [dif_pos ha4, IH (a / 4) (a.div_lt_self ha0 (by decide)) (Nat.div_pos (Nat.le_of_dvd ha0 (Nat.dvd_of_mod_eq_zero ha4)) (by decide)) hb2 hb1]
    simp only [Int.natCast_ediv, Nat.cast_ofNat, div_four_left (a := a) (mod_cast ha4) hb2]
  rw [dif_neg ha4]
  by_cases ha2 : a % 2 = 0
  · rw [dif_pos ha2, IH (a / 2) (a.div_lt_self ha0 (by decide)) (Nat.div_pos (Nat.le_of_dvd ha0 (Nat.dvd_of_mod_eq_zero ha2)) (by decide)) hb2 hb1]
    simp only [Int.natCast_ediv, Nat.cast_ofNat, ← even_odd (a := a) (mod_cast ha2) hb2]
    exact ite_xor_neg _ _ _
  rw [dif_neg ha2]
  by_cases ha1 : a = 1
  · rw [if_pos ha1, ha1, Nat.cast_one, one_left]
  rw [if_neg ha1]
  by_cases hba : b % a = 0
  · have : J(a | b) = 0 := by
      refine eq_zero_iff.mpr ⟨fun h ↦ absurd (h ▸ hb1) (by decide), ?_⟩
      rwa [Int.gcd_natCast_natCast, Nat.gcd_eq_left (Nat.dvd_of_mod_eq_zero hba)]
    rw [dif_pos hba, this, neg_zero, ite_self]
  rw [dif_neg hba, IH (b % a) (b.mod_lt ha0) (Nat.pos_of_ne_zero hba) (Nat.mod_two_ne_zero.mp ha2)
    (lt_of_le_of_ne ha0 (Ne.symm ha1))]
  simp only [Int.natCast_mod, ← mod_left]
  rw [← quadratic_reciprocity_if (Nat.mod_two_ne_zero.mp ha2) hb2]
  exact ite_xor_neg _ _ _

theorem jacobiOdd_eq (a : ℤ) {b : ℕ} (hb2 : b % 2 = 1) : jacobiOdd a b = J(a | b) := by
  unfold jacobiOdd
  by_cases hb1 : b = 1
  · rw [if_pos (beq_iff_eq.mpr hb1), hb1, one_right]
  · rw [if_neg (mt beq_iff_eq.mp hb1)]
    have hbgt : b > 1 := by omega
    have hnn : 0 ≤ a % (b : ℤ) := Int.emod_nonneg _ (Int.natCast_ne_zero.mpr (by omega))
    show (if ((a % (b : ℤ)).toNat == 0) = true then (0 : ℤ) else jacobiAux (a % (b : ℤ)).toNat b false) = J(a | b)
    by_cases hr : (a % (b : ℤ)).toNat = 0
    · have h0 : a % (b : ℤ) = 0 := by omega
      rw [if_pos (beq_iff_eq.mpr hr), mod_left, h0, zero_left hbgt]
    · rw [if_neg (mt beq_iff_eq.mp hr), jacobiAux_eq (Nat.pos_of_ne_zero hr) hb2 hbgt,
        if_neg Bool.false_ne_true, Int.toNat_of_nonneg hnn, ← mod_left]

end SymVerif.C32
