/-
The decoder inverts the encoder on well-formed object graphs with consistent addresses (C19),
for every address set / object map pair that agree (the state of the two archives).
-/
import SymVerif.Lemmas.C19Prim

namespace SymVerif.Codec

mutual
  /-- the node and everything below it conforms to the class layouts, its construction succeeds, the
      static cast at its slot (`c`) succeeds for the declared and for the constructed class, sizes fit -/
  def WfT (cap : Nat) : Cls → T → Prop
    | c, .mk a tc fs =>
      tc.toNat < count ∧
      (∃ ks, layoutOf (kindOfName (className tc)) = some ks ∧ WfFlds cap ks fs) ∧
      (∃ e, semT (.mk a tc fs) = .ok e ∧ isA c (Expr.className e) = true) ∧
      isA c (className tc) = true
  def WfFlds (cap : Nat) : List Kind → List Fld → Prop
    | [], [] => True
    | k :: ks, f :: fs => WfFld cap k f ∧ WfFlds cap ks fs
    | [], _ :: _ => False
    | _ :: _, [] => False
  def WfFld (cap : Nat) : Kind → Fld → Prop
    | .str, .str s => s.length < 2 ^ 62 ∧ (s.length ≤ 15 ∨ s.length + 1 ≤ cap)
    | .u64, .u64 _ => True
    | .f64, .f64 _ => True
    | .byte, .byte _ => True
    | .ptr c, .ptr t => WfT cap c t
    | .seq elem cs, .seq stride l =>
      stride = cs.length ∧ 0 < cs.length ∧
      (∃ n, l.length = n * cs.length ∧ n < 2 ^ 64 ∧ (elem > 0 → n * elem < 2 ^ 63 ∧ n * elem ≤ cap)) ∧
      WfSeq cap cs 0 l
    | _, _ => False
  def WfSeq (cap : Nat) (cs : List Cls) : Nat → List T → Prop
    | _, [] => True
    | j, t :: ts => WfT cap (cs.getD (j % cs.length) .basic) t ∧ WfSeq cap cs (j + 1) ts
end

mutual
  /-- every node of the graph satisfies `U` -/
  def AllT (U : T → Prop) : T → Prop
    | .mk a tc fs => U (.mk a tc fs) ∧ AllFlds U fs
  def AllFlds (U : T → Prop) : List Fld → Prop
    | [] => True
    | f :: fs => AllFld U f ∧ AllFlds U fs
  def AllFld (U : T → Prop) : Fld → Prop
    | .ptr t => AllT U t
    | .seq _ l => AllTs U l
    | _ => True
  def AllTs (U : T → Prop) : List T → Prop
    | [] => True
    | t :: ts => AllT U t ∧ AllTs U ts
end

/-- address consistency of a universe of nodes: one address, one object (`Consistent l` of C19Nodes is this for
    `U := (· ∈ l)`, with the binders in another order) -/
def Cons (U : T → Prop) : Prop := ∀ x y, U x → U y → x.addr = y.addr → x = y

/-- the encoder's address set and the decoder's object map describe the same objects -/
structure Inv (U : T → Prop) (seen : List UInt64) (m : Map) : Prop where
  keys : ∀ a, seen.contains a = true ↔ ∃ v, m.lookup a = some v
  vals : ∀ a v, m.lookup a = some v → U v ∧ v.addr = a

theorem Inv.nil (U : T → Prop) : Inv U [] [] := by
  constructor
  · intro a; simp [List.lookup]
  · intro a v h; simp [List.lookup] at h

theorem Inv.cons {U : T → Prop} {seen : List UInt64} {m : Map} (h : Inv U seen m) (t : T) (hu : U t) :
    Inv U (t.addr :: seen) ((t.addr, t) :: m) := by
  constructor
  · intro a
    rw [List.contains_cons, List.lookup_cons]
    cases hq : a == t.addr
    · exact h.keys a
    · exact ⟨fun _ => ⟨t, rfl⟩, fun _ => rfl⟩
  · intro a v hv
    rw [List.lookup_cons] at hv
    cases hq : a == t.addr
    · rw [hq] at hv; exact h.vals a v hv
    · rw [hq] at hv
      cases hv
      exact ⟨hu, (eq_of_beq hq).symm⟩

theorem encT_seen {a : UInt64} {seen : List UInt64} (h : a ∈ seen) (tc : UInt8) (fs : List Fld) :
    encT (.mk a tc fs) seen = (le64 a ++ [0], seen) := by
  simp only [encT, List.contains_iff_mem, h, if_true]

theorem encT_fresh {a : UInt64} {seen : List UInt64} (h : a ∉ seen) (tc : UInt8) (fs : List Fld) :
    encT (.mk a tc fs) seen = (le64 a ++ [1, tc] ++ (encFlds fs seen).1, a :: (encFlds fs seen).2) := by
  simp only [encT, List.contains_iff_mem, h, if_false]

theorem encT_addr_mem (t : T) (seen : List UInt64) : t.addr ∈ (encT t seen).2 := by
  cases t with
  | mk a tc fs =>
    by_cases hm : a ∈ seen
    · rw [encT_seen hm]; exact hm
    · rw [encT_fresh hm]; exact List.mem_cons_self

theorem castRef_of_wf {cap : Nat} {c : Cls} {t : T} (h : WfT cap c t) : castRef c t = true := by
  cases t with
  | mk a tc fs =>
    obtain ⟨_, _, ⟨e, hs, hd⟩, _⟩ := h
    simp only [castRef, hs, hd]

/-- the byte 0 after the address is `first_seen`: a back-reference, resolved in the object map -/
theorem decT_backref {cap : Nat} {c : Cls} {m : Map} {a : UInt64} {t : T} (hl : m.lookup a = some t)
    (hc : castRef c t = true) (f : Nat) (rest : Bytes) :
    decT ⟨false, cap⟩ (f + 1) c m (le64 a ++ 0 :: rest) = .ok (t, m, rest) := by
  simp only [decT, rdNat_le64, rdNat_byte, UInt64.ofNat_toNat, hl, hc]
  rfl

theorem Inv.lookup {U : T → Prop} (hU : Cons U) {seen : List UInt64} {m : Map} (hi : Inv U seen m) {t : T}
    (hut : U t) (hs : t.addr ∈ seen) : m.lookup t.addr = some t := by
  obtain ⟨v, hv⟩ := (hi.keys _).1 (List.contains_iff_mem.2 hs)
  obtain ⟨huv, hva⟩ := hi.vals _ v hv
  rw [hv, hU v t huv hut hva]

section
set_option linter.unusedSectionVars false
variable (cap : Nat) (U : T → Prop) (hU : Cons U)

/-- what the four mutually recursive statements say about one decoding function -/
def GoodRes {α : Type} (r : R α) (x : α) (seen' : List UInt64) (rest : Bytes) : Prop :=
  ∃ m', r = .ok (x, m', rest) ∧ Inv U seen' m'

-- the fuel counts nesting levels and a level costs at least one byte, so the length of the encoding suffices
include hU in
mutual
  theorem decT_encT : ∀ (t : T) (c : Cls) (seen : List UInt64) (m : Map) (rest : Bytes) (fuel : Nat),
      WfT cap c t → AllT U t → Inv U seen m → (encT t seen).1.length ≤ fuel →
      GoodRes U (decT ⟨false, cap⟩ fuel c m ((encT t seen).1 ++ rest)) t (encT t seen).2 rest
    | .mk a tc fs, c, seen, m, rest, fuel, hw, ha, hi, hf => by
      by_cases hs : a ∈ seen
      · -- a back-reference is 9 bytes: 8 of address and the `first_seen` byte
        rw [encT_seen hs] at hf ⊢
        obtain ⟨f, rfl⟩ : ∃ f, fuel = f + 1 := ⟨fuel - 1, by simp [le64, leN_length] at hf; omega⟩
        refine ⟨m, ?_, hi⟩
        rw [List.append_assoc]
        exact decT_backref (hi.lookup hU ha.1 hs) (castRef_of_wf hw) f rest
      · obtain ⟨htc, ⟨ks, hlay, hfs⟩, ⟨e, hsem, hdyn⟩, hdecl⟩ := hw
        rw [encT_fresh hs] at hf ⊢
        -- a fresh node costs 10 bytes before its fields: address, `first_seen`, type byte
        have hlen : (encFlds fs seen).1.length + 10 ≤ fuel := by simp [le64, leN_length] at hf; omega
        obtain ⟨f, rfl⟩ : ∃ f, fuel = f + 1 := ⟨fuel - 1, by omega⟩
        obtain ⟨m1, hdec, hi1⟩ := decFlds_encFlds fs ks seen m rest f hfs ha.2 hi (by omega)
        refine ⟨_, ?_, Inv.cons hi1 (.mk a tc fs) ha.1⟩
        have htc' : ¬ (tc.toNat ≥ count) := by omega
        simp only [decT, List.append_assoc, rdNat_le64, List.cons_append, List.nil_append, rdNat_byte]
        -- besides the checks, `simp` reads back address and type byte (`ofNat_toNat`): the node is registered as `(t.addr, t)`
        simp [htc', hlay, hdec, hsem, hdecl, T.addr]
  theorem decFlds_encFlds : ∀ (fs : List Fld) (ks : List Kind) (seen : List UInt64) (m : Map) (rest : Bytes) (f : Nat),
      WfFlds cap ks fs → AllFlds U fs → Inv U seen m → (encFlds fs seen).1.length ≤ f →
      GoodRes U (decFlds ⟨false, cap⟩ (decT ⟨false, cap⟩ f) ks m ((encFlds fs seen).1 ++ rest)) fs (encFlds fs seen).2 rest
    | [], ks, seen, m, rest, f, hw, _, hi, _ => by
      cases ks with
      | nil => exact ⟨m, rfl, hi⟩
      | cons k ks => exact False.elim hw
    | fd :: fs, ks, seen, m, rest, f, hw, ha, hi, hf => by
      cases ks with
      | nil => exact False.elim hw
      | cons k ks =>
        simp only [encFlds, List.length_append] at hf ⊢
        obtain ⟨m1, hd1, hi1⟩ := decFld_encFld fd k seen m ((encFlds fs (encFld fd seen).2).1 ++ rest) f hw.1 ha.1 hi
          (by omega)
        obtain ⟨m2, hd2, hi2⟩ := decFlds_encFlds fs ks (encFld fd seen).2 m1 rest f hw.2 ha.2 hi1 (by omega)
        exact ⟨m2, by simp only [decFlds, List.append_assoc, hd1, hd2], hi2⟩
  theorem decFld_encFld : ∀ (fd : Fld) (k : Kind) (seen : List UInt64) (m : Map) (rest : Bytes) (f : Nat),
      WfFld cap k fd → AllFld U fd → Inv U seen m → (encFld fd seen).1.length ≤ f →
      GoodRes U (decFld ⟨false, cap⟩ (decT ⟨false, cap⟩ f) k m ((encFld fd seen).1 ++ rest)) fd (encFld fd seen).2 rest
    | .str s, k, seen, m, rest, f, hw, _, hi, _ => by
      cases k with
      | str => exact ⟨m, by simp only [decFld, encFld, rdStr_encStr cap s rest hw.1 hw.2], hi⟩
      | _ => exact False.elim hw
    | .u64 v, k, seen, m, rest, f, hw, _, hi, _ => by
      cases k with
      | u64 => exact ⟨m, by simp only [decFld, encFld, rdNat_le64, UInt64.ofNat_toNat], hi⟩
      | _ => exact False.elim hw
    | .f64 v, k, seen, m, rest, f, hw, _, hi, _ => by
      cases k with
      | f64 => exact ⟨m, by simp only [decFld, encFld, rdNat_le64, UInt64.ofNat_toNat], hi⟩
      | _ => exact False.elim hw
    | .byte b, k, seen, m, rest, f, hw, _, hi, _ => by
      cases k with
      | byte => exact ⟨m, by simp only [decFld, encFld, List.cons_append, List.nil_append, rdNat_byte, UInt8.ofNat_toNat], hi⟩
      | _ => exact False.elim hw
    | .ptr t, k, seen, m, rest, f, hw, ha, hi, hf => by
      cases k with
      | ptr c =>
        obtain ⟨m1, hd, hi1⟩ := decT_encT t c seen m rest f hw ha hi hf
        exact ⟨m1, by simp only [decFld, encFld, hd], hi1⟩
      | _ => exact False.elim hw
    | .seq stride l, k, seen, m, rest, f, hw, ha, hi, hf => by
      cases k with
      | seq elem cs =>
        obtain ⟨hst, hpos, ⟨n, hn, hn64, hel⟩, hseq⟩ := hw
        subst hst
        have hdiv : l.length / cs.length = n := by rw [hn]; exact Nat.mul_div_cancel n hpos
        simp only [encFld, hdiv, List.length_append] at hf ⊢
        obtain ⟨m1, hd, hi1⟩ := decSeq_encTs l cs 0 seen m rest f hseq ha hi (by omega)
        refine ⟨m1, ?_, hi1⟩
        have h1 : ¬ (elem > 0 ∧ n * elem ≥ 2 ^ 63) := fun h => by have := hel h.1; omega
        have h2 : ¬ (elem > 0 ∧ n * elem > cap) := fun h => by have := hel h.1; omega
        simp only [decFld, List.append_assoc, rdNat_leN 8 n _ (by omega), h1, h2, if_false, ← hn, hd]
      | _ => exact False.elim hw
  theorem decSeq_encTs : ∀ (l : List T) (cs : List Cls) (j : Nat) (seen : List UInt64) (m : Map) (rest : Bytes) (f : Nat),
      WfSeq cap cs j l → AllTs U l → Inv U seen m → (encTs l seen).1.length ≤ f →
      GoodRes U (decSeq (decT ⟨false, cap⟩ f) cs l.length j m ((encTs l seen).1 ++ rest)) l (encTs l seen).2 rest
    | [], cs, j, seen, m, rest, f, _, _, hi, _ => ⟨m, rfl, hi⟩
    | t :: ts, cs, j, seen, m, rest, f, hw, ha, hi, hf => by
      simp only [encTs, List.length_append] at hf ⊢
      obtain ⟨m1, hd1, hi1⟩ := decT_encT t _ seen m ((encTs ts (encT t seen).2).1 ++ rest) f hw.1 ha.1 hi (by omega)
      obtain ⟨m2, hd2, hi2⟩ := decSeq_encTs ts cs (j + 1) (encT t seen).2 m1 rest f hw.2 ha.2 hi1 (by omega)
      exact ⟨m2, by simp only [List.length_cons, decSeq, List.append_assoc, hd1, hd2], hi2⟩
end

end

end SymVerif.Codec
