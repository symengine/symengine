import SymVerif.Lemmas.C25Sort
/-!
C25 — `csr_sum_duplicates`: the in-place compaction replaces every row by `dedupL` of it (runs of
equal columns summed).  `dedupL` keeps the per-column sums and makes a (non-strictly) sorted row
strictly sorted.  `RowsFrom` — rows appended one by one to an output whose pointer array is filled on
the way — is the invariant of this row loop and of the one of the row-wise merge (C25Binop).
-/
namespace SymVerif.C25
open SymVerif.CSR Finset

/-- the rows `[i, row)` have been appended to an output `(p', j', x')`; `(p, j, x)`: the arrays when the
loop reaches row `i`, with `nnz` positions stored.  Pointers up to `i` (the loop writes `p[r + 1]` on
finishing row `r`) and positions below `nnz` are kept; each new row `r` satisfies `P r` -/
structure RowsFrom (i row nnz nnz' : Nat) (p p' j j' : Array Nat) (x x' : Array Q)
    (P : Nat → List (Nat × Q) → Prop) : Prop where
  psize : p'.size = row + 1
  pkeep : ∀ r, r ≤ i → p'[r]! = p[r]!
  keep : ∀ k, k < nnz → j'[k]! = j[k]! ∧ x'[k]! = x[k]!
  plast : p'[row]! = nnz'
  mono : ∀ a b, i ≤ a → a ≤ b → b ≤ row → p'[a]! ≤ p'[b]!
  rows : ∀ r, i ≤ r → r < row → P r (seg j' x' p'[r]! p'[r + 1]!)

namespace RowsFrom

theorem nil {row nnz : Nat} {p j : Array Nat} {x : Array Q} {P : Nat → List (Nat × Q) → Prop}
    (hps : p.size = row + 1) (hp : p[row]! = nnz) : RowsFrom row row nnz nnz p p j j x x P :=
  { psize := hps, pkeep := fun _ _ => rfl, keep := fun _ _ => ⟨rfl, rfl⟩, plast := hp,
    mono := fun a b h1 h2 h3 => by rw [Nat.le_antisymm h2 (Nat.le_trans h3 h1)],
    rows := fun r a b => absurd b (Nat.not_lt.mpr a) }

theorem cons {i row nnz nnz1 nnz' : Nat} {p p' j j1 j' : Array Nat} {x x1 x' : Array Q}
    {P : Nat → List (Nat × Q) → Prop} (h1 : i + 1 < p.size)
    (H : RowsFrom (i + 1) row nnz1 nnz' (p.set (i + 1) nnz1 h1) p' j1 j' x1 x' P)
    (hpi : p[i]! = nnz) (hle : nnz ≤ nnz1)
    (hkeep : ∀ k, k < nnz → j1[k]! = j[k]! ∧ x1[k]! = x[k]!) (hrow : P i (seg j1 x1 nnz nnz1)) :
    RowsFrom i row nnz nnz' p p' j j' x x' P := by
  have hpi' : p'[i]! = nnz := by
    rw [H.pkeep i (Nat.le_succ i), set_get!_ne _ _ _ _ (Nat.ne_of_lt (Nat.lt_succ_self i)), hpi]
  have hpi1' : p'[i + 1]! = nnz1 := by rw [H.pkeep (i + 1) (Nat.le_refl _), set_get!_eq]
  refine { psize := H.psize, pkeep := fun r hr => ?_, keep := fun k hk => ?_, plast := H.plast,
           mono := fun a b ha hab hb => ?_, rows := fun r hr1 hr2 => ?_ }
  · rw [H.pkeep r (Nat.le_succ_of_le hr), set_get!_ne _ _ _ _ (Nat.ne_of_lt (Nat.lt_succ_of_le hr))]
  · exact both_trans (H.keep k (Nat.lt_of_lt_of_le hk hle)) (hkeep k hk)
  · rcases Nat.lt_or_eq_of_le ha with hlt | heq
    · exact H.mono a b hlt hab hb
    · subst heq
      rcases Nat.lt_or_eq_of_le hab with hlt | heq
      · have hnb := H.mono (i + 1) b (Nat.le_refl _) hlt hb
        rw [hpi1'] at hnb
        rw [hpi']
        exact Nat.le_trans hle hnb
      · rw [heq]
  · rcases Nat.lt_or_eq_of_le hr1 with hlt | heq
    · exact H.rows r hlt hr2
    · subst heq
      rw [hpi', hpi1', seg_congr (fun k _ hk => H.keep k hk)]
      exact hrow

/-- `j''`, `x''`: the output arrays cut to their `nnz'` used positions, as by the final `resize` of
`csr_sum_duplicates`.  The result is canonical for every `col` that bounds its rows. -/
theorem canon {row nnz' : Nat} {p p' j j' j'' : Array Nat} {x x' x'' : Array Q}
    {P : Nat → List (Nat × Q) → Prop} (H : RowsFrom 0 row 0 nnz' p p' j j' x x' P) (hp0 : p[0]! = 0)
    (hj : j''.size = nnz') (hx : x''.size = nnz')
    (hag : ∀ k, k < nnz' → j''[k]! = j'[k]! ∧ x''[k]! = x'[k]!) :
    (∀ r, r < row → P r (seg j'' x'' p'[r]! p'[r + 1]!)) ∧
      ∀ col, (∀ r, r < row → RowOk col (seg j'' x'' p'[r]! p'[r + 1]!)) →
        CanonCSR { row := row, col := col, p := p', j := j'', x := x'' } := by
  have hend : ∀ r, r < row → p'[r + 1]! ≤ nnz' := fun r hr => by
    rw [← H.plast]; exact H.mono (r + 1) row (Nat.zero_le _) hr (Nat.le_refl _)
  refine ⟨fun r hr => ?_, fun col hrows => CanonCSR.of_rows H.psize (hx.trans hj.symm)
    ((H.pkeep 0 (Nat.le_refl _)).trans hp0) (H.plast.trans hj.symm)
    (fun a b hab hb => H.mono a b (Nat.zero_le _) hab hb) hrows⟩
  rw [seg_congr (fun k _ hk => hag k (Nat.lt_of_lt_of_le hk (hend r hr)))]
  exact H.rows r (Nat.zero_le _) hr

end RowsFrom

/-- summing runs of equal columns; `c`, `v`: column and sum so far of the run being read -/
def dedupAcc (c : Nat) (v : Q) : List (Nat × Q) → List (Nat × Q)
  | [] => [(c, v)]
  | a :: l => if a.1 = c then dedupAcc c (v + a.2) l else (c, v) :: dedupAcc a.1 a.2 l

/-- what `csr_sum_duplicates` makes of one row -/
def dedupL : List (Nat × Q) → List (Nat × Q)
  | [] => []
  | a :: l => dedupAcc a.1 a.2 l

theorem rowSum_dedupAcc (c' : Nat) : ∀ (l : List (Nat × Q)) (c : Nat) (v : Q),
    rowSum c' (dedupAcc c v l) = pairVal c' (c, v) + rowSum c' l := by
  intro l
  induction l with
  | nil => intro c v; simp [dedupAcc]
  | cons a l ih =>
    intro c v
    unfold dedupAcc
    by_cases h : a.1 = c
    · obtain ⟨a1, a2⟩ := a
      subst h
      rw [if_pos rfl, ih, rowSum_cons, pairVal_add, add_assoc]
    · rw [if_neg h, rowSum_cons, ih, rowSum_cons]

theorem rowSum_dedupL (c : Nat) (l : List (Nat × Q)) : rowSum c (dedupL l) = rowSum c l := by
  cases l with
  | nil => rfl
  | cons a l => exact rowSum_dedupAcc c l a.1 a.2

/-- the lower bound `c ≤ a.1` is there for the induction: when a new run starts at `a.1 > c`, all that is
emitted later is `≥ a.1`, so `(c, v)` may stand in front -/
theorem dedupAcc_rowOk {col : Nat} : ∀ (l : List (Nat × Q)) (c : Nat) (v : Q), c < col →
    (∀ a ∈ l, c ≤ a.1 ∧ a.1 < col) → l.Pairwise (fun a b => a.1 ≤ b.1) →
    RowOk col (dedupAcc c v l) ∧ ∀ a ∈ dedupAcc c v l, c ≤ a.1 := by
  intro l
  induction l with
  | nil => intro c v hc _ _; simp [dedupAcc, RowOk, hc]
  | cons a l ih =>
    intro c v hc hl hp
    obtain ⟨hp1, hp2⟩ := List.pairwise_cons.mp hp
    have hl' := fun b hb => hl b (List.mem_cons_of_mem _ hb)
    unfold dedupAcc
    by_cases h : a.1 = c
    · rw [if_pos h]
      exact ih c (v + a.2) hc hl' hp2
    · rw [if_neg h]
      obtain ⟨ha1, ha2⟩ := hl a List.mem_cons_self
      have hlt : c < a.1 := Nat.lt_of_le_of_ne ha1 (Ne.symm h)
      obtain ⟨⟨hsorted, hcols⟩, hge⟩ := ih a.1 a.2 ha2 (fun b hb => ⟨hp1 b hb, (hl' b hb).2⟩) hp2
      have hge : ∀ b ∈ dedupAcc a.1 a.2 l, a.1 ≤ b.1 := hge
      refine ⟨⟨List.pairwise_cons.mpr ⟨fun b hb => Nat.lt_of_lt_of_le hlt (hge b hb), hsorted⟩,
        List.forall_mem_cons.mpr ⟨hc, hcols⟩⟩,
        List.forall_mem_cons.mpr ⟨Nat.le_refl c, fun b hb => Nat.le_trans ha1 (hge b hb)⟩⟩

theorem RowOk.dedupL {col : Nat} {l : List (Nat × Q)} (hp : l.Pairwise (fun a b => a.1 ≤ b.1))
    (hc : ∀ a ∈ l, a.1 < col) : RowOk col (dedupL l) := by
  cases l with
  | nil => exact ⟨List.Pairwise.nil, fun _ h => absurd h List.not_mem_nil⟩
  | cons a l =>
    obtain ⟨hp1, hp2⟩ := List.pairwise_cons.mp hp
    exact (dedupAcc_rowOk l a.1 a.2 (hc a List.mem_cons_self)
      (fun b hb => ⟨hp1 b hb, hc b (List.mem_cons_of_mem _ hb)⟩) hp2).1

theorem dupRun_done (j : Array Nat) (x : Array Q) (rowEnd c f : Nat) (acc : Q) :
    dupRun j x rowEnd c f rowEnd acc = .ok (rowEnd, acc) := by
  cases f <;> simp [dupRun]

theorem dupRow_done (rowEnd f nnz : Nat) (j : Array Nat) (x : Array Q) :
    dupRow rowEnd f rowEnd nnz j x = .ok (nnz, j, x) := by
  cases f <;> simp [dupRow]

theorem dupRun_spec (j : Array Nat) (x : Array Q) (rowEnd c : Nat) (hj : rowEnd ≤ j.size)
    (hx : rowEnd ≤ x.size) :
    ∀ f jj acc, rowEnd ≤ jj + f → jj ≤ rowEnd →
      ∃ jj' acc', dupRun j x rowEnd c f jj acc = .ok (jj', acc') ∧ jj ≤ jj' ∧ jj' ≤ rowEnd ∧
        dedupAcc c acc (seg j x jj rowEnd) = (c, acc') :: dedupL (seg j x jj' rowEnd) := by
  intro f
  induction f with
  | zero =>
    intro jj acc h1 h2
    obtain rfl : jj = rowEnd := Nat.le_antisymm h2 h1
    exact ⟨jj, acc, dupRun_done .., Nat.le_refl _, h2, by rw [seg_self]; rfl⟩
  | succ f ih =>
    intro jj acc h1 h2
    rcases Nat.lt_or_eq_of_le h2 with hlt | rfl
    · unfold dupRun
      have a1 : jj < j.size := Nat.lt_of_lt_of_le hlt hj
      have a2 : jj < x.size := Nat.lt_of_lt_of_le hlt hx
      simp only [hlt, if_true, rd_lt a1, ok_bind]
      by_cases hc : j[jj]! = c
      · simp only [hc, if_true, rd_lt a2, ok_bind]
        obtain ⟨jj', acc', e, g1, g2, g3⟩ := ih (jj + 1) (acc + x[jj]!) (by omega) hlt
        exact ⟨jj', acc', e, Nat.le_of_succ_le g1, g2, by rw [seg_cons hlt, dedupAcc, if_pos hc, g3]⟩
      · simp only [hc, if_false, pure_ok]
        exact ⟨jj, acc, rfl, Nat.le_refl _, h2, by rw [seg_cons hlt, dedupAcc, if_neg hc]; rfl⟩
    · exact ⟨jj, acc, dupRun_done .., Nat.le_refl _, h2, by rw [seg_self]; rfl⟩

theorem dupRow_spec (rowEnd : Nat) :
    ∀ f jj nnz (j : Array Nat) (x : Array Q), rowEnd ≤ jj + f → nnz ≤ jj → jj ≤ rowEnd →
      rowEnd ≤ j.size → rowEnd ≤ x.size →
      ∃ nnz' j' x', dupRow rowEnd f jj nnz j x = .ok (nnz', j', x') ∧ nnz ≤ nnz' ∧ nnz' ≤ rowEnd ∧
        j'.size = j.size ∧ x'.size = x.size ∧
        (∀ k, k < nnz ∨ rowEnd ≤ k → j'[k]! = j[k]! ∧ x'[k]! = x[k]!) ∧
        seg j' x' nnz nnz' = dedupL (seg j x jj rowEnd) := by
  intro f
  induction f with
  | zero =>
    intro jj nnz j x h1 h2 h3 _ _
    obtain rfl : jj = rowEnd := Nat.le_antisymm h3 h1
    exact ⟨nnz, j, x, dupRow_done .., Nat.le_refl _, h2, rfl, rfl, fun _ _ => ⟨rfl, rfl⟩, by
      rw [seg_self, seg_self]; rfl⟩
  | succ f ih =>
    intro jj nnz j x h1 h2 h3 hjs hxs
    rcases Nat.lt_or_eq_of_le h3 with hlt | rfl
    · unfold dupRow
      have a1 : jj < j.size := Nat.lt_of_lt_of_le hlt hjs
      have a2 : jj < x.size := Nat.lt_of_lt_of_le hlt hxs
      simp only [hlt, if_true, rd_lt a1, rd_lt a2, ok_bind]
      obtain ⟨jj', acc, e, g1, g2, g3⟩ :=
        dupRun_spec j x rowEnd j[jj]! hjs hxs (rowEnd - (jj + 1)) (jj + 1) x[jj]!
          (Nat.le_of_eq (Nat.add_sub_cancel' hlt).symm) hlt
      have b1 : nnz < j.size := Nat.lt_of_le_of_lt h2 a1
      have b2 : nnz < x.size := Nat.lt_of_le_of_lt h2 a2
      simp only [e, ok_bind, wr_lt _ b1, wr_lt _ b2]
      have hnj : nnz < jj' := Nat.lt_of_le_of_lt h2 g1
      obtain ⟨nnz', j', x', e2, r1, r2, r3, r4, r5, r6⟩ :=
        ih jj' (nnz + 1) (j.set nnz j[jj]! b1) (x.set nnz acc b2) (by omega) hnj g2
          (by rw [Array.size_set]; exact hjs) (by rw [Array.size_set]; exact hxs)
      rw [Array.size_set] at r3 r4
      -- the write at `nnz` lies before the part of the input still to be read
      have hin : seg (j.set nnz j[jj]! b1) (x.set nnz acc b2) jj' rowEnd = seg j x jj' rowEnd :=
        seg_congr (fun k hk _ => set_both_ne _ _ b1 b2 (Nat.ne_of_gt (Nat.lt_of_lt_of_le hnj hk)))
      refine ⟨nnz', j', x', e2, Nat.le_of_succ_le r1, r2, r3, r4, fun k hk => ?_, ?_⟩
      · exact both_trans (r5 k (hk.imp Nat.lt_succ_of_lt id)) (set_both_ne _ _ b1 b2 (by omega))
      · -- the pair just written at `nnz`, then what the recursive call appended: `dedupL` of a cons
        rw [seg_cons_written b1 b2 r1 (r5 nnz (Or.inl (Nat.lt_succ_self nnz))), r6, hin, ← g3,
          seg_cons hlt]
        rfl
    · exact ⟨nnz, j, x, dupRow_done .., Nat.le_refl _, h2, rfl, rfl, fun _ _ => ⟨rfl, rfl⟩, by
        rw [seg_self, seg_self]; rfl⟩

/-- the row loop of `csr_sum_duplicates`; `p0, j0, x0` are the arrays before the call (ghost) -/
theorem dupRows_spec (p0 j0 : Array Nat) (x0 : Array Q) (row : Nat)
    (hmono : MonoTo p0 row) :
    ∀ n i nnz (p j : Array Nat) (x : Array Q), i + n = row →
      nnz ≤ p0[i]! → p.size = row + 1 → (hjs : p0[row]! ≤ j.size) → (hxs : p0[row]! ≤ x.size) →
      (hsame : ∀ k, p0[i]! ≤ k → j[k]! = j0[k]! ∧ x[k]! = x0[k]!) →
      (hprest : ∀ r, i < r → r ≤ row → p[r]! = p0[r]!) → (hpi : p[i]! = nnz) →
      ∃ nnz' p' j' x', dupRows n i p0[i]! nnz p j x = .ok (nnz', p', j', x') ∧
        j'.size = j.size ∧ x'.size = x.size ∧ nnz' ≤ p0[row]! ∧
        RowsFrom i row nnz nnz' p p' j j' x x'
          (fun r l => l = dedupL (seg j0 x0 p0[r]! p0[r + 1]!)) := by
  intro n
  induction n with
  | zero =>
    intro i nnz p j x hin hnz hps _ _ _ _ hpi
    have : i = row := hin
    subst this
    exact ⟨nnz, p, j, x, rfl, rfl, rfl, hnz, RowsFrom.nil hps hpi⟩
  | succ n ih =>
    intro i nnz p j x hin hnz hps hjs hxs hsame hprest hpi
    have hi : i < row := by omega
    have hin' : i + 1 + n = row := by omega
    have hi1 : i + 1 < p.size := hps ▸ Nat.succ_lt_succ hi
    have hpe : p[i + 1]! = p0[i + 1]! := hprest (i + 1) (Nat.lt_succ_self i) hi
    obtain ⟨hm1, hm2⟩ := hmono.row_le hi
    unfold dupRows
    simp only [rd_lt hi1, ok_bind, hpe]
    obtain ⟨nnz1, j1, x1, e1, r1, r2, r3, r4, r5, r6⟩ :=
      dupRow_spec p0[i + 1]! (p0[i + 1]! - p0[i]!) p0[i]! nnz j x
        (Nat.le_of_eq (Nat.add_sub_cancel' hm1).symm) hnz hm1 (Nat.le_trans hm2 hjs)
        (Nat.le_trans hm2 hxs)
    simp only [e1, ok_bind, wr_lt _ hi1]
    obtain ⟨nnz', p', j', x', e2, sj, sx, hle, H⟩ :=
      ih (i + 1) nnz1 (p.set (i + 1) nnz1 hi1) j1 x1 hin' r2
        (by rw [Array.size_set]; exact hps) (hjs := by rw [r3]; exact hjs) (hxs := by rw [r4]; exact hxs)
        (hsame := fun k hk => both_trans (r5 k (Or.inr hk)) (hsame k (Nat.le_trans hm1 hk)))
        (hprest := fun r hr1 hr2 => by
          rw [set_get!_ne _ _ _ _ (Nat.ne_of_gt hr1)]
          exact hprest r (Nat.lt_of_succ_lt hr1) hr2)
        (hpi := set_get!_eq ..)
    exact ⟨nnz', p', j', x', e2, sj.trans r3, sx.trans r4, hle,
      H.cons hi1 hpi r1 (fun k hk => r5 k (Or.inl hk))
        (r6.trans (congrArg dedupL (seg_congr (fun k hk _ => hsame k hk))))⟩

theorem sumDuplicates_rows (p j : Array Nat) (x : Array Q) (row : Nat)
    (hps : p.size = row + 1) (hp0 : p[0]! = 0)
    (hmono : MonoTo p row)
    (hjs : p[row]! ≤ j.size) (hxs : p[row]! ≤ x.size) :
    ∃ p' j' x', sumDuplicates p j x row = .ok (p', j', x') ∧
      (∀ r, r < row → seg j' x' p'[r]! p'[r + 1]! = dedupL (seg j x p[r]! p[r + 1]!)) ∧
      ∀ col, (∀ r, r < row → RowOk col (seg j' x' p'[r]! p'[r + 1]!)) →
        CanonCSR { row := row, col := col, p := p', j := j', x := x' } := by
  obtain ⟨nnz', p', j', x', e, sj, sx, hle, H⟩ :=
    dupRows_spec p j x row hmono row 0 0 p j x (Nat.zero_add _) (Nat.zero_le _)
      hps hjs hxs (fun _ _ => ⟨rfl, rfl⟩) (fun _ _ _ => rfl) hp0
  rw [hp0] at e
  unfold sumDuplicates
  simp only [e, ok_bind, pure_ok]
  have hn1 : nnz' ≤ j'.size := by rw [sj]; exact Nat.le_trans hle hjs
  have hn2 : nnz' ≤ x'.size := by rw [sx]; exact Nat.le_trans hle hxs
  exact ⟨_, _, _, rfl, H.canon hp0
    (by rw [Array.size_extract, Nat.min_eq_left hn1, Nat.sub_zero])
    (by rw [Array.size_extract, Nat.min_eq_left hn2, Nat.sub_zero])
    (fun k hk => ⟨extract_get! j' nnz' k hk, extract_get! x' nnz' k hk⟩)⟩

end SymVerif.C25
