import Mathlib.Data.Nat.Factorization.Basic
import Mathlib.GroupTheory.OrderOfElement
import Mathlib.Data.ZMod.Basic
import SymVerif.Lemmas.C32ZMod
import SymVerif.Lemmas.C32Arith
/-! `multiplicative_order`: from a multiple `c` of the order and its factor list the loop settles one prime of `c`
at a time, leaving the least power of it for which `x ^ c = 1` still holds
(`orderLoop_spec`); the code starts from `λ(n)` (`orderLoop_carmichael`). -/
namespace SymVerif.C32
open SymVerif.NTheory

section
variable {nn : Nat} (hnn : 2 ≤ nn) (x : ZMod nn)
include hnn

/-- `while (t != 1) { t = t^p; order *= p; }` finds the least `j'` with `x^(m p^j') = 1`, given that
    `j + f` is such an exponent. -/
theorem orderInner_spec {p : Nat} (m : Nat) : ∀ (f j : Nat) (t : Nat), t < nn → (t : ZMod nn) = x ^ (m * p ^ j) →
    (∀ i < j, x ^ (m * p ^ i) ≠ 1) → x ^ (m * p ^ (j + f)) = 1 →
    ∃ j', orderInner p nn (f + 1) t (m * p ^ j) = .ok (m * p ^ j') ∧ x ^ (m * p ^ j') = 1 ∧
      (∀ i < j', x ^ (m * p ^ i) ≠ 1) := by
  intro f
  induction f with
  | zero =>
    intro j t htlt ht hmin hlast
    have h1 : t = 1 := (natCast_eq_one_iff hnn htlt).mp (ht.trans hlast)
    exact ⟨j, by rw [orderInner, if_pos (beq_iff_eq.mpr h1)], hlast, hmin⟩
  | succ f ih =>
    intro j t htlt ht hmin hlast
    rw [orderInner]
    by_cases h1 : t = 1
    · rw [if_pos (beq_iff_eq.mpr h1)]
      exact ⟨j, rfl, by rw [← ht, h1, Nat.cast_one], hmin⟩
    · have hne : x ^ (m * p ^ j) ≠ 1 := fun h => h1 ((natCast_eq_one_iff hnn htlt).mp (ht.trans h))
      rw [if_neg (mt beq_iff_eq.mp h1), mul_assoc, ← pow_succ]
      apply ih (j + 1) (powModNat t p nn)
      · exact powModNat_lt t p (by omega)
      · rw [powModNat_cast, ht, ← pow_mul, mul_assoc, ← pow_succ]
      · intro i hi
        rcases Nat.lt_succ_iff_lt_or_eq.mp hi with h | rfl
        · exact hmin i h
        · exact hne
      · rw [Nat.add_right_comm]
        exact hlast

omit hnn in
theorem factorization_mul_prime_pow_of_ne {m p q : Nat} (hm : m ≠ 0) (hp : p.Prime) (hne : p ≠ q) (j : Nat) :
    (m * p ^ j).factorization q = m.factorization q := by
  rw [Nat.factorization_mul hm (Nat.pow_pos hp.pos).ne', Finsupp.add_apply, hp.factorization_pow,
    Finsupp.single_apply, if_neg hne, add_zero]

/-- invariant of `orderLoop`: `c` is the current candidate for the order of `x` (a multiple of it), `t` the prime
powers of `c` still to be tried; `minimal`: at every prime `q` of `c` that is not pending, `c / q` is no exponent any more -/
structure OrdInv (c : Nat) (t : List (Nat × Nat)) : Prop where
  pos : 0 < c
  pow : x ^ c = 1
  fact : ∀ pe ∈ t, pe.1.Prime ∧ c.factorization pe.1 = pe.2
  nodup : (t.map Prod.fst).Nodup
  minimal : ∀ q, q.Prime → q ∣ c → q ∈ t.map Prod.fst ∨ x ^ (c / q) ≠ 1

omit hnn in
theorem OrdInv.of_factList {c : Nat} {l : List (Nat × Nat)} (hc : 0 < c) (hpow : x ^ c = 1)
    (hl : FactList l c) : OrdInv x c l := by
  refine ⟨hc, hpow, fun pe hpe => ⟨(hl.prime pe hpe).1, hl.factorization_eq pe hpe⟩,
    hl.sorted.imp (fun h => ne_of_lt h), ?_⟩
  intro q hq hd
  obtain ⟨pe, hpe, rfl⟩ := hl.prime_dvd hq hd
  exact Or.inl (List.mem_map.mpr ⟨pe, hpe, rfl⟩)

theorem orderLoop_spec (a : Int) (hx : (a : ZMod nn) = x) : ∀ (t : List (Nat × Nat)) (c : Nat),
    OrdInv x c t → orderLoop a nn t c = .ok (orderOf x) := by
  intro t
  induction t with
  | nil =>
    intro c hinv
    exact congrArg Except.ok (orderOf_eq_of_pow_and_pow_div_prime hinv.pos hinv.pow
      fun q hq hd => (hinv.minimal q hq hd).resolve_left List.not_mem_nil).symm
  | cons pe t ih =>
    intro c hinv
    obtain ⟨p, e⟩ := pe
    obtain ⟨hp, hfac⟩ := hinv.fact (p, e) (List.mem_cons_self ..)
    simp only at hp hfac
    obtain ⟨hpt, hnodup⟩ := List.nodup_cons.mp (List.map_cons ▸ hinv.nodup)
    have hdvd : p ^ e ∣ c := hfac ▸ Nat.ordProj_dvd c p
    have hmpos : 0 < c / p ^ e := hfac ▸ Nat.ordCompl_pos p hinv.pos.ne'
    have hpm : ¬ p ∣ c / p ^ e := hfac ▸ Nat.not_dvd_ordCompl hp hinv.pos.ne'
    -- name the cofactor, so that `rw [hc]` rewrites `c`
    obtain ⟨m, hm, hc⟩ : ∃ m, m = c / p ^ e ∧ c = m * p ^ e := ⟨_, rfl, (Nat.div_mul_cancel hdvd).symm⟩
    rw [← hm] at hmpos hpm
    rw [orderLoop]
    simp only [Except.bind, bind]
    rw [hc, Nat.mul_div_cancel _ (Nat.pow_pos hp.pos)]
    have ht0 : ((powmN a m nn).toNat : ZMod nn) = x ^ (m * p ^ 0) := by
      rw [powmN_toNat_cast a m (by omega), hx, pow_zero, mul_one]
    -- fuel `e + 1` suffices: `c = m p^e` is an exponent already
    have hlast : x ^ (m * p ^ (0 + e)) = 1 := by rw [Nat.zero_add, ← hc]; exact hinv.pow
    obtain ⟨j', hj1, hj2, hj3⟩ := orderInner_spec hnn x m e 0 _ (powmN_toNat_lt a m (by omega)) ht0
      (fun i hi => absurd hi (Nat.not_lt_zero i)) hlast
    rw [pow_zero, mul_one] at hj1
    rw [hj1]
    have hj'le : j' ≤ e := by
      by_contra hcon
      exact hj3 e (by omega) (hc ▸ hinv.pow)
    have hc'dvd : m * p ^ j' ∣ c := hc ▸ Nat.mul_dvd_mul_left _ (pow_dvd_pow _ hj'le)
    have hinv' : OrdInv x (m * p ^ j') t := by
      refine { pos := Nat.mul_pos hmpos (Nat.pow_pos hp.pos), pow := hj2, fact := ?fact, nodup := hnodup,
               minimal := ?minimal }
      case fact =>
        intro qe hqe
        obtain ⟨hq, hqf⟩ := hinv.fact qe (List.mem_cons_of_mem _ hqe)
        have hne : p ≠ qe.1 := fun heq => hpt (List.mem_map.mpr ⟨qe, hqe, heq.symm⟩)
        rw [hc, factorization_mul_prime_pow_of_ne hmpos.ne' hp hne] at hqf
        exact ⟨hq, (factorization_mul_prime_pow_of_ne hmpos.ne' hp hne j').trans hqf⟩
      case minimal =>
        intro q hq hd
        by_cases hqp : q = p
        · -- `j' > 0` since `p ∤ m`, and `j' - 1` is too small by minimality
          subst hqp
          right
          obtain ⟨i, rfl⟩ : ∃ i, j' = i + 1 := by
            cases j' with
            | zero => rw [pow_zero, mul_one] at hd; exact absurd hd hpm
            | succ i => exact ⟨i, rfl⟩
          rw [pow_succ, ← mul_assoc, Nat.mul_div_cancel _ hq.pos]
          exact hj3 i (Nat.lt_succ_self i)
        · rcases hinv.minimal q hq (hd.trans hc'dvd) with h | h
          · rw [List.map_cons, List.mem_cons] at h
            exact Or.inl (h.resolve_left hqp)
          · -- `x^((m p^j')/q) = 1` would give `x^(c/q) = 1`
            right
            intro hone
            apply h
            obtain ⟨u, hu⟩ := hd
            obtain ⟨w, hw⟩ := hc'dvd
            rw [hu, Nat.mul_div_cancel_left _ hq.pos] at hone
            rw [hw, hu, mul_assoc, Nat.mul_div_cancel_left _ hq.pos, pow_mul, hone, one_pow]
    exact ih (m * p ^ j') hinv'

end

theorem pow_carmichael_of_gcd {nn : Nat} {a : Int} (hg : Int.gcd a nn = 1) :
    (a : ZMod nn) ^ ArithmeticFunction.carmichael nn = 1 := by
  obtain ⟨u, hu⟩ := (ZMod.coe_int_isUnit_iff_isCoprime a nn).mpr
    (Int.isCoprime_iff_gcd_eq_one.mpr (by rwa [Int.gcd_comm]))
  rw [← hu, ← Units.val_pow_eq_pow_val, ArithmeticFunction.pow_carmichael, Units.val_one]

theorem orderLoop_carmichael {nn : Nat} (hnn : 0 < nn) {a : Int} (hg : Int.gcd a nn = 1)
    {l : List (Nat × Nat)} (hl : FactList l (ArithmeticFunction.carmichael nn)) :
    orderLoop (Int.tmod a nn) nn l (ArithmeticFunction.carmichael nn) = .ok (orderOf (a : ZMod nn)) := by
  by_cases hn2 : 2 ≤ nn
  · exact orderLoop_spec hn2 _ _ (tmod_cast a nn) l _
      (OrdInv.of_factList _ (carmichael_pos hnn.ne') (pow_carmichael_of_gcd hg) hl)
  · -- `ZMod 1` is trivial and `λ(1) = 1` has no prime factor: the loop body never runs
    obtain rfl : nn = 1 := by omega
    rw [carmichael_one] at hl ⊢
    rw [hl.eq_nil_of_one, orderOf_eq_one_iff.mpr (Subsingleton.elim _ _)]
    rfl

end SymVerif.C32
