/-
Safety of `decT` (load_rcp_basic) on arbitrary bytes, by induction on the nesting fuel: one walk over the
exits of `decT` gives that the remainder is a suffix of the input, that the object passes the cast check of
the load site, and that `fuel` is not reported.
-/
import SymVerif.Lemmas.C20Safe
import SymVerif.Lemmas.C20Build

namespace SymVerif.Codec

/-- the class of the object passes the cast check of a load site of static type `c` -/
def Typed (c : Cls) (t : T) : Prop := ∃ e, semT t = .ok e ∧ isA c (Expr.className e) = true

theorem castRef_typed {c : Cls} {t : T} (h : castRef c t = true) : Typed c t := by
  unfold castRef at h
  split at h
  · rename_i e he; exact ⟨e, he, h⟩
  · simp at h

theorem semT_build {a : UInt64} {tc : UInt8} {fs : List Fld} {e : Expr} (h : semT (.mk a tc fs) = .ok e) :
    ∃ fvs, build (kindOfName (className tc)) (className tc) fvs = .ok e := by
  simp only [semT] at h
  split at h
  · simp at h
  · rename_i fvs _; exact ⟨fvs, h⟩

theorem decT_safe (cfg : Cfg) : ∀ (f : Nat) (c : Cls) (m : Map) (bs : Bytes),
    Safe (Typed c) f bs (decT cfg f c m bs)
  | 0, _, _, _ => .zero
  | f + 1, c, m, bs => by
    rw [decT]
    split
    next e h1 => exact .err_ne rdNat_ne_fuel h1
    next a bs1 h1 =>
    split
    next e h2 => exact .err_ne rdNat_ne_fuel h2
    next fs bs2 h2 =>
    have s2 : bs2 <:+ bs := (rdNat_suffix h2).trans (rdNat_suffix h1)
    split
    · exact .err nofun
    split
    · -- a back-reference: the cast check looks at the class of the stored object
      split
      · exact .err nofun
      split
      next hc => exact .ok s2 (castRef_typed hc)
      · exact .err nofun
    split
    next e h3 => exact .err_ne rdNat_ne_fuel h3
    next tc bs3 h3 =>
    have s3 : bs3 <:+ bs := (rdNat_suffix h3).trans s2
    split
    · exact .err nofun
    dsimp only  -- so that `split` finds the next match
    split
    · exact .err (by split <;> nofun)
    next ks _ =>
    -- address, flag and type code have been read: the fields are decoded one level down
    have l3 : bs3.length < bs.length := by
      have := rdNat_length h3; have := s2.length_le; omega
    have hf := (decFlds_safe (decT_safe cfg f) cfg ks m bs3).nested s3 l3
    split
    next e h4 => exact hf.err_of h4
    next flds m₁ bs4 h4 =>
    split
    next e h5 => exact .err_ne (semT_ne_fuel _) h5
    next e hs =>
    split
    next hc =>
      -- a fresh object: the class of what `build` made passes the check its type code passed
      obtain ⟨fvs, hb⟩ := semT_build hs
      exact .ok (hf.suffix h4) ⟨e, hs, build_isA c _ fvs e hb hc⟩
    · exact .err nofun

/-- `∀ c m bs, Safe (Typed c) f bs (rec c m bs)` written out in three fields -/
structure RecOK (rec : Cls → Map → Bytes → R T) (f : Nat) : Prop where
  suffix : ∀ c m bs t m' rest, rec c m bs = .ok (t, m', rest) → rest <:+ bs
  nofuel : ∀ c m bs, bs.length < f → rec c m bs ≠ .error .fuel
  typed : ∀ c m bs t m' rest, rec c m bs = .ok (t, m', rest) → ∃ e, semT t = .ok e ∧ isA c (Expr.className e) = true

theorem decT_recOK (cfg : Cfg) : ∀ f : Nat, RecOK (decT cfg f) f :=
  fun f => ⟨fun c m bs _ _ _ h => (decT_safe cfg f c m bs).suffix h, fun c m bs => (decT_safe cfg f c m bs).ne_fuel,
    fun c m bs _ _ _ h => (decT_safe cfg f c m bs).post h⟩

end SymVerif.Codec
